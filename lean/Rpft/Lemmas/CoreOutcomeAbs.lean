/-
The two nodes of a row with fixed outcomes (`start_new_flow`, `call_webhook`, `transfer_airtime`)
— the reference's and the compiled one — have the same index-resolved abstraction (`fixAbs`); likewise
the two nodes of a `split_random` row (`rndAbs`), the buckets `mkNode` computes (`refStep`) being
`bucketsOf` its out-edges.
-/
import Rpft.Lemmas.CoreSwitch
namespace Rpft.CoreSheet
open Rpft Rpft.Compile Rpft.RefFlow Rpft.Flow

theorem isSucc_enter_fn : isSucc .enterFlow = fun (e : OutEdge) =>
    (decide (RefFlow.lower e.cond.value = "complete".toList) || decide (RefFlow.lower e.cond.value = "completed".toList)) := rfl
theorem isFail_enter_fn : isFail .enterFlow = fun (e : OutEdge) => decide (RefFlow.lower e.cond.value = "expired".toList) := rfl
theorem isSucc_web_fn : isSucc .webhook = fun (e : OutEdge) => decide (RefFlow.lower e.cond.value = "success".toList) := rfl
theorem isFail_web_fn : isFail .webhook = fun (e : OutEdge) =>
    (e.cond.blank || decide (RefFlow.lower e.cond.value = "failure".toList)) := rfl
theorem isSucc_air_fn : isSucc .airtime = fun (e : OutEdge) => decide (RefFlow.lower e.cond.value = "success".toList) := rfl
theorem isFail_air_fn : isFail .airtime = fun (e : OutEdge) =>
    (e.cond.blank || decide (RefFlow.lower e.cond.value = "failure".toList)) := rfl

/-- the tests of a fixed-outcome row: type and observed arguments -/
def fixTests (K : Kind) : List (Str × List Str) :=
  (fixCases K [] []).map obsTest

/-- number of choices that select the second (default) category -/
def fixRest (K : Kind) : Nat := if K = .enterFlow then 2 else 1

/-- the shape both abstractions have -/
def fixAbs (rnf : Bool) (acts : List Str) (op : Str) (K : Kind) (sd fd : Option (Option Nat)) : ANode :=
  { acts := acts, ask := some (switchObs rnf op (fixTests K) none none), dests := sd :: List.replicate (fixRest K) fd }

/-- the cases of the reference switch of a fixed-outcome row -/
def refFixCases (k : Nat) (K : Kind) : List Flow.Case :=
  (fixCases K (subId k "c" 0) (subId k "c" 1)).zipIdx.map fun p =>
    { uuid := subId k "k" p.2, type := p.1.1, args := p.1.2.1, catUuid := p.1.2.2 }

theorem mkNode_fix (k : Nat) (r : RRow) (es : List OutEdge) (h : isFixedKind r.kind) :
    mkNode k r es =
      { uuid := nodeId k, actions := refActs k r.act,
        router := some (.switch r.operand (refFixCases k r.kind)
          [{ uuid := subId k "c" 0, name := [], exitUuid := subId k "e" 0 },
           { uuid := subId k "c" 1, name := [], exitUuid := subId k "e" 1 }] (subId k "c" 1) none none),
        exits := [{ uuid := subId k "e" 0, dest := lastTgt es (isSucc r.kind) },
                  { uuid := subId k "e" 1, dest := lastTgt es (isFail r.kind) }] } := by
  unfold mkNode
  rcases h with h | h | h <;> simp only [h] <;> rfl

theorem fixCases_cat (K : Kind) (hk : isFixedKind K) (su du : Uid) :
    (fixCases K su du).map (·.2.2) = su :: List.replicate (fixRest K - 1) du := by
  rcases hk with h | h | h <;> subst h <;> rfl

theorem fixCases_tests (K : Kind) (hk : isFixedKind K) (su du : Uid) :
    (fixCases K su du).map obsTest = fixTests K := by
  rcases hk with h | h | h <;> subst h <;> rfl

theorem fixRest_pos (K : Kind) : fixRest K - 1 + 1 = fixRest K := by
  unfold fixRest; split <;> rfl

theorem absNode_fix_ref (rnf : Bool) (f : Flow) (k : Nat) (r : RRow) (es : List OutEdge) (hk : isFixedKind r.kind) :
    absNode ⟨false, rnf⟩ f (mkNode k r es) =
      fixAbs rnf r.act.toList r.operand r.kind (destIdx f (lastTgt es (isSucc r.kind)))
        (destIdx f (lastTgt es (isFail r.kind))) := by
  have hcc : (refFixCases k r.kind).map (·.catUuid) =
      subId k "c" 0 :: List.replicate (fixRest r.kind - 1) (subId k "c" 1) := by
    refine (map_zipIdx_map _ _ _ (fun (t : Str × List Str × Uid) => t.2.2) ?_).trans (fixCases_cat _ hk _ _)
    exact fun _ => rfl
  have htests : (refFixCases k r.kind).map (fun c => (c.type, testArgs c)) = fixTests r.kind := by
    refine (map_zipIdx_map _ _ _ _ ?_).trans (fixCases_tests _ hk (subId k "c" 0) (subId k "c" 1))
    exact fun _ => rfl
  -- the categories are given: left to unification, `?c1.uuid =?= subId k "c" 1` unfolds `subId`
  rw [mkNode_fix k r es hk, CatsPos.abs_two (c0 := ⟨subId k "c" 0, [], subId k "e" 0⟩) (c1 := ⟨subId k "c" 1, [], subId k "e" 1⟩)
      (catsPos_of_shape (k := k) (m := 2) rfl rfl rfl rfl) rfl hcc,
    fixRest_pos, routerObs_switch, htests]
  exact congrArg (fun a => fixAbs rnf a _ _ _ _) (refActs_obs k r.act)

theorem absNode_fix_cmp (rnf : Bool) (F : Flow) {M : Maps} {ns : Array NodeM} {n : NodeM} {c : CRow} {es : List OutEdge}
    {r : SwitchR} {sc : Cat} (hk : isFixedKind (kindOf c.row.type)) (hp : FixSim M ns n c es r sc)
    (hfn0 : n.fids.Nodup) :
    absNode ⟨false, rnf⟩ F (renderNode n) =
      fixAbs rnf [c.row.ownAction.getD []] (operandOf c.row) (kindOf c.row.type)
        (destIdx F (renderDest sc.dest)) (destIdx F (renderDest r.dflt.dest)) := by
  have hall : r.allCats = [sc, r.dflt] := by
    unfold SwitchR.allCats; rw [hp.cats, hp.noResp]; rfl
  have p := catsPos_render hfn0 hp.router
  rw [renderRouter_sw, hall, show renderWait r = none by unfold renderWait; rw [hp.wait]] at p
  have hexits : (renderNode n).exits = [renderExit sc, renderExit r.dflt] := by
    simp only [renderNode, hp.router, hall, List.map_cons, List.map_nil]
  have hcc : (r.cases.map renderCase).map (·.catUuid) =
      (renderCat sc).uuid :: List.replicate (fixRest (kindOf c.row.type) - 1) (renderCat r.dflt).uuid := by
    have := congrArg (List.map (·.2.2)) hp.cases
    rw [List.map_map, fixCases_cat _ hk] at this
    rw [List.map_map]
    exact this
  rw [CatsPos.abs_two (c0 := renderCat sc) (c1 := renderCat r.dflt) p hexits hcc, fixRest_pos]
  unfold fixAbs
  congr 1
  · simp only [renderNode, List.map_map]
    rw [← hp.acts]
    exact List.map_congr_left (fun _ _ => rfl)
  · rw [routerObs_switch, hp.rname, hp.operand]
    congr 2
    have e1 : (r.cases.map renderCase).map (fun k => (k.type, testArgs k)) =
        (r.cases.map (fun k => (k.type, k.args.map (·.getD []), k.catUid))).map obsTest := by
      rw [List.map_map, List.map_map]
      exact List.map_congr_left (fun k _ => rfl)
    rw [e1, hp.cases, fixCases_tests _ hk]

/-- the bucket step of `mkNode` -/
def refStep (acc : List (Str × Option Id) × Nat) (e : OutEdge) : List (Str × Option Id) × Nat :=
  let nm := if e.cond.name.isEmpty then e.cond.value else e.cond.name
  if nm.isEmpty then (acc.1 ++ [("#".toList ++ RefFlow.natStr acc.2, tgtDest e.tgt)], acc.2 + 1)
  else if acc.1.any (·.1 = nm) then
    (acc.1.map (fun (p : Str × Option Id) => if p.1 = nm then (p.1, tgtDest e.tgt) else p), acc.2)
  else (acc.1 ++ [(nm, tgtDest e.tgt)], acc.2)

/-- a bucket with its target as a destination -/
def bdest (p : Str × Target) : Str × Option Id := (p.1, tgtDest p.2)

theorem refStep_bstep (acc : List (Str × Target) × Nat) (e : OutEdge) :
    refStep (acc.1.map bdest, acc.2) e = ((bstep acc e).1.map bdest, (bstep acc e).2) := by
  unfold refStep bstep
  have hnm : (if e.cond.name.isEmpty then e.cond.value else e.cond.name) = bucketName e.cond := rfl
  simp only [hnm]
  have hany : (acc.1.map bdest).any (fun p => decide (p.1 = bucketName e.cond)) =
      acc.1.any (fun p => decide (p.1 = bucketName e.cond)) := by
    rw [List.any_map]; rfl
  by_cases h1 : (bucketName e.cond).isEmpty = true
  · simp only [h1, if_true, List.map_append, List.map_cons, List.map_nil]
    rfl
  · simp only [h1, Bool.false_eq_true, if_false, hany]
    by_cases h2 : acc.1.any (fun p => decide (p.1 = bucketName e.cond)) = true
    · simp only [h2, if_true, List.map_map]
      congr 1
      apply List.map_congr_left
      intro p _
      simp only [Function.comp, bdest]
      by_cases h3 : p.1 = bucketName e.cond
      · simp only [h3, if_true]
      · simp only [h3, if_false]
    · simp only [h2, Bool.false_eq_true, if_false, List.map_append, List.map_cons, List.map_nil]
      rfl

theorem refBuckets (es : List OutEdge) : (es.foldl refStep ([], 0)).1 = (bucketsOf es).1.map bdest :=
  congrArg Prod.fst (List.foldl_hom (fun acc : List (Str × Target) × Nat => (acc.1.map bdest, acc.2)) (init := ([], 0))
    refStep_bstep)

theorem mkNode_random (k : Nat) (r : RRow) (es : List OutEdge) (h : r.kind = .splitRandom) :
    mkNode k r es =
      { uuid := nodeId k, actions := refActs k r.act,
        router := some (.random (((es.foldl refStep ([], 0)).1).zipIdx.map (fun (p : (Str × Option Id) × Nat) =>
          ({ uuid := subId k "c" p.2, name := [], exitUuid := subId k "e" p.2 } : Category)))
          (if r.saveName.isEmpty then none else some r.saveName)),
        exits := ((es.foldl refStep ([], 0)).1).zipIdx.map (fun (p : (Str × Option Id) × Nat) =>
          ({ uuid := subId k "e" p.2, dest := p.1.2 } : Exit)) } := by
  unfold mkNode
  simp only [h]
  rfl

/-- the shape both abstractions of a `split_random` row have -/
def rndAbs (rnf : Bool) (saveName : Str) (dests : List (Option (Option Nat))) : ANode :=
  { acts := [],
    ask := some { kind := "random".toList, operand := [], tests := [], caseCats := [], otherCats := [],
                  wait := none, resultName := if rnf then (if saveName.isEmpty then none else some saveName) else none },
    dests := dests }

theorem absNode_rnd_ref (rnf : Bool) (f : Flow) (k : Nat) (r : RRow) (es : List OutEdge) (h : r.kind = .splitRandom)
    (hact : r.act = none) :
    absNode ⟨false, rnf⟩ f (mkNode k r es) =
      rndAbs rnf r.saveName ((bucketsOf es).1.map (fun b => destIdx f (tgtDest b.2))) := by
  rw [mkNode_random k r es h]
  generalize hb : (es.foldl refStep ([], 0)).1 = bks
  have h1 : ∀ (tag : String), bks.zipIdx.map (fun (p : (Str × Option Id) × Nat) => subId k tag p.2)
      = (List.range bks.length).map (subId k tag) := fun tag => zipIdx_map_idx bks _
  rw [(catsPos_of_shape rfl (by rw [Router.cats, List.map_map]; exact h1 "c") (by rw [Router.cats, List.map_map]; exact h1 "e")
    (by rw [List.map_map]; exact h1 "e")).abs rfl]
  unfold rndAbs
  congr 1
  · rw [hact]; rfl
  · simp only [List.map_map]
    rw [← hb, refBuckets]
    have := zipIdx_fst_map ((bucketsOf es).1.map bdest) (fun (p : Str × Option Id) => destIdx f p.2)
    rw [List.map_map] at this
    exact this

theorem absNode_rnd_cmp (rnf : Bool) (F : Flow) {M : Maps} {ns : Array NodeM} {n : NodeM} {c : CRow} {es : List OutEdge}
    {r : RandomR} (hp : RandSim M ns n c es r) (hfn0 : n.fids.Nodup) :
    absNode ⟨false, rnf⟩ F (renderNode n) =
      rndAbs rnf c.row.saveName (r.cats.map (fun c => destIdx F (renderDest c.dest))) := by
  rw [(catsPos_render hfn0 hp.router).abs rfl]
  unfold rndAbs
  congr 1
  · simp [renderNode, hp.acts]
  · simp only [renderRouter, hp.rname]; rfl
  · simp only [renderNode, hp.router, List.map_map]; rfl

end Rpft.CoreSheet
