/-
What a router node leads to, answer by answer.  `routerChoices r` lists the categories the answers select: for a
switch one per case (the category the case names), then the default category, then the timeout category; for a
random router its categories.  The abstraction of a router node is that list mapped through `catDest`
(`absNode_router`), whatever the identifiers.  Where categories and exits correspond by position (`CatsPos`) and the
list of choices is the list of categories, answer `c` leads where exit `c` leads (`CatsPos.abs`) — on the compiled
nodes (fresh identifiers) and on the reference nodes (positional identifiers) alike.  `Positional` says the same of a
switch node pointwise.
-/
import Rpft.Lemmas.FlowAbs
import Rpft.Lemmas.ListFacts
namespace Rpft.Flow
open Rpft

theorem range_map_getElem? {α β : Type} (l : List α) (g : Option α → β) :
    (List.range l.length).map (fun c => g l[c]?) = l.map (fun e => g (some e)) :=
  List.ext_getElem (by simp) fun i h1 h2 => by
    rw [List.length_map] at h2
    simp [List.getElem?_eq_getElem h2]

theorem findNode_unique {f : Flow} {t : Nat} {n : Node} (ht : f.nodes[t]? = some n)
    (hnd : (f.nodes.map (·.uuid)).Nodup) : findNode f n.uuid = some t := by
  unfold findNode
  have hlt : t < f.nodes.length := lt_length_of_getElem? ht
  have hget : f.nodes[t] = n := (List.getElem?_eq_some_iff.mp ht).2
  rw [List.findIdx?_eq_some_iff_getElem]
  refine ⟨hlt, by simp [hget], ?_⟩
  intro j hj
  rw [List.nodup_iff_pairwise_ne, List.pairwise_iff_getElem] at hnd
  have := hnd j t (by simp; omega) (by simpa using hlt) hj
  simp only [List.getElem_map, hget] at this
  simpa using this

structure CatsPos (n : Node) (r : Router) : Prop where
  router : n.router = some r
  catsNodup : (r.cats.map (·.uuid)).Nodup
  exitsNodup : (n.exits.map (·.uuid)).Nodup
  catExit : r.cats.map (·.exitUuid) = n.exits.map (·.uuid)

/-- the categories the answers `0, 1, …` select -/
def routerChoices : Router → List Id
  | r@(.switch _ cases _ d _ _) => cases.map (·.catUuid) ++ d :: r.timeoutCats
  | .random cats _ => cats.map (·.uuid)

theorem routerChoices_length (r : Router) : (routerChoices r).length = routerArity r := by
  cases r with
  | random cats rn => simp [routerChoices, routerArity]
  | «switch» op cases cats d w rn => rcases w with _ | _ | ⟨secs, t⟩ <;> simp [routerChoices, routerArity, Router.timeoutCats]

theorem routerChoices_getElem? (r : Router) (c : Nat) (hc : c < routerArity r) :
    (routerChoices r)[c]? = routerChoice r c := by
  cases r with
  | random cats rn => simp [routerChoices, routerChoice]
  | «switch» op cases cats d w rn =>
    simp only [routerChoices, routerChoice]
    rcases Nat.lt_trichotomy c cases.length with h1 | h1 | h1
    · rw [if_pos h1, List.getElem?_append_left (by rwa [List.length_map]), List.getElem?_map]
    · subst h1
      rw [if_neg (Nat.lt_irrefl _), if_pos rfl, List.getElem?_append_right (by rw [List.length_map]; exact Nat.le_refl _),
        List.length_map, Nat.sub_self]
      rfl
    · rw [if_neg (Nat.lt_asymm h1), if_neg (Nat.ne_of_gt h1)]
      rcases w with _ | _ | ⟨secs, t⟩
      · exact absurd hc (Nat.not_lt.mpr h1)
      · exact absurd hc (Nat.not_lt.mpr h1)
      · obtain rfl : c = cases.length + 1 := Nat.le_antisymm (Nat.le_of_lt_succ hc) h1
        rw [List.getElem?_append_right (by rw [List.length_map]; exact Nat.le_succ _), List.length_map,
          Nat.add_sub_cancel_left]
        rfl

theorem absNode_router (lvl : ObsLevel) (f : Flow) {n : Node} {r : Router} (hr : n.router = some r) :
    absNode lvl f n =
      { acts := n.actions.map (·.obs), ask := some (routerObs lvl r),
        dests := (routerChoices r).map fun u => destIdx f (catDest n r u) } := by
  unfold absNode
  simp only [hr, Option.map_some]
  congr 1
  rw [← routerChoices_length]
  refine Eq.trans ?_ (range_map_getElem? (routerChoices r) fun o => destIdx f (o.bind (catDest n r)))
  exact List.map_congr_left fun c hc => by
    rw [routerChoices_getElem? r c (by rw [← routerChoices_length]; exact List.mem_range.mp hc)]

section
variable {n : Node} {r : Router} (p : CatsPos n r)
include p

theorem CatsPos.catDest (c : Nat) (cat : Category) (hc : r.cats[c]? = some cat) :
    Flow.catDest n r cat.uuid = (n.exits[c]?).bind (·.dest) := by
  -- exit `c` carries the exit identifier of category `c`
  have := congrArg (·[c]?) p.catExit
  simp only [List.getElem?_map, hc, Option.map_some] at this
  obtain ⟨e, he, hu⟩ := Option.map_eq_some_iff.mp this.symm
  rw [Flow.catDest, find?_of_nodup (·.uuid) p.catsNodup (List.mem_of_getElem? hc), Option.bind_some, exitDest, ← hu,
    find?_of_nodup (·.uuid) p.exitsNodup (List.mem_of_getElem? he), he]

theorem CatsPos.map_catDest {β : Type} (g : Option Id → β) :
    r.cats.map (fun c => g (Flow.catDest n r c.uuid)) = n.exits.map (fun e => g e.dest) := by
  have hlen : r.cats.length = n.exits.length := by simpa using congrArg List.length p.catExit
  refine List.ext_getElem (by simpa using hlen) fun i h1 h2 => ?_
  rw [List.length_map] at h1 h2
  simp only [List.getElem_map]
  rw [p.catDest i r.cats[i] (List.getElem?_eq_getElem h1), List.getElem?_eq_getElem h2]
  rfl

theorem CatsPos.abs (h : r.cats.map (·.uuid) = routerChoices r) (lvl : ObsLevel) (f : Flow) :
    absNode lvl f n =
      { acts := n.actions.map (·.obs), ask := some (routerObs lvl r),
        dests := n.exits.map (fun e => destIdx f e.dest) } := by
  rw [absNode_router lvl f p.router, ← h, List.map_map]
  exact congrArg _ (p.map_catDest (destIdx f))

theorem CatsPos.choice (c : Nat) (hsel : ∃ cat, r.cats[c]? = some cat ∧ routerChoice r c = some cat.uuid) :
    (routerChoice r c).bind (Flow.catDest n r) = (n.exits[c]?).bind (·.dest) := by
  obtain ⟨cat, h1, h2⟩ := hsel
  rw [h2, Option.bind_some, p.catDest c cat h1]

end

theorem absNode_acts (lvl : ObsLevel) (f : Flow) (n : Node) (a : List Action) :
    absNode lvl f { n with actions := a } = { absNode lvl f n with acts := a.map (·.obs) } := rfl

/-- the switch of a row with fixed outcomes: the first case selects `c0`, every other answer the default `c1` -/
theorem CatsPos.abs_two {n : Node} {op : Str} {cases : List Case} {c0 c1 : Category} {rn : Option Str}
    (p : CatsPos n (.switch op cases [c0, c1] c1.uuid none rn)) {e0 e1 : Exit} (hex : n.exits = [e0, e1]) {m : Nat}
    (hcc : cases.map (·.catUuid) = c0.uuid :: List.replicate m c1.uuid) (lvl : ObsLevel) (f : Flow) :
    absNode lvl f n =
      { acts := n.actions.map (·.obs), ask := some (routerObs lvl (.switch op cases [c0, c1] c1.uuid none rn)),
        dests := destIdx f e0.dest :: List.replicate (m + 1) (destIdx f e1.dest) } := by
  have d0 := p.catDest 0 c0 rfl
  have d1 := p.catDest 1 c1 rfl
  rw [hex] at d0 d1
  rw [absNode_router lvl f p.router]
  simp only [routerChoices, Router.timeoutCats, hcc, List.cons_append, ← List.replicate_succ', List.map_cons,
    List.map_replicate, d0, d1]
  rfl

structure Positional (n : Node) (operand : Str) (cases : List Case) (cats : List Category) (d : Id)
    (w : Option (Option (Nat × Id))) (rn : Option Str) : Prop where
  router : n.router = some (.switch operand cases cats d w rn)
  catsNodup : (cats.map (·.uuid)).Nodup
  exitsNodup : (n.exits.map (·.uuid)).Nodup
  catExit : cats.map (·.exitUuid) = n.exits.map (·.uuid)
  caseCat : ∀ (i : Nat) (k : Case), cases[i]? = some k → (cats[i]?).map (·.uuid) = some k.catUuid
  dflt : (cats[cases.length]?).map (·.uuid) = some d
  tmo : ∀ secs t, w = some (some (secs, t)) → (cats[cases.length + 1]?).map (·.uuid) = some t
  len : cats.length = routerArity (.switch operand cases cats d w rn)

section
variable {n : Node} {operand : Str} {cases : List Case} {cats : List Category} {d : Id} {w : Option (Option (Nat × Id))}
  {rn : Option Str} (p : Positional n operand cases cats d w rn)
include p

theorem Positional.toCatsPos : CatsPos n (.switch operand cases cats d w rn) :=
  ⟨p.router, p.catsNodup, p.exitsNodup, p.catExit⟩

theorem Positional.sel (c : Nat) (hc : c < routerArity (.switch operand cases cats d w rn)) :
    ∃ cat, (Router.cats (.switch operand cases cats d w rn))[c]? = some cat ∧
      routerChoice (.switch operand cases cats d w rn) c = some cat.uuid := by
  have hcl : c < cats.length := by rw [p.len]; exact hc
  -- the three fields give the identifier of `cats[c]` in the form `(cats[c]?).map (·.uuid)`
  have hcat : (cats[c]?).map (·.uuid) = some cats[c].uuid := by rw [List.getElem?_eq_getElem hcl]; rfl
  refine ⟨cats[c], List.getElem?_eq_getElem hcl, ?_⟩
  simp only [routerChoice]
  by_cases h1 : c < cases.length
  · rw [if_pos h1, List.getElem?_eq_getElem h1, Option.map_some, ← hcat, p.caseCat c _ (List.getElem?_eq_getElem h1)]
  · rw [if_neg h1]
    by_cases h2 : c = cases.length
    · rw [if_pos h2, ← hcat, h2, p.dflt]
    · rw [if_neg h2]
      rcases hw : w with _ | _ | ⟨secs, t⟩ <;> simp only [routerArity, hw] at hc
      · omega
      · omega
      · rw [← hcat, show c = cases.length + 1 by omega, p.tmo secs t hw]

end

theorem Positional.choice {n : Node} {operand : Str} {cases : List Case} {cats : List Category} {d : Id}
    {w : Option (Option (Nat × Id))} {rn : Option Str} (p : Positional n operand cases cats d w rn)
    (c : Nat) (hc : c < routerArity (.switch operand cases cats d w rn)) :
    (routerChoice (.switch operand cases cats d w rn) c).bind (Flow.catDest n (.switch operand cases cats d w rn)) =
      (n.exits[c]?).bind (·.dest) :=
  p.toCatsPos.choice c (p.sel c hc)

end Rpft.Flow
