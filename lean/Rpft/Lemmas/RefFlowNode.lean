import Rpft.Lemmas.RefFlowIds
import Rpft.Lemmas.RefFlowPass1
import Mathlib.Data.List.Nodup
/-! Pass 2 of the reference interpretation: every node `mkNode` builds is well formed (`NodeGood`, `mkNode_good`). -/
namespace Rpft.RefFlow
open Rpft Rpft.Flow

abbrev Tests := List (Str × List Str × Option Id)

/-- number of categories (= exits) of a switch built by `mkSwitch` -/
def swArity (n : Nat) : Option (Option (Nat × Option Id)) → Nat
  | some (some _) => n + 2
  | _ => n + 1

theorem mkSwitch_shape (k : Nat) (operand : Str) (tests : Tests) (dflt : Option Id)
    (wait : Option (Option (Nat × Option Id))) (rn : Option Str) :
    let sw := mkSwitch k operand tests dflt wait rn
    let m := swArity tests.length wait
    sw.1.cats.map (·.uuid) = (List.range m).map (subId k "c") ∧
    sw.1.cats.map (·.exitUuid) = (List.range m).map (subId k "e") ∧
    sw.2.map (·.uuid) = (List.range m).map (subId k "e") ∧
    sw.1.cases.map (·.uuid) = (List.range tests.length).map (subId k "k") ∧
    sw.1.cases.map (·.catUuid) = (List.range tests.length).map (subId k "c") ∧
    sw.1.defaultCats = [subId k "c" tests.length] ∧
    (∀ t ∈ sw.1.timeoutCats, t = subId k "c" (tests.length + 1) ∧ m = tests.length + 2) := by
  have h1 : ∀ (tag : String), tests.zipIdx.map (fun (p : (Str × List Str × Option Id) × Nat) => subId k tag p.2)
      = (List.range tests.length).map (subId k tag) := fun tag => zipIdx_map_idx tests _
  rcases wait with _ | _ | ⟨secs, td⟩ <;>
    (simp [mkSwitch, swArity, Router.cats, Router.cases, Router.defaultCats, Router.timeoutCats,
      List.map_map, List.range_succ]
     exact ⟨h1 _, h1 _, h1 _, h1 _, h1 _⟩)

theorem subId_enc (k i : Nat) :
    subId k "a" i = enc (.sub k 'a' i) ∧ subId k "c" i = enc (.sub k 'c' i) ∧
    subId k "e" i = enc (.sub k 'e' i) ∧ subId k "k" i = enc (.sub k 'k' i) := by
  simp [subId, enc]

theorem subId_inj (k : Nat) (tag : String) (i j : Nat) (h : subId k tag i = subId k tag j) : i = j := by
  unfold subId at h
  have := List.append_cancel_left h
  exact natStr_injective this

theorem range_subId_nodup (k : Nat) (tag : String) (m : Nat) :
    ((List.range m).map (subId k tag)).Nodup :=
  List.Nodup.map (fun i j h => subId_inj k tag i j h) List.nodup_range

theorem mkSwitch_dests (k : Nat) (operand : Str) (tests : Tests) (dflt : Option Id)
    (wait : Option (Option (Nat × Option Id))) (rn : Option Str) :
    ∀ e ∈ (mkSwitch k operand tests dflt wait rn).2, ∀ d, e.dest = some d →
      (∃ t ∈ tests, t.2.2 = some d) ∨ dflt = some d ∨ (∃ secs, wait = some (some (secs, some d))) := by
  intro e he d hd
  have hz : ∀ e ∈ tests.zipIdx.map (fun (p : (Str × List Str × Option Id) × Nat) =>
      ({ uuid := subId k "e" p.2, dest := p.1.2.2 } : Exit)), ∀ d, e.dest = some d → ∃ t ∈ tests, t.2.2 = some d := by
    intro e he d hd
    simp only [List.mem_map] at he
    obtain ⟨p, hp, rfl⟩ := he
    have := List.mem_zipIdx hp
    refine ⟨p.1, ?_, hd⟩
    obtain ⟨t, i⟩ := p
    simp at this
    rw [this.2]
    exact List.getElem_mem _
  rcases wait with _ | _ | ⟨secs, td⟩ <;>
    simp only [mkSwitch, List.mem_append, List.mem_cons, List.not_mem_nil, or_false] at he
  · rcases he with he | rfl
    · exact Or.inl (hz e he d hd)
    · exact Or.inr (Or.inl hd)
  · rcases he with he | rfl
    · exact Or.inl (hz e he d hd)
    · exact Or.inr (Or.inl hd)
  · rcases he with he | rfl | rfl
    · exact Or.inl (hz e he d hd)
    · exact Or.inr (Or.inl hd)
    · simp only at hd
      exact Or.inr (Or.inr ⟨secs, by rw [hd]⟩)

/-- categories and exits that carry the positional identifiers of row `k` correspond one to one -/
theorem closed_of_shape {k m : Nat} {r : Router} {exits : List Exit}
    (hc : r.cats.map (·.uuid) = (List.range m).map (subId k "c"))
    (hce : r.cats.map (·.exitUuid) = (List.range m).map (subId k "e"))
    (he : exits.map (·.uuid) = (List.range m).map (subId k "e"))
    (hk : ∀ c ∈ r.cases, c.catUuid ∈ r.cats.map (·.uuid)) (hd : ∀ d ∈ r.defaultCats, d ∈ r.cats.map (·.uuid))
    (ht : ∀ t ∈ r.timeoutCats, t ∈ r.cats.map (·.uuid)) : RouterClosed r exits := by
  refine ⟨⟨?_, ?_, fun c hc' => ?_, fun e hee => ?_⟩, ?_, hk, hd, ht⟩
  · rw [hce]; exact range_subId_nodup _ _ _
  · rw [he]; exact range_subId_nodup _ _ _
  · rw [he, ← hce]; exact List.mem_map_of_mem hc'
  · rw [hce, ← he]; exact List.mem_map_of_mem hee
  · rw [hc]; exact range_subId_nodup _ _ _

theorem mkSwitch_closed (k : Nat) (operand : Str) (tests : Tests) (dflt : Option Id)
    (wait : Option (Option (Nat × Option Id))) (rn : Option Str) :
    RouterClosed (mkSwitch k operand tests dflt wait rn).1 (mkSwitch k operand tests dflt wait rn).2 := by
  obtain ⟨h1, h2, h3, h4, h5, h6, h7⟩ := mkSwitch_shape k operand tests dflt wait rn
  have hm : tests.length < swArity tests.length wait := by
    rcases wait with _ | _ | _ <;> simp [swArity]
  refine closed_of_shape h1 h2 h3 ?_ ?_ ?_
  · intro c hc
    have : c.catUuid ∈ (mkSwitch k operand tests dflt wait rn).1.cases.map (·.catUuid) := List.mem_map_of_mem hc
    rw [h5] at this
    rw [h1]
    simp only [List.mem_map, List.mem_range] at this ⊢
    obtain ⟨i, hi, hie⟩ := this
    exact ⟨i, by omega, hie⟩
  · intro d hd
    rw [h6] at hd
    simp only [List.mem_singleton] at hd
    rw [h1, hd]
    simp only [List.mem_map, List.mem_range]
    exact ⟨_, hm, rfl⟩
  · intro t ht
    obtain ⟨rfl, hm2⟩ := h7 t ht
    rw [h1]
    simp only [List.mem_map, List.mem_range]
    exact ⟨_, by omega, rfl⟩

/-- the identifiers of node `k` with `na` actions, `me` exits, `mc` categories and `nk` cases, as keys -/
def keysOf (k na me mc nk : Nat) : List Key :=
  .node k :: ((List.range na).map (Key.sub k 'a') ++ (List.range me).map (Key.sub k 'e') ++
    ((List.range mc).map (Key.sub k 'c') ++ (List.range nk).map (Key.sub k 'k')))

def FromOut (out : List OutEdge) (d : Option Id) : Prop :=
  ∀ x, d = some x → ∃ o ∈ out, tgtDest o.tgt = some x

structure NodeGood (k : Nat) (out : List OutEdge) (n : Node) : Prop where
  uuid : n.uuid = nodeId k
  dests : ∀ e ∈ n.exits, FromOut out e.dest
  closed : ∀ r, n.router = some r → RouterClosed r n.exits
  plain : n.router = none → n.exits.length = 1
  ids : ∃ na me mc nk, n.ids = (keysOf k na me mc nk).map enc

theorem ids_eq_keys {k na me mc nk : Nat} {acts : List Action} {exits : List Exit} {cats : List Category}
    {cases : List Case} (ha : acts.map (·.uuid) = (List.range na).map (subId k "a"))
    (he : exits.map (·.uuid) = (List.range me).map (subId k "e"))
    (hc : cats.map (·.uuid) = (List.range mc).map (subId k "c"))
    (hk : cases.map (·.uuid) = (List.range nk).map (subId k "k")) :
    nodeId k :: (acts.map (·.uuid) ++ exits.map (·.uuid) ++ (cats.map (·.uuid) ++ cases.map (·.uuid))) =
      (keysOf k na me mc nk).map enc := by
  rw [ha, he, hc, hk]
  simp [keysOf, nodeId, Function.comp_def, ← subId_enc]
  rfl

def actionsOf (k : Nat) (act : Option Str) : List Action :=
  match act with
  | some a => [{ uuid := subId k "a" 0, obs := a }]
  | none => []

theorem actionsOf_ids (k : Nat) (act : Option Str) :
    ∃ na, (actionsOf k act).map (·.uuid) = (List.range na).map (subId k "a") := by
  cases act with
  | none => exact ⟨0, by simp [actionsOf]⟩
  | some a => exact ⟨1, by simp [actionsOf, List.range_succ]⟩

theorem lastTgt_from {es : List OutEdge} {p : OutEdge → Bool} {out : List OutEdge}
    (hsub : ∀ o ∈ es, o ∈ out) : FromOut out (lastTgt es p) := by
  intro x hx
  unfold lastTgt at hx
  split at hx
  · rename_i e he
    have : e ∈ es.filter p := List.mem_of_getLast? he
    exact ⟨e, hsub e (List.mem_filter.mp this).1, hx⟩
  · simp at hx

theorem switchNode_good {k : Nat} {out : List OutEdge} (act : Option Str) {operand : Str} {tests : Tests}
    {dflt : Option Id} {wait : Option (Option (Nat × Option Id))} {rn : Option Str}
    (ht : ∀ t ∈ tests, FromOut out t.2.2) (hd : FromOut out dflt)
    (hw : ∀ secs td, wait = some (some (secs, td)) → FromOut out td) :
    NodeGood k out { uuid := nodeId k, actions := actionsOf k act,
                     router := some (mkSwitch k operand tests dflt wait rn).1,
                     exits := (mkSwitch k operand tests dflt wait rn).2 } := by
  obtain ⟨h1, h2, h3, h4, h5, h6, h7⟩ := mkSwitch_shape k operand tests dflt wait rn
  -- `rfl` for the first field would make the unifier unfold `nodeId k` down to the digits of `k`
  refine ⟨by simp only, ?_, ?_, by simp, ?_⟩
  · intro e he x hx
    rcases mkSwitch_dests k operand tests dflt wait rn e he x hx with ⟨t, htm, hte⟩ | h | ⟨secs, h⟩
    · exact ht t htm x hte
    · exact hd x h
    · exact hw secs (some x) h x rfl
  · intro r hr
    simp only [Option.some.injEq] at hr
    subst hr
    exact mkSwitch_closed k operand tests dflt wait rn
  · obtain ⟨na, hna⟩ := actionsOf_ids k act
    refine ⟨na, swArity tests.length wait, swArity tests.length wait, tests.length, ?_⟩
    simp only [Node.ids, Router.ids]
    exact ids_eq_keys hna h3 h1 h4

theorem plainNode_good {k : Nat} {out : List OutEdge} (act : Option Str) {dflt : Option Id}
    (hd : FromOut out dflt) :
    NodeGood k out { uuid := nodeId k, actions := actionsOf k act, router := none,
                     exits := [{ uuid := subId k "e" 0, dest := dflt }] } := by
  refine ⟨by simp only, ?_, by simp, by simp, ?_⟩
  · intro e he
    simp only [List.mem_singleton] at he
    subst he
    exact hd
  · obtain ⟨na, hna⟩ := actionsOf_ids k act
    refine ⟨na, 1, 0, 0, ?_⟩
    simp only [Node.ids]
    exact ids_eq_keys (cats := []) (cases := []) hna rfl rfl rfl

/-- buckets of a `split_random` row lead where edges of the row lead -/
theorem buckets_from (out : List OutEdge) (nameOf : OutEdge → Str) :
    ∀ (es : List OutEdge) (acc : List (Str × Option Id) × Nat),
      (∀ o ∈ es, o ∈ out) → (∀ p ∈ acc.1, FromOut out p.2) →
      ∀ p ∈ (es.foldl (fun (acc : List (Str × Option Id) × Nat) (e : OutEdge) =>
          let nm := nameOf e
          if nm.isEmpty then (acc.1 ++ [("#".toList ++ natStr acc.2, tgtDest e.tgt)], acc.2 + 1)
          else if acc.1.any (·.1 = nm) then
            (acc.1.map (fun (p : Str × Option Id) => if p.1 = nm then (p.1, tgtDest e.tgt) else p), acc.2)
          else (acc.1 ++ [(nm, tgtDest e.tgt)], acc.2)) acc).1, FromOut out p.2 := by
  intro es
  induction es with
  | nil => intro acc _ hacc p hp; exact hacc p hp
  | cons e es ih =>
    intro acc hes hacc
    rw [List.foldl_cons]
    apply ih _ (fun o ho => hes o (by simp [ho]))
    have he : FromOut out (tgtDest e.tgt) := fun x hx => ⟨e, hes e (by simp), hx⟩
    intro p hp
    simp only at hp
    by_cases c1 : (nameOf e).isEmpty = true
    · simp only [c1, if_true, List.mem_append, List.mem_singleton] at hp
      rcases hp with hp | rfl
      · exact hacc p hp
      · exact he
    · simp only [c1] at hp
      by_cases c2 : (acc.1.any (·.1 = nameOf e)) = true
      · simp only [c2, if_true, Bool.false_eq_true, if_false, List.mem_map] at hp
        obtain ⟨q, hq, rfl⟩ := hp
        split
        · exact he
        · exact hacc q hq
      · simp only [c2, Bool.false_eq_true, if_false, List.mem_append, List.mem_singleton] at hp
        rcases hp with hp | rfl
        · exact hacc p hp
        · exact he

theorem randomNode_good {k : Nat} {out : List OutEdge} (act : Option Str) {buckets : List (Str × Option Id)}
    {rn : Option Str} (hb : ∀ p ∈ buckets, FromOut out p.2) :
    NodeGood k out
      { uuid := nodeId k
        actions := actionsOf k act
        router := some (.random (buckets.zipIdx.map (fun (p : (Str × Option Id) × Nat) =>
          ({ uuid := subId k "c" p.2, name := [], exitUuid := subId k "e" p.2 } : Category))) rn)
        exits := buckets.zipIdx.map (fun (p : (Str × Option Id) × Nat) =>
          ({ uuid := subId k "e" p.2, dest := p.1.2 } : Exit)) } := by
  have h1 : ∀ (tag : String), buckets.zipIdx.map (fun (p : (Str × Option Id) × Nat) => subId k tag p.2)
      = (List.range buckets.length).map (subId k tag) := fun tag => zipIdx_map_idx buckets _
  have hc : (buckets.zipIdx.map fun (p : (Str × Option Id) × Nat) =>
        ({ uuid := subId k "c" p.2, name := [], exitUuid := subId k "e" p.2 } : Category)).map (·.uuid)
        = (List.range buckets.length).map (subId k "c") := by
    rw [List.map_map]; exact h1 _
  have hce : (buckets.zipIdx.map fun (p : (Str × Option Id) × Nat) =>
        ({ uuid := subId k "c" p.2, name := [], exitUuid := subId k "e" p.2 } : Category)).map (·.exitUuid)
        = (List.range buckets.length).map (subId k "e") := by
    rw [List.map_map]; exact h1 _
  have he : (buckets.zipIdx.map fun (p : (Str × Option Id) × Nat) =>
        ({ uuid := subId k "e" p.2, dest := p.1.2 } : Exit)).map (·.uuid)
        = (List.range buckets.length).map (subId k "e") := by
    rw [List.map_map]; exact h1 _
  refine ⟨by simp only, ?_, ?_, by simp, ?_⟩
  · intro e he
    simp only [List.mem_map] at he
    obtain ⟨p, hp, rfl⟩ := he
    have := List.mem_zipIdx hp
    obtain ⟨b, i⟩ := p
    simp at this
    apply hb b
    rw [this.2]
    exact List.getElem_mem _
  · intro r hr
    simp only [Option.some.injEq] at hr
    subst hr
    exact closed_of_shape hc hce he (fun c hc' => nomatch hc') (fun d hd => nomatch hd)
      (fun t ht => nomatch ht)
  · obtain ⟨na, hna⟩ := actionsOf_ids k act
    refine ⟨na, buckets.length, buckets.length, 0, ?_⟩
    simp only [Node.ids, Router.ids, Router.cats, Router.cases]
    exact ids_eq_keys (cases := []) hna he hc rfl

theorem tests_from {out conds : List OutEdge} (hc : ∀ o ∈ conds, o ∈ out) {f : OutEdge → Str × List Str} :
    ∀ t ∈ (conds.map fun e => ((f e).1, (f e).2, tgtDest e.tgt) : Tests), FromOut out t.2.2 := by
  intro t ht x hx
  simp only [List.mem_map] at ht
  obtain ⟨e, he, rfl⟩ := ht
  exact ⟨e, hc e he, hx⟩

/-- a node with two tests, the second selecting the default category (`start_new_flow`) -/
theorem enterNode_good {k : Nat} {out : List OutEdge} (act : Option Str) {operand t0 t1 : Str} {a0 a1 : List Str}
    {cd xd : Option Id} (hc : FromOut out cd) (hx : FromOut out xd) :
    NodeGood k out
      { uuid := nodeId k, actions := actionsOf k act,
        router := some (.switch operand
          [{ uuid := subId k "k" 0, type := t0, args := a0, catUuid := subId k "c" 0 },
           { uuid := subId k "k" 1, type := t1, args := a1, catUuid := subId k "c" 1 }]
          [{ uuid := subId k "c" 0, name := [], exitUuid := subId k "e" 0 },
           { uuid := subId k "c" 1, name := [], exitUuid := subId k "e" 1 }] (subId k "c" 1) none none),
        exits := [{ uuid := subId k "e" 0, dest := cd }, { uuid := subId k "e" 1, dest := xd }] } := by
  have hne : ∀ (tag : String), subId k tag 0 ≠ subId k tag 1 := fun tag h => by
    have := subId_inj k tag 0 1 h; omega
  refine ⟨by simp only, ?_, ?_, by simp, ?_⟩
  · intro e he
    simp only [List.mem_cons, List.not_mem_nil, or_false] at he
    rcases he with rfl | rfl
    · exact hc
    · exact hx
  · rintro rt ⟨⟩
    simp [RouterClosed, Router.cats, Router.cases, Router.defaultCats, Router.timeoutCats, hne]
  · obtain ⟨na, hna⟩ := actionsOf_ids k act
    refine ⟨na, 2, 2, 2, ?_⟩
    simp only [Node.ids, Router.ids, Router.cats, Router.cases]
    exact ids_eq_keys hna rfl rfl rfl

theorem mkNode_good (k : Nat) (r : RRow) (out : List OutEdge) : NodeGood k out (mkNode k r out) := by
  have hdf : FromOut out (lastTgt (out.filter (·.cond.blank)) (fun _ => true)) :=
    lastTgt_from (fun _ => List.mem_of_mem_filter)
  have hnw : ∀ secs td, (none : Option (Option (Nat × Option Id))) = some (some (secs, td)) → FromOut out td := by
    intro _ _ h; simp at h
  have hsn : ∀ secs td, (some none : Option (Option (Nat × Option Id))) = some (some (secs, td)) → FromOut out td := by
    intro _ _ h; simp at h
  have hone : ∀ ty args p, ∀ t ∈ ([(ty, args, lastTgt out p)] : Tests), FromOut out t.2.2 := by
    intro ty args p t ht
    rw [List.mem_singleton.mp ht]
    exact lastTgt_from (fun o h => h)
  unfold mkNode
  simp only
  split
  · -- action
    split
    · exact plainNode_good r.act hdf
    · split
      · exact switchNode_good r.act (tests_from fun _ => List.mem_of_mem_filter) hdf hnw
      · exact switchNode_good r.act (tests_from fun _ => List.mem_of_mem_filter) hdf hsn
  · -- no_op
    split
    · exact plainNode_good r.act hdf
    · exact switchNode_good r.act (tests_from fun _ => List.mem_of_mem_filter) hdf hnw
  · -- wait_for_response
    refine switchNode_good r.act
      (tests_from fun _ ho => List.mem_of_mem_filter (List.mem_of_mem_filter ho)) hdf ?_
    intro secs td h
    split at h
    · simp at h
    · simp only [Option.some.injEq, Prod.mk.injEq] at h
      rw [← h.2]
      exact lastTgt_from (fun _ => List.mem_of_mem_filter)
  · exact switchNode_good r.act (tests_from fun _ => List.mem_of_mem_filter) hdf hnw
  · exact switchNode_good r.act
      (tests_from (f := fun e => ("has_group".toList, [[], e.cond.value])) fun _ => List.mem_of_mem_filter) hdf hnw
  · -- split_random
    refine randomNode_good r.act ?_
    exact buckets_from out _ out ([], 0) (fun o h => h) (by simp)
  · -- start_new_flow
    simp only [mkSwitch, List.zipIdx_cons, List.zipIdx_nil, List.map_cons, List.map_nil, List.length_cons, List.length_nil,
      List.nil_append, List.cons_append, Nat.zero_add]
    exact enterNode_good r.act (lastTgt_from (fun o h => h)) (lastTgt_from (fun o h => h))
  · -- call_webhook
    exact switchNode_good r.act (hone _ _ _) (lastTgt_from (fun o h => h)) hnw
  · -- transfer_airtime
    exact switchNode_good r.act (hone _ _ _) (lastTgt_from (fun o h => h)) hnw
  · exact plainNode_good r.act hdf

end Rpft.RefFlow
