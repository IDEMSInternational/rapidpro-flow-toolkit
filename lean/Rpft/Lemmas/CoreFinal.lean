/-
The refinement theorem on the fragment (`fragment_trace`): the compiled flow and the reference flow of a
sheet of the fragment have the same traces (category names not observed), their index-resolved
abstractions being related by node fusion (`AtEnd.fuse`: per row `AtEnd.rowEnd`, per position in its chain `FuseAt`).
`Frag.of_inFragment`: the decidable `inFragment` gives the facts `fragment_trace` starts from.  At the end: on a
sheet without merged rows the fused reading is the reference reading and `chainsOk` holds by itself.
-/
import Rpft.Lemmas.CoreAtEnd
namespace Rpft.CoreSheet
open Rpft Rpft.Compile Rpft.RefFlow Rpft.Flow

theorem filterMap_map_congr {α β γ δ} (L : List α) (f : α → Option β) (g : α → Option γ) (a : β → δ) (b : γ → δ)
    (h : ∀ x ∈ L, (f x).map a = (g x).map b) : (L.filterMap f).map a = (L.filterMap g).map b := by
  induction L with
  | nil => rfl
  | cons x L ih =>
    have hx := h x (by simp)
    have ih' := ih (fun y hy => h y (by simp [hy]))
    simp only [List.filterMap_cons]
    cases hf : f x <;> cases hg : g x <;> simp [hf, hg] at hx ⊢ <;> simp [ih', hx]

theorem filterMap_length_congr {α β γ} (L : List α) (f : α → Option β) (g : α → Option γ)
    (h : ∀ x ∈ L, (f x).isSome = (g x).isSome) : (L.filterMap f).length = (L.filterMap g).length := by
  induction L with
  | nil => rfl
  | cons x L ih =>
    have hx := h x (by simp)
    have ih' := ih (fun y hy => h y (by simp [hy]))
    simp only [List.filterMap_cons]
    cases hf : f x <;> cases hg : g x <;> simp [hf, hg] at hx ⊢ <;> exact ih'

theorem getLastD_of_getElem? {α} {l : List α} (d : α) {t : α} {i : Nat} (hi : l.length = i + 1) (ht : l[i]? = some t) :
    l.getLastD d = t := by
  have hne : l ≠ [] := by intro e; rw [e] at hi; cases hi
  rw [List.getLastD_eq_getLast?, List.getLast?_eq_getElem?]
  have : l.length - 1 = i := by omega
  rw [this, ht]; rfl

theorem zip_tail_mem {α} {l : List α} {i : Nat} {a b : α} (ha : l[i]? = some a) (hb : l[i + 1]? = some b) :
    (a, b) ∈ l.zip l.tail :=
  List.mem_iff_getElem?.mpr ⟨i, List.getElem?_zip_eq_some.mpr ⟨ha, by rw [List.getElem?_tail]; exact hb⟩⟩

theorem chain_row {rows : List CRow} {R i t : Nat} {cR : CRow} (hcR : rows[R]? = some cR)
    (hka : kindOf cR.row.type = .action) (ht : (membersOf rows R)[i]? = some t) :
    ∃ ct, rows[t]? = some ct ∧ kindOf ct.row.type = .action ∧
      (1 < (membersOf rows R).length → isNamedAct ct = true) := by
  cases i with
  | zero =>
    obtain rfl : R = t := by rw [membersOf_head] at ht; exact Option.some.inj ht
    refine ⟨cR, hcR, hka, fun hl => ?_⟩
    cases hna : isNamedAct cR with
    | true => rfl
    | false => rw [membersOf_single hcR hna] at hl; exact absurd hl (Nat.lt_irrefl 1)
  | succ i' =>
    obtain ⟨ct, hct, h4⟩ := membersOf_mem_tail hcR
      (List.mem_iff_getElem?.mpr ⟨i', by rw [List.getElem?_tail]; exact ht⟩)
    exact ⟨ct, hct, kindOf_of_named h4, fun _ => h4⟩

/-- what `Flow.FuseOf.node` asks of a node `a` that is the last of its chain, `o` the offset of its actions in `b`, the
node of `R`: `b` decides as `a` does, or the router node behind it does -/
def FuseEnd (rnf : Bool) (rows : List CRow) (outE : List OutEdge) (M : Maps) (ns : Array NodeM) (r F : Flow) (R o : Nat)
    (a b : ANode) : Prop :=
  (posR rows M ns (R, 0) = none ∧ b.acts.length = o + a.acts.length ∧ b.ask = a.ask ∧
     List.Forall₂ (DRelE rnf rows outE M ns r) a.dests b.dests) ∨
  (∃ q b2, posR rows M ns (R, 0) = some q ∧ a.ask.isSome = true ∧ b.acts.length = o + a.acts.length ∧
     b.ask = none ∧ b.dests = [some (some q)] ∧ (absFlow ⟨false, rnf⟩ F)[q]? = some b2 ∧ b2.acts = [] ∧
     b2.ask = a.ask ∧ List.Forall₂ (DRelE rnf rows outE M ns r) a.dests b2.dests)

/-- what `Flow.FuseOf.node` asks for at position `(R, i)` -/
def FuseAt (rnf : Bool) (rows : List CRow) (outE : List OutEdge) (M : Maps) (ns : Array NodeM) (r F : Flow) (R i : Nat) :
    Prop :=
  ∃ a b, (absFlow ⟨false, rnf⟩ r)[posA rows outE (R, i)]? = some a ∧
    (absFlow ⟨false, rnf⟩ F)[posB rows M ns (R, i)]? = some b ∧
    (∀ k, k < a.acts.length → b.acts[offA rows (R, i) + k]? = a.acts[k]?) ∧
    ( FuseEnd rnf rows outE M ns r F R (offA rows (R, i)) a b ∨
      (∃ p', Live rows M p' ∧ a.acts ≠ [] ∧ a.ask = none ∧ a.dests = [some (some (posA rows outE p'))] ∧
         posB rows M ns p' = posB rows M ns (R, i) ∧ offA rows p' = offA rows (R, i) + a.acts.length ∧
         ∃ a', (absFlow ⟨false, rnf⟩ r)[posA rows outE p']? = some a' ∧ a'.acts ≠ []) )

section
variable {rows : List CRow} {outE outF : List OutEdge} {M : Maps} {s : Compile.St} {stT st : P1} {r F : Flow}
  (h : AtEnd rows outE outF M s stT st r F) (rnf : Bool)
include h

theorem AtEnd.sameVar {R : Nat} {cR : CRow} (hcR : rows[R]? = some cR)
    (hk : kindOf cR.row.type = .action ∨ kindOf cR.row.type = .noOp) : SameVar (outOf st R) := by
  intro e he
  have := h.var R cR hcR hk e (by rw [h.out]; exact he)
  rw [h.out] at this; exact this

/-- the compiled node of row `R` against the reference node of `R` read with the out-edges of the fused reading; how it
ends is said for every node `a` that decides and leads as that node does, as the last row of the chain of `R` does -/
theorem AtEnd.rowEnd {R : Nat} {cR : CRow} (hR : HasNode rows M R cR) :
    ∃ b, (absFlow ⟨false, rnf⟩ F)[cmpIdx rows M s.nodes R]? = some b ∧
      b.acts = (absNode ⟨false, rnf⟩ r (mkNode R (toRRow cR) (outOf st R))).acts ++ postUpTo rows rows.length R ∧
      ∀ (a : ANode) (o : Nat), a.ask = (absNode ⟨false, rnf⟩ r (mkNode R (toRRow cR) (outOf st R))).ask →
        a.dests = (absNode ⟨false, rnf⟩ r (mkNode R (toRRow cR) (outOf st R))).dests →
        b.acts.length = o + a.acts.length → FuseEnd rnf rows outE M s.nodes r F R o a b := by
  have hokR := h.rowOk hR.row
  obtain ⟨n, hn', hsim, hposC, hposC'⟩ := h.cmpAt hR
  refine ⟨_, by rw [absFlow_getElem?, hposC]; rfl, ?_⟩
  generalize hro : M.rOf R = ro at hsim
  cases hsim with
  | one hsim =>
    have hab := node_abs_rel rnf F r R hsim hokR (isNodeRow_kind hR.node)
      (fun hka => postUpTo_unnamed hR.row (not_named_of_kind hka) _)
      (fun hk => ⟨by rw [← h.split]
                     exact h.sched.routed R cR (lt_length_of_getElem? hR.row) hR.row (isNoop_of_kind hk) hR.el,
        h.sameVar hR.row (.inr hk)⟩) (h.fids _ n hn')
    exact ⟨hab.acts, fun a o hk hd hl =>
      .inl ⟨by simp [posR, hro], hl, hab.ask.trans hk.symm, hd ▸ hab.dests.imp fun _ _ => h.drel rnf⟩⟩
  | impl i' n' rr hk hp =>
    obtain ⟨hask, hn, hab⟩ := impl_abs rnf F r R hk hp
      (act_of_action hokR hk).2 (h.sameVar hR.row (.inl hk)) (h.fids _ n' hp.rnode)
    have hposC2 := hposC' i' n' hro hp.rnode
    refine ⟨by rw [hn], fun a o hk hd hl => .inr ⟨cmpIdx rows M s.nodes R + 1, absNode ⟨false, rnf⟩ F (renderNode n'),
      by simp [posR, hro], hk ▸ hask, hl, by rw [hn], ?_, by rw [absFlow_getElem?, hposC2]; rfl, hab.acts,
      hab.ask.trans hk.symm, hd ▸ hab.dests.imp fun _ _ => h.drel rnf⟩⟩
    rw [hn, show n'.uid = (renderNode n').uuid from rfl, h.clay.dest hposC2]

/-- a row that is not an action row is the only row of its chain: one node on either side -/
theorem AtEnd.fuse_other {R : Nat} {cR : CRow} (hR : HasNode rows M R cR) (hka : kindOf cR.row.type ≠ .action) :
    FuseAt rnf rows outE M s.nodes r F R 0 := by
  have hnaR : isNamedAct cR = false := not_named_of_kind hka
  obtain ⟨b, hposC, hacts, hend⟩ := h.rowEnd rnf hR
  rw [postUpTo_unnamed hR.row hnaR, List.append_nil, h.out_unnamed hR.row hR.node hnaR] at hacts
  rw [h.out_unnamed hR.row hR.node hnaR] at hend
  exact ⟨_, _, by rw [posA_zero, absFlow_getElem?, h.refAt hR.row (isNodeRow_kind hR.node)]; rfl,
    hposC, fun k hk => by rw [hacts, offA_zero, Nat.zero_add],
    .inl (hend _ _ rfl rfl (by rw [hacts, offA_zero, Nat.zero_add]))⟩

theorem AtEnd.fuse_action {R i : Nat} {cR : CRow} (hR : HasNode rows M R cR) (hi : i < (membersOf rows R).length)
    (hka : kindOf cR.row.type = .action) :
    FuseAt rnf rows outE M s.nodes r F R i := by
  obtain ⟨b, hposC, hbacts, hend⟩ := h.rowEnd rnf hR
  obtain ⟨hlink, hlast⟩ := (chains_of_ok h.chains).2 R cR hR.row hR.node
  obtain ⟨t, ht⟩ : ∃ t, (membersOf rows R)[i]? = some t := ⟨_, List.getElem?_eq_getElem hi⟩
  obtain ⟨ct, hct, hkt, hnat⟩ := chain_row hR.row hka ht
  have hisn : ∀ {c : CRow}, kindOf c.row.type = .action → (kindOf c.row.type).isNode = true := fun hk => by rw [hk]; rfl
  -- the compiled node performs the actions of the chain, the reference node of row `t` those of row `t`
  rw [action_acts hR.row (h.rowOk hR.row) _ r hka, chain_acts hR.row] at hbacts
  have hTacts := action_acts hct (h.rowOk hct) ⟨false, rnf⟩ r hkt (outE.filter (·.src = t))
  refine ⟨_, b, by rw [posA_of outE ht, absFlow_getElem?, h.refAt hct (hisn hkt)]; rfl, hposC,
    fun k hk => by rw [hbacts, hTacts] at *; exact flatMap_pos _ _ i t ht k hk, ?_⟩
  by_cases hlastrow : i + 1 < (membersOf rows R).length
  · -- not the last row of its chain: it leads to the next one, and nowhere else
    obtain ⟨t', ht'⟩ : ∃ t', (membersOf rows R)[i + 1]? = some t' := ⟨_, List.getElem?_eq_getElem hlastrow⟩
    obtain ⟨ct', hct', hkt', hnat'⟩ := chain_row hR.row hka ht'
    have hlong : 1 < (membersOf rows R).length := Nat.lt_of_le_of_lt (Nat.le_add_left 1 i) hlastrow
    obtain ⟨e, hefil, hetgt, heb⟩ := hlink (t, t') (zip_tail_mem ht ht')
    simp only at hefil hetgt
    have hrefT' := h.refDest hct' (hisn hkt')
    simp only [Option.bind_some] at hrefT'
    have haT : absNode ⟨false, rnf⟩ r (mkNode t (toRRow ct) (outE.filter (·.src = t))) =
        { acts := (toRRow ct).act.toList, ask := none, dests := [some (some (refIdx rows outE t'))] } := by
      rw [hefil, absNode_plain_ref _ r t (toRRow ct) [e] (.inl hkt) (List.forall_mem_singleton.mpr heb)]
      simp only [List.getLast?_singleton, Option.bind_some, hetgt, hrefT']
    exact .inr ⟨(R, i + 1), ⟨cR, hR, hlastrow⟩, hTacts ▸ actsOf_named hct (h.rowOk hct) (hnat hlong), by rw [haT],
      by rw [haT, posA_of outE ht'], rfl, by rw [hTacts]; exact offA_succ ht, _,
      by rw [posA_of outE ht', absFlow_getElem?, h.refAt hct' (hisn hkt')]; rfl,
      action_acts hct' (h.rowOk hct') ⟨false, rnf⟩ r hkt' _ ▸ actsOf_named hct' (h.rowOk hct') (hnat' hlong)⟩
  · -- the last row of its chain: the node is left as this row is left
    have hlen : (membersOf rows R).length = i + 1 := by omega
    have hes_R : outOf st R = (outE.filter (·.src = t)).map (fun e => { e with src := R }) := by
      rw [← h.out, hlast, getLastD_of_getElem? R hlen ht]
    obtain ⟨hcask, hcdests⟩ :=
      absNode_action_congr rnf r t R (toRRow ct) (toRRow cR) (outOf st R) hkt hka (h.sameVar hR.row (.inl hka))
    rw [hes_R, mkNode_action_resrc hkt] at hcask hcdests
    rw [hes_R] at hend
    exact .inl (hend _ _ hcask hcdests (by rw [hbacts, hTacts]; exact flatMap_last _ _ i t ht hlen))

theorem AtEnd.fuse : FuseOf (absFlow ⟨false, rnf⟩ r) (absFlow ⟨false, rnf⟩ F) (Live rows M) (posA rows outE)
    (posB rows M s.nodes) (offA rows) (posR rows M s.nodes) := by
  constructor
  rintro ⟨R, i⟩ ⟨cR, hR, hi⟩
  have key : FuseAt rnf rows outE M s.nodes r F R i := by
    by_cases hka : kindOf cR.row.type = .action
    · exact h.fuse_action rnf hR hi hka
    · have hnaR : isNamedAct cR = false := not_named_of_kind hka
      simp only [membersOf_single hR.row hnaR, List.length_singleton, Nat.lt_one_iff] at hi
      subst hi
      exact h.fuse_other rnf hR hka
  obtain ⟨a, b, h1, h2, h3, h4⟩ := key
  exact ⟨a, b, h1, h2, h3, or_assoc.mp h4⟩

end

theorem noIdsL_fragment : ∀ (rows : List CRow), (∀ c ∈ rows, rowOk c = true) →
    noIdsL (rows.map toEvent) = true := by
  intro rows
  induction rows with
  | nil => intro _; rfl
  | cons c l ih =>
    intro h
    have hu : c.row.nodeUuid = [] := by
      have := h c (by simp)
      simp only [rowOk, Bool.or_eq_true] at this
      rcases this with ((h1 | h1) | h1) | h1
      · exact (rowFacts c h1).nouid
      · simp only [exitRow, Bool.and_eq_true, List.isEmpty_iff] at h1; exact h1.2
      · simp only [gotoRow, Bool.and_eq_true, List.isEmpty_iff] at h1; exact h1.2
      · simp only [noopRow, Bool.and_eq_true, List.isEmpty_iff] at h1; exact h1.1.2
    simp only [List.map_cons, noIdsL, toEvent, Event.noIds, Bool.and_eq_true]
    exact ⟨by rw [hu]; rfl, ih (fun c' hc' => h c' (by simp [hc']))⟩

theorem pass1_state {rows : List RRow} {out : List OutEdge} (h : pass1 rows = .ok out) :
    ∃ st : P1, (rows.zipIdx 0).foldlM (fun st (p : RRow × Nat) => pass1Row st p.2 p.1) {} = .ok st ∧
      out = st.out.reverse := by
  obtain ⟨st, hst, h⟩ := Except.bind_eq_ok.mp h
  exact ⟨st, hst, (Except.pure_eq_ok.mp h).symm⟩

theorem pass1F_state {rows : List CRow} {out : List OutEdge} (h : pass1F rows = .ok out) :
    ∃ st : P1, (rows.zipIdx 0).foldlM (fun st (p : CRow × Nat) => pass1RowF rows st p.2 p.1) {} = .ok st ∧
      out = st.out.reverse := by
  obtain ⟨st, hst, h⟩ := Except.bind_eq_ok.mp h
  exact ⟨st, hst, (Except.pure_eq_ok.mp h).symm⟩

/-- **the refinement theorem on the fragment, at the level of traces**; the clauses of `inFragment` as `Frag` -/
theorem fragment_trace (rnf : Bool) {testTypes : List Str} {rows : List CRow} {out : Out} {r : Flow}
    {outE outF : List OutEdge} (hF : Frag rows outE outF)
    (hp1 : pass1 (rows.map toRRow) = .ok outE) (hpF : pass1F rows = .ok outF)
    (hc : compile RefFlow.noArgsTests testTypes (rows.map toEvent) = .ok out)
    (hr : refFlow (rows.map toRRow) = .ok r) (env : Nat → Nat) (len : Nat) :
    trace ⟨false, rnf⟩ r env len = trace ⟨false, rnf⟩ (renderOut out) env len := by
  obtain ⟨s, hrun, hl, ho⟩ := compile_ok hc
  obtain ⟨outE', hp1', hrn⟩ := refFlow_nodes _ _ hr
  rw [hp1] at hp1'; injection hp1' with hp1'; subst hp1'
  obtain ⟨stT, hfold, hoe⟩ := pass1F_state hpF
  obtain ⟨M, st, pnd, hrel, hs⟩ := wp_of_run (rows_simN hF.sheet rows 0
    (fun i c hi => by simpa using hi) hF.rowsOk _ {} stT (relN_init rows testTypes) hfold (by rw [hoe])) hrun
  simp only [Nat.zero_add] at hrel hs
  obtain rfl : pnd = [] := by
    have := hs.fold
    rw [← hoe, hF.done] at this
    injection this with this
    exact this.symm
  have hids := noIdsL_fragment rows hF.rowsOk
  have a := final_ainv ⟨True, True⟩ ⟨fun _ => okIdsL_of_noIdsL _ hids, fun _ => hids⟩ hrun
  have hI := a.ids trivial
  have hU : ((renderOut out).nodes.map (·.uuid)).Nodup := by
    have := uids_nodup_of_invented hI (a.inv trivial) _ (emit_nodup (final_binv hrun) hl)
    rw [← ho] at this
    simpa [renderOut, List.map_map, Function.comp_def, renderNode] using this
  have hFn : (renderOut out).nodes = (List.range rows.length).flatMap (cmpNodes rows M s.nodes) := by
    unfold cmpNodes
    simp only [renderOut, ho, emit_rel hrel hs, List.filterMap_flatMap, List.map_flatMap]
  have h : AtEnd rows outE outF M s stT st r (renderOut out) :=
    ⟨hF, hrel, hs, hoe, hI.nodup, ⟨hrn.trans (refNodes_rows rows outE), (refFlow_closed _ _ hr).1⟩, ⟨hFn, hU⟩⟩
  exact trace_eq_of_fuse (h.fuse rnf) (h.start rnf) env len

theorem testRow_of_kind {c : CRow} (hk : isTestKind (kindOf c.row.type)) : testRow c = true := by
  unfold testRow
  rcases hk with hk | hk | hk
  · have : c.row.type ∈ switchTypes := by
      simp only [switchTypes, List.map_cons, List.map_nil, List.mem_cons, List.not_mem_nil, or_false]
      exact switch_type_of_kind hk
    rw [List.contains_iff_mem.mpr this]; rfl
  · rw [decide_eq_true hk]; simp
  · rw [decide_eq_true hk]; simp

/-- a clause of `inFragment` about the rows `c` with `G c` -/
theorem all_rows {rows : List CRow} {G : CRow → Bool} {P : Nat → CRow → Bool}
    (h : ((List.range rows.length).all fun j => match rows[j]? with | some c => !G c || P j c | none => true) = true)
    {j : Nat} {c : CRow} (hc : rows[j]? = some c) (hg : G c = true) : P j c = true := by
  have := List.all_eq_true.mp h j (List.mem_range.mpr (lt_length_of_getElem? hc))
  rw [hc] at this
  simpa [hg] using this

theorem Frag.of_inFragment {rows0 : List CRow} {outE : List OutEdge} (hf : inFragment rows0 = true)
    (hp : pass1 ((annotate rows0).map toRRow) = .ok outE) :
    ∃ outF, pass1F (annotate rows0) = .ok outF ∧ Frag (annotate rows0) outE outF := by
  have ha := annot_annotate rows0
  unfold inFragment at hf
  simp only at hf
  generalize annotate rows0 = rows at hp ha hf
  simp only [Bool.and_eq_true, List.all_eq_true] at hf
  obtain ⟨h1, hf⟩ := hf
  rw [hp] at hf
  simp only at hf
  cases hpF : pass1F rows with
  | error err => rw [hpF] at hf; cases hf
  | ok outF =>
  rw [hpF] at hf
  simp only [Bool.and_eq_true, List.all_eq_true] at hf
  obtain ⟨⟨⟨⟨⟨⟨⟨h2, h3⟩, h4⟩, h5⟩, h6⟩, h7⟩, h8⟩, h9⟩ := hf
  refine ⟨outF, rfl, ⟨h2, fun j c hc hk => of_decide_eq_true (all_rows h3 hc (testRow_of_kind hk)), fun j c hc hk e he => ?_,
    fun j c hc hk => all_rows h5 hc (testRow_of_kind hk), ha⟩, h1, h6, ?_, h8, h9⟩
  · have hkk : (decide (kindOf c.row.type = .action) || decide (kindOf c.row.type = .noOp)) = true := by
      rcases hk with hk | hk <;> rw [decide_eq_true hk] <;> simp
    exact of_decide_eq_true (List.all_eq_true.mp (all_rows h4 hc hkk) e he)
  · unfold noopSched at h7
    cases hfo : outF.foldlM (schedStep rows) [] with
    | none => rw [hfo] at h7; cases h7
    | some pnd =>
      rw [hfo] at h7
      simp only [List.isEmpty_iff] at h7
      rw [h7]

theorem pass1F_unmerged (rows : List CRow) (h : ∀ c ∈ rows, (c.merged && isNamedAct c) = false) :
    pass1F rows = pass1 (rows.map toRRow) := by
  unfold pass1F pass1
  rw [List.zipIdx_map, List.foldlM_map]
  refine congrArg (· >>= _) (foldlM_congr_mem _ _ fun st ⟨c, k⟩ hp => ?_)
  simp only [pass1RowF, h c (List.fst_mem_of_mem_zipIdx hp)]
  rfl

theorem chainsOk_unmerged (rows : List CRow) (h : ∀ c ∈ rows, (c.merged && isNamedAct c) = false)
    (out : List OutEdge) (hp : pass1 (rows.map toRRow) = .ok out) : chainsOk rows out out = true := by
  unfold chainsOk
  simp only [Bool.and_eq_true, List.all_eq_true, List.mem_range]
  refine ⟨fun e he => ?_, fun R hR => ?_⟩
  · have := pass1_targets _ _ hp e he
    unfold tgtOwns
    cases ht : e.tgt with
    | exit => rfl
    | row t =>
      rw [ht] at this
      obtain ⟨rr, hrr, hrk⟩ := this
      rw [List.getElem?_map] at hrr
      obtain ⟨ct, hct, rfl⟩ := Option.map_eq_some_iff.mp hrr
      simp only [hct, ownsNode, h ct (List.mem_of_getElem? hct), show (kindOf ct.row.type).isNode = true from hrk,
        Bool.not_false, Bool.and_self]
  · -- no row is merged: every chain is its first row
    have hmn : ∀ nm i, mergedNamed rows nm i = false := fun nm i => by
      unfold mergedNamed
      cases hci : rows[i]? with
      | none => rfl
      | some ci => simp only [h ci (List.mem_of_getElem? hci), Bool.false_and]
    obtain ⟨cR, hcR⟩ : ∃ cR, rows[R]? = some cR := ⟨rows[R], by simp [hR]⟩
    have hch : membersOf rows R = [R] := by simp [membersOf, hcR, hmn]
    simp only [hcR, hch, List.tail_cons, List.zip_nil_right, List.all_nil, Bool.true_and, List.getLastD_cons,
      List.getLastD_nil, map_resrc_self, decide_true, Bool.or_true]

end Rpft.CoreSheet
