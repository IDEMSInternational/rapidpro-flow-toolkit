import Rpft.RefFlow
import Rpft.Lemmas.ListFacts
/-! Identifiers the reference flow invents (`k`, `k‹tag›i`) decode uniquely. -/
namespace Rpft.RefFlow
open Rpft Rpft.Flow

theorem natStr_eq (n : Nat) : natStr n = Nat.toDigits 10 n := toList_toString_nat n

theorem natStr_injective {a b : Nat} (h : natStr a = natStr b) : a = b := toList_toString_nat_inj h

theorem natStr_digits (n : Nat) : ∀ c ∈ natStr n, c.isDigit = true := by
  intro c hc
  rw [natStr_eq] at hc
  exact Nat.isDigit_of_mem_toDigits (by decide) (by decide) hc

/-- structured form of the identifiers the reference flow invents -/
inductive Key where
  | node (k : Nat)
  | sub (k : Nat) (tag : Char) (i : Nat)
  deriving DecidableEq, Repr

def Key.idx : Key → Nat
  | .node k => k
  | .sub k _ _ => k

def Key.ok : Key → Prop
  | .node _ => True
  | .sub _ t _ => t.isDigit = false

def enc : Key → Id
  | .node k => natStr k
  | .sub k t i => natStr k ++ t :: natStr i

theorem enc_split (a : Key) (ha : a.ok) :
    (enc a).takeWhile Char.isDigit = natStr a.idx ∧
    (enc a).dropWhile Char.isDigit = (match a with | .node _ => [] | .sub _ t i => t :: natStr i) := by
  cases a with
  | node k =>
    refine ⟨takeWhile_all _ _ (natStr_digits k), ?_⟩
    simpa [enc] using List.dropWhile_append_of_pos (l₂ := []) (natStr_digits k)
  | sub k t i => exact takeWhile_dropWhile_append_cons (natStr_digits k) ha _

theorem enc_injective {a b : Key} (ha : a.ok) (hb : b.ok) (h : enc a = enc b) : a = b := by
  have h1 := enc_split a ha
  have h2 := enc_split b hb
  rw [h] at h1
  have hk : a.idx = b.idx := natStr_injective (h1.1.symm.trans h2.1)
  have hd := h1.2.symm.trans h2.2
  cases a with
  | node k =>
    cases b with
    | node k' => simp only [Key.idx] at hk; rw [hk]
    | sub k' t' i' => simp at hd
  | sub k t i =>
    cases b with
    | node k' => simp at hd
    | sub k' t' i' =>
      simp only [Key.idx] at hk
      simp only [List.cons.injEq] at hd
      rw [hk, hd.1, natStr_injective hd.2]

end Rpft.RefFlow
