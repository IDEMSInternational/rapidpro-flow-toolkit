/-
Emission (`add_nodes_to_flow`) over a well-formed group tree: with `NInv` (every node is held
by exactly one group) and `GInv` (the groups form a forest whose roots are `R`, children have
larger indices) the emission from a root lists every node held below it exactly once, and the
fuel `gsz + 1 - g` suffices.
-/
import Rpft.Lemmas.CompileTree
namespace Rpft.Compile
open Rpft

/-- `emit` over the abstract "held" / "children" functions -/
def emitF (hf kf : Nat → Option (List Nat)) : Nat → Nat → List Nat
  | 0, _ => []
  | fuel + 1, g =>
    match hf g, kf g with
    | some h, some k => h ++ k.flatMap (emitF hf kf fuel)
    | _, _ => []

/-- `x` is `a` or a group below `a` -/
inductive Desc (kf : Nat → Option (List Nat)) : Nat → Nat → Prop
  | refl (a : Nat) : Desc kf a a
  | head {a c x : Nat} {l : List Nat} : kf a = some l → c ∈ l → Desc kf c x → Desc kf a x

theorem Desc.snoc {kf : Nat → Option (List Nat)} {a p c : Nat} {l : List Nat} (h : Desc kf a p)
    (hp : kf p = some l) (hc : c ∈ l) : Desc kf a c := by
  induction h with
  | refl a => exact .head hp hc (.refl c)
  | head h1 h2 _ ih => exact .head h1 h2 (ih hp)

theorem Desc.tail {kf : Nat → Option (List Nat)} {a x : Nat} (h : Desc kf a x) :
    a = x ∨ ∃ p l, Desc kf a p ∧ kf p = some l ∧ x ∈ l := by
  induction h with
  | refl a => exact .inl rfl
  | @head a c x l h1 h2 h3 ih =>
    right
    rcases ih with e | ⟨p, l', hd, hp, hx⟩
    · subst e; exact ⟨a, l, .refl a, h1, h2⟩
    · exact ⟨p, l', .head h1 h2 hd, hp, hx⟩

section
variable {R : Nat → Prop} {gsz : Nat} {kf : Nat → Option (List Nat)}

theorem Desc.le (hG : GInv R gsz kf) {a x : Nat} (h : Desc kf a x) : a ≤ x := by
  induction h with
  | refl a => exact Nat.le_refl a
  | head h1 h2 _ ih => have := (hG.klt _ _ _ h1 h2).1; omega

theorem Desc.linear (hG : GInv R gsz kf) {a b x : Nat} (ha : Desc kf a x) (hb : Desc kf b x) :
    Desc kf a b ∨ Desc kf b a := by
  induction ha with
  | refl a => exact .inr hb
  | @head a c x l h1 h2 h3 ih =>
    rcases ih hb with h | h
    · exact .inl (.head h1 h2 h)
    · rcases h.tail with e | ⟨p, l', hd, hp, hx⟩
      · subst e; exact .inl (.head h1 h2 (.refl _))
      · have : p = a := hG.kuniq p a l' l c hp h1 hx h2
        subst this; exact .inr hd

theorem Desc.siblings (hG : GInv R gsz kf) {p c1 c2 x : Nat} {l : List Nat} (hp : kf p = some l)
    (h1 : c1 ∈ l) (h2 : c2 ∈ l) (hne : c1 ≠ c2) (d1 : Desc kf c1 x) (d2 : Desc kf c2 x) : False := by
  have key : ∀ a b, a ∈ l → b ∈ l → a ≠ b → Desc kf a b → False := by
    intro a b ha hb hab hd
    rcases hd.tail with e | ⟨p', l', hd', hp', hx⟩
    · exact hab e
    · have : p' = p := hG.kuniq p' p l' l b hp' hp hx hb
      subst this
      have h3 := hd'.le hG
      have h4 := (hG.klt _ _ _ hp ha).1
      omega
  rcases Desc.linear hG d1 d2 with h | h
  · exact key c1 c2 h1 h2 hne h
  · exact key c2 c1 h2 h1 (fun e => hne e.symm) h
end

section
variable {P R : Nat → Prop} {nsz gsz : Nat} {hf kf : Nat → Option (List Nat)}

theorem mem_emitF : ∀ (fuel g i : Nat), i ∈ emitF hf kf fuel g →
    ∃ g' l, Desc kf g g' ∧ hf g' = some l ∧ i ∈ l := by
  intro fuel
  induction fuel with
  | zero => intro g i h; simp [emitF] at h
  | succ fuel ih =>
    intro g i h
    unfold emitF at h
    split at h
    · rename_i hh k hhf hkf
      simp only [List.mem_append, List.mem_flatMap] at h
      rcases h with h | ⟨c, hc, hi⟩
      · exact ⟨g, hh, .refl g, hhf, h⟩
      · obtain ⟨g', l, hd, hl, hil⟩ := ih c i hi
        exact ⟨g', l, .head hkf hc hd, hl, hil⟩
    · simp at h

theorem emitF_complete (hG : GInv R gsz kf)
    (hdom : ∀ g l, hf g = some l → g < gsz ∧ ∃ k, kf g = some k)
    (hdk : ∀ g k, kf g = some k → ∃ h, hf g = some h) :
    ∀ (fuel g g' i : Nat) (l : List Nat), gsz + 1 ≤ fuel + g → Desc kf g g' → hf g' = some l → i ∈ l →
      i ∈ emitF hf kf fuel g := by
  intro fuel
  induction fuel with
  | zero =>
    intro g g' i l hfu hd hl hi
    have h1 := hd.le hG
    have h2 := (hdom g' l hl).1
    omega
  | succ fuel ih =>
    intro g g' i l hfu hd hl hi
    cases hd with
    | refl =>
      obtain ⟨_, k, hk⟩ := hdom g l hl
      unfold emitF; rw [hl, hk]
      simp [hi]
    | @head _ c _ l' h1 h2 h3 =>
      have hc := (hG.klt _ _ _ h1 h2)
      have hih := ih c g' i l (by omega) h3 hl hi
      obtain ⟨hh, hhg⟩ := hdk g l' h1
      unfold emitF; rw [hhg, h1]
      simp only [List.mem_append, List.mem_flatMap]
      exact .inr ⟨c, h2, hih⟩

theorem emitF_nodup (hN : NInv P nsz hf) (hG : GInv R gsz kf) :
    ∀ (fuel g : Nat), (emitF hf kf fuel g).Nodup := by
  intro fuel
  induction fuel with
  | zero => intro g; simp [emitF]
  | succ fuel ih =>
    intro g
    unfold emitF
    split
    · rename_i hh k hhf hkf
      rw [List.nodup_append]
      refine ⟨hN.hnodup g hh hhf, ?_, ?_⟩
      · -- emissions of different children are disjoint: what they emit is held below them, by one group only
        show List.Pairwise (· ≠ ·) _
        rw [List.pairwise_flatMap]
        refine ⟨fun c _ => ih c, (hG.knodup g k hkf).imp_of_mem fun {c c'} hc hc' hne x hx y hy hxy => ?_⟩
        subst hxy
        obtain ⟨g1, l1, d1, hl1, hi1⟩ := mem_emitF fuel c x hx
        obtain ⟨g2, l2, d2, hl2, hi2⟩ := mem_emitF fuel c' x hy
        have : g1 = g2 := hN.huniq g1 g2 l1 l2 x hl1 hl2 hi1 hi2
        subst this
        exact Desc.siblings hG hkf hc hc' hne d1 d2
      · intro x hx y hy hxy
        subst hxy
        simp only [List.mem_flatMap] at hy
        obtain ⟨c, hc, hxc⟩ := hy
        obtain ⟨g1, l1, d1, hl1, hi1⟩ := mem_emitF fuel c x hxc
        have : g = g1 := hN.huniq g g1 hh l1 x hhf hl1 hx hi1
        subst this
        have h1 := d1.le hG
        have h2 := (hG.klt _ _ _ hkf hc).1
        omega
    · simp
end

end Rpft.Compile
