/-
The scope part of the simulation (`SSim`: stack of open blocks, row ids, node names), how it follows the
updates of the scope, the full simulation `Sim` = `ASim` and `SSim`, and the operations that read the scope:
`most_recent_node_group`, `_get_node_group_from_edge` (under `EdgePre`).
-/
import Rpft.Lemmas.CompileInsertExit
import Rpft.Lemmas.CompileInsertUnary
namespace Rpft.Compile
open Rpft Function

structure SParams where
  /-- the part of the right stack below the image of the left stack -/
  tail : List Nat
  /-- row ids that must not be looked up (hidden ids of the right scope, ids of tainted groups) -/
  F : List Str
  /-- node names of the two scopes correspond (otherwise no named node may be looked up) -/
  nmAll : Bool
  /-- the row ids the right scope sees below those of the left scope -/
  outer : List (Str × Nat)

variable {P : Params} {X : SParams}

structure SSim (P : Params) (X : SParams) (s₁ s₂ : St) : Prop where
  stack : s₂.stack = s₁.stack.map P.γ ++ X.tail
  stackDG : ∀ b ∈ s₁.stack, P.DG b
  tl : X.tail = [] ∨ (P.sp = true ∧ s₁.stack.getLast? = some P.bx)
  bxs : P.sp = true → P.bx ∈ s₁.stack → P.hb
  ss : s₁.stack.Pairwise (fun x y => P.T x → P.T y)
  ri : ∀ id j, id ∉ X.F → lookupIn s₁.rowIds id = some j → lookupIn s₂.rowIds id = some (P.γ j)
  riDG : ∀ p ∈ s₁.rowIds, P.DG p.2
  rl : ∀ p ∈ s₁.rowIds, P.T p.2 → p.1 ∈ X.F
  rk : ∀ p ∈ s₁.rowIds, p.1 ≠ []
  rk2 : ∀ id, (∀ p ∈ s₁.rowIds, p.1 ≠ id) → lookupIn s₂.rowIds id = lookupIn X.outer id
  nm : X.nmAll = true → ∀ x, x ≠ [] → lookupIn s₂.names x = (lookupIn s₁.names x).map P.ν
  nmDN : ∀ p ∈ s₁.names, P.DN p.2

section
variable {s₁ s₂ : St} (h : SSim P X s₁ s₂)
include h

theorem SSim.of_seq {t₁ t₂ : St} (e1 : SEq s₁ t₁) (e2 : SEq s₂ t₂) : SSim P X t₁ t₂ := by
  -- `SSim` mentions only the three scope fields
  cases s₁; cases s₂; cases t₁; cases t₂
  obtain ⟨rfl, rfl, rfl⟩ := e1
  obtain ⟨rfl, rfl, rfl⟩ := e2
  exact { h with }

theorem SSim.consRowId (id : Str) (hid0 : id ≠ []) {g : Nat} (hd : P.DG g)
    (ht : P.T g → id ∈ X.F) :
    SSim P X { s₁ with rowIds := (id, g) :: s₁.rowIds } { s₂ with rowIds := (id, P.γ g) :: s₂.rowIds } := by
  refine { h with
    ri := ?_
    riDG := List.forall_mem_cons.mpr ⟨hd, h.riDG⟩
    rl := List.forall_mem_cons.mpr ⟨ht, h.rl⟩
    rk := List.forall_mem_cons.mpr ⟨hid0, h.rk⟩
    rk2 := ?_ }
  · intro x j hx hl
    rw [lookupIn_cons] at hl ⊢
    by_cases hid : id = x
    · simp only [hid, if_true, Option.some.injEq] at hl ⊢; rw [hl]
    · simp only [hid, if_false] at hl ⊢; exact h.ri x j hx hl
  · intro x hx
    rw [lookupIn_cons, if_neg (hx (id, g) List.mem_cons_self)]
    exact h.rk2 x fun p hp => hx p (List.mem_cons_of_mem _ hp)

theorem SSim.consName (nmv : Str) {i : Nat} (hd : P.DN i) :
    SSim P X { s₁ with names := (nmv, i) :: s₁.names } { s₂ with names := (nmv, P.ν i) :: s₂.names } := by
  refine { h with nm := ?_, nmDN := List.forall_mem_cons.mpr ⟨hd, h.nmDN⟩ }
  intro hall x hx
  rw [lookupIn_cons, lookupIn_cons]
  by_cases hid : nmv = x
  · simp [hid]
  · simp only [hid, if_false]; exact h.nm hall x hx

theorem SSim.push (nb : Nat) (lv : P.Live nb) (hne : nb ≠ P.bx) :
    SSim P X { s₁ with stack := nb :: s₁.stack } { s₂ with stack := P.γ nb :: s₂.stack } := by
  refine { h with
    stack := congrArg (P.γ nb :: ·) h.stack
    stackDG := List.forall_mem_cons.mpr ⟨lv.1, h.stackDG⟩
    tl := ?_
    bxs := ?_
    ss := List.pairwise_cons.mpr ⟨fun y _ hx => absurd hx lv.2, h.ss⟩ }
  · rcases h.tl with h' | ⟨hsp, h'⟩
    · exact .inl h'
    · refine .inr ⟨hsp, ?_⟩
      cases hs : s₁.stack with
      | nil => rw [hs] at h'; cases h'
      | cons x xs => rw [hs] at h'; rw [List.getLast?_cons_cons]; exact h'
  · intro hsp hb
    rcases List.mem_cons.mp hb with hb | hb
    · exact absurd hb.symm hne
    · exact h.bxs hsp hb

theorem SSim.pop {b c : Nat} {rest : List Nat} (hst : s₁.stack = b :: c :: rest) :
    SSim P X { s₁ with stack := c :: rest } { s₂ with stack := P.γ c :: (rest.map P.γ ++ X.tail) } := by
  have hss := h.ss
  rw [hst, List.pairwise_cons] at hss
  have hsub : ∀ x ∈ c :: rest, x ∈ s₁.stack := fun x hx => hst ▸ List.mem_cons_of_mem _ hx
  refine { h with
    stack := rfl
    stackDG := fun x hx => h.stackDG x (hsub x hx)
    tl := ?_
    bxs := fun hsp hb => h.bxs hsp (hsub _ hb)
    ss := hss.2 }
  rcases h.tl with h' | ⟨hsp, h'⟩
  · exact .inl h'
  · rw [hst, List.getLast?_cons_cons] at h'; exact .inr ⟨hsp, h'⟩

theorem SSim.lookup {id : Str} {j : Nat} (hF : id ∉ X.F)
    (hl : lookupIn s₁.rowIds id = some j) :
    lookupIn s₂.rowIds id = some (P.γ j) ∧ P.Live j ∧ (RV s₁ → j < s₁.groups.size) :=
  have hm := lookupIn_mem hl
  ⟨h.ri id j hF hl, ⟨h.riDG _ hm, fun ht => hF (h.rl _ hm ht)⟩, fun hrv => hrv _ hm⟩

end

/-- the full simulation -/
def Sim (P : Params) (X : SParams) (s₁ s₂ : St) : Prop := ASim P s₁ s₂ ∧ SSim P X s₁ s₂

/-- `Sim` reads the arena fields of the states through `ASim`, the scope fields through `SSim` -/
theorem Sim.of_parts {a₁ a₂ b₁ b₂ t₁ t₂ : St} (ha : ASim P a₁ a₂) (hs : SSim P X b₁ b₂)
    (e : AEq a₁ t₁ := by exact ⟨rfl, rfl, rfl, rfl, rfl⟩) (f : AEq a₂ t₂ := by exact ⟨rfl, rfl, rfl, rfl, rfl⟩)
    (e' : SEq b₁ t₁ := by exact ⟨rfl, rfl, rfl⟩) (f' : SEq b₂ t₂ := by exact ⟨rfl, rfl, rfl⟩) : Sim P X t₁ t₂ :=
  ⟨ha.congr e f, hs.of_seq e' f'⟩

/-- the last child of an open block of the domain corresponds to that of its image: the extra first child
the special block has on the right does not matter, since that block has a child already -/
theorem ASim.lastKid {s₁ s₂ : St} (h : ASim P s₁ s₂) {b : Nat} (hd : P.DG b) (hb : P.sp = true → b = P.bx → P.hb) :
    lastKid s₂.groups (P.γ b) = (lastKid s₁.groups b).map P.γ := by
  unfold Compile.lastKid
  cases hg : s₁.groups[b]? with
  | none =>
    rw [getElem?_none_of_sync h.gsync hg]
    rfl
  | some g =>
    rw [h.groups b g hd hg]
    cases g with
    | row _ _ => rfl
    | noop _ _ => rfl
    | block cs =>
      by_cases hbb : b = P.bx ∧ P.sp = true
      · obtain ⟨c, cs', e⟩ := h.bne (hb hbb.2 hbb.1)
        rw [← hbb.1, hg] at e
        cases e
        simp only [mapGrpAt, hbb, and_self, if_true, List.map_cons, List.getLast?_cons_cons]
        rw [← List.map_cons, List.getLast?_map]
      · simp only [mapGrpAt, hbb, if_false]
        exact List.getLast?_map

/-- what an edge must satisfy in the current left state: a source row it names is not forbidden, and a blank
`from` is read only while the most recent node group is untainted -/
def EdgePre (P : Params) (X : SParams) (s₁ : St) (e : Edge) : Prop :=
  (e.from_ ≠ [] → e.from_ ∉ X.F) ∧ (e.from_ = [] → MR P s₁)

section
variable {s₁ s₂ : St} (h : Sim P X s₁ s₂)
include h

theorem rwp_addGrp_bind {β γ : Type} (g : Grp) (hg : grefs g = [])
    (hn : ∀ i ∈ gnodes g, P.DN i ∧ i < s₁.nodes.size)
    {f₁ : Nat → M β} {f₂ : Nat → M γ} {Q : β → St → γ → St → Prop}
    (hf : P.Live s₁.groups.size → s₁.groups.size ≠ P.bx →
      Sim P X { s₁ with groups := s₁.groups.push g } { s₂ with groups := s₂.groups.push (mapGrp P g) } →
      rwp (f₁ s₁.groups.size) (f₂ (P.γ s₁.groups.size)) { s₁ with groups := s₁.groups.push g }
        { s₂ with groups := s₂.groups.push (mapGrp P g) } Q) :
    rwp (addGrp g >>= f₁) (addGrp (mapGrp P g) >>= f₂) s₁ s₂ Q := by
  have hd := h.1.gdom s₁.groups.size (Nat.le_refl _)
  have h0 : P.γ s₁.groups.size = s₂.groups.size := by simpa using h.1.gsync 0
  refine rwp_bind_run (b := s₂.groups.size) rfl rfl ?_
  rw [← h0]
  exact hf hd (Nat.ne_of_gt h.1.bxlt) (Sim.of_parts (h.1.addGrp g hg hn) h.2)

theorem mostRecent_sim :
    mostRecentIn s₂.groups s₂.stack = (mostRecentIn s₁.groups s₁.stack).map P.γ ∧
    ∀ j, mostRecentIn s₁.groups s₁.stack = some j → P.DG j := by
  have hk : ∀ b ∈ s₁.stack, (lastKid s₂.groups ∘ P.γ) b = (Option.map P.γ ∘ lastKid s₁.groups) b := fun b hb =>
    h.1.lastKid (h.2.stackDG b hb) fun hsp e => h.2.bxs hsp (e ▸ hb)
  rw [h.2.stack, mostRecentIn_eq, mostRecentIn_eq, List.findSome?_append, List.findSome?_map,
    findSome?_congr hk, ← List.map_findSome?]
  refine ⟨?_, fun j hj => ?_⟩
  · rcases h.2.tl with e | ⟨hsp, hl⟩
    · rw [e]; simp
    · -- the special block is open and has a child: the search ends within the image of the left stack
      have hbx := List.mem_of_getLast? hl
      obtain ⟨c, cs, e⟩ := h.1.bne (h.2.bxs hsp hbx)
      cases hf : s₁.stack.findSome? (lastKid s₁.groups) with
      | some j => rfl
      | none =>
        have hnone := List.findSome?_eq_none_iff.mp hf P.bx hbx
        cases hc : (c :: cs).getLast? with
        | none => simp at hc
        | some x => rw [lastKid_eq_some.mpr ⟨_, e, hc⟩] at hnone; cases hnone
  · obtain ⟨b, hb, hk'⟩ := List.exists_of_findSome?_eq_some hj
    obtain ⟨cs, hg, hl⟩ := lastKid_eq_some.mp hk'
    exact (h.1.closed b _ (h.2.stackDG b hb) hg).2 j (List.mem_of_getLast? hl)

theorem groupOfEdge_rel {e : Edge} (hp : EdgePre P X s₁ e) :
    rwp (groupOfEdge e) (groupOfEdge e) s₁ s₂
      (RO (fun a b => b = a.map P.γ ∧ ∀ j, a = some j → P.Live j ∧ (RV s₁ → j < s₁.groups.size)) s₁ s₂) := by
  unfold groupOfEdge
  refine rwp_ite (fun _ => ?_) fun hst => ?_
  · rw [rwp_pure]; exact ⟨⟨rfl, fun j hj => by cases hj⟩, rfl, rfl⟩
  refine rwp_ite (fun hem => ?_) fun hem => ?_
  · have he : e.from_ ≠ [] := by simpa using hem
    refine rwp_bind_run (lookupRow_run _ s₁) (lookupRow_run _ s₂) ?_
    cases hl : lookupIn s₁.rowIds e.from_ with
    | none => exact rwp_fail_left
    | some g =>
      obtain ⟨e2, hk⟩ := h.2.lookup (hp.1 he) hl
      rw [e2]
      simp only []
      rw [rwp_pure]
      exact ⟨⟨rfl, fun j hj => Option.some.inj hj ▸ hk⟩, rfl, rfl⟩
  · have he : e.from_ = [] := by simpa using hem
    obtain ⟨e1, e2⟩ := mostRecent_sim h
    refine rwp_of_run (mostRecent_run s₁) (mostRecent_run s₂) ⟨⟨e1, fun j hj => ?_⟩, rfl, rfl⟩
    refine ⟨⟨e2 j hj, hp.2 he j hj⟩, fun _ => ?_⟩
    obtain ⟨b, _, cs, hg, hc⟩ := mostRecentIn_mem' hj
    exact (h.1.wf b _ hg).2 j (by simpa [grefs] using hc)

end

end Rpft.Compile
