/-
Helper lemmas for C04 (graph level): a successful export as a whole — its skeleton, the multiset
and order facts instantiated at the top-level call, every id a row mentions is the id of a row
(so the remapping never fails).
-/
import Rpft.Lemmas.ExportGraphOrder
import Rpft.Lemmas.ExportGraphReach
namespace Rpft.Export
open Function

variable {U : Type} [DecidableEq U]

/-- the edge into the first row of the sheet: `Edge(from_="start")` -/
def startEdge (n0 : NodeX U) : GEdge U := ⟨none, blankLabel, firstId n0⟩

/-- everything the graph theorems need of a successful export -/
structure Skeleton (f : FlowX U) (rows : List (RowT U)) (n0 : NodeX U) (items : List (Item U)) (vis : List U) : Prop where
  head : f.head? = some n0
  run : Run f DTrue (.node n0 ⟨none, blankLabel⟩) [] [] vis items
  rows_eq : rows = renderAll items
  inv : Inv f vis items
  closed : Closed f vis items
  reach : ∀ m, m ∈ blockNodes items ↔ Reach f m

theorem export_skeleton {f : FlowX U} {rows : List (RowT U)} (h : toRowsT f = .ok rows) (hne : f ≠ []) :
    ∃ n0 items vis, Skeleton f rows n0 items vis := by
  cases f with
  | nil => exact absurd rfl hne
  | cons n0 f =>
    obtain ⟨vis, items, r, hr, _⟩ := toRowsT_run h
    have hnil : ∀ m ∈ blockNodes ([] : List (Item U)), Reach (n0 :: f) m := nofun
    obtain ⟨newN, hi, hd, hc⟩ := run_closed r (inv_nil _) ⟨canon_head n0 f, by simp⟩
    have hc := (hc fun m hm => (nomatch hm)).1
    refine ⟨n0, items, vis, rfl, r, hr, hi, hc, fun m => ⟨run_reach r (Reach.start rfl) hnil m, fun hm => ?_⟩⟩
    -- the first node has the first block; the completed set is closed under exits
    induction hm with
    | start h0 =>
      cases h0
      obtain ⟨rest, hrest⟩ := run_node_head r
      rw [hrest, blockNodes_cons_block]
      exact List.mem_cons_self ..
    | @step n c lab d _ hmem hfn ih =>
      obtain ⟨c', h1, h2⟩ := hc n ih lab d hmem
      cases hfn.symm.trans h1
      exact hd.completed_of_visited hi (findNode_canon hfn) h2

theorem export_cases {f : FlowX U} {rows : List (RowT U)} (h : toRowsT f = .ok rows) :
    (f = [] ∧ rows = []) ∨ ∃ n0 items vis, Skeleton f rows n0 items vis := by
  by_cases hne : f = []
  · subst hne
    cases h
    exact Or.inl ⟨rfl, rfl⟩
  · exact Or.inr (export_skeleton h hne)

theorem export_node {f : FlowX U} {rows : List (RowT U)} (h : toRowsT f = .ok rows) {n : NodeX U} (hn : Reach f n) :
    ∃ n0 items vis, Skeleton f rows n0 items vis ∧ n ∈ blockNodes items := by
  obtain ⟨n0, items, vis, sk⟩ := export_skeleton h hn.ne_nil
  exact ⟨n0, items, vis, sk, (sk.reach n).2 hn⟩

namespace Skeleton
variable {f : FlowX U} {rows : List (RowT U)} {n0 : NodeX U} {items : List (Item U)} {vis : List U}
variable (sk : Skeleton f rows n0 items vis)
include sk

theorem taskOk : TaskOk f [] (.node n0 ⟨none, blankLabel⟩) :=
  ⟨(Reach.start sk.head).canon, by simp⟩

theorem edges : edgesOfT rows = skelEdges items := by
  rw [sk.rows_eq]
  exact edgesOfT_renderAll items (fun n es hm => (sk.inv.canonB n es hm).2)

theorem nodup : ((blockNodes items).map (·.uuid)).Nodup := sk.inv.nodup

theorem rows_ne {m : NodeX U} (hm : m ∈ blockNodes items) : m.rows ≠ [] := by
  obtain ⟨es, hes⟩ := mem_blockNodes.1 hm
  exact (sk.inv.canonB m es hes).2

theorem rows_pos {m : NodeX U} (hm : m ∈ blockNodes items) : 0 < m.rows.length :=
  List.length_pos_iff.2 (sk.rows_ne hm)

theorem perm : (edgesOfT rows).Perm (startEdge n0 :: (blockNodes items).flatMap (nodeOut f)) := by
  obtain ⟨newN, _, hd, this⟩ := run_perm sk.run (inv_nil f) sk.taskOk
  rw [hd.nodes_nil] at this
  rw [sk.edges]
  simpa [taskEdges, skelEdges, startEdge, inEdge] using this

theorem mem_edges {e : GEdge U} :
    e ∈ edgesOfT rows ↔ e = startEdge n0 ∨ ∃ m ∈ blockNodes items, e ∈ chain m ∨ e ∈ exitsEdges f m := by
  simp only [sk.perm.mem_iff, List.mem_cons, List.mem_flatMap, nodeOut, List.mem_append]

theorem sel_eq {D : List (Item U) → NodeX U → NodeX U → Label → Prop}
    (r : Run f D (.node n0 ⟨none, blankLabel⟩) [] [] vis items) {n : NodeX U} (hn : Reach f n) (Q : GEdge U → Bool)
    (hD : DoneOk f D (lastId n) Q) :
    sel (lastId n) Q (edgesOfT rows) = (exitsEdges f n).filter Q := by
  obtain ⟨newN, _, hd, this⟩ := run_filter hD r (inv_nil f) sk.taskOk
  rw [sk.edges, this, hd.nodes_nil, sel_flatMap_nodeOut f Q sk.nodup ((sk.reach n).2 hn)]
  have : sel (lastId n) Q (taskEdges f (.node n0 ⟨none, blankLabel⟩)) = [] := by
    apply sel_eq_nil_of_src
    intro e he
    simp only [taskEdges, List.mem_singleton] at he
    subst he
    simp [inEdge]
  rw [this]
  simp [skelEdges]

theorem outOf_perm {n : NodeX U} (hn : n ∈ blockNodes items) :
    (outOf (lastId n) (edgesOfT rows)).Perm (exitsEdges f n) := by
  have hp := sk.perm.filter (fun e => decide (e.src = some (lastId n)))
  have := sel_flatMap_nodeOut f (fun _ => true) sk.nodup hn
  simp only [sel, Bool.and_true] at this
  rwa [List.filter_cons, this, if_neg (by simp [startEdge]), List.filter_eq_self.2 (fun _ _ => rfl)] at hp

theorem completed_of_visited {c : NodeX U} (hc : Canon f c) (hv : c.uuid ∈ vis) :
    c ∈ blockNodes items := by
  obtain ⟨newN, _, hd⟩ := run_inv sk.run (inv_nil f) sk.taskOk
  exact hd.completed_of_visited sk.inv hc hv

theorem nodeRows : nodeRowsT rows = (blockNodes items).flatMap nodeSig := by
  rw [sk.rows_eq]; exact nodeRowsT_renderAll items

theorem order_head : (blockNodes items).head? = some n0 := by
  obtain ⟨rest, hrest⟩ := run_node_head sk.run
  rw [hrest, blockNodes_cons_block]; rfl

theorem nodeRow_mem {m : NodeX U} (hm : m ∈ blockNodes items) {j : Nat}
    (hj : j < m.rows.length) : (rowId m j, some m.uuid, (m.rows[j]).2, (m.rows[j]).1) ∈ nodeRowsT rows :=
  sk.nodeRows ▸ List.mem_flatMap.2 ⟨m, hm,
    List.mem_map.2 ⟨(m.rows[j], j), List.mk_mem_zipIdx_iff_getElem?.2 (by simp [hj]), rfl⟩⟩

theorem rowId_mem {m : NodeX U} (hm : m ∈ blockNodes items) {j : Nat}
    (hj : j < m.rows.length) : rowId m j ∈ rows.map (·.id) := by
  have := sk.nodeRow_mem hm hj
  simp only [nodeRowsT, List.mem_map, List.mem_filter] at this
  obtain ⟨r, ⟨hr, _⟩, e⟩ := this
  exact List.mem_map.2 ⟨r, hr, congrArg Prod.fst e⟩

theorem src_mem {e : GEdge U} (he : e ∈ skelEdges items) :
    ∀ k, e.src = some k → k ∈ rows.map (·.id) := by
  intro k hk
  rcases sk.mem_edges.1 (sk.edges ▸ he) with rfl | ⟨m, hm, hem | hem⟩
  · cases hk
  · obtain ⟨j, hj, rfl⟩ := mem_chain.1 hem
    cases hk
    exact sk.rowId_mem hm (by omega)
  · obtain ⟨lab, d, c, _, _, rfl⟩ := mem_exitsEdges.1 hem
    cases hk
    exact sk.rowId_mem hm (by have := sk.rows_pos hm; omega)

theorem goto_rows : ∀ r ∈ rows, r.goto ≠ [] → ∃ k c e, r = gotoRow k c e ∧ Reach f c := by
  intro r hr hg
  rw [sk.rows_eq] at hr
  obtain ⟨it, hit, hrit⟩ := mem_renderAll.1 hr
  cases it with
  | goto k c e =>
    obtain ⟨hcc, hcv⟩ := sk.inv.canonG k c e hit
    exact ⟨k, c, e, List.mem_singleton.1 hrit, (sk.reach c).1 (sk.completed_of_visited hcc hcv)⟩
  | block n es =>
    obtain ⟨_, _, _, _, h4, _⟩ := mem_blockRows hrit
    exact absurd h4 hg

theorem nodeId_mem {r : RowT U} (hr : r ∈ rows) {u : U} (h : r.nodeId = some u) :
    ∃ m ∈ blockNodes items, m.uuid = u := by
  rw [sk.rows_eq] at hr
  obtain ⟨it, hit, hrit⟩ := mem_renderAll.1 hr
  cases it with
  | goto k c e => rw [List.mem_singleton.1 hrit] at h; cases h
  | block n es =>
    obtain ⟨_, _, _, hn, _⟩ := mem_blockRows hrit
    exact ⟨n, mem_blockNodes.2 ⟨es, hit⟩, Option.some.inj (hn.symm.trans h)⟩

theorem refs : ∀ r ∈ rows, RowRefs (rows.map (·.id)) r := by
  intro r hr
  refine ⟨List.mem_map.2 ⟨r, hr, rfl⟩, ?_⟩
  rw [sk.rows_eq] at hr
  obtain ⟨it, hit, hrit⟩ := mem_renderAll.1 hr
  have hsub : ∀ e, e ∈ itemEdges it → e ∈ skelEdges items := fun e he => List.mem_flatMap.2 ⟨it, hit, he⟩
  cases it with
  | goto k c e =>
    rw [List.mem_singleton.1 hrit]
    constructor
    · intro e' he' k' hk'
      rw [List.mem_singleton.1 he'] at hk'
      exact sk.src_mem (hsub (inEdge c e) (List.mem_singleton_self _)) k' hk'
    · intro k' hk'
      rw [List.mem_singleton.1 hk']
      obtain ⟨hcc, hcv⟩ := sk.inv.canonG k c e hit
      have hm := sk.completed_of_visited hcc hcv
      exact sk.rowId_mem hm (sk.rows_pos hm)
  | block n es =>
    have hm : n ∈ blockNodes items := mem_blockNodes.2 ⟨es, hit⟩
    obtain ⟨j, hj, _, _, hg, he⟩ := mem_blockRows hrit
    refine ⟨?_, by rw [hg]; exact fun _ h => nomatch h⟩
    intro e' he' k' hk'
    rcases he with ⟨_, he⟩ | ⟨hj0, he⟩
    · rw [he] at he'
      exact sk.src_mem (hsub (inEdge n e') (List.mem_append_left _ (List.mem_map_of_mem he'))) k' hk'
    · rw [he, List.mem_singleton] at he'
      subst he'
      cases hk'
      exact sk.rowId_mem hm (by omega)

end Skeleton

/-- the remapping of an exported sheet never fails: every id a row mentions is the id of a row (`refs`) -/
theorem strippedRows_ok (numbered : Bool) {f : FlowX U} {rows : List (RowT U)} (h : toRowsT f = .ok rows) :
    ∃ out, strippedRows numbered f = .ok out := by
  have hrefs : ∀ r ∈ rows, RowRefs (rows.map (·.id)) r := by
    rcases export_cases h with ⟨_, rfl⟩ | ⟨n0, items, vis, sk⟩
    · exact fun _ hr => nomatch hr
    · exact sk.refs
  obtain ⟨out, ho⟩ := remap_ok_of_refs numbered rows (toRowsT_ids_nodup h) hrefs
  exact ⟨out, strippedRows_ok_iff.2 ⟨rows, h, ho⟩⟩

end Rpft.Export
