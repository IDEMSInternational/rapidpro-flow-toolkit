/-
Unary invariants of the left run that the event-level simulation carries along: the most recent
node group is untainted (`MR`), a clean scope (`CK`, `CL`), open blocks are blocks (`SB`), row ids name
groups (`RV`), heads are kept (`HeadKeep`); `Eff` collects what an operation keeps of them.
-/
import Rpft.Lemmas.CompileInsertSim
import Rpft.Lemmas.CompileInsertSameBlocks
namespace Rpft.Compile
open Rpft Function

variable {P : Params}

/-- the most recent node group is not tainted -/
def MR (P : Params) (s : St) : Prop := ∀ x, mostRecentIn s.groups s.stack = some x → ¬ P.T x

theorem MR.of_blkEq {s s' : St} (h : BlkEq s s') (hm : MR P s) : MR P s' := by
  intro x hx; rw [h.mostRecent] at hx; exact hm x hx

/-- the children of every open block are untainted -/
def CK (P : Params) (s : St) : Prop :=
  ∀ b ∈ s.stack, ∀ cs, s.groups[b]? = some (.block cs) → ∀ c ∈ cs, ¬ P.T c

/-- a clean scope: untainted children, only the bottom block of the stack may be tainted -/
def CL (P : Params) (s : St) : Prop := CK P s ∧ ∀ b ∈ s.stack.dropLast, ¬ P.T b

theorem CK.mr {s : St} (h : CK P s) : MR P s := by
  intro x hx
  obtain ⟨b, hb, cs, hg, hc⟩ := mostRecentIn_mem' hx
  exact h b hb cs hg x hc

theorem CK.of_blkEq {s s' : St} (hb : BlkEq s s') (h : CK P s) : CK P s' := by
  intro b hbm cs hg
  rw [hb.stack] at hbm
  exact h b hbm cs ((hb.blocks b cs).mp hg)

theorem CL.of_blkEq {s s' : St} (hb : BlkEq s s') (h : CL P s) : CL P s' :=
  ⟨h.1.of_blkEq hb, by rw [hb.stack]; exact h.2⟩

theorem CL.mr {s : St} (h : CL P s) : MR P s := h.1.mr

/-- every open block is a block of the arena -/
def SB (s : St) : Prop := ∀ b ∈ s.stack, ∃ cs, s.groups[b]? = some (.block cs)

theorem SB.of_blkEq {s s' : St} (hb : BlkEq s s') (h : SB s) : SB s' := by
  intro b hbm
  rw [hb.stack] at hbm
  obtain ⟨cs, hcs⟩ := h b hbm
  exact ⟨cs, (hb.blocks b cs).mpr hcs⟩

theorem SB.lt {s : St} (h : SB s) {b : Nat} (hb : b ∈ s.stack) : b < s.groups.size := by
  obtain ⟨cs, hcs⟩ := h b hb
  exact lt_size_of_getElem? hcs

/-- row ids name groups of the arena -/
def RV (s : St) : Prop := ∀ p ∈ s.rowIds, p.2 < s.groups.size

/-- row groups keep their first node, blocks their first child; the group arena does not shrink -/
def HeadKeep (s t : St) : Prop :=
  RowHead s t ∧ (∀ (j c : Nat) (cs : List Nat), s.groups[j]? = some (Grp.block (c :: cs)) →
    ∃ cs', t.groups[j]? = some (Grp.block (c :: cs'))) ∧ s.groups.size ≤ t.groups.size

theorem HeadKeep.refl (s : St) : HeadKeep s s :=
  ⟨fun _ _ l _ h => ⟨l, h⟩, fun _ _ cs h => ⟨cs, h⟩, Nat.le_refl _⟩

theorem HeadKeep.trans {s t u : St} (h : HeadKeep s t) (h' : HeadKeep t u) : HeadKeep s u :=
  ⟨fun j i l t hg => by
      obtain ⟨l', hl'⟩ := h.1 j i l t hg
      exact h'.1 j i l' t hl',
    fun j c cs hg => by
      obtain ⟨cs', hc'⟩ := h.2.1 j c cs hg
      exact h'.2.1 j c cs' hc', Nat.le_trans h.2.2 h'.2.2⟩

theorem HeadKeep.of_blkEq {s t : St} (hb : BlkEq s t) : HeadKeep s t :=
  ⟨hb.rowHead, fun j _ cs hg => ⟨cs, (hb.blocks j _).mpr hg⟩, hb.gsize⟩

/-- what an event-level operation keeps of the unary invariants of the left state -/
structure Eff (P : Params) (s t : St) : Prop where
  mr : MR P s → MR P t
  cl : CL P s → CL P t
  sb : SB s → SB t
  rv : RV s → RV t
  hk : HeadKeep s t

theorem Eff.of_blkEq_rv {s t : St} (hb : BlkEq s t) (hrv : RV s → RV t) : Eff P s t :=
  ⟨fun h => h.of_blkEq hb, fun h => h.of_blkEq hb, fun h => h.of_blkEq hb, hrv, HeadKeep.of_blkEq hb⟩

theorem Eff.of_blkEq {s t : St} (hb : BlkEq s t) (hr : t.rowIds = s.rowIds) : Eff P s t :=
  Eff.of_blkEq_rv hb fun h p hp => Nat.lt_of_lt_of_le (h p (hr ▸ hp)) hb.gsize

theorem Eff.trans {s t u : St} (h : Eff P s t) (h' : Eff P t u) : Eff P s u :=
  ⟨fun x => h'.mr (h.mr x), fun x => h'.cl (h.cl x), fun x => h'.sb (h.sb x), fun x => h'.rv (h.rv x),
    h.hk.trans h'.hk⟩

theorem Eff.of_stackSame {s w : St} (hst : w.stack = s.stack) (hgs : ∀ b ∈ s.stack, w.groups[b]? = s.groups[b]?)
    (hrv : RV s → RV w) (hk : HeadKeep s w) : Eff P s w := by
  refine ⟨?_, ?_, ?_, hrv, hk⟩
  · intro hm x hx
    rw [hst, mostRecentIn_congr _ hgs] at hx
    exact hm x hx
  · intro hc
    refine ⟨?_, by rw [hst]; exact hc.2⟩
    intro b hb cs hg
    rw [hst] at hb
    rw [hgs b hb] at hg
    exact hc.1 b hb cs hg
  · intro hs b hb
    rw [hst] at hb
    rw [hgs b hb]
    exact hs b hb

theorem eff_push (s : St) (hnt : ¬ P.T s.groups.size) :
    Eff P s { s with groups := s.groups.push (.block []), stack := s.groups.size :: s.stack } := by
  refine ⟨?_, ?_, ?_, ?_, ?_⟩
  rotate_left 3
  · intro hr p hp
    exact Nat.lt_of_lt_of_le (hr p hp) (by simp)
  · exact ⟨fun j i l t hg => ⟨l, getElem?_push_of_some hg⟩, fun j c cs hg => ⟨cs, getElem?_push_of_some hg⟩, by simp⟩
  · intro hm x hx
    -- the new block is empty: the search goes on below it
    rw [mostRecentIn_eq, List.findSome?_cons, lastKid, Array.getElem?_push_size, ← mostRecentIn_eq,
      mostRecentIn_push_empty] at hx
    exact hm x hx
  · intro hc
    refine ⟨fun b hb cs hg => ?_, fun b hb => ?_⟩
    · rcases getElem?_push_some hg with ⟨_, e⟩ | ⟨hne, hg'⟩
      · cases e; exact fun c hc' => nomatch hc'
      · exact hc.1 b ((List.mem_cons.mp hb).resolve_left hne) cs hg'
    · cases hs : s.stack with
      | nil => rw [show s.stack = [] from hs] at hb; cases hb
      | cons x xs =>
        rw [show s.stack = x :: xs from hs, List.dropLast_cons_cons] at hb
        exact (List.mem_cons.mp hb).elim (fun e => e ▸ hnt) fun hb => hc.2 b (hs ▸ hb)
  · intro hs b hb
    rcases List.mem_cons.mp hb with rfl | hb
    · exact ⟨[], Array.getElem?_push_size⟩
    · exact (hs b hb).imp fun cs hcs => getElem?_push_of_some hcs

theorem appendChild_eff {s t : St} {b g : Nat} {rest cs : List Nat} (hst : s.stack = b :: rest)
    (hg : s.groups[b]? = some (.block cs)) (e1 : t.stack = s.stack)
    (e2 : t.groups = s.groups.setIfInBounds b (.block (cs ++ [g])))
    (hrv : ∀ p ∈ t.rowIds, p ∈ s.rowIds ∨ p.2 < s.groups.size) :
    (SB s → SB t) ∧ (RV s → RV t) ∧ HeadKeep s t ∧ (¬ P.T g → MR P t ∧ Eff P s t) := by
  have hlt : b < s.groups.size := lt_size_of_getElem? hg
  have hself : t.groups[b]? = some (.block (cs ++ [g])) := by
    rw [e2]; exact Array.getElem?_setIfInBounds_self_of_lt hlt
  have hne : ∀ j, b ≠ j → t.groups[j]? = s.groups[j]? := fun j hj => by
    rw [e2]; exact Array.getElem?_setIfInBounds_ne hj
  have hsz : t.groups.size = s.groups.size := by rw [e2]; exact Array.size_setIfInBounds
  have hsb : SB s → SB t := by
    intro hs b' hb'
    by_cases hbb : b = b'
    · exact ⟨_, hbb ▸ hself⟩
    · rw [hne b' hbb]; exact hs b' (e1 ▸ hb')
  have hrvt : RV s → RV t := by
    intro hr p hp
    rw [hsz]
    exact (hrv p hp).elim (hr p) id
  have hhk : HeadKeep s t := by
    refine ⟨fun j i l t' hgj => ?_, fun j c cs' hgj => ?_, Nat.le_of_eq hsz.symm⟩
    · by_cases hbj : b = j
      · subst hbj; rw [hg] at hgj; cases hgj
      · exact ⟨l, (hne j hbj).trans hgj⟩
    · by_cases hbj : b = j
      · subst hbj
        rw [hg] at hgj; cases hgj
        exact ⟨cs' ++ [g], hself⟩
      · exact ⟨cs', (hne j hbj).trans hgj⟩
  refine ⟨hsb, hrvt, hhk, fun hng => ?_⟩
  -- the child just appended is the most recent node group
  have hmr : MR P t := by
    intro x hx
    rw [e1, hst] at hx
    unfold mostRecentIn at hx
    rw [hself] at hx
    simp only [List.getLast?_append, List.getLast?_singleton, Option.some_or] at hx
    cases hx; exact hng
  refine ⟨hmr, fun _ => hmr, fun hcl => ⟨fun b' hb' cs' hg' c hc => ?_, e1 ▸ hcl.2⟩, hsb, hrvt, hhk⟩
  rw [e1] at hb'
  by_cases hbb : b = b'
  · subst hbb
    rw [hself] at hg'; cases hg'
    exact (List.mem_append.mp hc).elim (hcl.1 b hb' cs hg c) fun hc => List.mem_singleton.mp hc ▸ hng
  · exact hcl.1 b' hb' cs' (hne b' hbb ▸ hg') c hc

end Rpft.Compile
