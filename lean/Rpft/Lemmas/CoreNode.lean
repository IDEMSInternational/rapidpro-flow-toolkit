/-
Lock-step simulation, the edges leaving a row that has one node: what one more out-edge does to the switch of a
node (`RouterSim.blank`, `RouterSim.noresp`, `addChoice_test` for a test that is new, `NewTest`) and to the buckets of a
random router (`RandSim.snoc`), stated without the machine; then, kind by kind, the operation `add_exit` dispatches to,
run at the node of the row.
-/
import Rpft.Lemmas.CoreSim
namespace Rpft.CoreSheet
open Rpft Rpft.Compile Rpft.RefFlow

namespace RouterSim
variable {M : Maps} {ns : Array NodeM} {K : Kind} {tmo : Nat} {es : List OutEdge} {r : SwitchR}

theorem blank (hp : RouterSim M ns K tmo es r) {e : OutEdge} (he : e.cond.blank = true) {d : Dest}
    (hd : DestIs M ns d (some e.tgt)) : RouterSim M ns K tmo (es ++ [e]) (r.setDflt d) := by
  have ht := tests_blank K es e he
  refine ⟨by rw [ht]; exact hp.cases, hp.casecat, by rw [ht]; exact hp.catd, ?_, fun nr hnr => ?_, by rw [ht]; exact hp.names⟩
  · rw [blanks_append_blank _ _ he, List.getLast?_concat]; exact hd
  · rw [nrs_append_other _ _ (.inl he)]; exact hp.nr nr hnr

theorem noresp (hp : RouterSim M ns K tmo es r) (hK : K = .wait) {e : OutEdge} (he : e.cond.blank = false)
    (hnr : isNR e.cond = true) {d : Dest} (hd : DestIs M ns d (some e.tgt)) :
    RouterSim M ns K tmo (es ++ [e]) { r with noResp := r.noResp.map fun nr => { nr with dest := d } } := by
  have ht := testsOf_append_skip K es e (.inr ⟨hK, hnr⟩)
  refine ⟨by rw [ht]; exact hp.cases, hp.casecat, by rw [ht]; exact hp.catd, by rw [blanks_append_cond _ _ he]; exact hp.dflt,
    fun nr hnr' => ?_, by rw [ht]; exact hp.names.1, ?_⟩
  · rw [nrs_append_nr _ _ he hnr, List.getLast?_concat]
    obtain ⟨nr0, -, rfl⟩ := Option.map_eq_some_iff.mp hnr'
    exact hd
  · have := hp.names.2
    cases h : r.noResp <;> rw [h] at this <;> exact this

end RouterSim

/-- what the single-meaning conditions say about a test edge `e` that comes after the out-edges `es` of a row of kind `K`:
the tests stay distinct, its explicit category name is not in use, and (action and `no_op` rows) it names the variable
the others name -/
structure NewTest (K : Kind) (tmo : Nat) (es : List OutEdge) (e : OutEdge) : Prop where
  dist : ((testsOf K (es ++ [e])).map (fun e => refTest K e.cond)).Nodup
  free : e.cond.name ≠ [] → e.cond.name ∉ namesFrom K tmo [] (testsOf K es) ++ baseNames K tmo
  var : K = .action ∨ K = .noOp → e.cond.var = implVar (es ++ [e])

/-- `add_choice` with a test the switch does not have yet: a new case and a new category at the end; the
category is named as the reference names it.  (`hnr`: the edge is a test on the reference's side too.) -/
theorem addChoice_test {M : Maps} {ns : Array NodeM} {K : Kind} {tmo : Nat} {es : List OutEdge} {r : SwitchR}
    {var ty : Str} {args : List (Option Str)} {cond : Compile.Cond} {d : Dest} {s : St} {tgt : Target} {j : Nat}
    (hp : RouterSim M ns K tmo es r) (hb : cond.blank = false)
    (hnr : isNR (toRCond cond) = false ∨ (K ≠ .wait ∧ r.noResp = none))
    (hstored : (ty, (if s.noArgs.contains ty then [] else args).map (·.getD [])) = refTest K (toRCond cond))
    (hargs : args = argsOf K (toRCond cond)) (hnew : NewTest K tmo es (newEdge tgt cond j))
    {Q : SwitchR → St → Prop}
    (hQ : ∀ r' : SwitchR, r'.operand = (if var.isEmpty then r.operand else var) → r'.dflt = r.dflt →
      r'.noResp = r.noResp → r'.wait = r.wait → r'.resultName = r.resultName →
      (∀ ns', NExt ns ns' → DestIs M ns' d (some tgt) → RouterSim M ns' K tmo (es ++ [newEdge tgt cond j]) r') →
      Q r' { s with next := s.next + 3 }) :
    wp (addChoice r var ty args cond.name d false) s Q := by
  have ht : testsOf K (es ++ [newEdge tgt cond j]) = testsOf K es ++ [newEdge tgt cond j] :=
    testsOf_append_test K es _ hb (fun h2 => hnr.elim (fun h3 => by rw [h3] at h2; cases h2.2) (fun h3 => h3.1 h2.1))
  have hdist := hnew.dist
  rw [ht, List.map_append, List.nodup_append] at hdist
  refine addChoice_any ?_ ?_ (fun _ => ?_)
  · rintro k hkm ⟨e1, e2⟩
    have hmem : (k.type, k.args.map (·.getD [])) ∈ r.cases.map (fun k => (k.type, k.args.map (·.getD []))) :=
      List.mem_map_of_mem hkm
    rw [hp.cases, e1, e2, hstored] at hmem
    exact hdist.2.2 _ hmem _ (by simp) rfl
  · intro hne
    refine catByName_none_of_not_mem r _ ?_
    rw [hp.allNames]; exact hnew.free hne
  · refine hQ _ rfl rfl rfl rfl rfl (fun ns' hext hd => ⟨?_, ?_, ?_, ?_, fun nr hnr' => ?_, ?_, hp.names.2⟩)
    · simp only [ht, List.map_append, List.map_cons, List.map_nil, hp.cases]
      rw [hstored]
    · simp only [List.map_append, List.map_cons, List.map_nil, hp.casecat]
    · rw [ht]; exact List.rel_append (hp.catd.imp (fun _ _ h => h.ext hext)) (.cons hd .nil)
    · rw [blanks_append_cond es (newEdge tgt cond j) hb]; exact hp.dflt.ext hext
    · rcases hnr with h1 | h1
      · rw [nrs_append_other _ _ (.inr h1)]; exact (hp.nr nr hnr').ext hext
      · rw [h1.2] at hnr'; cases hnr'
    · have e1 : (if var.isEmpty = true then r else { r with operand := var }).allCats = r.allCats := by split <;> rfl
      rw [ht, namesFrom_append, List.map_append, hp.names.1]
      simp only [List.map_cons, List.map_nil, namesFrom, catNameOf]
      rw [genCatName_eq, e1, hp.allNames, hargs]
      rfl

/-- a new bucket of a `split_random` row: a new category at the end, with an identifier drawn from the counter -/
theorem RandSim.snoc {M : Maps} {ns ns' : Array NodeM} {n : NodeM} {c : CRow} {es : List OutEdge} {r : RandomR}
    (hp : RandSim M ns n c es r) (hext : NExt ns ns') {e : OutEdge} (nc : Cat) {nx : Nat} {bn : Str} {cnt : Nat}
    (hfresh : ∀ cat ∈ r.cats, ∃ k, k < nx ∧ cat.uid = tid k) (hu : nc.uid = tid nx)
    (hname : ∀ c0 ∈ r.cats, c0.name ≠ nc.name) (hd : DestIs M ns' nc.dest (some e.tgt))
    (hb : bstep (bucketsOf es) e = ((bucketsOf es).1 ++ [(bn, e.tgt)], cnt)) (hrel : NameRel nc.name bn)
    (hgen : ∀ k, nc.name = "Bucket ".toList ++ Compile.natStr k → k < r.cats.length + 3) :
    RandSim M ns' { n with router := some (.rnd { r with cats := r.cats ++ [nc] }) } c (es ++ [e])
        { r with cats := r.cats ++ [nc] } ∧
      ∀ cat ∈ r.cats ++ [nc], ∃ k, k < nx + 2 ∧ cat.uid = tid k := by
  have hnew : ∀ {β} (f : Cat → β), (∀ c0 ∈ r.cats, f c0 ≠ f nc) → ((r.cats).map f).Nodup →
      ((r.cats ++ [nc]).map f).Nodup := by
    intro β f hne hnd
    rw [List.map_append, List.map_cons, List.map_nil]
    refine List.nodup_append.mpr ⟨hnd, by simp, ?_⟩
    intro u hu1 u2 hu2 hu3
    rw [List.mem_singleton.mp hu2] at hu3
    obtain ⟨c0, hc0, e0⟩ := List.mem_map.mp hu1
    exact hne c0 hc0 (e0.trans hu3)
  refine ⟨⟨hp.kind, hp.acts, rfl, hp.rname, hnew (·.uid) ?_ hp.uids, hnew (·.name) hname hp.names, ?_, ?_⟩, ?_⟩
  · intro c0 hc0 e0
    obtain ⟨k0, hk0, e1⟩ := hfresh c0 hc0
    rw [e1, hu] at e0
    have := tid_inj.mp e0
    omega
  · rw [bucketsOf_append, hb]
    exact List.rel_append (hp.rel.imp (fun _ _ hd => ⟨hd.1.ext hext, hd.2⟩)) (.cons ⟨hd, hrel⟩ .nil)
  · intro cat hcat k0 hk0
    simp only [List.mem_append, List.mem_singleton] at hcat
    simp only [List.length_append, List.length_singleton]
    rcases hcat with hcat | hcat
    · have := hp.gen cat hcat k0 hk0; omega
    · exact hgen k0 (hcat ▸ hk0)
  · intro cat hcat
    simp only [List.mem_append, List.mem_singleton] at hcat
    rcases hcat with hcat | hcat
    · obtain ⟨k0, hk0, e1⟩ := hfresh cat hcat
      exact ⟨k0, by omega, e1⟩
    · exact ⟨nx, by omega, by rw [hcat, hu]⟩

section
variable {rows : List CRow} {M : Maps} {pd : Bool} {kg : Nat} {d : Dest} {tgt : Target} {cond : Compile.Cond} {s : St} {st : P1} {j : Nat}
  {n : NodeM} {c : CRow}

variable (h : Rel rows M pd kg s st) (hj : EdgeFrom rows M kg s j n c) (hro : M.rOf j = none)
  (hd : EdgeTo M pd kg s.nodes d tgt)
include h hj hro hd

theorem plain_edge_sim (hk : kindOf c.row.type = .action) (hp : PlainSim M s.nodes n c.row.action (postUpTo rows kg j) (outOf st j))
    (he : cond.blank = true) :
    wp (rowExitBlank (M.nOf j) n d) s (EdgePost rows M pd kg tgt cond s st j) := by
  rw [wp_rowExitBlank_basic d hp.kind]
  refine h.set_node cond hj hro hd { n with dexitUid := tid s.next, dexitDest := d } rfl 1 (fun hext => ?_)
    (fun r hr => by have h2 : n.router = some (.rnd r) := hr; rw [hp.router] at h2; cases h2)
  refine .plain hk ⟨hp.kind, hp.router, hp.acts, ?_, ?_⟩
  · rw [List.getLast?_concat]
    exact hd.dest.ext hext
  · intro e hmem
    simp only [List.mem_append, List.mem_singleton] at hmem
    rcases hmem with hmem | hmem
    · exact hp.blank e hmem
    · rw [hmem]; simpa [toRCond_blank] using he

theorem sw_blank_sim {r : SwitchR} (hk : isSwitchKind (kindOf c.row.type))
    (hp : SwitchSim M s.nodes n c (outOf st j) r) (he : cond.blank = true) :
    wp (rowExitBlank (M.nOf j) n d) s (EdgePost rows M pd kg tgt cond s st j) := by
  rw [wp_rowExitBlank_sw d hp.kind hj.node hp.router]
  refine h.set_node cond hj hro hd { n with router := some (.sw (r.setDflt d)) } rfl 0 (fun hext => ?_)
  have hr := (hp.rsim.ext hext).blank (e := newEdge tgt cond j) he (hd.dest.ext hext)
  exact .sw _ hk ⟨hp.kind, hp.acts, rfl, hp.operand, hp.rname, hp.wait, hp.nrSome, hr.cases, hr.casecat, hr.catd, hr.dflt,
    hr.nr, hr.names⟩

/-- a "no response" edge leaving a `wait_for_response` row sets the destination of the timeout category; without
timeout it does nothing, on both sides -/
theorem sw_nr_sim {r : SwitchR} (hk : kindOf c.row.type = .wait) (hp : SwitchSim M s.nodes n c (outOf st j) r)
    (he : cond.blank = false) (hnr : Compile.lower cond.value = "no response".toList) :
    wp (rowExitNoResp (M.nOf j) n d) s (EdgePost rows M pd kg tgt cond s st j) := by
  have step := fun ns' (hext : NExt s.nodes ns') =>
    (hp.rsim.ext hext).noresp hk (e := newEdge tgt cond j) he (by simp [isNR_toRCond, hnr]) (hd.dest.ext hext)
  unfold rowExitNoResp
  simp only [hp.router]
  split
  · rename_i nr w hnoresp hwait
    wp_simp [wp_setNode]
    refine h.set_node cond hj hro hd
      { n with router := some (.sw { r with noResp := some { nr with dest := d } }) } rfl 0 (fun hext => ?_)
    have hr := step _ hext
    rw [hnoresp] at hr
    exact .sw _ (.inl hk) ⟨hp.kind, hp.acts, rfl, hp.operand, hp.rname, hp.wait, ⟨fun _ => ⟨w, hwait⟩, fun _ => rfl⟩, hr.cases,
      hr.casecat, hr.catd, hr.dflt, hr.nr, hr.names⟩
  · rename_i hnot
    wp_simp
    have hnone : r.noResp = none := by
      cases hnoresp : r.noResp with
      | none => rfl
      | some nr =>
        obtain ⟨m, hm⟩ := hp.nrSome.mp (by simp [hnoresp])
        exact absurd hm (hnot nr m hnoresp)
    have hr := step _ (NExt.refl _)
    refine Rel.update h (newEdge tgt cond j) rfl hj.lt hj.node hj.row hj.owns hro (n' := n) rfl hd.ok hj.node (fun i _ => rfl) rfl rfl rfl rfl ?_
      (hfr := fun r hr => by have h2 : n.router = some (.rnd r) := hr; rw [hp.router] at h2; cases h2)
    exact .sw r (.inl hk) ⟨hp.kind, hp.acts, hp.router, hp.operand, hp.rname, hp.wait, hp.nrSome, hr.cases, hr.casecat, hr.catd,
      hr.dflt, fun nr h' => (by rw [hnone] at h'; cases h'), hr.names.1, hp.names.2⟩

theorem sw_test_sim {r : SwitchR} (hk : isSwitchKind (kindOf c.row.type))
    (hp : SwitchSim M s.nodes n c (outOf st j) r) (he : cond.blank = false)
    (hnr : Compile.lower cond.value ≠ "no response".toList)
    (hvar : kindOf c.row.type = .wait → cond.var = [])
    (hnew : NewTest (kindOf c.row.type) (timeoutOf c.row) (outOf st j) (newEdge tgt cond j)) :
    wp (rowExitCond (gOf rows j) [M.nOf j] c.row.type (M.nOf j) n d cond) s (EdgePost rows M pd kg tgt cond s st j) := by
  unfold rowExitCond
  have hnb : n.kind ≠ NodeKind.basic := by rw [hp.kind]; intro hh; cases hh
  simp only [hnb, if_false]
  wp_simp
  rw [wp_nodeAddChoice_sw hp.router]
  have hstored := stored_test c.row.type cond
  rw [← h.args] at hstored
  refine addChoice_test hp.rsim he (.inl (decide_eq_false hnr)) hstored (args_switch c.row.type cond) hnew ?_
  intro r' hop hdf hnr' hw hrn ht
  wp_simp [wp_setNode]
  refine h.set_node cond hj hro hd { n with router := some (.sw r') } rfl 3 (fun hext => ?_)
  have hr := ht _ hext (hd.dest.ext hext)
  exact .sw r' hk ⟨hp.kind, hp.acts, rfl, by rw [hop, operand_kept hp.router hk hvar hp.operand]; exact hp.operand,
    by rw [hrn]; exact hp.rname, by rw [hw]; exact hp.wait, by rw [hnr', hw]; exact hp.nrSome, hr.cases, hr.casecat, hr.catd,
    hr.dflt, hr.nr, hr.names⟩

theorem fix_succ_sim {r : SwitchR} {sc : Cat} (hk : isFixedKind (kindOf c.row.type))
    (hp : FixSim M s.nodes n c (outOf st j) r sc)
    (hs : isSucc (kindOf c.row.type) (newEdge tgt cond j) = true) :
    wp (updSwitch (M.nOf j) fun r => setCatDestByName r (succName (kindOf c.row.type)) d) s
      (EdgePost rows M pd kg tgt cond s st j) := by
  have hf := isFail_of_isSucc hs
  rw [wp_updSwitch_sw hj.node hp.router]
  have hfind : r.catByName (succName (kindOf c.row.type)) = some sc := by
    unfold SwitchR.catByName SwitchR.allCats
    rw [hp.cats]
    simp [hp.sname]
  unfold setCatDestByName
  rw [hfind]
  wp_simp
  have hr' : r.setDest sc.uid d = { r with cats := [{ sc with dest := d }] } := by
    unfold SwitchR.setDest SwitchR.mapCats
    rw [hp.cats, hp.noResp]
    have : ¬ (r.dflt.uid = sc.uid) := fun e => hp.uidne e.symm
    simp [this]
  rw [hr']
  refine h.set_node cond hj hro hd
    { n with router := some (.sw { r with cats := [{ sc with dest := d }] }) } rfl 0 (fun hext => ?_)
  refine .fix { r with cats := [{ sc with dest := d }] } { sc with dest := d } hk
    ⟨hp.kind, hp.acts, rfl, hp.operand, hp.rname, hp.wait, hp.noResp, rfl, hp.sname,
      hp.uidne, hp.cases, ?_, ?_⟩
  · rw [List.filter_append]
    simp only [List.filter_cons, hs, if_true, List.filter_nil]
    rw [List.getLast?_concat]
    exact hd.dest.ext hext
  · rw [List.filter_append]
    simp only [List.filter_cons, hf, Bool.false_eq_true, if_false, List.filter_nil, List.append_nil]
    exact hp.dflt.ext hext

theorem fix_fail_sim {r : SwitchR} {sc : Cat} (hk : isFixedKind (kindOf c.row.type))
    (hp : FixSim M s.nodes n c (outOf st j) r sc)
    (hs : isSucc (kindOf c.row.type) (newEdge tgt cond j) = false)
    (hf : isFail (kindOf c.row.type) (newEdge tgt cond j) = true) :
    wp (updSwitch (M.nOf j) (setDfltM d)) s (EdgePost rows M pd kg tgt cond s st j) := by
  rw [wp_updSwitch_sw hj.node hp.router]
  unfold setDfltM
  wp_simp
  refine h.set_node cond hj hro hd { n with router := some (.sw (r.setDflt d)) } rfl 0 (fun hext => ?_)
  refine .fix (r.setDflt d) sc hk
    ⟨hp.kind, hp.acts, rfl, hp.operand, hp.rname, hp.wait, hp.noResp, hp.cats, hp.sname, hp.uidne, hp.cases, ?_, ?_⟩
  · rw [List.filter_append]
    simp only [List.filter_cons, hs, Bool.false_eq_true, if_false, List.filter_nil, List.append_nil]
    exact hp.succ.ext hext
  · rw [List.filter_append]
    simp only [List.filter_cons, hf, if_true, List.filter_nil]
    rw [List.getLast?_concat]
    exact hd.dest.ext hext

theorem rand_edge_sim {r : RandomR} (hk : kindOf c.row.type = .splitRandom)
    (hp : RandSim M s.nodes n c (outOf st j) r)
    (hok : bucketNameOk (bucketName (toRCond cond)) = true) :
    wp (rowExitCond (gOf rows j) [M.nOf j] c.row.type (M.nOf j) n d cond) s (EdgePost rows M pd kg tgt cond s st j) := by
  unfold rowExitCond
  have hnb : n.kind ≠ NodeKind.basic := by rw [hp.kind]; intro hh; cases hh
  simp only [hnb, if_false]
  wp_simp
  rw [wp_nodeAddChoice_rnd hp.router]
  have hbn : (if cond.name.isEmpty = true then cond.value else cond.name) = bucketName (toRCond cond) := rfl
  rw [hbn]
  have hbk : bucketsOf (outOf st j ++ [newEdge tgt cond j]) = bstep (bucketsOf (outOf st j)) (newEdge tgt cond j) :=
    bucketsOf_append _ _
  generalize hnm0 : bucketName (toRCond cond) = nm0 at hok ⊢
  have hbc : bucketName (newEdge tgt cond j).cond = nm0 := hnm0
  have hfresh := h.rfresh (M.nOf j) n r hj.node hp.router
  -- a bucket under a name `nm'` that no category carries: a category at the end
  have newBucket : ∀ (nm' bn : Str) (cnt : Nat), (∀ c0 ∈ r.cats, c0.name ≠ nm') →
      bstep (bucketsOf (outOf st j)) (newEdge tgt cond j) = ((bucketsOf (outOf st j)).1 ++ [(bn, tgt)], cnt) →
      NameRel nm' bn → (∀ k, nm' = "Bucket ".toList ++ Compile.natStr k → k < r.cats.length + 3) →
      EdgePost rows M pd kg tgt cond s st j PUnit.unit.{1}
        { s with nodes := s.nodes.setIfInBounds (M.nOf j)
                   { n with router := some (.rnd { r with cats := r.cats ++ [⟨tid s.next, nm', tid (s.next + 1), d⟩] }) },
                 next := s.next + 2 } := by
    intro nm' bn cnt hname hb hrel hgen
    obtain ⟨nc, hnc⟩ : ∃ nc : Cat, nc = ⟨tid s.next, nm', tid (s.next + 1), d⟩ := ⟨_, rfl⟩
    rw [← hnc]
    have hext : NExt s.nodes (s.nodes.setIfInBounds (M.nOf j) { n with router := some (.rnd { r with cats := r.cats ++ [nc] }) }) :=
      NExt.set hj.node rfl
    obtain ⟨hsim, hfr⟩ := hp.snoc hext nc hfresh (by rw [hnc])
      (by rw [hnc]; exact hname) (by rw [show nc.dest = d by rw [hnc]]; exact hd.dest.ext hext) hb (by rw [hnc]; exact hrel)
      (by rw [hnc]; exact hgen)
    exact h.set_node cond hj hro hd { n with router := some (.rnd { r with cats := r.cats ++ [nc] }) } rfl 2
      (fun _ => .rnd _ hk hsim) (fun r' hr' => by injection hr' with hr'; injection hr' with hr'; subst hr'; exact hfr)
  unfold randomAddChoice
  by_cases hemp : nm0 = []
  · -- an unnamed bucket
    subst hemp
    simp only [List.isEmpty_nil, if_true]
    have hnone : r.cats.find? (fun c => decide (c.name = "Bucket ".toList ++ Compile.natStr (r.cats.length + 2))) = none := by
      rw [List.find?_eq_none]
      intro c0 hc0 hh
      have := hp.gen c0 hc0 _ (of_decide_eq_true hh)
      omega
    rw [hnone]
    wp_simp [wp_mkCat, wp_setNode]
    exact newBucket _ _ _ (fun c0 hc0 e0 => by have := hp.gen c0 hc0 _ e0; omega) (by unfold bstep; rw [hbc]; rfl)
      (.inr ⟨take7_bucket _, head_hash _⟩)
      (fun k0 hk0 => by have := Compile.natStr_injective (List.append_cancel_left hk0); omega)
  · -- a named bucket
    have hemp' : nm0.isEmpty = false := by cases nm0 with | nil => exact absurd rfl hemp | cons _ _ => rfl
    obtain ⟨hk1, hk2⟩ := bucketNameOk_spec hok hemp
    simp only [hemp', Bool.false_eq_true, if_false]
    have hany : r.cats.any (fun c => decide (c.name = nm0)) = (bucketsOf (outOf st j)).1.any (fun p => decide (p.1 = nm0)) := by
      refine forall2_any_iff hp.rel ?_
      intro a b hab
      have := hab.2.eq_iff hk1 hk2
      by_cases e : a.name = nm0
      · simp [e, this.mp e]
      · have e' : ¬ b.1 = nm0 := fun hh => e (this.mpr hh)
        simp [e, e']
    cases hfind : r.cats.find? (fun c => decide (c.name = nm0)) with
    | none =>
      have hnot : ∀ c0 ∈ r.cats, c0.name ≠ nm0 := by
        intro c0 hc0
        have := List.find?_eq_none.mp hfind c0 hc0
        simpa using this
      have hanyF : (bucketsOf (outOf st j)).1.any (fun p => decide (p.1 = nm0)) = false := by
        rw [← hany]
        rw [List.any_eq_false]
        intro c0 hc0; simpa using hnot c0 hc0
      wp_simp [wp_mkCat, wp_setNode]
      exact newBucket nm0 nm0 (bucketsOf (outOf st j)).2 hnot (by unfold bstep; rw [hbc]; simp only [hemp', Bool.false_eq_true, if_false, hanyF])
        (.inl ⟨rfl, hemp, hk1, hk2⟩) (fun k0 hk0 => absurd (by rw [hk0]; exact take7_bucket _) hk1)
    | some c0 =>
      have hc0m : c0 ∈ r.cats := List.mem_of_find?_eq_some hfind
      have hc0n : c0.name = nm0 := by simpa using List.find?_some hfind
      have hanyT : (bucketsOf (outOf st j)).1.any (fun p => decide (p.1 = nm0)) = true := by
        rw [← hany, List.any_eq_true]
        exact ⟨c0, hc0m, by simp [hc0n]⟩
      wp_simp [wp_setNode]
      obtain ⟨f, hf⟩ : ∃ f : Cat → Cat, f = fun c' => if c'.uid = c0.uid then { c' with dest := d } else c' := ⟨_, rfl⟩
      rw [← hf]
      have hfu : ∀ a, (f a).uid = a.uid := by intro a; rw [hf]; simp only; split <;> rfl
      have hfn : ∀ a, (f a).name = a.name := by intro a; rw [hf]; simp only; split <;> rfl
      refine h.set_node cond hj hro hd { n with router := some (.rnd { r with cats := r.cats.map f }) } rfl 0
        (fun hext => ?_) ?_
      · refine .rnd _ hk ⟨hp.kind, hp.acts, rfl, hp.rname, ?_, ?_, ?_, ?_⟩
        · have : (r.cats.map f).map (·.uid) = r.cats.map (·.uid) := by
            rw [List.map_map]; exact List.map_congr_left (fun a _ => hfu a)
          show ((r.cats.map f).map (·.uid)).Nodup
          rw [this]; exact hp.uids
        · have : (r.cats.map f).map (·.name) = r.cats.map (·.name) := by
            rw [List.map_map]; exact List.map_congr_left (fun a _ => hfn a)
          show ((r.cats.map f).map (·.name)).Nodup
          rw [this]; exact hp.names
        · rw [hbk]
          unfold bstep
          rw [hbc]
          simp only [hemp', Bool.false_eq_true, if_false, hanyT, if_true]
          refine forall2_map_mem hp.rel ?_
          intro a b ha hab
          have h1 : a.uid = c0.uid ↔ a.name = nm0 := by
            rw [← hc0n]; exact uid_iff_name r.cats hp.uids hp.names c0 a hc0m ha
          have h2 := hab.2.eq_iff hk1 hk2
          by_cases e : a.uid = c0.uid
          · have e2 : b.1 = nm0 := h2.mp (h1.mp e)
            have hfa : f a = { a with dest := d } := by rw [hf]; simp only [e, if_true]
            rw [hfa]
            simp only [e2, if_true]
            exact ⟨hd.dest.ext hext, by rw [← e2]; exact hab.2⟩
          · have e2 : ¬ b.1 = nm0 := fun hh => e (h1.mpr (h2.mpr hh))
            have hfa : f a = a := by rw [hf]; simp only [e, if_false]
            rw [hfa]
            simp only [e2, if_false]
            exact ⟨hab.1.ext hext, hab.2⟩
        · intro cat hcat k0 hk0
          obtain ⟨a, ha, e⟩ := List.mem_map.mp hcat
          simp only [List.length_map]
          rw [← e, hfn] at hk0
          exact hp.gen a ha k0 hk0
      · intro r' hr' cat hcat
        injection hr' with hr'; injection hr' with hr'; subst hr'
        obtain ⟨a, ha, e⟩ := List.mem_map.mp hcat
        obtain ⟨k0, hk0, e1⟩ := hfresh a ha
        exact ⟨k0, hk0, by rw [← e, hfu, e1]⟩

end
end Rpft.CoreSheet
