/-
Helper lemmas for C17 / C04: the functional DFS of `_to_rows_recurse`.  `dfs_ok`, `toRowsT_ok` say what a SUCCESSFUL
call did.  The exits loop is followed by functional induction, here and in the later files; the cases of
`fun_induction loop …` are, in order: no exit, an exit that leads nowhere, no such node, child completed, child being
visited, child call fails, child call succeeds.  Last: the measure behind the recursion fuel (`unvisited`).
-/
import Rpft.Export
namespace Rpft.Export
open Function

variable {U : Type} [DecidableEq U]

/-! ### what a successful run of the DFS did -/

theorem dfs_ok {f : FlowX U} {fuel : Nat} {n : NodeX U} {pe : EdgeT U} {st st' : St U} (h : dfs f (fuel + 1) n pe st = .ok st') :
    ∃ st2, n.rows ≠ [] ∧
      loop f (dfs f fuel) (rowId n (n.rows.length - 1)) n.edges.reverse { st with visited := n.uuid :: st.visited } = .ok st2 ∧
      st' = { st2 with completed := n.uuid :: st2.completed, rows := mkRows n pe ++ st2.rows } := by
  rw [dfs] at h
  split at h
  · cases h
  · split at h
    · cases h
    · exact ⟨_, ‹_›, ‹_›, (Except.ok.inj h).symm⟩

theorem toRowsT_ok {n0 : NodeX U} {f : FlowX U} {rows : List (RowT U)} (h : toRowsT (n0 :: f) = .ok rows) :
    ∃ st, dfs (n0 :: f) (f.length + 1 + 1) n0 ⟨none, blankLabel⟩ ⟨[], [], [], 0⟩ = .ok st ∧ st.rows = rows := by
  simp only [toRowsT, List.length_cons] at h
  cases hd : dfs (n0 :: f) (f.length + 1 + 1) n0 ⟨none, blankLabel⟩ ⟨[], [], [], 0⟩ with
  | error e => simp [hd] at h
  | ok st => exact ⟨st, rfl, by simpa [hd] using h⟩

/-! ### the measure behind the recursion fuel: every recursive call visits a node not visited before -/

def unvisited (f : FlowX U) (vis : List U) : Nat := f.countP (fun n => decide (n.uuid ∉ vis))

theorem unvisited_mono (f : FlowX U) {vis vis' : List U} (h : ∀ u ∈ vis, u ∈ vis') :
    unvisited f vis' ≤ unvisited f vis :=
  List.countP_mono_left fun _ _ hp => decide_eq_true fun hv => of_decide_eq_true hp (h _ hv)

theorem unvisited_cons_lt (f : FlowX U) {vis : List U} {n : NodeX U} (hn : n ∈ f) (hv : n.uuid ∉ vis) :
    unvisited f (n.uuid :: vis) < unvisited f vis := by
  obtain ⟨A, B, rfl⟩ := List.append_of_mem hn
  have hA := unvisited_mono A (vis := vis) (vis' := n.uuid :: vis) (fun u hu => List.mem_cons_of_mem _ hu)
  have hB := unvisited_mono B (vis := vis) (vis' := n.uuid :: vis) (fun u hu => List.mem_cons_of_mem _ hu)
  simp only [unvisited, List.countP_append, List.countP_cons] at hA hB ⊢
  simp only [hv, List.mem_cons_self, not_true_eq_false, not_false_eq_true, decide_true, decide_false, if_true,
    Bool.false_eq_true, if_false]
  omega

theorem unvisited_le_length (f : FlowX U) (vis : List U) : unvisited f vis ≤ f.length := List.countP_le_length

theorem loop_visited_mono (f : FlowX U) (rc : NodeX U → EdgeT U → St U → Except Err (St U))
    (hrc : ∀ child e s s', rc child e s = .ok s' → ∀ u ∈ s.visited, u ∈ s'.visited)
    (fromId : TempId U) {es : List (Label × Option U)} {st st' : St U} (h : loop f rc fromId es st = .ok st') :
    ∀ u ∈ st.visited, u ∈ st'.visited := by
  revert h
  fun_induction loop f rc fromId es st with
  | case1 => rintro ⟨⟩ _ hu; exact hu
  | case2 _ _ _ ih => exact ih
  | case3 => nofun
  | case4 _ _ _ _ _ _ _ ih => exact ih
  | case5 _ _ _ _ _ _ _ _ ih => exact ih
  | case6 => nofun
  | case7 _ _ _ _ _ _ _ _ _ hr ih => exact fun h u hu => ih h u (hrc _ _ _ _ hr u hu)

theorem dfs_visited_mono (f : FlowX U) (fuel : Nat) :
    ∀ (n : NodeX U) (pe : EdgeT U) (st st' : St U), dfs f fuel n pe st = .ok st' →
      ∀ u ∈ st.visited, u ∈ st'.visited := by
  induction fuel with
  | zero => intro n pe st st' h; cases h
  | succ fuel ih =>
    intro n pe st st' h u hu
    obtain ⟨st2, _, hl, rfl⟩ := dfs_ok h
    exact loop_visited_mono f (dfs f fuel) ih _ hl u (List.mem_cons_of_mem _ hu)

end Rpft.Export
