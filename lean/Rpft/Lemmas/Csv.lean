/-
Lemmas for the CSV byte format (`Rpft/Csv.lean`).

1. `parse_eq_fused`: line splitting followed by the record loop is ONE character-level machine
   (`feedM` / `finishM`): the reader automaton plus two bits of the line iterator (`prevCR`: the
   pending line end after a CR, `pend`: the current line is not empty).
2. the machine on the encoding of a list of records in which every field is tagged quoted /
   unquoted (`encRows`): `parse_encRows` — every legal CSV text of that grammar is read back as the
   records it encodes.
3. `writeRows` produces such an encoding (`writeRows_eq`), hence `parse_writeRows`; the UTF-8 layer
   (`utf8_roundtrip`).
4. for EVERY text: `parse_sound` — the only failure is the field limit (the "new-line character seen
   in unquoted field" error is unreachable behind `newline=""` line iteration), the output fits the
   limit, a larger limit gives the same records.  These are one statement (`Sound`), carried from the
   automaton's step (`processChar_act`) through `eolM`, `stepM`, `feedM`, `runM`.
-/
import Rpft.Csv
import Rpft.Lemmas.ListFacts
namespace Rpft.Csv
open Rpft

/-! ### 1. the fused machine -/

structure M where
  rd : Reader
  prevCR : Bool
  pend : Bool
  out : List (List Str)

/-- `EOL` after a line, and the test of the `do … while` loop -/
def eolM (limit : Nat) (m : M) : Except CsvErr M :=
  match processChar limit m.rd none with
  | .error e => .error e
  | .ok r =>
    if r.state = .startRecord then .ok ⟨fresh, false, false, m.out ++ [r.fields]⟩
    else .ok ⟨r, false, false, m.out⟩

def stepM (limit : Nat) (m : M) (c : Char) : Except CsvErr M :=
  if c = '\n' then
    match processChar limit m.rd (some c) with
    | .error e => .error e
    | .ok r => eolM limit ⟨r, false, true, m.out⟩
  else
    match (if m.prevCR then eolM limit m else .ok m) with
    | .error e => .error e
    | .ok m1 =>
      match processChar limit m1.rd (some c) with
      | .error e => .error e
      | .ok r => .ok ⟨r, c == '\r', true, m1.out⟩

def feedM (limit : Nat) : Str → M → Except CsvErr M
  | [], m => .ok m
  | c :: t, m =>
    match stepM limit m c with
    | .ok m' => feedM limit t m'
    | .error e => .error e

def finalM (m : M) : List (List Str) :=
  if m.rd.fieldLen != 0 || m.rd.state == .inQuotedField then m.out ++ [(saveField m.rd).fields]
  else m.out

def finishM (limit : Nat) (m : M) : Except CsvErr (List (List Str)) :=
  match (if m.pend then eolM limit m else .ok m) with
  | .error e => .error e
  | .ok m1 => .ok (finalM m1)

def runM (limit : Nat) (t : Str) (m : M) : Except CsvErr (List (List Str)) :=
  match feedM limit t m with
  | .ok m' => finishM limit m'
  | .error e => .error e

theorem feedChars_append (limit : Nat) (a b : Str) (r : Reader) :
    feedChars limit r (a ++ b) =
      match feedChars limit r a with
      | .ok r' => feedChars limit r' b
      | .error e => .error e := by
  induction a generalizing r with
  | nil => rfl
  | cons c a ih =>
    simp only [List.cons_append, feedChars]
    cases processChar limit r (some c) with
    | ok r' => exact ih r'
    | error e => rfl

theorem feedM_append (limit : Nat) (a b : Str) (m : M) :
    feedM limit (a ++ b) m =
      match feedM limit a m with
      | .ok m' => feedM limit b m'
      | .error e => .error e := by
  induction a generalizing m with
  | nil => rfl
  | cons c a ih =>
    simp only [List.cons_append, feedM]
    cases stepM limit m c with
    | ok m' => exact ih m'
    | error e => rfl

theorem readerLoop_fresh_nil (limit : Nat) (acc : List (List Str)) :
    readerLoop limit [] fresh acc = .ok acc := by
  simp [readerLoop, fresh]

theorem readerLoop_nil {limit : Nat} {r : Reader} {p q : Bool} {acc : List (List Str)} :
    readerLoop limit [] r acc = .ok (finalM ⟨r, p, q, acc⟩) := by
  unfold readerLoop finalM
  split <;> rfl

theorem feedChars_snoc (limit : Nat) (r0 : Reader) (cur : Str) (c : Char) :
    feedChars limit r0 (c :: cur).reverse =
      match feedChars limit r0 cur.reverse with
      | .ok r => processChar limit r (some c)
      | .error e => .error e := by
  rw [List.reverse_cons, feedChars_append]
  cases feedChars limit r0 cur.reverse with
  | error e => rfl
  | ok r => simp only [feedChars]; cases processChar limit r (some c) <;> rfl

/-- `parse_eq_fused` in the middle of a line: `cur` is the line so far, which the reader `r0` of the
record loop has yet to be fed -/
theorem readerLoop_split (limit : Nat) (t cur : Str) (p : Bool) (r0 : Reader)
    (acc : List (List Str)) :
    readerLoop limit (splitLinesAux t cur p) r0 acc =
      match feedChars limit r0 cur.reverse with
      | .ok r => runM limit t ⟨r, p, !cur.isEmpty, acc⟩
      | .error e => .error e := by
  induction t generalizing cur p r0 acc with
  | nil =>
    cases cur with
    | nil => exact readerLoop_nil
    | cons a cur =>
      simp only [splitLinesAux, List.isEmpty_cons, Bool.false_eq_true, if_false, runM, feedM,
        finishM, Bool.not_false, if_true, eolM]
      rw [readerLoop, feedLine]
      cases feedChars limit r0 (a :: cur).reverse with
      | error e => rfl
      | ok r =>
        dsimp only
        cases processChar limit r none with
        | error e => rfl
        | ok r' =>
          dsimp only
          split
          · rw [readerLoop_fresh_nil]
            rfl
          · exact readerLoop_nil
  | cons c t ih =>
    unfold splitLinesAux
    split
    · -- LF: the line ends with `c`
      simp only [readerLoop, feedLine, feedChars_snoc, runM, feedM, stepM, if_pos ‹c = '\n'›]
      cases feedChars limit r0 cur.reverse with
      | error e => rfl
      | ok r =>
        simp only [eolM]
        cases processChar limit r (some c) with
        | error e => rfl
        | ok r1 =>
          dsimp only
          cases processChar limit r1 none with
          | error e => rfl
          | ok r2 =>
            dsimp only
            split
            · exact ih [] false fresh _
            · exact ih [] false r2 _
    · rename_i hc
      split
      · -- a CR is pending and `c` is not LF: the line ended before `c`
        rename_i hp
        subst hp
        rw [readerLoop, feedLine]
        simp only [runM, feedM, stepM, if_neg hc, if_true, eolM]
        cases feedChars limit r0 cur.reverse with
        | error e => rfl
        | ok r =>
          dsimp only
          cases processChar limit r none with
          | error e => rfl
          | ok r2 =>
            dsimp only
            split <;>
              (rw [ih [c]]
               simp only [List.reverse_cons, List.reverse_nil, List.nil_append, feedChars]
               cases processChar limit _ (some c) <;> rfl)
      · rename_i hp
        rw [ih (c :: cur), feedChars_snoc, Bool.eq_false_iff.2 hp]
        simp only [runM, feedM, stepM, if_neg hc, Bool.false_eq_true, if_false]
        cases feedChars limit r0 cur.reverse with
        | error e => rfl
        | ok r =>
          dsimp only
          cases processChar limit r (some c) <;> rfl

theorem parse_eq_fused (limit : Nat) (text : Str) :
    parseCsvWith limit text = runM limit text ⟨fresh, false, false, []⟩ := by
  unfold parseCsvWith splitLines
  exact readerLoop_split limit text [] false fresh []

/-! ### 2. the machine on encoded records -/

/-- no character the READER treats specially outside quotes -/
def Plain (f : Str) : Prop := ∀ c ∈ f, c ≠ ',' ∧ c ≠ '"' ∧ c ≠ '\r' ∧ c ≠ '\n'

instance (f : Str) : Decidable (Plain f) := by unfold Plain; infer_instance

/-- a field with its representation: `true` = between quotes (quotes doubled), `false` = as is -/
def encField : Bool × Str → Str
  | (true, f) => '"' :: (escape f ++ ['"'])
  | (false, f) => f

def encFields : List (Bool × Str) → Str
  | [] => []
  | [p] => encField p
  | p :: q :: ps => encField p ++ ',' :: encFields (q :: ps)

def encRow (lt : Str) (r : List (Bool × Str)) : Str := encFields r ++ lt

def encRows (lt : Str) : List (List (Bool × Str)) → Str
  | [] => []
  | r :: rs => encRow lt r ++ encRows lt rs

def ValidField (p : Bool × Str) : Prop := p.1 = true ∨ Plain p.2

/-- the second clause: a record made of one empty field has to be written with quotes, since unquoted it
is a blank line -/
def ValidRow (r : List (Bool × Str)) : Prop := (∀ p ∈ r, ValidField p) ∧ r ≠ [(false, [])]

instance (p : Bool × Str) : Decidable (ValidField p) := by unfold ValidField; infer_instance
instance (r : List (Bool × Str)) : Decidable (ValidRow r) := by unfold ValidRow; infer_instance

def FieldsFit (limit : Nat) (recs : List (List Str)) : Prop := ∀ r ∈ recs, ∀ f ∈ r, f.length ≤ limit

theorem escape_nil : escape [] = [] := rfl

theorem escape_cons (c : Char) (f : Str) :
    escape (c :: f) = (if c = '"' then ['"', '"'] else [c]) ++ escape f := by
  simp [escape, replace1]

theorem encField_ne_nil (p : Bool × Str) (h : p ≠ (false, [])) : encField p ≠ [] := by
  obtain ⟨b, f⟩ := p
  cases b with
  | true => simp [encField]
  | false =>
    cases f with
    | nil => exact absurd rfl h
    | cons c f => simp [encField]

theorem feedM_quoted (limit : Nat) (f rest fld : Str) (flds : List Str) (p pd : Bool)
    (out : List (List Str)) (hn : fld.length + f.length ≤ limit) :
    feedM limit (escape f ++ '"' :: rest) ⟨⟨.inQuotedField, fld, fld.length, flds⟩, p, pd, out⟩
      = feedM limit rest
          ⟨⟨.quoteInQuotedField, f.reverse ++ fld, fld.length + f.length, flds⟩, false, true, out⟩ := by
  induction f generalizing fld p pd with
  | nil =>
    cases p <;> simp [escape_nil, feedM, stepM, eolM, processChar]
  | cons c f ih =>
    have hlt : ¬ (limit ≤ fld.length) := by simp only [List.length_cons] at hn; omega
    have hn' : (c :: fld).length + f.length ≤ limit := by simp only [List.length_cons] at hn ⊢; omega
    have e1 : (c :: f).reverse ++ fld = f.reverse ++ c :: fld := by simp
    have e2 : fld.length + (c :: f).length = (c :: fld).length + f.length := by
      simp only [List.length_cons]; omega
    rw [e1, e2, escape_cons]
    by_cases hq : c = '"'
    · subst hq
      have := ih ('"' :: fld) false true hn'
      cases p <;> simpa [feedM, stepM, eolM, processChar, addChar, withState, hlt] using this
    · by_cases hl : c = '\n'
      · subst hl
        have := ih ('\n' :: fld) false false hn'
        cases p <;> simpa [feedM, stepM, eolM, processChar, addChar, withState, hlt] using this
      · have := ih (c :: fld) (c == '\r') true hn'
        cases p <;> simpa [feedM, stepM, eolM, processChar, addChar, withState, hlt, hq, hl] using this

theorem feedM_inField (limit : Nat) (f rest : Str) (hpl : Plain f) (fld : Str)
    (flds : List Str) (out : List (List Str)) (hn : fld.length + f.length ≤ limit) :
    feedM limit (f ++ rest) ⟨⟨.inField, fld, fld.length, flds⟩, false, true, out⟩
      = feedM limit rest ⟨⟨.inField, f.reverse ++ fld, fld.length + f.length, flds⟩, false, true, out⟩ := by
  induction f generalizing fld with
  | nil => rfl
  | cons c f ih =>
    obtain ⟨h1, h2, h3, h4⟩ := hpl c (.head _)
    have hlt : ¬ (limit ≤ fld.length) := by simp only [List.length_cons] at hn; omega
    have := ih (fun x hx => hpl x (.tail _ hx)) (c :: fld)
      (by simp only [List.length_cons] at hn ⊢; omega)
    have hb : (c == '\r') = false := by simp [h3]
    simpa [feedM, stepM, processChar, addChar, hlt, h1, h3, h4, hb, Nat.add_assoc, Nat.add_comm 1] using this

def FieldEnd (s : St) : Prop := s = .startField ∨ s = .inField ∨ s = .quoteInQuotedField

theorem feedM_field (limit : Nat) (p : Bool × Str) (flds : List Str) (pd : Bool)
    (out : List (List Str)) (hv : ValidField p) (hn : p.2.length ≤ limit) :
    ∃ E pd', FieldEnd E ∧ ∀ rest,
      feedM limit (encField p ++ rest) ⟨⟨.startField, [], 0, flds⟩, false, pd, out⟩
        = feedM limit rest ⟨⟨E, p.2.reverse, p.2.length, flds⟩, false, pd', out⟩ := by
  obtain ⟨b, f⟩ := p
  cases b with
  | true =>
    refine ⟨.quoteInQuotedField, true, Or.inr (Or.inr rfl), fun rest => ?_⟩
    have := feedM_quoted limit f rest [] flds false true out (by simpa using hn)
    simpa [encField, feedM, stepM, processChar, startFieldCase] using this
  | false =>
    have hpl : Plain f := hv.resolve_left nofun
    cases f with
    | nil => exact ⟨.startField, pd, Or.inl rfl, by simp [encField]⟩
    | cons c f =>
      obtain ⟨h1, h2, h3, h4⟩ := hpl c (.head _)
      have hn' : 1 + f.length ≤ limit := by simp only [List.length_cons] at hn; omega
      have hb : (c == '\r') = false := by simp [h3]
      refine ⟨.inField, true, .inr (.inl rfl), fun rest => ?_⟩
      have := feedM_inField limit f rest (fun x hx => hpl x (.tail _ hx)) [c] flds out hn'
      simpa [encField, feedM, stepM, processChar, startFieldCase, addChar, withState,
        show ¬ limit ≤ 0 by omega, h1, h2, h3, h4, hb, Nat.add_comm 1] using this

theorem feedM_delim {limit : Nat} {E : St} (hE : FieldEnd E) {rest fld : Str} {n : Nat}
    {flds : List Str} {pd : Bool} {out : List (List Str)} :
    feedM limit (',' :: rest) ⟨⟨E, fld, n, flds⟩, false, pd, out⟩
      = feedM limit rest ⟨⟨.startField, [], 0, flds ++ [fld.reverse]⟩, false, true, out⟩ := by
  rcases hE with h | h | h <;> subst h <;>
    simp [feedM, stepM, processChar, startFieldCase, saveField]

theorem feedM_startRecord {limit : Nat} {c : Char} {t : Str} (h1 : c ≠ '\n') (h2 : c ≠ '\r')
    {fld : Str} {n : Nat} {flds : List Str} {pd : Bool} {out : List (List Str)} :
    feedM limit (c :: t) ⟨⟨.startRecord, fld, n, flds⟩, false, pd, out⟩
      = feedM limit (c :: t) ⟨⟨.startField, fld, n, flds⟩, false, pd, out⟩ := by
  simp [feedM, stepM, processChar, h1, h2]

theorem encFields_head (ps : List (Bool × Str)) (hv : ValidRow ps) (hne : ps ≠ []) (tail : Str) :
    ∃ c t, encFields ps ++ tail = c :: t ∧ c ≠ '\n' ∧ c ≠ '\r' := by
  match ps, hv, hne with
  | (true, f) :: tl, _, _ => cases tl <;> exact ⟨'"', _, rfl, by decide, by decide⟩
  | (false, c :: f) :: tl, hv, _ =>
    obtain ⟨_, _, h3, h4⟩ := (hv.1 _ (.head _)).resolve_left nofun c (.head _)
    cases tl <;> exact ⟨c, _, rfl, h4, h3⟩
  | [(false, [])], hv, _ => exact absurd rfl hv.2
  | (false, []) :: q :: tl, _, _ => exact ⟨',', _, rfl, by decide, by decide⟩

section
variable {limit : Nat} {lt : Str} (hlt : lt = crlf ∨ lt = lf)
include hlt

theorem feedM_term {E : St} (hE : FieldEnd E) {rest fld : Str} {n : Nat} {flds : List Str} {pd : Bool}
    {out : List (List Str)} :
    feedM limit (lt ++ rest) ⟨⟨E, fld, n, flds⟩, false, pd, out⟩
      = feedM limit rest ⟨fresh, false, false, out ++ [flds ++ [fld.reverse]]⟩ := by
  rcases hlt with h | h <;> subst h <;> rcases hE with h | h | h <;> subst h <;>
    simp [crlf, lf, feedM, stepM, eolM, processChar, startFieldCase, saveField]

theorem feedM_fields {ps : List (Bool × Str)} (hne : ps ≠ []) (hv : ∀ p ∈ ps, ValidField p)
    (hn : ∀ f ∈ ps.map Prod.snd, f.length ≤ limit) (rest : Str) (flds : List Str) (pd : Bool)
    (out : List (List Str)) :
    feedM limit (encFields ps ++ lt ++ rest) ⟨⟨.startField, [], 0, flds⟩, false, pd, out⟩
      = feedM limit rest ⟨fresh, false, false, out ++ [flds ++ ps.map Prod.snd]⟩ := by
  induction ps generalizing flds pd with
  | nil => exact absurd rfl hne
  | cons p tl ih =>
    obtain ⟨E, pd', hE, hf⟩ := feedM_field limit p flds pd out (hv p (by simp)) (hn p.2 (.head _))
    cases tl with
    | nil =>
      simp only [encFields, List.append_assoc]
      rw [hf, feedM_term hlt hE]
      simp
    | cons q tl =>
      have e : encFields (p :: q :: tl) ++ lt ++ rest
          = encField p ++ ',' :: (encFields (q :: tl) ++ lt ++ rest) := by
        simp [encFields, List.append_assoc]
      rw [e, hf, feedM_delim hE,
        ih (by simp) (fun x hx => hv x (by simp [hx])) (fun x hx => hn x (.tail _ hx))]
      simp

theorem feedM_row {r : List (Bool × Str)} (hv : ValidRow r)
    (hn : ∀ f ∈ r.map Prod.snd, f.length ≤ limit) {rest : Str} {out : List (List Str)} :
    feedM limit (encRow lt r ++ rest) ⟨fresh, false, false, out⟩
      = feedM limit rest ⟨fresh, false, false, out ++ [r.map Prod.snd]⟩ := by
  cases hr : r with
  | nil =>
    rcases hlt with h | h <;> subst h <;>
      simp [encRow, encFields, crlf, lf, fresh, feedM, stepM, eolM, processChar]
  | cons p tl =>
    rw [← hr]
    have hne : r ≠ [] := by rw [hr]; simp
    obtain ⟨c, t, hct, h1, h2⟩ := encFields_head r hv hne (lt ++ rest)
    have := feedM_fields hlt hne hv.1 hn rest [] false out
    simp only [List.append_assoc, List.nil_append] at this
    simp only [encRow, List.append_assoc, fresh]
    rw [hct, feedM_startRecord h1 h2, ← hct]
    exact this

theorem feedM_rows {rs : List (List (Bool × Str))} (hv : ∀ r ∈ rs, ValidRow r)
    (hn : FieldsFit limit (rs.map fun r => r.map Prod.snd)) (out : List (List Str)) :
    feedM limit (encRows lt rs) ⟨fresh, false, false, out⟩
      = .ok ⟨fresh, false, false, out ++ rs.map (fun r => r.map Prod.snd)⟩ := by
  induction rs generalizing out with
  | nil => simp [encRows, feedM]
  | cons r rs ih =>
    simp only [encRows]
    rw [feedM_row hlt (hv r (by simp)) (hn _ (.head _)),
      ih (fun x hx => hv x (by simp [hx])) (fun x hx => hn x (.tail _ hx))]
    simp

theorem parse_encRows {rs : List (List (Bool × Str))} (hv : ∀ r ∈ rs, ValidRow r)
    (hn : FieldsFit limit (rs.map fun r => r.map Prod.snd)) :
    parseCsvWith limit (encRows lt rs) = .ok (rs.map (fun r => r.map Prod.snd)) := by
  rw [parse_eq_fused, runM, feedM_rows hlt hv hn]
  simp [finishM, finalM, fresh]

end

/-! ### 3. the writer produces such an encoding -/

section
variable (lt : Str) (qa : Bool)

def tagField (f : Str) : Bool × Str := (qa || needsQuote lt f, f)

/-- the representation `csv_writerow` chooses (the lone empty field is the special case) -/
def tagRow (r : List Str) : List (Bool × Str) :=
  if r = [[]] then [(true, [])] else r.map (tagField lt qa)

theorem writeField_eq (f : Str) :
    writeField lt qa f = encField (tagField lt qa f) := by
  unfold writeField tagField
  cases h : (qa || needsQuote lt f) <;> simp [encField]

theorem joinFields_eq (r : List Str) :
    joinFields lt qa r = encFields (r.map (tagField lt qa)) := by
  induction r with
  | nil => rfl
  | cons f tl ih =>
    cases tl with
    | nil => simp [joinFields, encFields, writeField_eq]
    | cons g tl =>
      simp only [joinFields, List.map_cons, encFields, writeField_eq] at ih ⊢
      rw [ih]

theorem writeRow_eq (r : List Str) :
    writeRow lt qa r = encRow lt (tagRow lt qa r) := by
  unfold writeRow tagRow encRow
  by_cases h : r = [[]]
  · subst h
    cases qa <;> simp [joinFields, writeField, needsQuote, encFields, encField, escape_nil]
  · simp only [h, if_false]
    rw [joinFields_eq]
    cases r with
    | nil => simp [encFields]
    | cons f tl =>
      cases tl with
      | nil =>
        have hf : f ≠ [] := by intro e; subst e; exact h rfl
        have : encField (tagField lt qa f) ≠ [] :=
          encField_ne_nil _ (by intro e; exact hf (congrArg Prod.snd e))
        simp [encFields, this]
      | cons g tl => simp [encFields]

theorem writeRows_eq (rs : List (List Str)) :
    writeRows lt qa rs = encRows lt (rs.map (tagRow lt qa)) := by
  induction rs with
  | nil => rfl
  | cons r rs ih => simp [writeRows, encRows, writeRow_eq, ih]

theorem tagRow_snd (r : List Str) :
    (tagRow lt qa r).map Prod.snd = r := by
  unfold tagRow
  split
  · next h => rw [h]; rfl
  · exact map_map_eq_self fun _ _ => rfl

theorem tagRow_snd_all (rs : List (List Str)) :
    (rs.map (tagRow lt qa)).map (fun r => r.map Prod.snd) = rs :=
  map_map_eq_self fun r _ => tagRow_snd lt qa r

variable {lt qa} (hlt : lt = crlf ∨ lt = lf)
include hlt

/-- the writer's quoting test covers everything the reader treats specially — except that with LF
line ends (CPython 3.12) a CR does not force quotes -/
theorem plain_of_unquoted {f : Str} (h : (qa || needsQuote lt f) = false)
    (hcr : qa = true ∨ lt = crlf ∨ '\r' ∉ f) : Plain f := by
  obtain ⟨hqa, hnq⟩ : qa = false ∧ needsQuote lt f = false := by simpa using h
  intro c hc
  have h1 := List.any_eq_false.mp hnq c hc
  rcases hlt with rfl | rfl
  · simp [special, crlf] at h1
    exact ⟨h1.1.1, h1.1.2, h1.2.1, h1.2.2⟩
  · simp [special, lf] at h1
    refine ⟨h1.1.1, h1.1.2, fun e => ?_, h1.2⟩
    rcases hcr with h | h | h
    · cases hqa.symm.trans h
    · exact absurd h (by decide)
    · exact h (e ▸ hc)

theorem tagRow_valid {r : List Str} (hcr : qa = true ∨ lt = crlf ∨ ∀ f ∈ r, '\r' ∉ f) :
    ValidRow (tagRow lt qa r) := by
  unfold tagRow
  by_cases hr : r = [[]]
  · subst hr
    simp only [if_true]
    exact ⟨by intro p hp; simp at hp; subst hp; exact Or.inl rfl, by simp⟩
  · simp only [hr, if_false]
    refine ⟨?_, ?_⟩
    · refine List.forall_mem_map.2 fun f hf => ?_
      unfold ValidField tagField
      cases hq : (qa || needsQuote lt f) with
      | true => exact Or.inl rfl
      | false => exact Or.inr (plain_of_unquoted hlt hq (hcr.imp_right (Or.imp_right fun h => h f hf)))
    · intro e
      exact hr ((map_map_eq_self fun _ _ => rfl).symm.trans (congrArg (List.map Prod.snd) e))

theorem parse_writeRows {limit : Nat} {rs : List (List Str)}
    (hcr : qa = true ∨ lt = crlf ∨ ∀ r ∈ rs, ∀ f ∈ r, '\r' ∉ f)
    (hn : FieldsFit limit rs) :
    parseCsvWith limit (writeRows lt qa rs) = .ok rs := by
  rw [writeRows_eq, parse_encRows hlt, tagRow_snd_all]
  · exact List.forall_mem_map.2 fun r hr =>
      tagRow_valid hlt (hcr.imp_right (Or.imp_right fun h => h r hr))
  · rwa [tagRow_snd_all]

end

theorem utf8_roundtrip (text : Str) : decodeUtf8 (encodeUtf8 text) = some text := by
  simp [decodeUtf8, encodeUtf8]

/-! ### 4. the machine on arbitrary texts -/

theorem withState_addChar (limit : Nat) (s : St) (r : Reader) (c : Char) :
    withState s (addChar limit r c) =
      if r.fieldLen ≥ limit then .error .fieldLimit
      else .ok ⟨s, c :: r.field, r.fieldLen + 1, r.fields⟩ := by
  unfold addChar
  by_cases h : r.fieldLen ≥ limit <;> simp [h, withState]

/-- what one step does to the buffers: nothing, close the field, add a character, refuse.  Which of
them, and the next state, depends on the state and the character only — never on the limit. -/
inductive Act
  | keep | save | push (ch : Char) | refuse

def Act.run (limit : Nat) (r : Reader) (s : St) : Act → Except CsvErr Reader
  | .keep => .ok ⟨s, r.field, r.fieldLen, r.fields⟩
  | .save => .ok ⟨s, [], 0, r.fields ++ [r.field.reverse]⟩
  | .push ch =>
    if r.fieldLen ≥ limit then .error .fieldLimit else .ok ⟨s, ch :: r.field, r.fieldLen + 1, r.fields⟩
  | .refuse => .error .newlineInUnquoted

/-- a character is a line end, the quote, the comma, or none of them: the possible outcomes of the
automaton's three tests -/
theorem char_class (ch : Char) : ∃ bn bq bc,
    (ch = '\n' ∨ ch = '\r') = bn ∧ (ch = '"') = bq ∧ (ch = ',') = bc ∧
    ((bn = True ∧ bq = False ∧ bc = False) ∨ (bn = False ∧ bq = True ∧ bc = False) ∨
     (bn = False ∧ bq = False ∧ bc = True) ∨ (bn = False ∧ bq = False ∧ bc = False)) := by
  by_cases hnl : ch = '\n' ∨ ch = '\r'
  · have hq : ch ≠ '"' := by rcases hnl with rfl | rfl <;> decide
    have hc : ch ≠ ',' := by rcases hnl with rfl | rfl <;> decide
    exact ⟨_, _, _, rfl, rfl, rfl, .inl ⟨eq_true hnl, eq_false hq, eq_false hc⟩⟩
  · by_cases hq : ch = '"'
    · have hc : ch ≠ ',' := by rw [hq]; decide
      exact ⟨_, _, _, rfl, rfl, rfl, .inr (.inl ⟨eq_false hnl, eq_true hq, eq_false hc⟩)⟩
    · by_cases hc : ch = ','
      · exact ⟨_, _, _, rfl, rfl, rfl, .inr (.inr (.inl ⟨eq_false hnl, eq_false hq, eq_true hc⟩))⟩
      · exact ⟨_, _, _, rfl, rfl, rfl, .inr (.inr (.inr ⟨eq_false hnl, eq_false hq, eq_false hc⟩))⟩

theorem processChar_act (r : Reader) (c : Option Char) : ∃ s a,
    (∀ limit, processChar limit r c = Act.run limit r s a) ∧
    (s = .eatCrnl → c = some '\n' ∨ c = some '\r') ∧
    (a = .refuse → r.state = .eatCrnl ∧ ∃ ch, c = some ch ∧ ch ≠ '\n') := by
  obtain ⟨st, fld, n, flds⟩ := r
  cases c with
  | none =>
    cases st <;> simp only [processChar, startFieldCase, saveField] <;>
      first
        | exact ⟨_, .keep, fun _ => rfl, St.noConfusion, Act.noConfusion⟩
        | exact ⟨_, .save, fun _ => rfl, St.noConfusion, Act.noConfusion⟩
  | some ch =>
    have nl (h : (ch = '\n' ∨ ch = '\r') = True) :
        some ch = some '\n' ∨ some ch = some '\r' := by simpa using of_eq_true h
    have nnl (h : (ch = '\n' ∨ ch = '\r') = False) :
        True ∧ ∃ x, some ch = some x ∧ x ≠ '\n' :=
      ⟨trivial, ch, rfl, fun e => of_eq_false h (.inl e)⟩
    obtain ⟨bn, bq, bc, hnl, hq, hc, h4⟩ := char_class ch
    -- state by state in each class: unfold the step and name the action
    rcases h4 with ⟨rfl, rfl, rfl⟩ | ⟨rfl, rfl, rfl⟩ | ⟨rfl, rfl, rfl⟩ | ⟨rfl, rfl, rfl⟩ <;>
    cases st <;>
    simp only [processChar, startFieldCase, saveField, withState_addChar, hnl, hq, hc,
      if_true, if_false] <;>
    first
      | exact ⟨_, .keep, fun _ => rfl, St.noConfusion, Act.noConfusion⟩
      | exact ⟨_, .save, fun _ => rfl, St.noConfusion, Act.noConfusion⟩
      | exact ⟨_, .push _, fun _ => rfl, St.noConfusion, Act.noConfusion⟩
      | exact ⟨_, .keep, fun _ => rfl, fun _ => nl hnl, Act.noConfusion⟩
      | exact ⟨_, .save, fun _ => rfl, fun _ => nl hnl, Act.noConfusion⟩
      | exact ⟨.startRecord, .refuse, fun _ => rfl, St.noConfusion, fun _ => nnl hnl⟩

/-- `x` runs under some limit and `y` is the same computation under a larger one: `x` can only fail
on the field limit, and when it succeeds `y` gives the same result, of which `Q` holds -/
def Sound {α : Type} (x y : Except CsvErr α) (Q : α → Prop) : Prop :=
  x = .error .fieldLimit ∨ ∃ a, x = .ok a ∧ y = .ok a ∧ Q a

theorem Sound.ok {α : Type} {a : α} {Q : α → Prop} (h : Q a) : Sound (.ok a) (.ok a) Q :=
  .inr ⟨a, rfl, rfl, h⟩

/-- the reader's buffers never exceed the limit -/
structure RInv (limit : Nat) (r : Reader) : Prop where
  len : r.fieldLen = r.field.length
  le : r.fieldLen ≤ limit
  fields : ∀ f ∈ r.fields, f.length ≤ limit

structure MFit (limit : Nat) (m : M) : Prop where
  rd : RInv limit m.rd
  out : FieldsFit limit m.out

/-- EAT_CRNL is only occupied while the line iterator still owes the line end of a CR, so the next
character the reader sees in that state is `EOL` or LF: `newlineInUnquoted` cannot be raised -/
structure MInv (limit : Nat) (m : M) : Prop extends MFit limit m where
  cr : m.rd.state = .eatCrnl → m.prevCR = true

theorem rinv_fresh (limit : Nat) : RInv limit fresh := ⟨rfl, Nat.zero_le _, nofun⟩

section
variable {limit L : Nat} (hL : limit ≤ L)
include hL

theorem processChar_sound {r : Reader} (c : Option Char) (hr : RInv limit r)
    (hs : r.state = .eatCrnl → c = none ∨ c = some '\n') :
    Sound (processChar limit r c) (processChar L r c)
      (fun r' => RInv limit r' ∧ (r'.state = .eatCrnl → c = some '\n' ∨ c = some '\r')) := by
  obtain ⟨s, a, ha, hnl, href⟩ := processChar_act r c
  obtain ⟨h1, h2, h3⟩ := hr
  rw [ha limit, ha L]
  cases a <;> simp only [Act.run]
  · exact .ok ⟨⟨h1, h2, h3⟩, hnl⟩
  · refine .ok ⟨⟨rfl, Nat.zero_le _, forall_mem_snoc h3 ?_⟩, hnl⟩
    simp only [List.length_reverse]
    omega
  · split
    · exact .inl rfl
    · rw [if_neg (by omega)]
      exact .ok ⟨⟨by simp only [List.length_cons]; omega, by simp only; omega, h3⟩, hnl⟩
  · obtain ⟨hst, ch, rfl, hch⟩ := href rfl
    rcases hs hst with h | h
    · cases h
    · exact absurd (Option.some.inj h) hch

theorem eolM_sound {m : M} (hm : MFit limit m) :
    Sound (eolM limit m) (eolM L m) (fun m' => MFit limit m' ∧ m'.rd.state ≠ .eatCrnl) := by
  rcases (processChar_sound hL none hm.rd (fun _ => .inl rfl)) with hx | ⟨r, hx, hy, hr, hs⟩
  · simp only [eolM, hx]
    exact .inl rfl
  · simp only [eolM, hx, hy]
    split
    · exact .ok ⟨⟨rinv_fresh limit, forall_mem_snoc hm.out hr.fields⟩, nofun⟩
    · exact .ok ⟨⟨hr, hm.out⟩, fun h => by simpa using hs h⟩

theorem stepM_sound {m : M} (c : Char) (hm : MInv limit m) :
    Sound (stepM limit m c) (stepM L m c) (MInv limit) := by
  unfold stepM
  split
  · rename_i hlf
    rcases (processChar_sound hL (some c) hm.rd (fun _ => .inr (congrArg _ hlf))) with
      hx | ⟨r, hx, hy, hr, -⟩
    · simp only [hx]
      exact .inl rfl
    · simp only [hx, hy]
      rcases (eolM_sound hL (m := ⟨r, false, true, m.out⟩) ⟨hr, hm.out⟩) with
        hx | ⟨m', hx, hy, hm', hs⟩
      · simp only [hx]
        exact .inl rfl
      · simp only [hx, hy]
        exact .ok ⟨hm', fun h => absurd h hs⟩
  · rename_i hlf
    have h1 : Sound (if m.prevCR then eolM limit m else .ok m) (if m.prevCR then eolM L m else .ok m)
        (fun m1 => MFit limit m1 ∧ m1.rd.state ≠ .eatCrnl) := by
      split
      · exact eolM_sound hL hm.toMFit
      · exact .ok ⟨hm.toMFit, fun h => ‹¬ _› (hm.cr h)⟩
    rcases h1 with hx | ⟨m1, hx, hy, hm1, hs1⟩
    · simp only [hx]
      exact .inl rfl
    · simp only [hx, hy]
      rcases (processChar_sound hL (some c) hm1.rd (fun h => absurd h hs1)) with
        hx | ⟨r, hx, hy, hr, hs⟩
      · simp only [hx]
        exact .inl rfl
      · simp only [hx, hy]
        refine .ok ⟨⟨hr, hm1.out⟩, fun h => ?_⟩
        rcases hs h with e | e
        · exact absurd (Option.some.inj e) hlf
        · simp [Option.some.inj e]

theorem feedM_sound : ∀ (t : Str) {m : M}, MInv limit m →
    Sound (feedM limit t m) (feedM L t m) (MInv limit)
  | [], m, hm => .ok hm
  | c :: t, m, hm => by
    rcases (stepM_sound hL c hm) with hx | ⟨m', hx, hy, hm'⟩
    · simp only [feedM, hx]
      exact .inl rfl
    · simp only [feedM, hx, hy]
      exact feedM_sound t hm'

theorem runM_sound (t : Str) {m : M} (hm : MInv limit m) :
    Sound (runM limit t m) (runM L t m) (FieldsFit limit) := by
  rcases (feedM_sound hL t hm) with hx | ⟨m', hx, hy, hm'⟩
  · simp only [runM, hx]
    exact .inl rfl
  · simp only [runM, hx, hy]
    have h1 : Sound (if m'.pend then eolM limit m' else .ok m') (if m'.pend then eolM L m' else .ok m')
        (MFit limit) := by
      split
      · rcases (eolM_sound hL hm'.toMFit) with hx | ⟨m1, hx, hy, hm1, -⟩
        · simp only [hx]
          exact .inl rfl
        · simp only [hx, hy]
          exact .ok hm1
      · exact .ok hm'.toMFit
    rcases h1 with hx | ⟨m1, hx, hy, hm1⟩
    · simp only [finishM, hx]
      exact .inl rfl
    · simp only [finishM, hx, hy]
      refine .ok ?_
      unfold finalM
      split
      · refine forall_mem_snoc hm1.out (forall_mem_snoc hm1.rd.fields ?_)
        simp only [List.length_reverse]
        have := hm1.rd.len
        have := hm1.rd.le
        omega
      · exact hm1.out

theorem parse_sound (text : Str) :
    Sound (parseCsvWith limit text) (parseCsvWith L text) (FieldsFit limit) := by
  rw [parse_eq_fused, parse_eq_fused]
  exact runM_sound hL text ⟨⟨rinv_fresh limit, nofun⟩, nofun⟩

end

theorem parse_error_is_fieldLimit {limit : Nat} {text : Str} {e : CsvErr}
    (h : parseCsvWith limit text = .error e) : e = .fieldLimit := by
  rcases parse_sound (Nat.le_refl limit) text with hx | ⟨a, hx, -, -⟩
  · exact Except.error.inj (h.symm.trans hx)
  · cases h.symm.trans hx

theorem parse_output_fits {limit : Nat} {text : Str} {recs : List (List Str)}
    (h : parseCsvWith limit text = .ok recs) : FieldsFit limit recs := by
  rcases parse_sound (Nat.le_refl limit) text with hx | ⟨a, hx, -, ha⟩
  · cases h.symm.trans hx
  · cases h.symm.trans hx
    exact ha

end Rpft.Csv
