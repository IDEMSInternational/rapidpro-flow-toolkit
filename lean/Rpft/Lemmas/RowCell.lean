/-
Cell-level lemmas for the row round trip: a well-formed two-level value whose strings are
trimmed and template free is read back exactly by `cellParse` from its joined text
(`cellParse_joinCell`, through `splitIntoLists_joinCell`), and `join_from_lists` of such a value is
`joinCell` (`joinPacked_cell`).
-/
import Rpft.Lemmas.Row
namespace Rpft.Row
open Rpft Rpft.Cell

/-- all strings of a two-level value satisfy `P` -/
def ElemAll (P : Str → Prop) : Elem → Prop
  | .atom s => P s
  | .list xs => ∀ x ∈ xs, P x
def CellAll (P : Str → Prop) : Cell → Prop
  | .atom s => P s
  | .list es => ∀ e ∈ es, ElemAll P e

/-! ### properties of strings that the joined text of a value inherits

`P` holds of the empty string and of the separators, is closed under `++`, and holds of `esc s`
whenever `Q s`: then `P` holds of the joined text of a value all of whose strings satisfy `Q`. -/

section closed
variable {P Q : Str → Prop} (hnil : P []) (happ : ∀ {a b : Str}, P a → P b → P (a ++ b))
  (hesc : ∀ {s : Str}, Q s → P (esc s))
include hnil happ hesc

theorem joinElem_closed (h1 : P [sep1]) : ∀ {e : Elem}, ElemAll Q e → P (joinElem e)
  | .atom s, h => by simpa [joinElem, escapeString_eq_esc] using hesc h
  | .list xs, h => by
    rw [joinElem_list]
    refine join1_closed hnil happ h1 _ (List.forall_mem_map.mpr fun a ha => ?_)
    rw [escapeString_eq_esc]; exact hesc (h a ha)

theorem joinCell_closed (h0 : P [sep0]) (h1 : P [sep1]) : ∀ {c : Cell}, CellAll Q c → P (joinCell c)
  | .atom s, h => by simpa [joinCell, escapeString_eq_esc] using hesc h
  | .list es, h => by
    rw [joinCell_list]
    exact join1_closed hnil happ h0 _
      (List.forall_mem_map.mpr fun a ha => joinElem_closed hnil happ hesc h1 (h a ha))

end closed

theorem cellAll_mono {P Q : Str → Prop} (h : ∀ s, P s → Q s) {c : Cell} (hc : CellAll P c) :
    CellAll Q c := by
  cases c with
  | atom s => exact h s hc
  | list es =>
    intro e he
    cases e with
    | atom s => exact h s (hc _ he)
    | list xs => intro x hx; exact h x (hc _ he x hx)

theorem strip_joinCell {c : Cell} (h : CellAll (fun s => strip pyWs s = s) c) :
    strip pyWs (joinCell c) = joinCell c :=
  joinCell_closed (P := fun s => strip pyWs s = s) rfl strip_append_of_strip
    (fun h => by rw [strip_esc wsOk_pyWs, h]) (by decide) (by decide) h

theorem mem_esc {c : Char} {s : Str} (h : c ∈ esc s) : c = escC ∨ c ∈ s := by
  obtain ⟨d, hd, hc⟩ := List.mem_flatMap.mp h
  unfold escChar at hc
  split at hc <;> simp at hc
  · exact hc.elim Or.inl (fun e => Or.inr (e ▸ hd))
  · exact Or.inr (hc ▸ hd)

theorem not_mem_joinCell {c : Char} (h1 : c ≠ escC) (h0 : c ≠ sep0) (h2 : c ≠ sep1) {v : Cell}
    (h : CellAll (fun s => c ∉ s) v) : c ∉ joinCell v :=
  joinCell_closed (P := fun s => c ∉ s) (by simp) (fun ha hb hm => (List.mem_append.mp hm).elim ha hb)
    (fun hs hm => (mem_esc hm).elim h1 hs) (by simpa using h0) (by simpa using h2) h

/-! ### reading a joined cell back -/

/-- every string of the value is representable (`strOk`) -/
def CellOk (c : Cell) : Prop := CellAll (fun s => strOk s = true) c

theorem normalize_of_trimmed {c : Cell} (h : CellAll (fun s => strip pyWs s = s) c) :
    Props.C08.normalize pyWs c = c := by
  unfold Props.C08.normalize
  cases c with
  | atom s => exact congrArg Cell.atom h
  | list es =>
    refine congrArg Cell.list (map_eq_self fun e he => ?_)
    cases e with
    | atom s => exact congrArg Elem.atom (h _ he)
    | list xs => exact congrArg Elem.list (map_eq_self (h _ he))

/-- `CellParser.parse(join_from_lists(v)) = v` for well-formed values with representable strings -/
theorem cellParse_joinCell {c : Cell} (hwf : Props.C08.WFCell c) (hok : CellOk c) :
    cellParse (joinCell c) = .ok (PV.ofCell c) := by
  have htrim : CellAll (fun s => strip pyWs s = s) c :=
    cellAll_mono (fun s hs => (strOk_spec hs).1) hok
  have hbrace : (joinCell c).contains '{' = false := by
    simp only [List.contains_eq_mem, decide_eq_false_iff_not]
    exact not_mem_joinCell (by decide) (by decide) (by decide)
      (cellAll_mono (fun s hs => by simpa using (strOk_spec hs).2) hok)
  unfold cellParse
  rw [parseAsString_ok (strip_joinCell htrim) hbrace]
  simp only [bind, Except.bind, pure, Except.pure]
  rw [splitIntoLists_joinCell wsOk_pyWs c hwf, normalize_of_trimmed htrim]

/-! ### `join_from_lists` on two-level values is `joinCell` -/

def elemToNested : Elem → Nested
  | .atom s => .str s
  | .list xs => .list (xs.map .str)

section
variable {α : Type} (d : Nat) (sep : Char) (f : α → Nested) (g : α → Str)
  (h : ∀ a, joinNested (d + 1) (f a) = .ok (g a))
include h

theorem joinNestedTail_map : ∀ (xs : List α), xs ≠ [] →
    joinNestedTail d sep (xs.map f) = .ok (joinWith [sep] (xs.map g))
  | [], hne => absurd rfl hne
  | [x], _ => by simp [joinNestedTail, h, joinWith]
  | x :: y :: xs, _ => by
    have ih := joinNestedTail_map (y :: xs) (by simp)
    simp only [List.map_cons] at ih ⊢
    simp [joinNestedTail, h, joinWith, ih, bind, Except.bind, pure, Except.pure]

theorem joinNestedList_map (xs : List α) :
    joinNestedList d sep (xs.map f) = .ok (join1 sep (xs.map g)) := by
  match xs with
  | [] => simp [joinNestedList, join1, joinWith]
  | [x] => simp [joinNestedList, join1, h, bind, Except.bind, pure, Except.pure]
  | x :: y :: xs =>
    have ih := joinNestedTail_map d sep f g h (y :: xs) (by simp)
    simp only [List.map_cons] at ih
    simp [joinNestedList, join1, h, joinWith, ih, bind, Except.bind, pure, Except.pure]

end

theorem joinNested1_elem : ∀ e : Elem, joinNested 1 (elemToNested e) = .ok (joinElem e)
  | .atom s => by simp [elemToNested, joinNested, joinElem]
  | .list xs => by
    simp only [elemToNested, joinNested, joinElem_list,
      joinNestedList_map 1 sep1 Nested.str escapeString (fun _ => by simp [joinNested])]

theorem joinNested0_cell (es : List Elem) :
    joinNested 0 (.list (es.map elemToNested)) = .ok (joinCell (.list es)) := by
  simp only [joinNested, joinCell_list,
    joinNestedList_map 0 sep0 elemToNested joinElem joinNested1_elem]

theorem joinPacked_cell (es : List Elem) :
    joinPacked (.list (es.map elemToNested)) = .ok (joinCell (.list es)) := by
  simp [joinPacked, joinNested0_cell]

end Rpft.Row
