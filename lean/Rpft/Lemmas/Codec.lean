/-
Decimal numerals of the row parser model: `int(str(i)) = i` (`pyInt_printInt`), hence `str` is injective on
the naturals (`printNat_inj`: list indices give distinct headers), and `str(i)` consists of digits after an
optional `-` (`printInt_chars`), none of which is whitespace or a character with a meaning in headers or
cells (`digitChar_not_ws`, `digitChar_ne`).
-/
import Rpft.Schema
import Rpft.Lemmas.Str
namespace Rpft.Row
open Rpft

def isDigit (c : Char) : Bool := (digitVal c).isSome

theorem digitVal_digitChar : ∀ d, d < 10 → digitVal (digitChar d) = some d := by decide +kernel
theorem digitChar_not_ws : ∀ d, d < 10 → pyWs (digitChar d) = false := by decide +kernel
theorem digitChar_ne : ∀ d, d < 10 →
    digitChar d ≠ '_' ∧ digitChar d ≠ '-' ∧ digitChar d ≠ '+' ∧ digitChar d ≠ '{' ∧
    digitChar d ≠ '.' ∧ digitChar d ≠ ':' ∧ digitChar d ≠ '=' ∧ digitChar d ≠ '*' := by decide +kernel

def digitsVal (acc : Nat) (s : Str) : Nat :=
  s.foldl (fun a c => a * 10 + (digitVal c).getD 0) acc

def AllDigits (s : Str) : Prop := ∀ c ∈ s, ∃ d, d < 10 ∧ c = digitChar d

/-- `prev` (the literal may end here) only matters for the empty string -/
theorem natLit_digits : ∀ (s : Str) (acc : Nat) (prev : Bool), AllDigits s → (s = [] → prev = true) →
    natLit acc prev s = some (digitsVal acc s)
  | [], acc, prev, _, hp => by simp [natLit, digitsVal, hp rfl]
  | c :: rest, acc, prev, h, _ => by
    obtain ⟨d, hd, rfl⟩ := h c (by simp)
    have hne := (digitChar_ne d hd).1
    have ih := natLit_digits rest (acc * 10 + d) true (fun x hx => h x (List.mem_cons_of_mem _ hx))
      (fun _ => rfl)
    simp [natLit, hne, digitVal_digitChar d hd, ih, digitsVal]

theorem natDigits_spec : ∀ (fuel n : Nat), n < fuel →
    AllDigits (natDigits fuel n) ∧ natDigits fuel n ≠ [] ∧ digitsVal 0 (natDigits fuel n) = n
  | 0, n, h => by omega
  | fuel + 1, n, h => by
    unfold natDigits
    split
    · rename_i hlt
      refine ⟨?_, by simp, ?_⟩
      · rintro c hc; simp at hc; exact ⟨n, hlt, hc⟩
      · simp [digitsVal, digitVal_digitChar n hlt]
    · rename_i hge
      have hdiv : n / 10 < fuel := by omega
      obtain ⟨h1, h2, h3⟩ := natDigits_spec fuel (n / 10) hdiv
      have hm : n % 10 < 10 := Nat.mod_lt _ (by decide)
      refine ⟨?_, by simp, ?_⟩
      · intro c hc
        simp at hc
        rcases hc with hc | hc
        · exact h1 c hc
        · exact ⟨n % 10, hm, hc⟩
      · unfold digitsVal at h3 ⊢
        rw [List.foldl_append, h3]
        simp [digitVal_digitChar _ hm]
        omega

theorem printNat_spec (n : Nat) :
    AllDigits (printNat n) ∧ printNat n ≠ [] ∧ digitsVal 0 (printNat n) = n :=
  natDigits_spec (n + 1) n (by omega)

theorem allDigits_no_ws {s : Str} (h : AllDigits s) : ∀ c ∈ s, pyWs c = false := by
  intro c hc
  obtain ⟨d, hd, rfl⟩ := h c hc
  exact digitChar_not_ws d hd

theorem natLit_printNat (n : Nat) : natLit 0 false (printNat n) = some n := by
  obtain ⟨h1, h2, h3⟩ := printNat_spec n
  rw [natLit_digits _ 0 false h1 (fun e => absurd e h2), h3]

theorem pyInt_printNat (n : Nat) : pyInt (printNat n) = some (Int.ofNat n) := by
  obtain ⟨h1, h2, _⟩ := printNat_spec n
  unfold pyInt
  rw [strip_of_no_ws _ (allDigits_no_ws h1)]
  cases hp : printNat n with
  | nil => exact absurd hp h2
  | cons c rest =>
    obtain ⟨d, hd, rfl⟩ := h1 c (by simp [hp])
    simp only [(digitChar_ne d hd).2.1, (digitChar_ne d hd).2.2.1, if_false]
    rw [← hp, natLit_printNat]
    rfl

theorem printNat_inj {a b : Nat} (h : printNat a = printNat b) : a = b := by
  have h1 := pyInt_printNat a
  rw [h, pyInt_printNat b] at h1
  exact (Int.ofNat.inj (Option.some.inj h1)).symm

theorem printNat_ne {a b : Nat} (h : a ≠ b) : printNat a ≠ printNat b :=
  fun e => h (printNat_inj e)

theorem pyInt_printInt (i : Int) : pyInt (printInt i) = some i := by
  cases i with
  | ofNat n => exact pyInt_printNat n
  | negSucc n =>
    have hws : ∀ c ∈ ('-' :: printNat (n + 1)), pyWs c = false :=
      List.forall_mem_cons.mpr ⟨by decide, allDigits_no_ws (printNat_spec (n + 1)).1⟩
    unfold printInt pyInt
    rw [strip_of_no_ws _ hws]
    simp [natLit_printNat, Int.negSucc_eq]

theorem printInt_chars (i : Int) : ∀ c ∈ printInt i, c = '-' ∨ ∃ d, d < 10 ∧ c = digitChar d := by
  intro c hc
  cases i with
  | ofNat n => exact Or.inr ((printNat_spec n).1 c hc)
  | negSucc n =>
    simp [printInt] at hc
    rcases hc with rfl | hc
    · exact Or.inl rfl
    · exact Or.inr ((printNat_spec (n + 1)).1 c hc)

theorem printInt_ne_nil (i : Int) : printInt i ≠ [] := by
  cases i with
  | ofNat n => exact (printNat_spec n).2.1
  | negSucc n => simp [printInt]

end Rpft.Row
