/-
A relation between the states of two systems that observations, arities and steps respect gives equal runs
(`run_eq_of_rel`); the pairs of a valid certificate are such a relation (`sound_aux`).
-/
import Rpft.Bisim
namespace Rpft.Bisim

def OptRel {S T : Type} (R : S → T → Prop) : Option S → Option T → Prop
  | none, none => True
  | some s, some t => R s t
  | _, _ => False

theorem OptRel.eq_refl {S : Type} (s : Option S) : OptRel Eq s s := by
  cases s <;> simp [OptRel]

/-- **Bisimulation gives equal runs.**  Every trace equality of the development is an instance: the
relation is a certificate list (`sound_aux`), equality (`Flow.trace_abs`), or a correspondence of
positions up to splitting and fusing nodes (`Flow.run_fuse`). -/
theorem run_eq_of_rel {S T O : Type} {A : Sys S O} {B : Sys T O} {R : S → T → Prop}
    (hR : ∀ s t, R s t → A.obs s = B.obs t ∧ A.arity s = B.arity t ∧
      ∀ c, c < A.arity s → OptRel R (A.next s c) (B.next t c))
    {n : Nat} {s : Option S} {t : Option T} {env : Nat → Nat} (hst : OptRel R s t) : run A s env n = run B t env n := by
  induction n generalizing s t env with
  | zero => cases s <;> cases t <;> rfl
  | succ n ih =>
    match s, t, hst with
    | none, none, _ => rfl
    | some p, some q, hst =>
      obtain ⟨ho, ha, hn⟩ := hR p q hst
      simp only [run]
      rw [ho]
      congr 1
      apply ih
      unfold Sys.step
      rw [← ha]
      split
      · trivial
      · next h0 => exact hn _ (Nat.mod_lt _ (Nat.pos_of_ne_zero h0))

variable {S T O : Type} [DecidableEq S] [DecidableEq T] [DecidableEq O]

theorem succOk_none_none (R : List (S × T)) : succOk R (none : Option S) (none : Option T) = true := rfl

theorem succOk_iff (R : List (S × T)) (s : Option S) (t : Option T) :
    succOk R s t = true ↔ OptRel (fun p q => (p, q) ∈ R) s t := by
  cases s <;> cases t <;> simp [succOk, OptRel]

theorem sound_aux (A : Sys S O) (B : Sys T O) (R : List (S × T))
    (hR : R.all (pairOk A B R) = true) :
    ∀ (n : Nat) (s : Option S) (t : Option T) (env : Nat → Nat),
      succOk R s t = true → run A s env n = run B t env n := by
  intro n s t env hst
  refine run_eq_of_rel ?_ ((succOk_iff R s t).1 hst)
  intro p q hpq
  have hp := List.all_eq_true.mp hR (p, q) hpq
  simp only [pairOk, Bool.and_eq_true, decide_eq_true_eq, List.all_eq_true, List.mem_range] at hp
  exact ⟨hp.1.1, hp.1.2, fun c hc => (succOk_iff R _ _).1 (hp.2 c hc)⟩

end Rpft.Bisim
