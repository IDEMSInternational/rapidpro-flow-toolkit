/-
What a sequence of events does to the scope (`steps_eff`, concluding `ScEff`): which row ids it may
define (`defsL`), that rows without a node name leave the named nodes alone, that named nodes exist, how
deep the stack of open blocks is (`opens`, `closes`).
-/
import Rpft.Lemmas.CompileInsertFrame
import Rpft.Lemmas.CompileInsertDecomp
namespace Rpft.Compile
open Rpft Function

/-- the row ids an event may define in the scope it is read in (an inserted template defines its
row ids in its own scope) -/
def Event.defs : Event → List Str
  | .row r => [r.rowId]
  | .openGroup _ _ => []
  | .closeGroup id => [id]
  | .insert r _ => [r.rowId]

def defsL : List Event → List Str
  | [] => []
  | e :: es => e.defs ++ defsL es

def opens : List Event → Nat
  | [] => 0
  | .openGroup _ _ :: es => opens es + 1
  | _ :: es => opens es

def closes : List Event → Nat
  | [] => 0
  | .closeGroup _ :: es => closes es + 1
  | _ :: es => closes es

/-- effect on the scope: row ids defined are among `ids`; if `nn`, named nodes are found as before;
named nodes exist; no node is removed -/
structure ScEff (ids : List Str) (nn : Bool) (s t : St) : Prop where
  ri : ∀ p ∈ t.rowIds, p ∈ s.rowIds ∨ p.1 ∈ ids
  nm : nn = true → ∀ x, x ≠ [] → lookupIn t.names x = lookupIn s.names x
  nv : (∀ p ∈ s.names, p.2 < s.nodes.size) → ∀ p ∈ t.names, p.2 < t.nodes.size
  sz : s.nodes.size ≤ t.nodes.size

theorem ScEff.refl (ids : List Str) (nn : Bool) (s : St) : ScEff ids nn s s :=
  ⟨fun _ hp => .inl hp, fun _ _ _ => rfl, fun h => h, Nat.le_refl _⟩

theorem ScEff.trans {ids ids' : List Str} {nn nn' : Bool} {s t u : St} (h : ScEff ids nn s t)
    (h' : ScEff ids' nn' t u) : ScEff (ids ++ ids') (nn && nn') s u := by
  refine ⟨fun p hp => ?_, fun hn x hx => ?_, fun hv => h'.nv (h.nv hv), Nat.le_trans h.sz h'.sz⟩
  · rcases h'.ri p hp with h1 | h1
    · rcases h.ri p h1 with h2 | h2
      · exact .inl h2
      · exact .inr (List.mem_append_left _ h2)
    · exact .inr (List.mem_append_right _ h1)
  · have hn' : nn = true ∧ nn' = true := by simpa using hn
    rw [h'.nm hn'.2 x hx, h.nm hn'.1 x hx]

theorem ScEff.weaken {ids : List Str} {nn nn' : Bool} {s t : St} (h : ScEff ids nn s t)
    (hn : nn' = true → nn = true) : ScEff ids nn' s t :=
  ⟨h.ri, fun h' => h.nm (hn h'), h.nv, h.sz⟩

theorem ScEff.of_rpost {id : Str} {s t : St} (h : RPostR id s t) (nn : Bool) : ScEff [id] nn s t := by
  refine ⟨fun p hp => ?_, fun _ x _ => by rw [h.names], fun hv p hp => ?_, h.sz⟩
  · rcases h.ri p hp with h1 | h1
    · exact .inl h1
    · exact .inr (by simp [h1.1])
  · rw [h.names] at hp
    exact Nat.lt_of_lt_of_le (hv p hp) h.sz

theorem RPostR.eff {id : Str} {s t : St} (h : RPostR id s t) (nn : Bool) : ScEff [id] nn s t ∧ t.stack = s.stack :=
  ⟨.of_rpost h nn, h.stack⟩

theorem ScEff.of_rpost_nil {s t : St} (h : RPostR [] s t) (nn : Bool) : ScEff [] nn s t :=
  have h0 := ScEff.of_rpost h nn
  ⟨fun p hp => (h.ri p hp).imp_right fun h1 => absurd rfl h1.2, h0.nm, h0.nv, h0.sz⟩

theorem newRow_eff (r : Row) (nm : Str) (s : St) :
    wp (newRow r nm) s (fun _ t => ScEff [r.rowId] nm.isEmpty s t ∧ t.stack = s.stack) := by
  rw [wp_def]
  intro _ t h
  obtain ⟨n, kk, u, b, rest, cs, -, h3, -, -, rfl⟩ := newRow_inv h
  -- the edges leave the scope alone and keep the node just pushed
  obtain ⟨⟨hst, hri, hnm⟩, hnk⟩ := wp_of_run (Frame.forM Ext.pre (fun x _ => ext_addRowEdge (.node n.uid) x) _) h3
  have hsz : s.nodes.size < u.nodes.size := Nat.lt_of_lt_of_le (by simp) hnk.size_le
  refine ⟨⟨fun p hp => ?_, fun hn x hx => ?_, fun hv p hp => ?_, Nat.le_of_lt hsz⟩, hst⟩
  · have hp' : p ∈ (if r.rowId.isEmpty then u.rowIds else (r.rowId, u.groups.size) :: u.rowIds) := hp
    split at hp'
    · exact .inl (hri ▸ hp')
    · exact (List.mem_cons.mp hp').elim (fun e => .inr (by simp [e])) fun h' => .inl (hri ▸ h')
  · show lookupIn ((nm, _) :: u.names) x = _
    rw [lookupIn_cons, if_neg (fun e : nm = x => hx (e ▸ List.isEmpty_iff.mp hn)), hnm]
  · rcases List.mem_cons.mp (show p ∈ (nm, s.nodes.size) :: u.names from hp) with rfl | hp'
    · exact hsz
    · exact Nat.lt_trans (hv p (hnm ▸ hp')) hsz

theorem actionRow_eff (r : Row) (s : St) :
    wp (actionRow r) s (fun _ t => ScEff [r.rowId] (r.nodeUuid.isEmpty && r.nodeName.isEmpty) s t ∧
      t.stack = s.stack) := by
  unfold actionRow
  split
  · rw [wp_fail]; trivial
  · dsimp only
    rw [wp_bind, wp_get]
    split
    · exact (rpost_mergeRow r _ _).mono (fun _ _ h => h.eff _) s
    · refine wp_mono (newRow_eff r _ s) ?_
      rintro _ t ⟨h, hst⟩
      refine ⟨h.weaken ?_, hst⟩
      intro hn
      have : r.nodeUuid.isEmpty = true ∧ r.nodeName.isEmpty = true := by simpa using hn
      simp [this.1, this.2]

theorem parseRow_eff (r : Row) (s : St) :
    wp (parseRow r) s (fun _ t => ScEff [r.rowId] (r.nodeUuid.isEmpty && r.nodeName.isEmpty) s t ∧
      t.stack = s.stack) := by
  unfold parseRow
  dsimp only
  split
  · exact (Frame.forM Ext.pre fun x _ => ext_addRowEdge _ x).rpost.mono (fun _ _ h => h.eff _) s
  · split
    · exact (ext_parseGoto _).rpost.mono (fun _ _ h => h.eff _) s
    · split
      · exact (rpost_parseNoop _ r.rowId).mono (fun _ _ h => h.eff _) s
      · split
        · rw [wp_fail]; trivial
        · exact actionRow_eff { r with edges := dropTrivial r.edges } s

theorem openGroup_eff (edges : List Edge) (starting : Bool) (s : St) :
    wp (openGroup edges starting) s (fun _ t => ScEff [] true s t ∧ ∃ b, t.stack = b :: s.stack) := by
  rw [wp_openGroup]
  dsimp only
  split
  · exact ⟨⟨fun _ hp => .inl hp, fun _ _ _ => rfl, fun h => h, Nat.le_refl _⟩, _, rfl⟩
  · refine wp_mono (rpost_parseNoop _ [] _) ?_
    intro _ t h
    have h0 := ScEff.of_rpost_nil h true
    -- `h0` starts from the state with the block pushed; `ScEff` reads neither groups nor stack
    exact ⟨⟨h0.ri, h0.nm, h0.nv, h0.sz⟩, _, h.stack⟩

theorem closeGroup_eff (id : Str) (s : St) :
    wp (closeGroup id) s (fun _ t => ScEff [id] true s t ∧ ∃ b, s.stack = b :: t.stack) := by
  rw [wp_closeGroup]
  intro b c rest hst
  refine wp_mono (rpost_appendGroup b id _) ?_
  intro _ t e
  have h0 := ScEff.of_rpost e true
  exact ⟨⟨h0.ri, h0.nm, h0.nv, h0.sz⟩, b, by rw [hst, e.stack]⟩

theorem closes_cons (e : Event) (es : List Event) : closes (e :: es) = closes [e] + closes es := by
  cases e <;> simp [closes, Nat.add_comm]

theorem opens_cons (e : Event) (es : List Event) : opens (e :: es) = opens [e] + opens es := by
  cases e <;> simp [opens, Nat.add_comm]

mutual
theorem step_eff : ∀ (e : Event) (s : St), wp (step e) s (fun _ t => ScEff e.defs e.noNames s t ∧
    t.stack.length + closes [e] = s.stack.length + opens [e])
  | .row r, s => by
    unfold step
    refine wp_mono (parseRow_eff r s) ?_
    rintro _ t ⟨h, hst⟩
    exact ⟨h, by simp [opens, closes, hst]⟩
  | .openGroup edges st, s => by
    unfold step
    refine wp_mono (openGroup_eff edges st s) ?_
    rintro _ t ⟨h, b, hst⟩
    exact ⟨h, by simp [opens, closes, hst]⟩
  | .closeGroup id, s => by
    unfold step
    refine wp_mono (closeGroup_eff id s) ?_
    rintro _ t ⟨h, b, hst⟩
    exact ⟨h, by simp [opens, closes, hst]⟩
  | .insert r body, s => by
    rw [wp_def]
    intro _ z h
    obtain ⟨b₁, h2, h⟩ := insert_run h
    have hb := (wp_of_run (steps_eff body (enterSt s)) h2).1.sz
    obtain ⟨hlen, i, n, x₁, hEN, hn, hEd, hApp⟩ := insertLeave_run h
    have e0 : RPostR r.rowId s (restoreSt b₁ s) := ⟨rfl, rfl, hb, fun _ hp => .inl hp⟩
    have e1 := wp_of_run (Frame.forM Ext.pre (fun x _ => ext_addRowEdge (.node n.uid) x) _) hEd
    have e2 := wp_of_run (rpost_appendGroup _ r.rowId _) hApp
    have e := (RPostR.pre _).trans e0 ((RPostR.pre _).trans (RPostR.of_ext e1) e2)
    exact ⟨ScEff.of_rpost e _, by simp [opens, closes, e.stack]⟩
theorem steps_eff : ∀ (es : List Event) (s : St), wp (steps es) s (fun _ t =>
    ScEff (defsL es) (noNamesL es) s t ∧ t.stack.length + closes es = s.stack.length + opens es)
  | [], s => by
    unfold steps
    rw [wp_pure]
    exact ⟨ScEff.refl _ _ s, rfl⟩
  | e :: es, s => by
    rw [steps, wp_bind]
    refine wp_mono (step_eff e s) ?_
    rintro _ u ⟨h1, d1⟩
    refine wp_mono (steps_eff es u) ?_
    rintro _ t ⟨h2, d2⟩
    refine ⟨(h1.trans h2).weaken (fun hn => by simpa [noNamesL] using hn), ?_⟩
    rw [closes_cons, opens_cons]
    omega
end

theorem nested_keys {s₀ v : St} {es : List Event} (h : (steps es).run (enterSt s₀) = .ok ((), v)) :
    ∀ p ∈ v.rowIds, p.1 ∈ defsL es := by
  intro p hp
  rcases (wp_of_run (steps_eff es (enterSt s₀)) h).1.ri p hp with h' | h'
  · exact absurd h' (by show p ∉ []; simp)
  · exact h'

theorem names_valid_run {na nt : List Str} {es : List Event} {s₀ : St}
    (h : (steps es).run (initSt na nt) = .ok ((), s₀)) : ∀ p ∈ s₀.names, p.2 < s₀.nodes.size :=
  (wp_of_run (steps_eff es (initSt na nt)) h).1.nv (by intro p hp; simp [initSt] at hp)

theorem top_of_balanced {na nt : List Str} {es : List Event} {s₀ : St}
    (h : (steps es).run (initSt na nt) = .ok ((), s₀)) (hb : opens es = closes es) : s₀.stack = [0] := by
  refine final_stack (final_binv h) ?_
  have := (wp_of_run (steps_eff es (initSt na nt)) h).2
  have e : (initSt na nt).stack.length = 1 := rfl
  omega

end Rpft.Compile
