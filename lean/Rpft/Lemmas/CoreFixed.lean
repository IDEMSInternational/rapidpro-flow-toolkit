/-
The nodes the compiler creates for rows with fixed outcomes (`start_new_flow`, `call_webhook`,
`transfer_airtime`): a switch with fixed cases, one named category and the renamed default.
-/
import Rpft.Lemmas.CoreSim
namespace Rpft.CoreSheet
open Rpft Rpft.Compile Rpft.RefFlow

theorem hasOnlyText_not_noArgs : RefFlow.noArgsTests.contains "has_only_text".toList = false := by decide +kernel
theorem hasCategory_not_noArgs : RefFlow.noArgsTests.contains "has_category".toList = false := by decide +kernel

/-- what a freshly created fixed-outcome node looks like -/
structure FreshFix (r : Row) (n : NodeM) (sw : SwitchR) (sc : Cat) : Prop where
  kind : n.kind = fixKind (kindOf r.type)
  acts : n.actions.map (·.2) = [r.ownAction.getD []]
  router : n.router = some (.sw sw)
  operand : sw.operand = operandOf r
  rname : sw.resultName = none
  wait : sw.wait = none
  noResp : sw.noResp = none
  cats : sw.cats = [sc]
  sname : sc.name = succName (kindOf r.type)
  uidne : sc.uid ≠ sw.dflt.uid
  cases : sw.cases.map (fun k => (k.type, k.args.map (·.getD []), k.catUid)) = fixCases (kindOf r.type) sc.uid sw.dflt.uid
  succ : sc.dest = Dest.none
  dflt : sw.dflt.dest = Dest.none

theorem catByName_single (sw : SwitchR) (name : Str) (hc : sw.cats = []) (hn : sw.noResp = none)
    (hd : sw.dflt.name ≠ name) : sw.catByName name = none := by
  unfold SwitchR.catByName SwitchR.allCats
  rw [hc, hn]
  simp only [List.nil_append, Option.toList, List.append_nil, List.find?_cons, List.find?_nil]
  rw [decide_eq_false hd]

theorem expired_ne_complete : "Expired".toList ≠ "Complete".toList := by decide +kernel
theorem failure_ne_success : "Failure".toList ≠ "Success".toList := by decide +kernel
theorem complete_ne_nil : "Complete".toList ≠ [] := by decide +kernel
theorem expired_ne_nil : "Expired".toList ≠ [] := by decide +kernel
theorem success_ne_nil : "Success".toList ≠ [] := by decide +kernel
theorem completed_ne_expired_args : ¬ ([some "completed".toList] = [some "expired".toList]) := by decide +kernel

theorem rowNode_enter (r : Row) (act : Option (Uid × Str)) (s : St) (hna : s.noArgs = RefFlow.noArgsTests)
    (hK : kindOf r.type = .enterFlow) :
    wp (rowNode r act) s (fun n s' => (∃ k, Bump s s' k) ∧ ∃ sw sc, FreshFix r n sw sc) := by
  rw [rowNode_eq, hK]
  wp_simp
  refine ⟨fun _ => ?_, fun _ => trivial⟩
  unfold enterNode
  have hop : operandOf r = "@child.run.status".toList := by rw [operandOf_eq, hK]
  rw [← hop]
  generalize hop2 : operandOf r = op
  wp_simp [wp_fresh]
  refine wp_mono nodeUid_spec ?_
  rintro u s1 ⟨⟨j, rfl, _⟩, _⟩
  rw [wp_newSwitch]
  simp only
  have hc1 : s.noArgs.contains "has_only_text".toList = false := by rw [hna]; exact hasOnlyText_not_noArgs
  refine addChoice_any (by intro k hk; cases hk) (fun _ => catByName_single _ _ rfl rfl expired_ne_complete) ?_
  intro _
  simp only [List.isEmpty_iff, complete_ne_nil, hc1, Bool.false_eq_true, if_false]
  refine addChoice_default ?_ expired_ne_nil ?_
  · intro k hk
    simp only [List.nil_append, List.mem_singleton] at hk
    subst hk
    simp only [hc1, Bool.false_eq_true, if_false]
    intro hh
    exact absurd hh.2 completed_ne_expired_args
  intro _
  simp only [hc1, Bool.false_eq_true, if_false]
  wp_simp [wp_newRouterNode]
  refine ⟨⟨j + 1 + 2 + 3 + 1 + 1, by simp [Bump, Nat.add_assoc]⟩, _, _, ⟨by rw [hK]; rfl, rfl, rfl, ?_, rfl, rfl, rfl, rfl, ?_, ?_, ?_, rfl, rfl⟩⟩
  · simp only [ite_self]; exact hop2.symm
  · rw [hK]; rfl
  · simp only [ne_eq, tid_inj]; omega
  · rw [hK]; rfl

theorem rowNode_fixed (r : Row) (act : Option (Uid × Str)) (s : St) (hna : s.noArgs = RefFlow.noArgsTests)
    (hK : isFixedKind (kindOf r.type)) :
    wp (rowNode r act) s (fun n s' => (∃ k, Bump s s' k) ∧ ∃ sw sc, FreshFix r n sw sc) := by
  rcases hK with hK | hK
  · exact rowNode_enter r act s hna hK
  have hnode : wp (hookNode r) s (fun n s' => (∃ k, Bump s s' k) ∧ ∃ sw sc, FreshFix r n sw sc) := by
    unfold hookNode
    wp_simp
    refine wp_mono nodeUid_spec ?_
    rintro u s1 ⟨⟨j, rfl, _⟩, _⟩
    split
    · exact trivial
    rename_i key hkey
    wp_simp
    rw [wp_newSwitch]
    simp only
    have hc1 : s.noArgs.contains "has_only_text".toList = false := by rw [hna]; exact hasOnlyText_not_noArgs
    have hc2 : s.noArgs.contains "has_category".toList = false := by rw [hna]; exact hasCategory_not_noArgs
    refine addChoice_any (by intro k hk; cases hk) (fun _ => catByName_single _ _ rfl rfl failure_ne_success) ?_
    intro _
    wp_simp [wp_newRouterNode, wp_fresh, List.isEmpty_iff, success_ne_nil, if_false]
    rcases hK with hK | hK
    · simp only [type_webhook, hK, if_true, hc1, Bool.false_eq_true, if_false]
      refine ⟨⟨j + 2 + 3 + 1 + 1, by simp [Bump, Nat.add_assoc]⟩, _, _, ⟨by rw [hK]; rfl, rfl, rfl, ?_, rfl, rfl, rfl, rfl, ?_, ?_, ?_, rfl, rfl⟩⟩
      · rw [operandOf_eq, hK, hkey]
        simp only [ite_self]
        rfl
      · rw [hK]; rfl
      · simp only [ne_eq, tid_inj]; omega
      · rw [hK]; rfl
    · simp only [type_webhook, hK, reduceCtorEq, if_false, hc2, Bool.false_eq_true]
      refine ⟨⟨j + 2 + 3 + 1 + 1, by simp [Bump, Nat.add_assoc]⟩, _, _, ⟨by rw [hK]; rfl, rfl, rfl, ?_, rfl, rfl, rfl, rfl, ?_, ?_, ?_, rfl, rfl⟩⟩
      · rw [operandOf_eq, hK, hkey]
        simp only [ite_self, List.append_nil]
        rfl
      · rw [hK]; rfl
      · simp only [ne_eq, tid_inj]; omega
      · rw [hK]; rfl
  rw [rowNode_eq]
  wp_simp
  refine ⟨fun _ => ?_, fun _ => trivial⟩
  rcases hK with hK | hK <;> rw [hK] <;> exact hnode

end Rpft.CoreSheet
