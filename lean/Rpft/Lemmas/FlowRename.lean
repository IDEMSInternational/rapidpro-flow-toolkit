/-
Renaming of the identifiers of a flow document, and: the behaviour of a flow (every trace) is
invariant under an injective renaming of its identifiers.  Positions of the LTS are node INDICES and
the index-resolved abstraction (`Lemmas/FlowAbs.lean`) mentions no identifier: a flow and its
renaming have literally the same abstraction.
-/
import Rpft.Lemmas.FlowAbs
namespace Rpft.Flow
open Function Rpft.Bisim

variable (ρ : Id → Id)

def Exit.rename (e : Exit) : Exit := { uuid := ρ e.uuid, dest := e.dest.map ρ }

def Category.rename (c : Category) : Category :=
  { uuid := ρ c.uuid, name := c.name, exitUuid := ρ c.exitUuid }

def Case.rename (k : Case) : Case := { k with uuid := ρ k.uuid, catUuid := ρ k.catUuid }

def Router.rename : Router → Router
  | .switch operand cases cats d w rn =>
    .switch operand (cases.map (Case.rename ρ)) (cats.map (Category.rename ρ)) (ρ d)
      (w.map fun o => o.map fun (p : Nat × Id) => (p.1, ρ p.2)) rn
  | .random cats rn => .random (cats.map (Category.rename ρ)) rn

def Action.rename (a : Action) : Action := { a with uuid := ρ a.uuid }

def Node.rename (n : Node) : Node :=
  { uuid := ρ n.uuid, actions := n.actions.map (Action.rename ρ),
    router := n.router.map (Router.rename ρ), exits := n.exits.map (Exit.rename ρ) }

/-- every node / action / exit / category / case identifier and every destination is renamed;
the flow's own uuid and name (not referred to from inside) stay -/
def Flow.rename (f : Flow) : Flow := { f with nodes := f.nodes.map (Node.rename ρ) }

variable {ρ}

theorem find?_rename {α : Type} (h : Injective ρ) (key : α → Id) (g : α → α)
    (hk : ∀ a, key (g a) = ρ (key a)) (l : List α) (u : Id) :
    (l.map g).find? (fun x => key x = ρ u) = (l.find? (fun x => key x = u)).map g := by
  rw [List.find?_map]
  simp only [Function.comp_def, hk, h.eq_iff]

theorem findIdx?_rename {α : Type} (h : Injective ρ) (key : α → Id) (g : α → α)
    (hk : ∀ a, key (g a) = ρ (key a)) (l : List α) (u : Id) :
    (l.map g).findIdx? (fun x => key x = ρ u) = l.findIdx? (fun x => key x = u) := by
  rw [List.findIdx?_map]
  simp only [Function.comp_def, hk, h.eq_iff]

theorem findNode_rename (h : Injective ρ) (f : Flow) (u : Id) :
    findNode (f.rename ρ) (ρ u) = findNode f u :=
  findIdx?_rename h Node.uuid (Node.rename ρ) (fun _ => rfl) f.nodes u

theorem rename_head_dest (n : Node) :
    ((n.rename ρ).exits.head?).bind (·.dest) = ((n.exits.head?).bind (·.dest)).map ρ := by
  cases h : n.exits with
  | nil => simp [Node.rename, h]
  | cons e es => simp [Node.rename, h, Exit.rename]

theorem catName_rename (h : Injective ρ) (cats : List Category) (u : Id) :
    catName (cats.map (Category.rename ρ)) (ρ u) = catName cats u := by
  unfold catName
  rw [find?_rename h (·.uuid) (Category.rename ρ) fun _ => rfl]
  cases cats.find? (·.uuid = u) <;> simp [Category.rename]

theorem testArgs_rename (k : Case) : testArgs (k.rename ρ) = testArgs k := by
  unfold testArgs Case.rename
  rfl

theorem routerObs_rename (h : Injective ρ) (lvl : ObsLevel) (r : Router) :
    routerObs lvl (r.rename ρ) = routerObs lvl r := by
  cases r with
  | random cats rn =>
    simp [Router.rename, routerObs, List.map_map, Function.comp_def, Category.rename]
  | «switch» operand cases cats d w rn =>
    have hk : ∀ k : Case, catName (cats.map (Category.rename ρ)) (k.rename ρ).catUuid = catName cats k.catUuid :=
      fun k => catName_rename h cats k.catUuid
    have ht : ∀ k : Case, (k.rename ρ).type = k.type := fun k => rfl
    simp only [Router.rename, routerObs, List.map_map, Function.comp_def, testArgs_rename, hk,
      catName_rename h, ht]
    congr 1
    · rcases w with _ | _ | ⟨secs, t⟩
      · rfl
      · rfl
      · simp [catName_rename h]
    · rcases w with _ | _ | ⟨secs, t⟩ <;> rfl

theorem routerArity_rename (r : Router) : routerArity (r.rename ρ) = routerArity r := by
  cases r with
  | random cats rn => simp [Router.rename, routerArity]
  | «switch» operand cases cats d w rn =>
    rcases w with _ | _ | ⟨secs, t⟩ <;> simp [Router.rename, routerArity]

theorem routerChoice_rename (r : Router) (c : Nat) :
    routerChoice (r.rename ρ) c = (routerChoice r c).map ρ := by
  cases r with
  | random cats rn =>
    simp only [Router.rename, routerChoice, List.getElem?_map]
    cases cats[c]? <;> rfl
  | «switch» operand cases cats d w rn =>
    simp only [Router.rename, routerChoice, List.length_map]
    split
    · simp only [List.getElem?_map]
      cases cases[c]? <;> rfl
    · split
      · rfl
      · rcases w with _ | _ | ⟨secs, t⟩ <;> simp

theorem exitDest_rename (h : Injective ρ) (n : Node) (u : Id) :
    exitDest (n.rename ρ) (ρ u) = (exitDest n u).map ρ := by
  unfold exitDest
  simp only [Node.rename]
  rw [find?_rename h (·.uuid) (Exit.rename ρ) fun _ => rfl]
  cases n.exits.find? (·.uuid = u) <;> simp [Exit.rename]

theorem catDest_rename (h : Injective ρ) (n : Node) (r : Router) (u : Id) :
    catDest (n.rename ρ) (r.rename ρ) (ρ u) = (catDest n r u).map ρ := by
  unfold catDest
  have : (r.rename ρ).cats = r.cats.map (Category.rename ρ) := by
    cases r <;> rfl
  rw [this, find?_rename h (·.uuid) (Category.rename ρ) fun _ => rfl]
  cases r.cats.find? (·.uuid = u) with
  | none => rfl
  | some c => simp [Category.rename, exitDest_rename h]

theorem choice_dest_rename (h : Injective ρ) (n : Node) (r : Router) (c : Nat) :
    (routerChoice (r.rename ρ) c).bind (catDest (n.rename ρ) (r.rename ρ)) =
      ((routerChoice r c).bind (catDest n r)).map ρ := by
  rw [routerChoice_rename]
  cases routerChoice r c with
  | none => rfl
  | some u => simp [catDest_rename h]

theorem destIdx_rename (h : Injective ρ) (f : Flow) (d : Option Id) :
    destIdx (f.rename ρ) (d.map ρ) = destIdx f d := by
  cases d with
  | none => rfl
  | some u => simp only [destIdx, Option.map_some, findNode_rename h]

theorem absNode_rename (h : Injective ρ) (lvl : ObsLevel) (f : Flow) (n : Node) :
    absNode lvl (f.rename ρ) (n.rename ρ) = absNode lvl f n := by
  have hacts : (n.rename ρ).actions.map (·.obs) = n.actions.map (·.obs) := by
    simp [Node.rename, Action.rename]
  cases hr : n.router with
  | none =>
    have e : (n.rename ρ).router = none := by simp [Node.rename, hr]
    simp only [absNode, e, hr, hacts, Option.map_none, rename_head_dest, destIdx_rename h]
  | some r =>
    have e : (n.rename ρ).router = some (r.rename ρ) := by simp [Node.rename, hr]
    simp only [absNode, e, hr, hacts, Option.map_some, routerObs_rename h, routerArity_rename,
      choice_dest_rename h, destIdx_rename h]

theorem absFlow_rename (h : Injective ρ) (lvl : ObsLevel) (f : Flow) :
    absFlow lvl (f.rename ρ) = absFlow lvl f := by
  show (f.nodes.map (Node.rename ρ)).map (absNode lvl (f.rename ρ)) = f.nodes.map (absNode lvl f)
  rw [List.map_map]
  exact List.map_congr_left fun n _ => absNode_rename h lvl f n

/-- **Traces are invariant under injective renaming of identifiers**: for every observation
level, every environment and every length, a flow and the flow with all its identifiers renamed
by an injective function show the same observations. -/
theorem trace_rename (h : Injective ρ) (lvl : ObsLevel) (f : Flow) (env : Nat → Nat) (n : Nat) :
    trace lvl (f.rename ρ) env n = trace lvl f env n :=
  trace_eq_of_abs lvl _ _ (absFlow_rename h lvl f) env n

end Rpft.Flow
