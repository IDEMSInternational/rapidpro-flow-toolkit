/-
Nodes without loose exit (`NoLoose`) under the node-level updates, and, in open mode: the extra
first child the special block has on the right — the begin row of the twin block kept as a `no_op`
group — is inert as long as its parents are row groups without loose exit:
`has_loose_exits` answers no, `connect_loose_exits` changes nothing (group-level facts of
`Lemmas/CompileConnect.lean`).
-/
import Rpft.Lemmas.CompileInsertSim
import Rpft.Lemmas.CompileConnect
namespace Rpft.Compile
open Rpft Function

theorem hasLoose_basic {n : NodeM} (hr : n.router = none) : n.hasLoose = false ↔ n.dexitDest ≠ Dest.none := by
  unfold NodeM.hasLoose NodeM.exitDests
  rw [hr]
  cases n.dexitDest <;> simp

theorem any_dest_none {l : List Cat} :
    (l.map (·.dest)).any (· == Dest.none) = false ↔ ∀ c ∈ l, c.dest ≠ Dest.none := by
  simp only [List.any_map, List.any_eq_false, Function.comp, beq_iff_eq]

theorem hasLoose_sw {n : NodeM} {r : SwitchR} (hr : n.router = some (.sw r)) :
    n.hasLoose = false ↔ SwD (· ≠ Dest.none) r := by
  unfold NodeM.hasLoose NodeM.exitDests
  rw [hr]
  exact any_dest_none

theorem hasLoose_rnd {n : NodeM} {r : RandomR} (hr : n.router = some (.rnd r)) :
    n.hasLoose = false ↔ ∀ c ∈ r.cats, c.dest ≠ Dest.none := by
  unfold NodeM.hasLoose NodeM.exitDests
  rw [hr]
  exact any_dest_none

theorem hasLoose_setDexit (n : NodeM) (u : Uid) (d : Dest) (hd : d ≠ Dest.none) (h : n.hasLoose = false) :
    ({ n with dexitUid := u, dexitDest := d } : NodeM).hasLoose = false := by
  unfold NodeM.hasLoose NodeM.exitDests at h ⊢
  dsimp only at h ⊢
  cases hr : n.router with
  | none =>
    simp only []
    cases d with
    | none => exact absurd rfl hd
    | hard => rfl
    | node u => rfl
  | some rt =>
    rw [hr] at h
    cases rt <;> exact h

theorem hasLoose_actions (n : NodeM) (as : List (Uid × Str)) : ({ n with actions := as } : NodeM).hasLoose = n.hasLoose := rfl

theorem noLoose_setDexit (n : NodeM) (u : Uid) (d : Dest) (hd : d ≠ Dest.none) (h : NoLoose n) :
    NoLoose ({ n with dexitUid := u, dexitDest := d } : NodeM) :=
  ⟨hasLoose_setDexit n u d hd h.1, fun _ => hd⟩

theorem noLoose_sw {n : NodeM} {r r' : SwitchR} (hr : n.router = some (.sw r)) (h : NoLoose n)
    (hD : SwD (· ≠ Dest.none) r → SwD (· ≠ Dest.none) r') : NoLoose ({ n with router := some (.sw r') } : NodeM) :=
  ⟨(hasLoose_sw (n := { n with router := some (.sw r') }) rfl).mpr (hD ((hasLoose_sw hr).mp h.1)), h.2⟩

theorem noLoose_rnd {n : NodeM} {r r' : RandomR} (hr : n.router = some (.rnd r)) (h : NoLoose n)
    (hD : (∀ c ∈ r.cats, c.dest ≠ Dest.none) → ∀ c ∈ r'.cats, c.dest ≠ Dest.none) :
    NoLoose ({ n with router := some (.rnd r') } : NodeM) :=
  ⟨(hasLoose_rnd (n := { n with router := some (.rnd r') }) rfl).mpr (hD ((hasLoose_rnd hr).mp h.1)), h.2⟩

theorem noLoose_actions {n : NodeM} (as : List (Uid × Str)) (h : NoLoose n) :
    NoLoose ({ n with actions := as } : NodeM) := ⟨h.1, h.2⟩

theorem noLoose_connectLoose (n : NodeM) (d : Dest) (hd : d ≠ Dest.none) (h : NoLoose n) :
    NoLoose (n.connectLoose d) := by
  refine ⟨connectLoose_no_loose n d hd, ?_⟩
  unfold NodeM.connectLoose
  cases hr : n.router with
  | none =>
    simp only []
    split
    · intro _; exact hd
    · exact h.2
  | some rt => cases rt <;> exact h.2

theorem connectLoose_dexitUid (n : NodeM) (d : Dest) : (n.connectLoose d).dexitUid = n.dexitUid := by
  unfold NodeM.connectLoose
  split
  · split <;> rfl
  · rfl
  · rfl

theorem eq_of_conn_none {d : Dest} {T : Nat → Prop} {s s' : St} (c : Conn d T s s')
    (h : ∀ i n, T i → s.nodes[i]? = some n → n.hasLoose = false) : s' = s := by
  obtain ⟨⟨e, z⟩, hc⟩ := c
  have hn : s'.nodes = s.nodes := by
    apply Array.ext z
    intro i h1 h2
    have hs : s.nodes[i]? = some s.nodes[i] := Array.getElem?_eq_getElem h2
    have : s'.nodes[i]? = some s.nodes[i] := by
      by_cases t : T i
      · have := (hc i _ hs).1 t
        rw [connectLoose_of_not_loose _ d (h i _ t hs)] at this; exact this
      · exact (hc i _ hs).2 t
    rw [Array.getElem?_eq_getElem h1] at this
    injection this
  rw [e, hn]

variable {gx : Nat} {s : St} (hi : Inert gx s)
include hi

theorem inert_reach {i : Nat} (r : Reach s.groups gx i) :
    ∃ n, s.nodes[i]? = some n ∧ n.hasLoose = false := by
  obtain ⟨ps, hgx, hps⟩ := hi
  cases r with
  | row h1 => rw [hgx] at h1; cases h1
  | router h1 => rw [hgx] at h1; cases h1
  | child h1 => rw [hgx] at h1; cases h1
  | parent h1 hp r' =>
    rw [hgx] at h1; injection h1 with h1; injection h1 with h1 _; subst h1
    obtain ⟨nodes, t, hgp, hn⟩ := hps _ hp
    cases r' with
    | row h2 h3 =>
      rw [hgp] at h2; injection h2 with h2; injection h2 with h2 _; subst h2
      obtain ⟨n, hn1, hn2⟩ := hn i (List.mem_of_getLast? h3)
      exact ⟨n, hn1, hn2.1⟩
    | router h2 => rw [hgp] at h2; cases h2
    | parent h2 => rw [hgp] at h2; cases h2
    | child h2 => rw [hgp] at h2; cases h2

theorem inert_hasLoose (f : Nat) :
    wp (hasLoose f gx) s (fun b s' => s' = s ∧ b = false) := by
  refine wp_mono (hasLoose_spec f gx s) ?_
  rintro b s' ⟨e, ans⟩
  refine ⟨e, ?_⟩
  cases b with
  | false => rfl
  | true =>
    obtain ⟨i, n, r, hn, hl⟩ := ans.2 rfl
    obtain ⟨n', hn', hl'⟩ := inert_reach hi r
    rw [hn] at hn'; injection hn' with hn'; subst hn'
    rw [hl] at hl'; cases hl'

theorem inert_connectLoose (f : Nat) (d : Dest) :
    wp (connectLoose f gx d) s (fun _ s' => s' = s) := by
  refine wp_mono (connectLoose_conn d f gx s) ?_
  intro _ s' c
  refine eq_of_conn_none c ?_
  intro i n r hn
  obtain ⟨n', hn', hl'⟩ := inert_reach hi r
  rw [hn] at hn'; injection hn' with hn'; subst hn'; exact hl'

theorem inert_connectIfLoose (f : Nat) (d : Dest) :
    wp (connectIfLoose f d gx) s (fun _ s' => s' = s) := by
  unfold connectIfLoose
  rw [wp_bind]
  refine wp_mono (inert_hasLoose hi f) ?_
  rintro b s' ⟨e, hb⟩
  subst e; subst hb
  simp only [Bool.false_eq_true, if_false]
  rw [wp_pure]

end Rpft.Compile
