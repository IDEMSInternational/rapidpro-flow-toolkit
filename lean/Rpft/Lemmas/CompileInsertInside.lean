/-
The simulation between the nested parser and the twin right after the entry row, on the part of the
arenas created inside the block (`PR`; the twin's scope has that of `s₀` below the template's: `XR`):
established from what is known of both sides when the entry row has been read (`AtEntry`).
-/
import Rpft.Lemmas.CompileInsertEntry
namespace Rpft.Compile
open Rpft Function

/-- the correspondence inside the block, established right after the entry row (at `insA`, `twA`): identifiers and node
indices are shifted by what the twin drew and created when it applied the edges into the block (the distance to `e₂`),
group indices by the `no_op` group of the begin row -/
noncomputable def PR (na nt : List Str) (s₀ : St) (kk : Nat) (e₂ : St) (r₁ : Row) (n : NodeM) : Params :=
  { ρ := rhoOf (shiftFrom (s₀.next + kk) (e₂.next - (s₀.next + kk))),
    ν := shiftFrom (s₀.nodes.size + 1) (e₂.nodes.size - (s₀.nodes.size + 1)),
    γ := shiftFrom (s₀.groups.size + 1) 1,
    DN := fun i => s₀.nodes.size ≤ i,
    DG := fun j => s₀.groups.size ≤ j,
    T := fun j => j = s₀.groups.size, bx := s₀.groups.size, gx := s₀.groups.size + 1,
    base₁ := insA s₀ r₁ n kk, base₂ := twA s₀ e₂ r₁, hb := True, sp := true, na := na, nt := nt }

def XR (s₀ : St) : SParams := ⟨s₀.stack, [], false, s₀.rowIds⟩

theorem PR_ok (na nt : List Str) (s₀ : St) (kk : Nat) (e₂ : St) (r₁ : Row) (n : NodeM) : (PR na nt s₀ kk e₂ r₁ n).Ok :=
  ⟨rhoOf_injective (shiftFrom_injective _ _), shiftFrom_injective _ _, shiftFrom_injective _ _, fun _ _ => rfl,
    fun _ hx => rhoOf_plain _ hx, fun h => Bool.noConfusion h⟩

section
variable {na nt : List Str} {s₀ : St} (hg : Good na nt s₀) {r₁ : Row}

include hg in
theorem simR_establish {ps : List (Nat × Cond)} {n : NodeM} {kk : Nat} {e₂ : St}
    (en : AtEntry na nt s₀ ps r₁ n kk e₂) :
    Sim (PR na nt s₀ kk e₂ r₁ n) (XR s₀) (insA s₀ r₁ n kk) (twA s₀ e₂ r₁) ∧
    CL (PR na nt s₀ kk e₂ r₁ n) (insA s₀ r₁ n kk) ∧
    SB (insA s₀ r₁ n kk) ∧ RV (insA s₀ r₁ n kk) := by
  have hlt : s₀.groups.size < e₂.groups.size := by rw [en.gsz]; exact Nat.lt_add_of_pos_right (by decide)
  have hγG : shiftFrom (s₀.groups.size + 1) 1 s₀.groups.size = s₀.groups.size := shiftFrom_lt (Nat.lt_succ_self _)
  have hγG1 : shiftFrom (s₀.groups.size + 1) 1 (s₀.groups.size + 1) = e₂.groups.size := by
    rw [shiftFrom_ge (Nat.le_refl _), en.gsz]
  have hνN : shiftFrom (s₀.nodes.size + 1) (e₂.nodes.size - (s₀.nodes.size + 1)) s₀.nodes.size = s₀.nodes.size :=
    shiftFrom_lt (Nat.lt_succ_self _)
  refine ⟨⟨?_, ?_⟩, ⟨?_, ?_⟩, ?_, ?_⟩
  · -- the arenas: one node, the block and the row group of the entry row
    exact {
      na₁ := hg.hna, na₂ := en.hna, nt₁ := hg.hnt, nt₂ := en.hnt
      mono₁ := ⟨Nat.le_refl _, Nat.le_refl _, Nat.le_refl _⟩
      mono₂ := ⟨Nat.le_refl _, Nat.le_refl _, Nat.le_refl _⟩
      idsync := fun k => by
        show rhoOf _ (tid (s₀.next + kk + k)) = tid (e₂.next + k)
        rw [rhoOf_tid, shiftFrom_sync (Nat.le_refl _) (Nat.add_sub_cancel' en.next).symm]
      nsync := fun k => by
        show shiftFrom _ _ ((s₀.nodes.push n).size + k) = e₂.nodes.size + k
        rw [Array.size_push, shiftFrom_sync (Nat.le_refl _) (Nat.add_sub_cancel' en.nsz).symm]
      gsync := fun k => by
        show shiftFrom _ _ ((insA s₀ r₁ n kk).groups.size + k) = (twA s₀ e₂ r₁).groups.size + k
        rw [insA_groups_size, rowAdded_groups_size, en.gsz]
        exact shiftFrom_sync (Nat.le_succ _) rfl k
      ndom := fun i hi => by rw [insA_nodes_size] at hi; exact Nat.le_of_succ_le hi
      gdom := fun j hj => by
        rw [insA_groups_size] at hj
        exact ⟨by show s₀.groups.size ≤ j; omega, by show ¬ j = s₀.groups.size; omega⟩
      bxlt := insA_groups_size ▸ Nat.lt_add_of_pos_right (by decide)
      bne := fun _ => ⟨_, [], insA_groups_G⟩
      wf := hg.wf.push_push rfl rfl
        ⟨fun i hi => (nomatch hi), fun x hx => List.mem_singleton.mp hx ▸ Nat.lt_succ_self _⟩
        ⟨fun i hi => List.mem_singleton.mp hi ▸ Nat.le_refl _, fun x hx => nomatch hx⟩
      dex := hg.dex.push rfl (Nat.le_add_right _ _) (en.ids _ (List.mem_cons_of_mem _ (List.mem_cons_self ..)))
      nodes := fun i m hd hm => by
        obtain ⟨rfl, rfl⟩ := insA_nodes_new hd hm
        show (twA s₀ e₂ r₁).nodes[shiftFrom _ _ s₀.nodes.size]? = some (rnNode (rhoOf _) m)
        rw [hνN, rnNode_fix (fun k hk => shiftFrom_lt hk) en.ids]
        exact en.node
      groups := fun j g hd hgj => by
        rcases insA_groups_new hd hgj with ⟨rfl, rfl⟩ | ⟨rfl, rfl⟩
        · show (twA s₀ e₂ r₁).groups[shiftFrom _ _ s₀.groups.size]? =
            some (mapGrpAt _ (PR na nt s₀ kk e₂ r₁ n).bx _)
          rw [hγG, rowAdded_groups_b hlt, mapGrpAt_block_bx _ rfl]
          show _ = some (Grp.block [s₀.groups.size + 1, shiftFrom _ _ (s₀.groups.size + 1)])
          rw [hγG1]
          rfl
        · show (twA s₀ e₂ r₁).groups[shiftFrom _ _ (s₀.groups.size + 1)]? =
            some (Grp.row [shiftFrom _ _ s₀.nodes.size] r₁.type)
          rw [hγG1, hνN]
          exact rowAdded_groups_last hlt
      closed := fun j g hd hgj => by
        rcases insA_groups_new hd hgj with ⟨rfl, rfl⟩ | ⟨rfl, rfl⟩
        · exact ⟨fun i hi => (nomatch hi), fun x hx => by rw [List.mem_singleton.mp hx]; exact Nat.le_succ _⟩
        · exact ⟨fun i hi => by rw [List.mem_singleton.mp hi]; exact Nat.le_refl _, fun x hx => nomatch hx⟩
      ra := fun j g hd ht hgj => by
        rcases insA_groups_new hd hgj with ⟨rfl, rfl⟩ | ⟨rfl, rfl⟩
        · exact absurd rfl ht
        · exact fun x hx => nomatch hx
      fr1n := fun _ _ => rfl, fr1g := fun _ _ => rfl, fr2n := fun _ _ => rfl, fr2g := fun _ _ => rfl
      pl := fun h => Bool.noConfusion h }
  · -- the scopes: one open block, the row id of the entry row if it has one, its node under the empty name
    exact {
      stack := by
        show (twA s₀ e₂ r₁).stack = [shiftFrom _ _ s₀.groups.size] ++ s₀.stack
        rw [hγG]; exact en.stack
      stackDG := fun b hb => by rw [List.mem_singleton.mp hb]; exact Nat.le_refl _
      tl := .inr ⟨rfl, rfl⟩
      bxs := fun _ _ => trivial
      ss := List.pairwise_singleton _ _
      ri := fun id j _ hl => by
        obtain ⟨hemp, e⟩ := mem_insA_rowIds (lookupIn_mem hl)
        cases e
        show lookupIn (if r₁.rowId.isEmpty then e₂.rowIds else (r₁.rowId, e₂.groups.size) :: e₂.rowIds) _ = _
        rw [hemp, if_neg Bool.false_ne_true, lookupIn_cons, if_pos rfl]
        exact congrArg some hγG1.symm
      riDG := fun p hp => by obtain ⟨_, rfl⟩ := mem_insA_rowIds hp; exact Nat.le_succ _
      rl := fun p hp ht => by obtain ⟨_, rfl⟩ := mem_insA_rowIds hp; exact absurd ht (Nat.succ_ne_self _)
      rk := fun p hp e => by
        obtain ⟨hemp, rfl⟩ := mem_insA_rowIds hp
        rw [show r₁.rowId = [] from e] at hemp
        cases hemp
      rk2 := fun id hid => by
        show lookupIn (if r₁.rowId.isEmpty then e₂.rowIds else (r₁.rowId, e₂.groups.size) :: e₂.rowIds) id =
          lookupIn s₀.rowIds id
        rw [en.rowIds]
        split
        · rfl
        · rename_i hemp
          have hmem : (r₁.rowId, s₀.groups.size + 1) ∈ (insA s₀ r₁ n kk).rowIds := by
            show _ ∈ (if r₁.rowId.isEmpty then [] else [(r₁.rowId, s₀.groups.size + 1)])
            rw [if_neg hemp]; exact List.mem_singleton.mpr rfl
          rw [lookupIn_cons, if_neg (hid _ hmem)]
      nm := fun h => nomatch h
      nmDN := fun p hp => by rw [List.mem_singleton.mp hp]; exact Nat.le_refl _ }
  · intro b hb cs hgb c hc
    rw [List.mem_singleton.mp hb, insA_groups_G] at hgb
    cases hgb
    rw [List.mem_singleton.mp hc]
    exact Nat.succ_ne_self _
  · intro b hb
    exact nomatch hb
  · intro b hb
    rw [List.mem_singleton.mp hb]
    exact ⟨_, insA_groups_G⟩
  · intro p hp
    obtain ⟨_, rfl⟩ := mem_insA_rowIds hp
    rw [insA_groups_size]
    exact Nat.lt_succ_self _

end

end Rpft.Compile
