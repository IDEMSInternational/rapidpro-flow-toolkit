/-
The template's entry row on both sides.  In the twin its edge (blank `from`) goes through the begin
row's `no_op` group to that group's parents; applying those edges touches neither the entry node nor the
new block and its `no_op` group (`twin_E_frame`, `E2Facts`).  Both sides run the same `rowAction` / `rowNode`
and end in the explicit states `insA` (nested parser) and `twA` (twin); `AtEntry` is what the later phases
know of that moment.
-/
import Rpft.Lemmas.CompileInsertDecomp
namespace Rpft.Compile
open Rpft Function

/-- the twin when the entry row's node exists and its edge is about to be applied -/
def twT (s₀ : St) (ps : List (Nat × Cond)) (n : NodeM) (kk : Nat) : St :=
  { twO s₀ ps with nodes := s₀.nodes.push n, next := s₀.next + kk }

/-- the nested parser when the entry row's node exists -/
def insT (s₀ : St) (n : NodeM) (kk : Nat) : St :=
  { enterSt s₀ with nodes := s₀.nodes.push n, next := s₀.next + kk }

/-- identity correspondence on the part of the arenas before the block -/
def PselfE (na nt : List Str) (s₀ base : St) : Params :=
  { Pid na nt with
    DN := fun i => i ≠ s₀.nodes.size,
    DG := fun j => j < s₀.groups.size ∨ s₀.groups.size + 2 ≤ j,
    T := fun _ => False, bx := s₀.groups.size, base₁ := base, base₂ := base }

section
variable {na nt : List Str} {s₀ : St} (hg : Good na nt s₀) {ps : List (Nat × Cond)} {n : NodeM} {kk : Nat}

theorem twT_groups_lt {j : Nat} (h : j < s₀.groups.size) : (twT s₀ ps n kk).groups[j]? = s₀.groups[j]? :=
  getElem?_push_push_lt h

theorem twT_groups_G : (twT s₀ ps n kk).groups[s₀.groups.size]? = some (.block [s₀.groups.size + 1]) :=
  getElem?_push_push_size _ _ _

theorem twT_groups_G1 : (twT s₀ ps n kk).groups[s₀.groups.size + 1]? = some (.noop ps none) :=
  getElem?_push_push_succ _ _ _

theorem twT_groups_size : (twT s₀ ps n kk).groups.size = s₀.groups.size + 2 := by
  show ((s₀.groups.push _).push _).size = _
  simp

theorem twT_nodes_lt {i : Nat} (h : i < s₀.nodes.size) : (twT s₀ ps n kk).nodes[i]? = s₀.nodes[i]? :=
  getElem?_push_ne _ (Nat.ne_of_lt h)

theorem twT_nodes_N : (twT s₀ ps n kk).nodes[s₀.nodes.size]? = some n := Array.getElem?_push_size

theorem twT_nodes_size : (twT s₀ ps n kk).nodes.size = s₀.nodes.size + 1 := Array.size_push _

theorem twT_groups_old {j : Nat} {g : Grp} (hd : j < s₀.groups.size ∨ s₀.groups.size + 2 ≤ j)
    (h : (twT s₀ ps n kk).groups[j]? = some g) : j < s₀.groups.size ∧ s₀.groups[j]? = some g := by
  rcases getElem?_push_push_cases h with h' | ⟨rfl, _⟩ | ⟨rfl, _⟩
  · exact h'
  · omega
  · omega

theorem twT_nodes_old {i : Nat} {m : NodeM} (hd : i ≠ s₀.nodes.size) (h : (twT s₀ ps n kk).nodes[i]? = some m) :
    i < s₀.nodes.size ∧ s₀.nodes[i]? = some m :=
  match getElem?_push_some h with
  | .inl h' => absurd h'.1 hd
  | .inr h' => ⟨lt_size_of_getElem? h'.2, h'.2⟩

include hg in
theorem twT_wf (hps : ∀ p ∈ ps, p.1 < s₀.groups.size) : RefsOk (twT s₀ ps n kk) :=
  hg.wf.push_push rfl rfl
    ⟨fun i hi => by simp [gnodes] at hi, fun r hr => by simp [grefs] at hr; omega⟩
    ⟨fun i hi => by simp [gnodes] at hi, fun r hr => by
      obtain ⟨p, hp, rfl⟩ := List.mem_map.mp hr
      exact Nat.lt_add_right 2 (hps p hp)⟩

include hg in
theorem twT_dex (hdn : IdOk (s₀.next + kk) n.dexitUid) : DexOk (twT s₀ ps n kk) :=
  hg.dex.push rfl (Nat.le_add_right _ _) hdn

variable (ps n kk)

theorem twin_entry_edge {d : Dest} {e : Edge} (he1 : e.from_ = []) (he2 : e.cond.blank = true) {e₂ : St}
    (h : ([e].forM (addRowEdge d)).run (twT s₀ ps n kk) = .ok ((), e₂)) :
    (ps.forM (fun p => addExit (2 * (s₀.groups.size + 2) + 7) p.1 d p.2)).run (twT s₀ ps n kk) = .ok ((), e₂) := by
  have hmr : mostRecentIn (twT s₀ ps n kk).groups (twT s₀ ps n kk).stack = some (s₀.groups.size + 1) := by
    show mostRecentIn _ (s₀.groups.size :: s₀.stack) = _
    unfold mostRecentIn
    rw [twT_groups_G]
    rfl
  have step1 : (groupOfEdge e).run (twT s₀ ps n kk) = .ok (some (s₀.groups.size + 1), twT s₀ ps n kk) := by
    rw [groupOfEdge_run, he1, if_neg (by decide), if_pos rfl, hmr]
  rw [run_forM_single, addRowEdge_run_some step1, twT_groups_size] at h
  unfold addExit at h
  rw [run_bind_of (getGrp_run twT_groups_G1)] at h
  simp only [he2, if_true] at h
  exact h

/-- what is known of the twin's state `e₂` after the edges into the block were applied -/
structure E2Facts (na nt : List Str) (s₀ : St) (ps : List (Nat × Cond)) (n : NodeM) (kk : Nat) (e₂ : St) : Prop where
  node : e₂.nodes[s₀.nodes.size]? = some n
  blk : e₂.groups[s₀.groups.size]? = some (.block [s₀.groups.size + 1])
  noop : e₂.groups[s₀.groups.size + 1]? = some (.noop ps none)
  stack : e₂.stack = s₀.groups.size :: s₀.stack
  rowIds : e₂.rowIds = s₀.rowIds
  hna : e₂.noArgs = na
  hnt : e₂.testTypes = nt
  next : s₀.next + kk ≤ e₂.next
  nsz : s₀.nodes.size + 1 ≤ e₂.nodes.size
  gsz : e₂.groups.size = s₀.groups.size + 2

include hg in
theorem twin_E_frame (hps : ∀ p ∈ ps, p.1 < s₀.groups.size)
    (hdn : IdOk (s₀.next + kk) n.dexitUid) {f : Nat} {d : Dest} {e₂ : St}
    (hE : (ps.forM (fun p => addExit f p.1 d p.2)).run (twT s₀ ps n kk) = .ok ((), e₂)) :
    E2Facts na nt s₀ ps n kk e₂ := by
  have ok : (PselfE na nt s₀ (twT s₀ ps n kk)).Ok := ok_of_id rfl rfl rfl rfl rfl
  have ha : ASim (PselfE na nt s₀ (twT s₀ ps n kk)) (twT s₀ ps n kk) (twT s₀ ps n kk) := asim_self
    hg.hna hg.hnt (twT_groups_size ▸ Nat.lt_add_of_pos_right (by decide)) (twT_wf hg hps)
    (twT_dex hg hdn) (fun i hi => by rw [twT_nodes_size] at hi; exact Nat.ne_of_gt hi)
    (fun j hj => ⟨.inr (twT_groups_size ▸ hj), fun h => h⟩)
    (by
      intro j g hd hgj
      obtain ⟨h0, h1⟩ := twT_groups_old hd hgj
      have := hg.wf j g h1
      exact ⟨fun i hi => Nat.ne_of_lt (this.1 i hi), fun x hx => .inl (this.2 x hx)⟩)
    (fun _ _ _ _ _ _ _ h => h)
  have hrun := arel_forM (P := PselfE na nt s₀ (twT s₀ ps n kk)) (fun p : Nat × Cond => (id p.1, p.2)) ps
    (fun p => addExit f p.1 d p.2) (fun p => addExit f p.1 (rnDest id d) p.2) ha
    (by
      intro p hp u₁ u₂ hu
      exact addExit_rel ok hu ⟨.inl (hps p hp), fun h => h⟩ (fun h => Bool.noConfusion h))
  have hmap : ps.map (fun p : Nat × Cond => (id p.1, p.2)) = ps := by simp
  have hdd : rnDest id d = d := by cases d <;> rfl
  rw [hmap, hdd] at hrun
  obtain ⟨_, he, e1, _⟩ := hrun () e₂ () e₂ hE hE
  refine ⟨?_, ?_, ?_, e1.1, e1.2.1, he.na₁, he.nt₁, he.mono₁.1, ?_, ?_⟩
  · rw [he.fr1n s₀.nodes.size (fun h => h rfl)]; exact twT_nodes_N
  · rw [he.fr1g s₀.groups.size (fun h => by rcases h with h | h <;> omega)]; exact twT_groups_G
  · rw [he.fr1g (s₀.groups.size + 1) (fun h => by rcases h with h | h <;> omega)]; exact twT_groups_G1
  · have : (twT s₀ ps n kk).nodes.size ≤ e₂.nodes.size := he.mono₁.2.1
    rw [twT_nodes_size] at this; exact this
  · have := wp_of_run (Frame.forM (BlkSz.gens.pre d)
      (fun x _ => addExit_blkSz f x.1 d x.2) (twT s₀ ps n kk)) hE
    rw [this.2, twT_groups_size]

end

/-- the nested parser after the entry row -/
def insA (s₀ : St) (r₁ : Row) (n : NodeM) (kk : Nat) : St :=
  { s₀ with
    nodes := s₀.nodes.push n,
    groups := (s₀.groups.push (.block [s₀.groups.size + 1])).push (.row [s₀.nodes.size] r₁.type),
    stack := [s₀.groups.size],
    rowIds := if r₁.rowId.isEmpty then [] else [(r₁.rowId, s₀.groups.size + 1)],
    names := [([], s₀.nodes.size)],
    next := s₀.next + kk }

/-- the twin after the entry row, in terms of the state `e₂` after the edges into the block -/
abbrev twA (s₀ e₂ : St) (r₁ : Row) : St :=
  rowAdded e₂ s₀.nodes.size r₁.type r₁.rowId [] s₀.groups.size [s₀.groups.size + 1]

/-- both sides when the entry row has been read: the same node `n` was made, with the same `kk`
identifiers; `e₂` is the twin's state after the edges into the block, which come from groups of `s₀` -/
structure AtEntry (na nt : List Str) (s₀ : St) (ps : List (Nat × Cond)) (r₁ : Row) (n : NodeM) (kk : Nat) (e₂ : St) : Prop
    extends E2Facts na nt s₀ ps n kk e₂ where
  psv : ∀ p ∈ ps, p.1 < s₀.groups.size
  run : (ps.forM (fun p => addExit (2 * (s₀.groups.size + 2) + 7) p.1 (.node n.uid) p.2)).run (twT s₀ ps n kk) =
    .ok ((), e₂)
  ids : ∀ x ∈ n.allIds, IdOk (s₀.next + kk) x
  ainv : AInv plainIds (insA s₀ r₁ n kk)

/-! what `insA` holds from the block on (for `twA`: the lemmas on `rowAdded`) -/

section
variable {s₀ : St} {r₁ : Row} {n : NodeM} {kk : Nat}

theorem insA_groups_G : (insA s₀ r₁ n kk).groups[s₀.groups.size]? = some (.block [s₀.groups.size + 1]) :=
  getElem?_push_push_size _ _ _

theorem insA_groups_G1 : (insA s₀ r₁ n kk).groups[s₀.groups.size + 1]? = some (.row [s₀.nodes.size] r₁.type) :=
  getElem?_push_push_succ _ _ _

theorem insA_nodes_lt {i : Nat} (h : i < s₀.nodes.size) : (insA s₀ r₁ n kk).nodes[i]? = s₀.nodes[i]? :=
  getElem?_push_ne _ (Nat.ne_of_lt h)

theorem insA_groups_lt {j : Nat} (h : j < s₀.groups.size) : (insA s₀ r₁ n kk).groups[j]? = s₀.groups[j]? :=
  getElem?_push_push_lt h

theorem insA_groups_size : (insA s₀ r₁ n kk).groups.size = s₀.groups.size + 2 := by
  show ((s₀.groups.push _).push _).size = _
  rw [Array.size_push, Array.size_push]

theorem insA_nodes_size : (insA s₀ r₁ n kk).nodes.size = s₀.nodes.size + 1 := Array.size_push _

theorem insA_groups_new {j : Nat} {g : Grp} (hj : s₀.groups.size ≤ j) (h : (insA s₀ r₁ n kk).groups[j]? = some g) :
    (j = s₀.groups.size ∧ g = .block [s₀.groups.size + 1]) ∨ (j = s₀.groups.size + 1 ∧ g = .row [s₀.nodes.size] r₁.type) := by
  rcases getElem?_push_push_cases h with ⟨h0, _⟩ | h' | h'
  · exact absurd hj (Nat.not_le_of_lt h0)
  · exact .inl h'
  · exact .inr h'

theorem insA_nodes_new {i : Nat} {m : NodeM} (hi : s₀.nodes.size ≤ i) (h : (insA s₀ r₁ n kk).nodes[i]? = some m) :
    i = s₀.nodes.size ∧ m = n := by
  rcases getElem?_push_some h with h' | ⟨_, h0⟩
  · exact h'
  · exact absurd hi (Nat.not_le_of_lt (lt_size_of_getElem? h0))

theorem mem_insA_rowIds {p : Str × Nat} (h : p ∈ (insA s₀ r₁ n kk).rowIds) :
    r₁.rowId.isEmpty = false ∧ p = (r₁.rowId, s₀.groups.size + 1) := by
  have h' : p ∈ (if r₁.rowId.isEmpty then [] else [(r₁.rowId, s₀.groups.size + 1)]) := h
  split at h'
  · cases h'
  · exact ⟨Bool.eq_false_iff.mpr ‹_›, List.mem_singleton.mp h'⟩

end

section
variable {s₀ : St} {r₁ : Row} (he : EntryRow r₁)

include he in
theorem entry_ins {a₁ : St} (h : (parseRow r₁).run (enterSt s₀) = .ok ((), a₁)) :
    ∃ n kk, (rowAction r₁ >>= rowNode r₁).run (enterSt s₀) = .ok (n, { enterSt s₀ with next := s₀.next + kk }) ∧
      a₁ = insA s₀ r₁ n kk := by
  obtain ⟨n, kk, u, b, rest, cs, hM, h3, hst, hgb, rfl⟩ := newRow_inv (parseRow_entry he h)
  refine ⟨n, kk, hM, ?_⟩
  -- the edges add nothing: the one open block is empty
  obtain ⟨-, rfl⟩ := run_det h3 (edges_noop (.node n.uid) (dropTrivial r₁.edges) _
    (fun e hem => (he.edge (mem_dropTrivial hem)).1)
    (by show mostRecentIn (s₀.groups.push (.block [])) [s₀.groups.size] = none; simp [mostRecentIn]))
  cases (show [s₀.groups.size] = b :: rest from hst)
  cases (Array.getElem?_push_size (xs := s₀.groups)).symm.trans hgb
  unfold rowAdded insA enterSt appended
  simp only [List.nil_append, Array.size_push, set_push_push]

include he in
theorem entry_twin {na nt : List Str} (hg : Good na nt s₀) {ps : List (Nat × Cond)} (hps : ∀ p ∈ ps, p.1 < s₀.groups.size)
    {a₂ : St} (h : (parseRow (retargetRow r₁)).run (twO s₀ ps) = .ok ((), a₂)) :
    ∃ n kk e₂, (rowAction r₁ >>= rowNode r₁).run (twO s₀ ps) = .ok (n, { twO s₀ ps with next := s₀.next + kk }) ∧
      Below (s₀.next + kk) n.dexitUid ∧
      (ps.forM (fun p => addExit (2 * (s₀.groups.size + 2) + 7) p.1 (.node n.uid) p.2)).run (twT s₀ ps n kk) =
        .ok ((), e₂) ∧
      E2Facts na nt s₀ ps n kk e₂ ∧ a₂ = twA s₀ e₂ r₁ := by
  have h' := parseRow_entry (entryRow_retarget he) h
  obtain ⟨e, hde, he1, he2⟩ := dropTrivial_retarget_entry he
  rw [show dropTrivial (retargetRow r₁).edges = [e] from hde] at h'
  obtain ⟨n, kk, e₂, b, rest, cs, hM, h3, hst, hgb, rfl⟩ := newRow_inv h'
  have hE := twin_entry_edge (s₀ := s₀) ps n kk he1 he2 h3
  have hdn : Below (s₀.next + kk) n.dexitUid :=
    wp_of_run ((wp_bind ..).mpr ((wp_def ..).mpr fun act s' _ => rowNode_dex r₁ act s')) hM
  have hE2 := twin_E_frame hg ps n kk hps (.inl hdn) hE
  -- the open block is the twin's, still holding the begin row's group alone
  cases hst.symm.trans hE2.stack
  cases hgb.symm.trans hE2.blk
  exact ⟨n, kk, e₂, hM, hdn, hE, hE2, rfl⟩

end

end Rpft.Compile
