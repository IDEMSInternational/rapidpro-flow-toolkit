/-
Weakest-precondition calculus (partial correctness: a failing run satisfies everything) for the compiler machine
`M = StateT St (Except Err)` of `Rpft/Compile.lean`; the rules for relations every run respects (`Frame R`); the
rules for one run written as an equation `m.run s = .ok (a, t)` (`run_bind_ok`, `run_det`, the total primitives);
the exact characterisation of the machine's primitives and of the loop-free operations above them; the operations
that only read the state.
-/
import Rpft.Compile
import Rpft.Lemmas.ListFacts
namespace Rpft.Compile
open Rpft

theorem natStr_injective {a b : Nat} (h : natStr a = natStr b) : a = b := toList_toString_nat_inj h

def wp {α : Type} (m : M α) (s : St) (Q : α → St → Prop) : Prop :=
  match m.run s with
  | .ok (a, s') => Q a s'
  | .error _ => True

theorem wp_def {α} (m : M α) (s : St) (Q : α → St → Prop) :
    wp m s Q ↔ ∀ a s', m.run s = .ok (a, s') → Q a s' := by
  unfold wp
  cases h : m.run s with
  | error e => simp
  | ok p => cases p; simp

theorem wp_of_run {α} {m : M α} {s : St} {Q : α → St → Prop} (h : wp m s Q) {a : α} {s' : St}
    (hr : m.run s = .ok (a, s')) : Q a s' := (wp_def m s Q).mp h a s' hr

theorem wp_pure {α} (a : α) (s : St) (Q : α → St → Prop) : wp (pure a) s Q ↔ Q a s := by
  simp [wp, StateT.run, pure, StateT.pure, Except.pure]

theorem wp_bind {α β} (m : M α) (f : α → M β) (s : St) (Q : β → St → Prop) :
    wp (m >>= f) s Q ↔ wp m s (fun a s1 => wp (f a) s1 Q) := by
  simp only [wp, StateT.run, bind, StateT.bind, Except.bind]
  cases h : m s with
  | error e => simp
  | ok p => cases p; simp

theorem wp_map {α β} (m : M α) (f : α → β) (s : St) (Q : β → St → Prop) :
    wp (f <$> m) s Q ↔ wp m s (fun a s1 => Q (f a) s1) := by
  simp only [wp, StateT.run, Functor.map, StateT.map, bind, Except.bind, pure, Except.pure]
  cases h : m s with
  | error e => simp
  | ok p => cases p; simp

theorem wp_get (s : St) (Q : St → St → Prop) : wp (get : M St) s Q ↔ Q s s := by
  simp [wp, StateT.run, get, getThe, MonadStateOf.get, StateT.get, pure, Except.pure]

theorem wp_set (s s1 : St) (Q : PUnit → St → Prop) : wp (set s1 : M PUnit) s Q ↔ Q ⟨⟩ s1 := by
  simp [wp, StateT.run, set, StateT.set, pure, Except.pure]

theorem wp_modify (f : St → St) (s : St) (Q : PUnit → St → Prop) :
    wp (modify f : M PUnit) s Q ↔ Q ⟨⟩ (f s) := by
  simp [wp, StateT.run, modify, modifyGet, MonadStateOf.modifyGet, StateT.modifyGet, pure, Except.pure]

theorem wp_fail {α} (e : Err) (s : St) (Q : α → St → Prop) : wp (fail e : M α) s Q ↔ True := by
  simp [wp, StateT.run, fail, throw, throwThe, MonadExceptOf.throw, StateT.lift, Except.bind, bind]

theorem wp_ite {α} (c : Prop) [Decidable c] (a b : M α) (s : St) (Q : α → St → Prop) :
    wp (if c then a else b) s Q ↔ (c → wp a s Q) ∧ (¬ c → wp b s Q) := by
  split <;> simp [*]

theorem wp_mono {α} {m : M α} {s : St} {Q Q' : α → St → Prop} (h : wp m s Q)
    (hq : ∀ a s', Q a s' → Q' a s') : wp m s Q' := by
  rw [wp_def] at *
  intro a s' hr; exact hq _ _ (h a s' hr)

theorem wp_true {α} (m : M α) (s : St) : wp m s (fun _ _ => True) := by
  rw [wp_def]; intros; trivial

theorem wp_and {α} {m : M α} {s : St} {Q Q' : α → St → Prop} (h : wp m s Q) (h' : wp m s Q') :
    wp m s (fun a s' => Q a s' ∧ Q' a s') := by
  rw [wp_def] at *
  intro a s' hr; exact ⟨h a s' hr, h' a s' hr⟩

/-- symbolic execution of the monadic structure -/
syntax "wp_simp" (" [" Lean.Parser.Tactic.simpLemma,* "]")? : tactic
macro_rules
  | `(tactic| wp_simp) =>
    `(tactic| simp only [wp_bind, wp_pure, wp_map, wp_get, wp_set, wp_modify, wp_fail, wp_ite])
  | `(tactic| wp_simp [$ls,*]) =>
    `(tactic| simp only [wp_bind, wp_pure, wp_map, wp_get, wp_set, wp_modify, wp_fail, wp_ite, $ls,*])

theorem wp_forM_nil {β} (f : β → M PUnit) (s : St) (Q : PUnit → St → Prop) :
    wp (([] : List β).forM f) s Q ↔ Q ⟨⟩ s := by
  simp [List.forM_nil, wp_pure]

theorem wp_forM_cons {β} (x : β) (l : List β) (f : β → M PUnit) (s : St) (Q : PUnit → St → Prop) :
    wp ((x :: l).forM f) s Q ↔ wp (f x) s (fun _ s1 => wp (l.forM f) s1 Q) := by
  simp [List.forM_cons, wp_bind]

theorem wp_forM {β} (I : St → Prop) {l : List β} {f : β → M PUnit}
    (h : ∀ x ∈ l, ∀ s, I s → wp (f x) s (fun _ s' => I s')) :
    ∀ s, I s → wp (l.forM f) s (fun _ s' => I s') := by
  induction l with
  | nil => intro s hs; rw [wp_forM_nil]; exact hs
  | cons x l ih =>
    intro s hs
    rw [wp_forM_cons]
    refine wp_mono (h x (by simp) s hs) ?_
    intro _ s1 h1
    exact ih (fun y hy => h y (by simp [hy])) s1 h1

/-- a search that only reads the state: `A x b` is what the answer `b` for `x` means -/
theorem wp_anyM {β} (A : β → Bool → Prop) {l : List β} {f : β → M Bool} {s : St}
    (hf : ∀ x ∈ l, wp (f x) s (fun b s' => s' = s ∧ A x b)) :
    wp (l.anyM f) s (fun b s' => s' = s ∧ (b = false → ∀ x ∈ l, A x false) ∧ (b = true → ∃ x ∈ l, A x true)) := by
  induction l with
  | nil => simp [List.anyM, wp_pure]
  | cons x l ih =>
    simp only [List.anyM, wp_bind]
    refine wp_mono (hf x (by simp)) ?_
    rintro b s1 ⟨rfl, hx⟩
    cases b with
    | true =>
      rw [wp_pure]
      exact ⟨rfl, fun h => Bool.noConfusion h, fun _ => ⟨x, by simp, hx⟩⟩
    | false =>
      refine wp_mono (ih (fun y hy => hf y (by simp [hy]))) ?_
      rintro b s2 ⟨e, k1, k2⟩
      refine ⟨e, fun hb y hy => ?_, fun hb => ?_⟩
      · rcases List.mem_cons.mp hy with rfl | hy
        · exact hx
        · exact k1 hb y hy
      · obtain ⟨y, hy, ty⟩ := k2 hb
        exact ⟨y, by simp [hy], ty⟩

def ReadOnly {α} (m : M α) : Prop := ∀ s a s', m.run s = .ok (a, s') → s' = s

theorem wp_ro {α} {m : M α} (h : ReadOnly m) {s : St} {Q : α → St → Prop} (hq : ∀ a, Q a s) :
    wp m s Q := by
  rw [wp_def]
  intro a s' hr
  rw [h s a s' hr]; exact hq a

theorem ro_iff {α} (m : M α) : ReadOnly m ↔ ∀ s, wp m s (fun _ s' => s' = s) := by
  unfold ReadOnly
  constructor
  · intro h s; rw [wp_def]; intro a s' hr; exact h s a s' hr
  · intro h s a s' hr; exact wp_of_run (h s) hr

/-! ### relations every run of an operation respects -/

/-- every run of `m` takes a state to an `R`-related one -/
def Frame (R : St → St → Prop) {α} (m : M α) : Prop := ∀ s, wp m s (fun _ t => R s t)

/-- `R` is a preorder -/
structure Pre (R : St → St → Prop) : Prop where
  refl : ∀ s, R s s
  trans : ∀ {s t u}, R s t → R t u → R s u

namespace Frame
variable {R R' : St → St → Prop} {α β : Type}

theorem mono {m : M α} (h : Frame R m) (hi : ∀ s t, R s t → R' s t) : Frame R' m :=
  fun s => wp_mono (h s) (fun _ t => hi s t)

theorem fail {e : Err} : Frame R (fail e : M α) := fun s => (wp_fail e s _).mpr trivial

variable (hR : Pre R)
include hR

theorem of_ro {m : M α} (h : ReadOnly m) : Frame R m := fun s => wp_ro h fun _ => hR.refl s

theorem pure {a : α} : Frame R (pure a : M α) := fun s => (wp_pure a s _).mpr (hR.refl s)

theorem bind {m : M α} {f : α → M β} (h1 : Frame R m) (h2 : ∀ a, Frame R (f a)) : Frame R (m >>= f) :=
  fun s => (wp_bind m f s _).mpr (wp_mono (h1 s) fun a s1 e1 => wp_mono (h2 a s1) fun _ _ e2 => hR.trans e1 e2)

theorem forM {l : List β} {f : β → M PUnit} (hf : ∀ x ∈ l, Frame R (f x)) : Frame R (l.forM f) :=
  fun s => wp_forM (R s) (fun x hx s1 h1 => wp_mono (hf x hx s1) fun _ _ h2 => hR.trans h1 h2) s (hR.refl s)

end Frame

/-! ### one run as an equation

`m.run s = .ok (a, t)` also says that the run succeeded, which `wp` cannot.  A total primitive computes its result
(`X_run`); with `run_det` that is also what any given successful run of it returned. -/

theorem run_bind_ok {α β} {m : M α} {f : α → M β} {s : St} {b : β} {t : St}
    (h : (m >>= f).run s = .ok (b, t)) : ∃ a u, m.run s = .ok (a, u) ∧ (f a).run u = .ok (b, t) :=
  wp_of_run (Q := fun b t => ∃ a u, m.run s = .ok (a, u) ∧ (f a).run u = .ok (b, t))
    ((wp_bind ..).mpr ((wp_def ..).mpr fun a u h1 => (wp_def ..).mpr fun _ _ h2 => ⟨a, u, h1, h2⟩)) h

theorem run_bind_of {α β} {m : M α} {f : α → M β} {s u : St} {a : α}
    (h : m.run s = .ok (a, u)) : (m >>= f).run s = (f a).run u := by
  simp only [StateT.run, bind, StateT.bind, Except.bind] at h ⊢
  rw [h]

theorem run_bind_congr {α β : Type} {m m' : M α} {s : St} (h : m.run s = m'.run s) (k : α → M β) :
    (m >>= k).run s = (m' >>= k).run s := by
  simp only [StateT.run, bind, StateT.bind] at h ⊢
  rw [h]

theorem run_fail {α} (e : Err) (s : St) : (fail e : M α).run s = .error e := rfl

theorem run_det {α : Type} {m : M α} {s : St} {a b : α} {t u : St}
    (h1 : m.run s = .ok (a, t)) (h2 : m.run s = .ok (b, u)) : a = b ∧ t = u := by
  rw [h1] at h2; cases h2; exact ⟨rfl, rfl⟩

theorem run_forM_single {β : Type} (f : β → M PUnit) (x : β) (s : St) : ([x].forM f).run s = (f x).run s := by
  simp

/-- `generate_new_uuid()` in the model: the counter is read and incremented -/
theorem fresh_spec (s : St) :
    fresh.run s = .ok ('~' :: natStr s.next, { s with next := s.next + 1 }) := rfl

theorem get_run (s : St) : (get : M St).run s = .ok (s, s) := rfl

theorem modify_run (f : St → St) (s : St) : (modify f : M PUnit).run s = .ok (⟨⟩, f s) := rfl

theorem addNode_run (n : NodeM) (s : St) : (addNode n).run s = .ok (s.nodes.size, { s with nodes := s.nodes.push n }) := rfl

theorem addGrp_run (g : Grp) (s : St) : (addGrp g).run s = .ok (s.groups.size, { s with groups := s.groups.push g }) := rfl

theorem getGrp_run {s : St} {i : Nat} {g : Grp} (h : s.groups[i]? = some g) : (getGrp i).run s = .ok (g, s) := by
  rw [getGrp, run_bind_of (get_run s), h]
  rfl

theorem fuelOf_run (s : St) : fuelOf.run s = .ok (2 * s.groups.size + 8, s) := rfl

theorem mostRecent_run (s : St) : mostRecent.run s = .ok (mostRecentIn s.groups s.stack, s) := rfl

theorem wp_getNode (i : Nat) (s : St) (Q : NodeM → St → Prop) :
    wp (getNode i) s Q ↔ ∀ n, s.nodes[i]? = some n → Q n s := by
  unfold getNode; wp_simp
  split <;> simp_all [wp_pure, wp_fail]

theorem wp_setNode (i : Nat) (n : NodeM) (s : St) (Q : PUnit → St → Prop) :
    wp (setNode i n) s Q ↔ Q ⟨⟩ { s with nodes := s.nodes.setIfInBounds i n } := by
  unfold setNode; wp_simp

theorem wp_getGrp (i : Nat) (s : St) (Q : Grp → St → Prop) :
    wp (getGrp i) s Q ↔ ∀ g, s.groups[i]? = some g → Q g s := by
  unfold getGrp; wp_simp
  split <;> simp_all [wp_pure, wp_fail]

theorem wp_setGrp (i : Nat) (g : Grp) (s : St) (Q : PUnit → St → Prop) :
    wp (setGrp i g) s Q ↔ Q ⟨⟩ { s with groups := s.groups.setIfInBounds i g } := by
  unfold setGrp; wp_simp

theorem wp_addNode (n : NodeM) (s : St) (Q : Nat → St → Prop) :
    wp (addNode n) s Q ↔ Q s.nodes.size { s with nodes := s.nodes.push n } := by
  unfold addNode; wp_simp

theorem wp_addGrp (g : Grp) (s : St) (Q : Nat → St → Prop) :
    wp (addGrp g) s Q ↔ Q s.groups.size { s with groups := s.groups.push g } := by
  unfold addGrp; wp_simp

theorem wp_insertEnter (s : St) (Q : St × Nat → St → Prop) :
    wp insertEnter s Q ↔
      Q (s, s.groups.size) { s with groups := s.groups.push (Grp.block []), stack := [s.groups.size],
                                    rowIds := [], names := [] } := by
  unfold insertEnter
  wp_simp [wp_addGrp]

/-- the `k`-th identifier handed out -/
def tid (k : Nat) : Uid := '~' :: natStr k

theorem tid_inj {a b : Nat} : tid a = tid b ↔ a = b := by
  constructor
  · intro h; unfold tid at h; injection h with _ ht; exact natStr_injective ht
  · intro h; rw [h]

theorem wp_fresh (s : St) (Q : Uid → St → Prop) :
    wp fresh s Q ↔ Q (tid s.next) { s with next := s.next + 1 } := by
  unfold fresh tid; wp_simp

theorem wp_mkCat (name : Str) (dest : Dest) (s : St) (Q : Cat → St → Prop) :
    wp (mkCat name dest) s Q ↔
      Q { uid := tid s.next, name := name, exitUid := tid (s.next + 1), dest := dest }
        { s with next := s.next + 2 } := by
  unfold mkCat; wp_simp [wp_fresh]

theorem wp_newSwitch (operand : Str) (rn : Option Str) (wait : Option Nat) (s : St)
    (Q : SwitchR → St → Prop) :
    wp (newSwitch operand rn wait) s Q ↔
      match wait with
      | some (_ + 1) =>
        Q { operand := operand, cases := [], cats := [],
            dflt := { uid := tid s.next, name := "Other".toList, exitUid := tid (s.next + 1), dest := .none },
            noResp := some { uid := tid (s.next + 2), name := "No Response".toList,
                             exitUid := tid (s.next + 3), dest := .none },
            wait := wait, resultName := rn } { s with next := s.next + 4 }
      | _ =>
        Q { operand := operand, cases := [], cats := [],
            dflt := { uid := tid s.next, name := "Other".toList, exitUid := tid (s.next + 1), dest := .none },
            noResp := none, wait := wait, resultName := rn } { s with next := s.next + 2 } := by
  unfold newSwitch
  rcases wait with _ | _ | n <;> wp_simp [wp_mkCat]

theorem wp_newBasic (uid : Uid) (s : St) (Q : NodeM → St → Prop) :
    wp (newBasic uid) s Q ↔
      Q { uid := uid, kind := .basic, actions := [], router := none, dexitUid := tid (s.next + 1),
          dexitDest := .none } { s with next := s.next + 2 } := by
  unfold newBasic; wp_simp [wp_fresh]

theorem wp_newRouterNode (uid : Uid) (kind : NodeKind) (r : RouterM) (s : St) (Q : NodeM → St → Prop) :
    wp (newRouterNode uid kind r) s Q ↔
      Q { uid := uid, kind := kind, actions := [], router := some r, dexitUid := tid s.next,
          dexitDest := .none } { s with next := s.next + 1 } := by
  unfold newRouterNode; wp_simp [wp_fresh]

/-! ### straight-line operations above the primitives

Each operation without a loop has one equation; frames, run inversions and the two sides of a relational goal
read it instead of executing the operation again. -/

theorem wp_fuelOf (s : St) (Q : Nat → St → Prop) : wp fuelOf s Q ↔ Q (2 * s.groups.size + 8) s := by
  unfold fuelOf; wp_simp

theorem wp_lookupRow (id : Str) (s : St) (Q : Option Nat → St → Prop) :
    wp (lookupRow id) s Q ↔ Q ((s.rowIds.find? (·.1 = id)).map (·.2)) s := by
  unfold lookupRow; wp_simp

theorem wp_mostRecent (s : St) (Q : Option Nat → St → Prop) :
    wp mostRecent s Q ↔ Q (mostRecentIn s.groups s.stack) s := by
  unfold mostRecent; wp_simp

theorem wp_groupOfEdge (e : Edge) (s : St) (Q : Option Nat → St → Prop) :
    wp (groupOfEdge e) s Q ↔
      if e.from_ = "start".toList then Q none s
      else if e.from_ = [] then Q (mostRecentIn s.groups s.stack) s
      else match (s.rowIds.find? (·.1 = e.from_)).map (·.2) with
        | some g => Q (some g) s
        | none => True := by
  unfold groupOfEdge
  by_cases hs : e.from_ = "start".toList
  · simp only [hs, if_true]; wp_simp
  · by_cases hemp : e.from_ = []
    · have : ¬ ([] : Str) = "start".toList := by decide
      simp only [hemp, this, if_false, if_true, List.isEmpty_nil, not_true_eq_false, wp_mostRecent]
    · simp only [hs, hemp, if_false, List.isEmpty_iff, not_false_eq_true, if_true, wp_bind, wp_lookupRow]
      cases (s.rowIds.find? (·.1 = e.from_)).map (·.2) <;> wp_simp

theorem wp_predGroup (e : Edge) (s : St) (Q : Option Nat → St → Prop) :
    wp (predGroup e) s Q ↔
      Q (if e.from_.isEmpty then mostRecentIn s.groups s.stack else (s.rowIds.find? (·.1 = e.from_)).map (·.2)) s := by
  unfold predGroup
  split <;> simp only [wp_mostRecent, wp_lookupRow]

theorem wp_connectNode (i : Nat) (d : Dest) (s : St) (Q : PUnit → St → Prop) :
    wp (connectNode i d) s Q ↔
      ∀ n, s.nodes[i]? = some n → Q ⟨⟩ { s with nodes := s.nodes.setIfInBounds i (n.connectLoose d) } := by
  unfold connectNode; wp_simp [wp_getNode, wp_setNode]

variable {i : Nat} {n : NodeM} {s : St}

theorem wp_updSwitch_sw {r : SwitchR} {f : SwitchR → M SwitchR} (hn : s.nodes[i]? = some n)
    (hr : n.router = some (.sw r)) (Q : PUnit → St → Prop) :
    wp (updSwitch i f) s Q ↔
      wp (f r) s (fun r' s1 => Q ⟨⟩ { s1 with nodes := s1.nodes.setIfInBounds i { n with router := some (.sw r') } }) := by
  unfold updSwitch
  simp only [wp_bind, wp_getNode, hn, Option.some.injEq, forall_eq', hr, wp_setNode]

theorem wp_rowExitBlank_basic (d : Dest) (hk : n.kind = .basic) (Q : PUnit → St → Prop) :
    wp (rowExitBlank i n d) s Q ↔
      Q ⟨⟩ { s with nodes := s.nodes.setIfInBounds i { n with dexitUid := tid s.next, dexitDest := d },
                    next := s.next + 1 } := by
  unfold rowExitBlank
  simp only [hk, wp_bind, wp_fresh, wp_setNode]

/-- an unconditional edge at a node with a switch router: the default category -/
theorem wp_rowExitBlank_sw {r : SwitchR} (d : Dest) (hk : n.kind = .switch)
    (hn : s.nodes[i]? = some n) (hr : n.router = some (.sw r)) (Q : PUnit → St → Prop) :
    wp (rowExitBlank i n d) s Q ↔
      Q ⟨⟩ { s with nodes := s.nodes.setIfInBounds i { n with router := some (.sw (r.setDflt d)) } } := by
  unfold rowExitBlank
  simp only [hk, wp_updSwitch_sw hn hr, setDfltM, wp_pure]

theorem wp_nodeAddChoice_sw {r : SwitchR} {operandV ctype : Str} {args : List (Option Str)} {c : Cond} {d : Dest}
    (hr : n.router = some (.sw r)) (Q : PUnit → St → Prop) :
    wp (nodeAddChoice i n operandV ctype args c d) s Q ↔
      wp (addChoice r operandV (if ctype.isEmpty then "has_any_word".toList else ctype) args c.name d false) s
        (fun r' s1 => Q ⟨⟩ { s1 with nodes := s1.nodes.setIfInBounds i { n with router := some (.sw r') } }) := by
  unfold nodeAddChoice
  simp only [hr, wp_bind, wp_setNode]

theorem wp_nodeAddChoice_rnd {r : RandomR} {operandV ctype : Str} {args : List (Option Str)} {c : Cond} {d : Dest}
    (hr : n.router = some (.rnd r)) (Q : PUnit → St → Prop) :
    wp (nodeAddChoice i n operandV ctype args c d) s Q ↔
      wp (randomAddChoice r (if c.name.isEmpty then c.value else c.name) d) s
        (fun r' s1 => Q ⟨⟩ { s1 with nodes := s1.nodes.setIfInBounds i { n with router := some (.rnd r') } }) := by
  unfold nodeAddChoice
  simp only [hr, wp_bind, wp_setNode]

theorem wp_attachRowNode (g : Nat) (nodes : List Nat) (rowType : Str) (rn : NodeM) (s : St) (Q : Nat → St → Prop) :
    wp (attachRowNode g nodes rowType rn) s Q ↔
      Q s.nodes.size { s with nodes := s.nodes.push rn,
                              groups := s.groups.setIfInBounds g (.row (nodes ++ [s.nodes.size]) rowType) } := by
  unfold attachRowNode; wp_simp [wp_addNode, wp_setGrp]

theorem wp_attachNoopRouter (g : Nat) (parents : List (Nat × Cond)) (rn : NodeM) (s : St) (Q : Nat → St → Prop) :
    wp (attachNoopRouter g parents rn) s Q ↔
      Q s.nodes.size { s with nodes := s.nodes.push rn,
                              groups := s.groups.setIfInBounds g (.noop parents (some s.nodes.size)) } := by
  unfold attachNoopRouter; wp_simp [wp_addNode, wp_setGrp]

theorem wp_addRowId (id : Str) (g : Nat) (s : St) (Q : PUnit → St → Prop) :
    wp (addRowId id g) s Q ↔ Q ⟨⟩ { s with rowIds := if id.isEmpty then s.rowIds else (id, g) :: s.rowIds } := by
  unfold addRowId
  split <;> simp [wp_pure, wp_modify, *]

/-- the state after `append_node_group`: `g` is the last child of block `b`, the row id is recorded -/
def appended (s : St) (b : Nat) (cs : List Nat) (g : Nat) (id : Str) : St :=
  { s with groups := s.groups.setIfInBounds b (.block (cs ++ [g])),
           rowIds := if id.isEmpty then s.rowIds else (id, g) :: s.rowIds }

theorem wp_appendGroup (g : Nat) (id : Str) (s : St) (Q : PUnit → St → Prop) :
    wp (appendGroup g id) s Q ↔
      ∀ b rest cs, s.stack = b :: rest → s.groups[b]? = some (.block cs) → Q ⟨⟩ (appended s b cs g id) := by
  unfold appendGroup
  rw [wp_bind, wp_get]
  constructor
  · intro h b rest cs hst hg
    simp only [hst, hg] at h
    rwa [wp_bind, wp_setGrp, wp_addRowId] at h
  · intro h
    split
    · exact (wp_fail _ _ _).mpr trivial
    · rename_i b rest hst
      split
      · rename_i cs hg
        rw [wp_bind, wp_setGrp, wp_addRowId]
        exact h b rest cs hst hg
      · exact (wp_fail _ _ _).mpr trivial

theorem wp_closeGroup (id : Str) (s : St) (Q : PUnit → St → Prop) :
    wp (closeGroup id) s Q ↔
      ∀ b c rest, s.stack = b :: c :: rest → wp (appendGroup b id) { s with stack := c :: rest } Q := by
  unfold closeGroup
  rw [wp_bind, wp_get]
  constructor
  · intro h b c rest hst
    simp only [hst] at h
    rwa [wp_bind, wp_set] at h
  · intro h
    split
    · rename_i b c rest hst
      rw [wp_bind, wp_set]
      exact h b c rest hst
    · exact (wp_fail _ _ _).mpr trivial

theorem wp_openGroup (edges : List Edge) (starting : Bool) (s : St) (Q : PUnit → St → Prop) :
    wp (openGroup edges starting) s Q ↔
      let s1 := { s with groups := s.groups.push (.block []), stack := s.groups.size :: s.stack }
      if starting then Q ⟨⟩ s1 else wp (parseNoop (dropTrivial edges) []) s1 Q := by
  unfold openGroup
  cases starting <;> wp_simp [wp_addGrp] <;> simp

/-! ### operations that only read the state -/

theorem ro_getNode (i : Nat) : ReadOnly (getNode i) := by
  rw [ro_iff]; intro s; rw [wp_getNode]; intros; rfl

theorem ro_getGrp (i : Nat) : ReadOnly (getGrp i) := by
  rw [ro_iff]; intro s; rw [wp_getGrp]; intros; rfl

theorem ro_fuelOf : ReadOnly fuelOf := by
  rw [ro_iff]; intro s; rw [wp_fuelOf]

theorem ro_lookupRow (id : Str) : ReadOnly (lookupRow id) := by
  rw [ro_iff]; intro s; rw [wp_lookupRow]

theorem ro_mostRecent : ReadOnly mostRecent := by
  rw [ro_iff]; intro s; rw [wp_mostRecent]

theorem ro_predGroup (e : Edge) : ReadOnly (predGroup e) := by
  rw [ro_iff]; intro s; rw [wp_predGroup]

theorem ro_groupOfEdge (e : Edge) : ReadOnly (groupOfEdge e) := by
  rw [ro_iff]; intro s; rw [wp_groupOfEdge]
  split
  · rfl
  · split
    · rfl
    · split <;> trivial

theorem wp_entryNode_zero (g : Nat) (s : St) (Q : Nat → St → Prop) : wp (entryNode 0 g) s Q := by
  unfold entryNode; exact (wp_fail _ _ _).mpr trivial

theorem wp_entryNode (f g : Nat) (s : St) (Q : Nat → St → Prop) :
    wp (entryNode (f + 1) g) s Q ↔ ∀ grp, s.groups[g]? = some grp →
      match grp with
      | .row (i :: _) _ => Q i s
      | .block (c :: _) => wp (entryNode f c) s Q
      | _ => True := by
  rw [entryNode, wp_bind, wp_getGrp]
  refine forall_congr' fun grp => imp_congr_right fun _ => ?_
  rcases grp with ⟨_ | _, _⟩ | _ | ⟨_ | _⟩ <;> simp only [List.head?_nil, List.head?_cons, wp_pure, wp_fail]

theorem wp_entryNode_row {s : St} {g i : Nat} {is : List Nat} {ty : Str} (hg : s.groups[g]? = some (.row (i :: is) ty))
    (f : Nat) (Q : Nat → St → Prop) : wp (entryNode (f + 1) g) s Q ↔ Q i s := by
  simp only [wp_entryNode, hg, Option.some.injEq, forall_eq']

theorem ro_entryNode : ∀ fuel g, ReadOnly (entryNode fuel g)
  | 0, g => (ro_iff _).mpr fun s => wp_entryNode_zero g s _
  | fuel + 1, g => by
    rw [ro_iff]; intro s
    rw [wp_entryNode]
    intro grp _
    split
    · rfl
    · exact (ro_iff _).mp (ro_entryNode fuel _) s
    · trivial

end Rpft.Compile
