/-
Relational weakest preconditions for two runs of the compiler machine (partial correctness: the
postcondition is required only when BOTH runs succeed), and the equivariance of the operations
that only draw identifiers (`IdRel`: categories, routers, `add_choice`) under a renaming `ρ` that is
synchronised with the two counters.
-/
import Rpft.Lemmas.CompileInsertRn
import Rpft.Lemmas.CompileInsertOneRun
namespace Rpft.Compile
open Rpft Function

def rwp {α β : Type} (m₁ : M α) (m₂ : M β) (s₁ s₂ : St) (Q : α → St → β → St → Prop) : Prop :=
  ∀ a t₁ b t₂, m₁.run s₁ = .ok (a, t₁) → m₂.run s₂ = .ok (b, t₂) → Q a t₁ b t₂

theorem rwp_iff_wp {α β} (m₁ : M α) (m₂ : M β) (s₁ s₂ : St) (Q : α → St → β → St → Prop) :
    rwp m₁ m₂ s₁ s₂ Q ↔ wp m₁ s₁ (fun a t₁ => wp m₂ s₂ (fun b t₂ => Q a t₁ b t₂)) := by
  simp only [rwp, wp_def]
  constructor
  · intro h a t₁ h1 b t₂ h2; exact h a t₁ b t₂ h1 h2
  · intro h a t₁ b t₂ h1 h2; exact h a t₁ h1 b t₂ h2

theorem rwp_bind_left {α β α'} (m₁ : M α) (m₂ : M β) (f₁ : α → M α') (s₁ s₂ : St)
    (Q : α' → St → β → St → Prop) :
    rwp (m₁ >>= f₁) m₂ s₁ s₂ Q ↔ wp m₁ s₁ (fun a u₁ => rwp (f₁ a) m₂ u₁ s₂ Q) := by
  rw [wp_def]
  constructor
  · intro h a u₁ h1 a' t₁ b t₂ k1 k2
    exact h a' t₁ b t₂ (by rw [run_bind_of h1]; exact k1) k2
  · intro h a' t₁ b t₂ k1 k2
    obtain ⟨a, u₁, h1, k1'⟩ := run_bind_ok k1
    exact h a u₁ h1 a' t₁ b t₂ k1' k2

theorem rwp_bind_right {α β β'} (m₁ : M α) (m₂ : M β) (f₂ : β → M β') (s₁ s₂ : St)
    (Q : α → St → β' → St → Prop) :
    rwp m₁ (m₂ >>= f₂) s₁ s₂ Q ↔ wp m₂ s₂ (fun b u₂ => rwp m₁ (f₂ b) s₁ u₂ Q) := by
  rw [wp_def]
  constructor
  · intro h b u₂ h2 a t₁ b' t₂ k1 k2
    exact h a t₁ b' t₂ k1 (by rw [run_bind_of h2]; exact k2)
  · intro h a t₁ b' t₂ k1 k2
    obtain ⟨b, u₂, h2, k2'⟩ := run_bind_ok k2
    exact h b u₂ h2 a t₁ b' t₂ k1 k2'

theorem rwp_bind {α β α' β'} (m₁ : M α) (m₂ : M β) (f₁ : α → M α') (f₂ : β → M β') (s₁ s₂ : St)
    (Q : α' → St → β' → St → Prop) :
    rwp (m₁ >>= f₁) (m₂ >>= f₂) s₁ s₂ Q ↔
      rwp m₁ m₂ s₁ s₂ (fun a u₁ b u₂ => rwp (f₁ a) (f₂ b) u₁ u₂ Q) := by
  rw [rwp_bind_left, rwp_iff_wp m₁ m₂]
  simp only [rwp_bind_right]

theorem rwp_pure {α β} (a : α) (b : β) (s₁ s₂ : St) (Q : α → St → β → St → Prop) :
    rwp (pure a) (pure b) s₁ s₂ Q ↔ Q a s₁ b s₂ := by
  rw [rwp_iff_wp, wp_pure, wp_pure]

section
variable {α β : Type} {m₁ : M α} {m₂ : M β} {s₁ s₂ : St} {Q : α → St → β → St → Prop}

theorem rwp_mono {Q' : α → St → β → St → Prop} (h : rwp m₁ m₂ s₁ s₂ Q)
    (hq : ∀ a t₁ b t₂, Q a t₁ b t₂ → Q' a t₁ b t₂) : rwp m₁ m₂ s₁ s₂ Q' :=
  fun a t₁ b t₂ h1 h2 => hq _ _ _ _ (h a t₁ b t₂ h1 h2)

theorem rwp_of_run {a : α} {b : β} {u₁ u₂ : St} (h1 : m₁.run s₁ = .ok (a, u₁)) (h2 : m₂.run s₂ = .ok (b, u₂))
    (hq : Q a u₁ b u₂) : rwp m₁ m₂ s₁ s₂ Q := by
  intro a' t₁ b' t₂ k1 k2
  rw [h1] at k1; rw [h2] at k2
  cases k1; cases k2
  exact hq

theorem rwp_of_wp_left {P : α → St → Prop} (h : wp m₁ s₁ P)
    (hq : rwp m₁ m₂ s₁ s₂ (fun a t₁ b t₂ => P a t₁ → Q a t₁ b t₂)) : rwp m₁ m₂ s₁ s₂ Q :=
  fun a t₁ b t₂ h1 h2 => hq a t₁ b t₂ h1 h2 (wp_of_run h h1)

theorem rwp_of_wp_right {P : β → St → Prop} (h : wp m₂ s₂ P)
    (hq : rwp m₁ m₂ s₁ s₂ (fun a t₁ b t₂ => P b t₂ → Q a t₁ b t₂)) : rwp m₁ m₂ s₁ s₂ Q :=
  fun a t₁ b t₂ h1 h2 => hq a t₁ b t₂ h1 h2 (wp_of_run h h2)

end

theorem rwp_and {α β} {m₁ : M α} {m₂ : M β} {s₁ s₂ : St} {Q Q' : α → St → β → St → Prop}
    (h : rwp m₁ m₂ s₁ s₂ Q) (h' : rwp m₁ m₂ s₁ s₂ Q') :
    rwp m₁ m₂ s₁ s₂ (fun a t₁ b t₂ => Q a t₁ b t₂ ∧ Q' a t₁ b t₂) :=
  fun a t₁ b t₂ h1 h2 => ⟨h a t₁ b t₂ h1 h2, h' a t₁ b t₂ h1 h2⟩

theorem rwp_fail_left {α β} {e : Err} {m₂ : M β} {s₁ s₂ : St} {Q : α → St → β → St → Prop} :
    rwp (fail e : M α) m₂ s₁ s₂ Q := by
  intro a t₁ b t₂ h1 _; rw [run_fail] at h1; cases h1

theorem rwp_fail_right {α β} {e : Err} {m₁ : M α} {s₁ s₂ : St} {Q : α → St → β → St → Prop} :
    rwp m₁ (fail e : M β) s₁ s₂ Q := by
  intro a t₁ b t₂ _ h2; rw [run_fail] at h2; cases h2

/-- the two conditions need only be equivalent (the same test, on a value and on its image) -/
theorem rwp_ite {α β : Type} {c₁ c₂ : Prop} [Decidable c₁] [Decidable c₂] {a₁ b₁ : M α} {a₂ b₂ : M β} {s₁ s₂ : St}
    {Q : α → St → β → St → Prop} (ha : c₁ → rwp a₁ a₂ s₁ s₂ Q) (hb : ¬ c₁ → rwp b₁ b₂ s₁ s₂ Q)
    (hc : c₁ ↔ c₂ := by exact Iff.rfl) :
    rwp (if c₁ then a₁ else b₁) (if c₂ then a₂ else b₂) s₁ s₂ Q := by
  by_cases h : c₁
  · rw [if_pos h, if_pos (hc.mp h)]; exact ha h
  · rw [if_neg h, if_neg (mt hc.mpr h)]; exact hb h

theorem rwp_bind_run {α β α' β'} {m₁ : M α} {m₂ : M β} {f₁ : α → M α'} {f₂ : β → M β'} {s₁ s₂ u₁ u₂ : St}
    {a : α} {b : β} {Q : α' → St → β' → St → Prop}
    (h1 : m₁.run s₁ = .ok (a, u₁)) (h2 : m₂.run s₂ = .ok (b, u₂)) (h : rwp (f₁ a) (f₂ b) u₁ u₂ Q) :
    rwp (m₁ >>= f₁) (m₂ >>= f₂) s₁ s₂ Q := by
  intro a' t₁ b' t₂ k1 k2
  rw [run_bind_of h1] at k1
  rw [run_bind_of h2] at k2
  exact h a' t₁ b' t₂ k1 k2

theorem rwp_get {α β : Type} (f₁ : St → M α) (f₂ : St → M β) (s₁ s₂ : St) (Q : α → St → β → St → Prop) :
    rwp (get >>= f₁) (get >>= f₂) s₁ s₂ Q ↔ rwp (f₁ s₁) (f₂ s₂) s₁ s₂ Q := by
  rw [rwp_bind]
  constructor
  · intro h
    exact h s₁ s₁ s₂ s₂ rfl rfl
  · intro h a t₁ b t₂ h1 h2
    cases h1; cases h2
    exact h

theorem rwp_ro {α β} {m₁ : M α} {m₂ : M β} (h₁ : ReadOnly m₁) (h₂ : ReadOnly m₂) (s₁ s₂ : St)
    (Q : α → St → β → St → Prop)
    (hq : ∀ a b, m₁.run s₁ = .ok (a, s₁) → m₂.run s₂ = .ok (b, s₂) → Q a s₁ b s₂) : rwp m₁ m₂ s₁ s₂ Q := by
  intro a t₁ b t₂ k1 k2
  have e1 := h₁ s₁ a t₁ k1
  have e2 := h₂ s₂ b t₂ k2
  subst e1; subst e2
  exact hq a b k1 k2

theorem rwp_skip_right {α β γ : Type} {m₁ : M α} {m : M γ} {k : γ → M β} {s₁ s₂ : St}
    {Q : α → St → β → St → Prop} {c : γ} (hm : wp m s₂ (fun b s' => s' = s₂ ∧ b = c))
    (h : rwp m₁ (k c) s₁ s₂ Q) : rwp m₁ (m >>= k) s₁ s₂ Q := by
  intro a t₁ b t₂ h1 h2
  obtain ⟨c', u, h3, h4⟩ := run_bind_ok h2
  obtain ⟨rfl, rfl⟩ := wp_of_run hm h3
  exact h a t₁ b t₂ h1 h4

theorem rwp_forM {β γ : Type} (I : St → St → Prop) (φ : β → γ) (l : List β) (f₁ : β → M PUnit) (f₂ : γ → M PUnit)
    (h : ∀ x ∈ l, ∀ s₁ s₂, I s₁ s₂ → rwp (f₁ x) (f₂ (φ x)) s₁ s₂ (fun _ t₁ _ t₂ => I t₁ t₂)) :
    ∀ s₁ s₂, I s₁ s₂ → rwp (l.forM f₁) ((l.map φ).forM f₂) s₁ s₂ (fun _ t₁ _ t₂ => I t₁ t₂) := by
  induction l with
  | nil =>
    intro s₁ s₂ hs
    show rwp (pure PUnit.unit) (pure PUnit.unit) s₁ s₂ _
    rw [rwp_pure]; exact hs
  | cons x l ih =>
    intro s₁ s₂ hs
    show rwp (f₁ x >>= fun _ => l.forM f₁) (f₂ (φ x) >>= fun _ => (l.map φ).forM f₂) s₁ s₂ _
    rw [rwp_bind]
    refine rwp_mono (h x (by simp) s₁ s₂ hs) ?_
    intro _ u₁ _ u₂ hu
    exact ih (fun y hy => h y (by simp [hy])) u₁ u₂ hu

theorem rwp_forM_skip {α β : Type} {m₁ : M α} {f : β → M PUnit} {x : β} {l : List β} {s₁ s₂ : St}
    {Q : α → St → PUnit → St → Prop} (hx : wp (f x) s₂ (fun _ s' => s' = s₂))
    (h : rwp m₁ (l.forM f) s₁ s₂ Q) : rwp m₁ ((x :: l).forM f) s₁ s₂ Q := by
  show rwp m₁ (f x >>= fun _ => l.forM f) s₁ s₂ Q
  exact rwp_skip_right (c := PUnit.unit) (wp_mono hx fun _ _ e => ⟨e, rfl⟩) h

/-! ### identifier-only operations -/

variable (ρ : Uid → Uid)

/-- the two counters are synchronised through `ρ`, and both runs use the same test tables -/
structure IdSync (s₁ s₂ : St) : Prop where
  noArgs : s₂.noArgs = s₁.noArgs
  testTypes : s₂.testTypes = s₁.testTypes
  ids : ∀ k, ρ (tid (s₁.next + k)) = tid (s₂.next + k)

/-- both runs moved only their counters, by the same amount -/
def Bumps (s₁ t₁ s₂ t₂ : St) : Prop :=
  ∃ k, t₁ = { s₁ with next := s₁.next + k } ∧ t₂ = { s₂ with next := s₂.next + k }

variable {ρ}

theorem Bumps.refl (s₁ s₂ : St) : Bumps s₁ s₁ s₂ s₂ := ⟨0, rfl, rfl⟩

theorem Bumps.trans {s₁ t₁ u₁ s₂ t₂ u₂ : St} (h : Bumps s₁ t₁ s₂ t₂) (h' : Bumps t₁ u₁ t₂ u₂) :
    Bumps s₁ u₁ s₂ u₂ := by
  obtain ⟨k, rfl, rfl⟩ := h
  obtain ⟨k', rfl, rfl⟩ := h'
  exact ⟨k + k', by simp [Nat.add_assoc], by simp [Nat.add_assoc]⟩

theorem IdSync.bumps {s₁ t₁ s₂ t₂ : St} (h : IdSync ρ s₁ s₂) (hb : Bumps s₁ t₁ s₂ t₂) : IdSync ρ t₁ t₂ := by
  obtain ⟨k, rfl, rfl⟩ := hb
  refine ⟨h.noArgs, h.testTypes, ?_⟩
  intro j
  have := h.ids (k + j)
  simpa [Nat.add_assoc] using this

variable (ρ)

/-- `m₁` and `m₂` draw the same number of identifiers and return `ρ`-related values -/
def IdRel {α : Type} (rn : α → α) (m₁ m₂ : M α) : Prop :=
  ∀ s₁ s₂, IdSync ρ s₁ s₂ → rwp m₁ m₂ s₁ s₂ (fun a t₁ b t₂ => b = rn a ∧ Bumps s₁ t₁ s₂ t₂)

variable {ρ}

theorem IdRel.pure {α} {rn : α → α} {a b : α} (h : b = rn a) : IdRel ρ rn (pure a) (pure b) := by
  intro s₁ s₂ _
  rw [rwp_pure]
  exact ⟨h, Bumps.refl _ _⟩

theorem IdRel.bind {α β} {rnA : α → α} {rnB : β → β} {m₁ m₂ : M α} {f₁ f₂ : α → M β}
    (h : IdRel ρ rnA m₁ m₂) (hf : ∀ a, IdRel ρ rnB (f₁ a) (f₂ (rnA a))) :
    IdRel ρ rnB (m₁ >>= f₁) (m₂ >>= f₂) := by
  intro s₁ s₂ hs
  rw [rwp_bind]
  refine rwp_mono (h s₁ s₂ hs) ?_
  rintro a u₁ b u₂ ⟨hb, hbu⟩
  subst hb
  refine rwp_mono (hf a u₁ u₂ (hs.bumps hbu)) ?_
  rintro a' t₁ b' t₂ ⟨hb', hbt⟩
  exact ⟨hb', hbu.trans hbt⟩

theorem IdRel.fail_left {α} {rn : α → α} {e : Err} {m₂ : M α} : IdRel ρ rn (fail e) m₂ :=
  fun _ _ _ => rwp_fail_left

theorem IdRel.fail_right {α} {rn : α → α} (e : Err) (m₁ : M α) : IdRel ρ rn m₁ (fail e) :=
  fun _ _ _ => rwp_fail_right

theorem IdRel.fresh : IdRel ρ ρ fresh fresh := by
  intro s₁ s₂ hs
  rw [rwp_iff_wp, wp_fresh]
  rw [wp_fresh]
  refine ⟨?_, 1, rfl, rfl⟩
  have := hs.ids 0
  simpa using this.symm

/-- reading the state: only the test tables may be used -/
theorem IdRel.get {α} {rn : α → α} {f₁ f₂ : St → M α}
    (h : ∀ a b : St, b.noArgs = a.noArgs → b.testTypes = a.testTypes → IdRel ρ rn (f₁ a) (f₂ b)) :
    IdRel ρ rn (get >>= f₁) (get >>= f₂) := by
  intro s₁ s₂ hs
  rw [rwp_get]
  exact h s₁ s₂ hs.noArgs hs.testTypes s₁ s₂ hs

theorem IdRel.ite {α} {rn : α → α} {c : Prop} [Decidable c] {a₁ b₁ a₂ b₂ : M α}
    (ha : c → IdRel ρ rn a₁ a₂) (hb : ¬ c → IdRel ρ rn b₁ b₂) :
    IdRel ρ rn (if c then a₁ else b₁) (if c then a₂ else b₂) :=
  fun s₁ s₂ hs => rwp_ite (fun h => ha h s₁ s₂ hs) (fun h => hb h s₁ s₂ hs)

theorem IdRel.congr {α} {rn : α → α} {m₁ m₂ m₁' m₂' : M α} (h : IdRel ρ rn m₁' m₂')
    (e₁ : m₁ = m₁') (e₂ : m₂ = m₂') : IdRel ρ rn m₁ m₂ := by
  rw [e₁, e₂]; exact h

theorem IdRel.same {α : Type} {rn : α → α} {m m' : M α} (h : IdRel id rn m m') {s t : St} {a b : α} {k k' : Nat}
    (h1 : m.run s = .ok (a, { s with next := s.next + k })) (h2 : m'.run t = .ok (b, { t with next := t.next + k' }))
    (hs : IdSync id s t) : b = rn a ∧ k' = k := by
  obtain ⟨hb, k'', e1, e2⟩ := h s t hs a _ b _ h1 h2
  have e1 := congrArg St.next e1
  have e2 := congrArg St.next e2
  exact ⟨hb, (Nat.add_left_cancel e2).trans (Nat.add_left_cancel e1).symm⟩

theorem mkCat_rel {name : Str} {dest : Dest} :
    IdRel ρ (rnCat ρ) (mkCat name dest) (mkCat name (rnDest ρ dest)) := by
  unfold mkCat
  refine IdRel.bind IdRel.fresh fun u => IdRel.bind IdRel.fresh fun e => IdRel.pure rfl

theorem newSwitch_rel {operand : Str} {rn : Option Str} {wait : Option Nat} :
    IdRel ρ (rnSw ρ) (newSwitch operand rn wait) (newSwitch operand rn wait) := by
  unfold newSwitch
  refine IdRel.bind mkCat_rel fun d => ?_
  rcases wait with _ | _ | n
  · exact IdRel.bind (rnA := Option.map (rnCat ρ)) (IdRel.pure rfl) fun nr => IdRel.pure rfl
  · exact IdRel.bind (rnA := Option.map (rnCat ρ)) (IdRel.pure rfl) fun nr => IdRel.pure rfl
  · exact IdRel.bind mkCat_rel fun c =>
      IdRel.bind (rnA := Option.map (rnCat ρ)) (IdRel.pure rfl) fun nr => IdRel.pure rfl

theorem choiceCat_rel (h : Injective ρ) {r : SwitchR} {name : Str} {dest : Dest} {isDefault : Bool} :
    IdRel ρ (fun p : SwitchR × Uid => (rnSw ρ p.1, ρ p.2)) (choiceCat r name dest isDefault)
      (choiceCat (rnSw ρ r) name (rnDest ρ dest) isDefault) := by
  unfold choiceCat
  cases isDefault with
  | true =>
    simp only [if_true]
    exact IdRel.pure (by simp [rnSw, rnCat])
  | false =>
    simp only [Bool.false_eq_true, if_false, rnSw_catByName]
    cases hc : r.catByName name with
    | some c =>
      simp only [Option.map_some]
      exact IdRel.pure (by simp [rnSw_setDest h])
    | none =>
      simp only [Option.map_none]
      refine IdRel.ite (fun _ => IdRel.fail_left) fun _ => ?_
      refine IdRel.bind mkCat_rel fun c => IdRel.pure ?_
      simp [rnSw]

theorem choiceCase_rel {r : SwitchR} {type : Str} {stored : List (Option Str)} {catUid : Uid} :
    IdRel ρ (rnSw ρ) (choiceCase r type stored catUid) (choiceCase (rnSw ρ r) type stored (ρ catUid)) := by
  unfold choiceCase
  refine IdRel.get fun a b h1 h2 => ?_
  rw [h2]
  refine IdRel.ite (fun _ => ?_) (fun _ => IdRel.fail_left)
  refine IdRel.bind IdRel.fresh fun ku => IdRel.pure ?_
  simp [rnSw, rnCase]

theorem addChoice_rel (h : Injective ρ) {r : SwitchR} {var type : Str} {args : List (Option Str)}
    {catName : Str} {dest : Dest} {isDefault : Bool} :
    IdRel ρ (rnSw ρ) (addChoice r var type args catName dest isDefault)
      (addChoice (rnSw ρ r) var type args catName (rnDest ρ dest) isDefault) := by
  unfold addChoice
  refine IdRel.get fun a b h1 h2 => ?_
  rw [h1]
  have hr : (if var.isEmpty = true then rnSw ρ r else { rnSw ρ r with operand := var }) =
      rnSw ρ (if var.isEmpty = true then r else { r with operand := var }) := by
    split <;> rfl
  simp only [hr]
  generalize (if var.isEmpty = true then r else { r with operand := var }) = r'
  generalize (if a.noArgs.contains type = true then [] else args) = stored
  rw [rnSw_findCase r' (fun k => decide (k.type = type ∧ k.args = stored))
    (fun k => decide (k.type = type ∧ k.args = stored)) (fun k => rfl)]
  cases hk : r'.cases.find? (fun k => decide (k.type = type ∧ k.args = stored)) with
  | some k =>
    simp only [Option.map_some]
    have e : (rnSw ρ r').allCats.find? (·.uid = (rnCase ρ k).catUid) =
        (r'.allCats.find? (·.uid = k.catUid)).map (rnCat ρ) := rnSw_findCatUid h r' k.catUid
    rw [e]
    cases hc : r'.allCats.find? (·.uid = k.catUid) with
    | none => exact IdRel.fail_left
    | some c =>
      simp only [Option.map_some]
      exact IdRel.pure (rnSw_setDest h _ _ _)
  | none =>
    simp only [Option.map_none, rnSw_genCatName]
    refine IdRel.bind (choiceCat_rel h) fun rc => ?_
    exact choiceCase_rel

theorem randomAddChoice_rel (h : Injective ρ) {r : RandomR} {name : Str} {dest : Dest} :
    IdRel ρ (rnRnd ρ) (randomAddChoice r name dest) (randomAddChoice (rnRnd ρ r) name (rnDest ρ dest)) := by
  unfold randomAddChoice
  simp only [rnRnd_cats, List.length_map]
  generalize (if name.isEmpty = true then "Bucket ".toList ++ natStr (r.cats.length + 2) else name) = nm
  rw [find?_map_rnCat (fun c => decide (c.name = nm)) (fun c => decide (c.name = nm)) (fun c => rfl)]
  cases hc : r.cats.find? (fun c => decide (c.name = nm)) with
  | some c =>
    simp only [Option.map_some]
    refine IdRel.pure ?_
    simp only [rnRnd, List.map_map, rnCat_uid]
    congr 1
    apply List.map_congr_left
    intro c' _
    simp only [Function.comp]
    by_cases hcu : c'.uid = c.uid
    · simp [hcu, rnCat]
    · have : ρ c'.uid ≠ ρ c.uid := fun e => hcu (h e)
      simp [hcu, this]
  | none =>
    simp only [Option.map_none]
    refine IdRel.bind mkCat_rel fun c => IdRel.pure ?_
    simp [rnRnd]

end Rpft.Compile
