/-
Lemmas for the action codec (`Rpft/ActionCodec.lean`): dictionaries built from pair lists (through `Rpft.Dict`), the
pair-list codec, amounts, row-type dispatch, the media columns, group lists; then what the compile side makes of
any row of each type the exporter writes (`ofFields_…`), what each action kind comes back as (`roundTrip_…`), and
`roundTrip_iff_expressible`.
-/
import Rpft.ActionCodec
import Rpft.Lemmas.Codec
import Rpft.Lemmas.Dict
namespace Rpft.ActionCodec
open Rpft

theorem filter_ne_nil_eq_self {l : List Str} : l.filter (· ≠ []) = l ↔ [] ∉ l := by
  rw [List.filter_eq_self]
  constructor
  · intro h hm
    simpa using h [] hm
  · intro h a ha
    have : a ≠ [] := fun e => h (e ▸ ha)
    simpa using this

theorem nil_not_mem_filter (l : List Str) : [] ∉ l.filter (· ≠ []) := by
  simp [List.mem_filter]

theorem prefix_append_drop {p a : Str} (h : p.isPrefixOf a = true) : p ++ a.drop p.length = a :=
  List.prefix_iff_eq_append.1 (List.isPrefixOf_iff_prefix.1 h)

/-- `dictSet` / `dictOfPairs` are `Dict.set` / `Dict.ofList` at key type `Str` (the same recursion): what a
dictionary built from pairs is comes from `Lemmas/Dict.lean` -/
theorem dictOfPairs_eq_ofList {V : Type} (l : List (Str × V)) : dictOfPairs l = Dict.ofList l := by
  have : @dictSet V = Dict.set := by
    funext d k v
    induction d with
    | nil => rfl
    | cons kv d ih => simp only [dictSet, Dict.set, ih]
  unfold dictOfPairs Dict.ofList Dict.update
  rw [this]

theorem dictOfPairs_keysNodup {V : Type} (l : List (Str × V)) : KeysNodup (dictOfPairs l) :=
  dictOfPairs_eq_ofList l ▸ Dict.nodup_ofList l

theorem dictOfPairs_eq_self {V : Type} {l : List (Str × V)} : dictOfPairs l = l ↔ KeysNodup l :=
  ⟨fun h => h ▸ dictOfPairs_keysNodup l, fun h => (dictOfPairs_eq_ofList l).trans (Dict.ofList_of_nodup h)⟩

theorem mapM_asPair_pairs {V : Type} (f : V → Str) (l : List (Str × V)) :
    (l.map fun kv => Item.list [kv.1, f kv.2]).mapM Item.asPair = some (l.map fun kv => (kv.1, f kv.2)) := by
  induction l with
  | nil => rfl
  | cons kv l ih => simp [List.mapM_cons, Item.asPair, ih]

theorem pairsToDict_pairs {V : Type} (f : V → Str) (l : List (Str × V)) :
    pairsToDict (l.map fun kv => Item.list [kv.1, f kv.2]) = .ok (dictOfPairs (l.map fun kv => (kv.1, f kv.2))) := by
  unfold pairsToDict
  rw [if_neg (by cases l <;> simp), mapM_asPair_pairs]

theorem pairsToDict_dictToPairs (h : List (Str × Str)) : pairsToDict (dictToPairs h) = .ok (dictOfPairs h) := by
  have := pairsToDict_pairs (V := Str) id h
  rwa [show (h.map fun kv => (kv.1, id kv.2)) = h by simp] at this

theorem parseAmount_print (a : Amount) : parseAmount a.print = some a ↔ a.WellFormed := by
  cases a with
  | int i => simp [parseAmount, Amount.print, Row.pyInt_printInt, Amount.WellFormed]
  | float r =>
    cases h : Row.pyInt r <;> by_cases hf : pyFloatSyntax r = true <;>
      simp [parseAmount, Amount.print, Amount.WellFormed, h, hf]

theorem mapM_parse_print {l : List (Str × Amount)} :
    (l.map fun kv => (kv.1, kv.2.print)).mapM (fun kv => (parseAmount kv.2).map fun a => (kv.1, a)) = some l ↔
      ∀ kv ∈ l, kv.2.WellFormed := by
  induction l with
  | nil => simp
  | cons x l ih =>
    rw [List.forall_mem_cons, ← ih, ← parseAmount_print]
    simp only [List.map_cons, List.mapM_cons]
    cases parseAmount x.2.print <;>
      cases (l.map fun kv => (kv.1, kv.2.print)).mapM (fun kv => (parseAmount kv.2).map fun a => (kv.1, a)) <;>
      simp [Prod.ext_iff]

theorem mapM_parse_keys {d : List (Str × Str)} {l : List (Str × Amount)}
    (h : d.mapM (fun kv => (parseAmount kv.2).map fun a => (kv.1, a)) = some l) :
    l.map (·.1) = d.map (·.1) := by
  induction d generalizing l with
  | nil => simp at h; subst h; rfl
  | cons kv d ih =>
    simp only [List.mapM_cons, Option.bind_eq_bind, Option.bind_eq_some_iff, Option.map_eq_some_iff] at h
    obtain ⟨_, ⟨a, -, rfl⟩, l', hl, h⟩ := h
    simp at h
    subst h
    simp [ih hl]

theorem keysNodup_print {l : List (Str × Amount)} (h : KeysNodup l) :
    KeysNodup (l.map fun kv => (kv.1, kv.2.print)) := by
  unfold KeysNodup at *
  simpa [List.map_map, Function.comp_def] using h

theorem amounts_back {amounts : List (Str × Amount)} :
    (dictOfPairs (amounts.map fun kv => (kv.1, kv.2.print))).mapM
        (fun kv => (parseAmount kv.2).map fun a => (kv.1, a)) = some amounts ↔
      KeysNodup amounts ∧ ∀ kv ∈ amounts, kv.2.WellFormed := by
  constructor
  · intro hm
    have hnd : KeysNodup amounts := by
      unfold KeysNodup
      rw [mapM_parse_keys hm]
      exact dictOfPairs_keysNodup _
    rw [dictOfPairs_eq_self.2 (keysNodup_print hnd)] at hm
    exact ⟨hnd, mapM_parse_print.1 hm⟩
  · rintro ⟨hnd, hw⟩
    rw [dictOfPairs_eq_self.2 (keysNodup_print hnd)]
    exact mapM_parse_print.2 hw

theorem dispatch_exported :
    (classify rSendMessage = .sendMessage ∧ classifyNode rSendMessage = .other) ∧
    (classify rSaveValue = .saveValue ∧ classifyNode rSaveValue = .other) ∧
    (classify rAddToGroup = .addToGroup ∧ classifyNode rAddToGroup = .other) ∧
    (classify tAddContactUrn = .addContactUrn ∧ classifyNode tAddContactUrn = .other) ∧
    (classify rRemoveFromGroup = .removeFromGroup ∧ classifyNode rRemoveFromGroup = .other) ∧
    (classify rSaveFlowResult = .saveFlowResult ∧ classifyNode rSaveFlowResult = .other) ∧
    (classify rStartNewFlow = .noAction ∧ classifyNode rStartNewFlow = .enterFlow) ∧
    (classify tCallWebhook = .noAction ∧ classifyNode tCallWebhook = .callWebhook) ∧
    (classify tTransferAirtime = .noAction ∧ classifyNode tTransferAirtime = .transferAirtime) := by
  decide +kernel

theorem append_ne_of_not_prefix {p w : Str} (h : p.isPrefixOf w = false) (s : Str) : p ++ s ≠ w := by
  rintro rfl
  rw [List.isPrefixOf_iff_prefix.mpr (List.prefix_append p s)] at h
  cases h

theorem dispatch_words_not_setContact :
    ∀ w ∈ [rSendMessage, rSaveValue, rAddToGroup, tAddContactUrn, rRemoveFromGroup, rSaveFlowResult,
      rStartNewFlow, tCallWebhook, tTransferAirtime], setContactPrefix.isPrefixOf w = false := by
  -- the kernel decodes a string literal byte by byte: the literals are spelt as character lists first
  unfold rSendMessage rSaveValue rAddToGroup tAddContactUrn rRemoveFromGroup rSaveFlowResult rStartNewFlow
    tCallWebhook tTransferAirtime setContactPrefix
  repeat rw [String.toList_ofList]
  decide +kernel

/-- `row.type.startswith("set_contact_")`: whatever follows the prefix -/
theorem classify_setContact (s : Str) :
    classify (setContactPrefix ++ s) = .setContact ∧ classifyNode (setContactPrefix ++ s) = .other := by
  have ne := fun w hw => append_ne_of_not_prefix (dispatch_words_not_setContact w hw) s
  simp only [List.forall_mem_cons] at ne
  obtain ⟨h1, h2, h3, h4, h5, h6, h7, h8, h9, -⟩ := ne
  have hp : setContactPrefix.isPrefixOf (setContactPrefix ++ s) = true := by
    simp [List.isPrefixOf_iff_prefix]
  simp only [classify, classifyNode, h1, h2, h3, h4, h5, h6, h7, h8, h9, hp, if_false, if_true, and_self]

theorem contactProp_of_rowType (p : ContactProp) :
    ContactProp.ofStr (removeAll setContactPrefix 0 (setContactPrefix ++ p.str)) = some p := by
  -- one evaluation for the five words: one by one, each spells `set_contact_` out again
  have : ∀ p ∈ [ContactProp.channel, .language, .name, .status, .timezone],
      ContactProp.ofStr (removeAll setContactPrefix 0 (setContactPrefix ++ p.str)) = some p := by decide +kernel
  exact this p (by cases p <;> simp)

theorem splitMedia_spec (atts : List Str) :
    splitMedia atts = (none, [], atts) ∧ MediaOk atts ∨
    ∃ a t, atts = [a] ∧ t ∈ mediaKinds ∧ (t ++ [':']).isPrefixOf a = true ∧
      mediaKindOf a = some t ∧ splitMedia atts = (some t, a.drop mediaCut, []) := by
  fun_cases splitMedia atts with
  | case1 a t h =>
    exact .inr ⟨a, t, rfl, List.mem_of_find?_eq_some h, by simpa using List.find?_some h, h, rfl⟩
  | case2 a h => exact .inl ⟨rfl, fun hk => absurd h hk⟩
  | case3 atts h =>
    refine .inl ⟨rfl, ?_⟩
    unfold MediaOk
    split
    · exact absurd rfl (h _)
    · trivial

theorem strip_nil : strip pyWs [] = [] := rfl

/-- `r` has the media columns `toFields` writes for a lone attachment of kind `k` with payload `p` (`none`: no
column is used) -/
structure MediaCols (k : Option Str) (p : Str) (r : RowFields) : Prop where
  image : r.image = if k = some "image".toList then p else []
  audio : r.audio = if k = some "audio".toList then p else []
  video : r.video = if k = some "video".toList then p else []

theorem mediaAttachments_none {p : Str} {r : RowFields} (h : MediaCols none p r) : mediaAttachments r = [] := by
  unfold mediaAttachments
  rw [h.image, h.audio, h.video]
  simp [mediaKinds, strip_nil]

theorem mediaKinds_cut : ∀ t ∈ mediaKinds, (t ++ [':']).length = mediaCut := by decide +kernel

theorem mediaAttachments_col {t payload : Str} (ht : t ∈ mediaKinds) {r : RowFields} (h : MediaCols (some t) payload r) :
    mediaAttachments r = if strip pyWs payload ≠ [] then [t ++ ':' :: strip pyWs payload] else [] := by
  unfold mediaAttachments
  rw [h.image, h.audio, h.video]
  simp only [mediaKinds, List.mem_cons, List.mem_nil_iff, or_false] at ht
  rcases ht with rfl | rfl | rfl <;>
    by_cases hp : strip pyWs payload = [] <;>
    simp [mediaKinds, List.zip, List.filterMap, strip_nil, hp]

/-- `hm` … `hg`: `r` has the media columns and the attachment list `toFields` writes for `atts` -/
theorem attachments_back {atts : List Str} {r : RowFields} {m : Option Str × Str × List Str}
    (hm : splitMedia (atts.filter (· ≠ [])) = m) (hc : MediaCols m.1 m.2.1 r) (hg : r.attachments = m.2.2) :
    (mediaAttachments r ++ r.attachments).filter (· ≠ []) = atts ↔ [] ∉ atts ∧ MediaOk atts := by
  subst hm
  have hne : (mediaAttachments r ++ r.attachments).filter (· ≠ []) = atts → [] ∉ atts :=
    fun h => h ▸ nil_not_mem_filter _
  suffices h : [] ∉ atts → ((mediaAttachments r ++ r.attachments).filter (· ≠ []) = atts ↔ MediaOk atts) from
    ⟨fun e => ⟨hne e, (h (hne e)).1 e⟩, fun e => (h e.1).2 e.2⟩
  intro hn
  have hf := filter_ne_nil_eq_self.2 hn
  rw [hf] at hc hg
  rcases splitMedia_spec atts with ⟨hs, hok⟩ | ⟨a, t, rfl, htk, hpre, hkind, hs⟩
  · -- generic attachment list
    rw [hs] at hc hg
    rw [mediaAttachments_none hc, hg,
      List.nil_append, hf, eq_self, true_iff]
    exact hok
  · -- a lone media attachment: back with its payload stripped
    rw [hs] at hc hg
    rw [mediaAttachments_col htk hc, hg, List.append_nil]
    have hback : t ++ ':' :: a.drop mediaCut = a := by
      have := prefix_append_drop hpre
      rw [mediaKinds_cut t htk] at this
      simpa using this
    have hkn : mediaKindOf a ≠ none := by simp [hkind]
    have hmk : MediaOk [a] ↔ strip pyWs (a.drop mediaCut) = a.drop mediaCut ∧ a.drop mediaCut ≠ [] :=
      ⟨fun h => h hkn, fun h _ => h⟩
    rw [hmk]
    by_cases hp : strip pyWs (a.drop mediaCut) = []
    · simp only [ne_eq, hp, not_true_eq_false, if_false, List.filter_nil, List.nil_eq, reduceCtorEq, false_iff]
      exact fun ⟨h1, h2⟩ => h2 h1
    · have hne' : t ++ ':' :: strip pyWs (List.drop mediaCut a) ≠ [] := by simp
      simp only [ne_eq, hp, not_false_eq_true, if_true, List.filter_cons, hne', decide_true,
        List.filter_nil, List.cons.injEq, and_true]
      constructor
      · intro h
        have hs' : strip pyWs (a.drop mediaCut) = a.drop mediaCut := by
          have := List.append_cancel_left (h.trans hback.symm)
          simpa using this
        exact ⟨hs', hs' ▸ hp⟩
      · rintro ⟨h1, -⟩
        rw [h1, hback]

theorem waToTempl_templToWa {t : Option Templating} : waToTempl (templToWa t) = t ↔ TemplOk t := by
  cases t with
  | none => exact ⟨fun _ => trivial, fun _ => rfl⟩
  | some t =>
    by_cases h : t.name = [] <;> simp [templToWa, waToTempl, TemplOk, h]

theorem groupOf_back {g : GroupRef} (h : g.Expressible) : groupOf g.name (g.uuid.getD []) = g := by
  obtain ⟨hu, ha⟩ := h
  obtain ⟨name, uuid, attrs⟩ := g
  simp only at hu ha
  subst ha
  cases uuid with
  | none => simp [groupOf]
  | some u =>
    have : u ≠ [] := fun e => hu (by rw [e])
    simp [groupOf, this]

theorem recordedUuid_nameOnly (ms : List Str) (name : Str) :
    recordedUuid (ms.map fun m => groupOf m []) name = none := by
  induction ms with
  | nil => rfl
  | cons m ms ih =>
    simp only [List.map_cons, recordedUuid]
    rw [ih]
    simp [groupOf]

theorem recordedUuid_rowGroups (n o : Str) (ms : List Str) (name : Str) :
    recordedUuid (groupOf n o :: ms.map fun m => groupOf m []) name =
      if n = name then (groupOf n o).uuid else none := by
  simp only [recordedUuid, recordedUuid_nameOnly]
  by_cases ho : o = []
  · simp [groupOf, ho]
  · by_cases hn : n = name <;> simp [groupOf, ho, hn]

/-- the groups a row gives back, after the dictionary: the first with `obj_id`, every further
non-blank name without attributes, with the first group's uuid if it has the first group's name -/
def backGroups (g0 : GroupRef) (rest : List GroupRef) : List GroupRef :=
  groupOf g0.name (g0.uuid.getD []) ::
    ((rest.map (·.name)).filter (· ≠ [])).map fun m =>
      { name := m, uuid := if g0.name = m then (groupOf g0.name (g0.uuid.getD [])).uuid else none, attrs := false }

theorem resolve_rowGroups (n o : Str) (ms : List Str) :
    resolveGroups (groupOf n o :: ms.map fun m => groupOf m []) =
      groupOf n o :: ms.map fun m => { name := m, uuid := if n = m then (groupOf n o).uuid else none, attrs := false } := by
  unfold resolveGroups
  rw [List.map_cons, List.map_map]
  congr 1
  · rw [recordedUuid_rowGroups]; simp [groupOf]
  · apply List.map_congr_left
    intro m _
    simp only [Function.comp, recordedUuid_rowGroups]
    simp [groupOf]

theorem names_nonblank {rest : List GroupRef} (h : ∀ g ∈ rest, g.name ≠ []) :
    (rest.map (·.name)).filter (· ≠ []) = rest.map (·.name) :=
  filter_ne_nil_eq_self.2 fun hm =>
    have ⟨g, hg, e⟩ := List.mem_map.mp hm
    h g hg e

theorem backGroups_map_name (g0 : GroupRef) (rest : List GroupRef) (h : ∀ g ∈ rest, g.name ≠ []) :
    (backGroups g0 rest).map (·.name) = (g0 :: rest).map (·.name) := by
  simp only [backGroups, names_nonblank h, List.map_cons, List.map_map, groupOf]
  congr 1

/-- every name comes back, in order, for any first group and named further groups -/
theorem backGroups_names (g0 : GroupRef) (rest : List GroupRef) (h : ∀ g ∈ rest, g.TailOk) :
    (backGroups g0 rest).map (·.name) = (g0 :: rest).map (·.name) :=
  backGroups_map_name g0 rest fun g hg => (h g hg).1

theorem groupOf_expressible (name objId : Str) : (groupOf name objId).Expressible := by
  unfold groupOf GroupRef.Expressible
  by_cases e : objId = [] <;> simp [e]

theorem backGroups_forget_iff {g0 : GroupRef} {rest : List GroupRef} :
    forgetTail (backGroups g0 rest) = forgetTail (g0 :: rest) ↔ GroupsOkModTailUuids (g0 :: rest) := by
  constructor
  · intro h
    simp only [backGroups, forgetTail, List.cons.injEq, List.map_map] at h
    obtain ⟨h1, h2⟩ := h
    refine ⟨h1 ▸ groupOf_expressible _ _, ?_⟩
    intro g hg
    have hm : ({ g with uuid := none } : GroupRef) ∈ rest.map fun g => { g with uuid := none } :=
      List.mem_map.mpr ⟨g, hg, rfl⟩
    rw [← h2] at hm
    obtain ⟨m, hmem, hme⟩ := List.mem_map.mp hm
    have hne : m ≠ [] := by simpa using (List.mem_filter.mp hmem).2
    simp only [Function.comp, GroupRef.mk.injEq] at hme
    obtain ⟨hn, _, ha⟩ := hme
    exact ⟨by rw [← hn]; exact hne, ha.symm⟩
  · rintro ⟨h0, ht⟩
    simp only [backGroups, forgetTail, names_nonblank (fun g hg => (ht g hg).1), groupOf_back h0, List.map_map]
    congr 1
    apply List.map_congr_left
    intro g hg
    obtain ⟨_, ha⟩ := ht g hg
    obtain ⟨name, uuid, attrs⟩ := g
    simp only at ha
    subst ha
    rfl

theorem backGroups_eq_iff {g0 : GroupRef} {rest : List GroupRef} :
    backGroups g0 rest = g0 :: rest ↔ GroupsOk (g0 :: rest) := by
  constructor
  · intro h
    have hmod : GroupsOkModTailUuids (g0 :: rest) := backGroups_forget_iff.1 (by rw [h])
    refine ⟨hmod, ?_⟩
    simp only [backGroups, names_nonblank (fun g hg => (hmod.2 g hg).1), List.cons.injEq, List.map_map] at h
    obtain ⟨h1, h2⟩ := h
    intro g hg
    rw [← h2] at hg
    obtain ⟨g', hg', he⟩ := List.mem_map.mp hg
    simp only [Function.comp, h1] at he
    subst he
    simp only [tailUuid]
    by_cases e : g0.name = g'.name
    · simp [e]
    · have e' : ¬ g'.name = g0.name := fun x => e x.symm
      simp [e, e']
  · rintro ⟨⟨h0, ht⟩, hu⟩
    simp only [backGroups, names_nonblank (fun g hg => (ht g hg).1), groupOf_back h0, List.map_map]
    congr 1
    conv => rhs; rw [← List.map_id rest]
    apply List.map_congr_left
    intro g hg
    obtain ⟨_, ha⟩ := ht g hg
    have hu' := hu g hg
    obtain ⟨name, uuid, attrs⟩ := g
    simp only [tailUuid] at ha hu'
    subst ha
    rw [hu']
    simp only [Function.comp, id, GroupRef.mk.injEq, and_true, true_and]
    by_cases e : g0.name = name
    · simp [e]
    · have e' : ¬ name = g0.name := fun x => e x.symm
      simp [e, e']

theorem ofFields_eq_ok_of_other {r : RowFields} {a : Act} (h : classifyNode r.type = .other) :
    ofFields r = .ok [a] ↔ rowAction r = .ok (some a) := by
  simp only [ofFields, rowNodeAction, h]
  cases rowAction r with
  | error e => simp
  | ok x => cases x <;> simp

theorem ofFields_sendMessage {r : RowFields} (h : r.type = rSendMessage) :
    ofFields r = if r.mainargMessageText = [] then .error .emptyText else
      .ok [.sendMsg r.mainargMessageText ((mediaAttachments r ++ r.attachments).filter (· ≠ []))
        (r.choices.filter (· ≠ [])) false [] (waToTempl r.waTemplate)] := by
  simp only [ofFields, rowAction, rowNodeAction, h, dispatch_exported]
  by_cases ht : r.mainargMessageText = [] <;> simp only [if_pos, if_neg, ht, not_false_eq_true, Option.toList, List.nil_append]

theorem ofFields_saveValue {r : RowFields} (h : r.type = rSaveValue) :
    ofFields r = match fieldKey r.saveName with
      | .error e => .error e
      | .ok key =>
        if r.mainargValue.length > maxFieldValue then .error .valueTooLong
        else .ok [.setContactField r.saveName key [] r.mainargValue] := by
  simp only [ofFields, rowAction, rowNodeAction, h, dispatch_exported]
  cases fieldKey r.saveName with
  | error e => rfl
  | ok key =>
    by_cases hv : r.mainargValue.length > maxFieldValue <;> simp only [hv, if_true, if_false, Option.toList, List.nil_append]

theorem ofFields_setContact {r : RowFields} {s : Str} (h : r.type = setContactPrefix ++ s) :
    ofFields r = match ContactProp.ofStr (removeAll setContactPrefix 0 r.type) with
      | none => .error .unknownProp
      | some p => if r.mainargValue = [] then .error .emptyValue else .ok [.setContactProp p r.mainargValue] := by
  have hc := classify_setContact s
  rw [← h] at hc
  simp only [ofFields, rowAction, rowNodeAction, hc.1, hc.2]
  cases ContactProp.ofStr (removeAll setContactPrefix 0 r.type) with
  | none => rfl
  | some p =>
    by_cases hv : r.mainargValue = [] <;> simp only [if_pos, if_neg, hv, not_false_eq_true, Option.toList, List.nil_append]

theorem ofFields_addToGroup {r : RowFields} (h : r.type = rAddToGroup) :
    ofFields r = match rowGroups r.mainargGroups r.objId with
      | .error e => .error e
      | .ok gs => .ok [.addGroups (resolveGroups gs)] := by
  simp only [ofFields, rowAction, rowNodeAction, h, dispatch_exported]
  cases rowGroups r.mainargGroups r.objId <;> rfl

theorem ofFields_removeFromGroup {r : RowFields} (h : r.type = rRemoveFromGroup) :
    ofFields r = match rowGroups r.mainargGroups r.objId with
      | .error e => .error e
      | .ok gs => .ok [.removeGroups (resolveGroups gs) false] := by
  simp only [ofFields, rowAction, rowNodeAction, h, dispatch_exported]
  cases rowGroups r.mainargGroups r.objId <;> rfl

theorem ofFields_addContactUrn {r : RowFields} (h : r.type = tAddContactUrn) :
    ofFields r =
      .ok [.addContactUrn r.mainargValue (if r.urnScheme ≠ [] then r.urnScheme else defaultScheme)] := by
  simp only [ofFields, rowAction, rowNodeAction, h, dispatch_exported,
    Option.toList, List.nil_append]

theorem ofFields_saveFlowResult {r : RowFields} (h : r.type = rSaveFlowResult) :
    ofFields r = if r.mainargValue.length > maxResultValue then .error .valueTooLong
      else .ok [.setRunResult r.saveName r.mainargValue r.resultCategory] := by
  simp only [ofFields, rowAction, rowNodeAction, h, dispatch_exported]
  by_cases hv : r.mainargValue.length > maxResultValue <;> simp only [hv, if_true, if_false, Option.toList, List.nil_append]

theorem ofFields_startNewFlow {r : RowFields} (h : r.type = rStartNewFlow) :
    ofFields r = if r.mainargFlowName = [] then .error .noFlowName
      else .ok [.enterFlow r.mainargFlowName (if r.objId = [] then none else some r.objId)] := by
  simp only [ofFields, rowAction, rowNodeAction, h, dispatch_exported]
  by_cases hn : r.mainargFlowName = [] <;> simp only [if_pos, if_neg, hn, not_false_eq_true, Option.toList, List.append_nil]

theorem ofFields_callWebhook {r : RowFields} (h : r.type = tCallWebhook) :
    ofFields r = match pairsToDict r.webhook.headers with
      | .error e => .error e
      | .ok headers =>
        if (if r.webhook.method ≠ [] then r.webhook.method else defaultMethod) ∉ httpMethods then .error .badMethod
        else if r.webhook.url = [] ∨ r.saveName = [] then .error .noUrlOrName
        else match fieldKey r.saveName with
          | .error e => .error e
          | .ok _ => .ok [.callWebhook r.saveName r.webhook.url
              (if r.webhook.method ≠ [] then r.webhook.method else defaultMethod) r.webhook.body headers] := by
  simp only [ofFields, rowAction, rowNodeAction, h, dispatch_exported]
  cases pairsToDict r.webhook.headers with
  | error e => rfl
  | ok headers =>
    by_cases hm : (if r.webhook.method ≠ [] then r.webhook.method else defaultMethod) ∈ httpMethods
    · by_cases hor : r.webhook.url = [] ∨ r.saveName = []
      · simp only [hm, hor, not_true_eq_false, if_true, if_false]
      · cases fieldKey r.saveName <;>
          simp only [hm, hor, not_true_eq_false, if_false, Option.toList, List.append_nil]
    · simp only [hm, not_false_eq_true, if_true]

theorem ofFields_transferAirtime {r : RowFields} (h : r.type = tTransferAirtime) :
    ofFields r = match pairsToDict r.mainargDict with
      | .error e => .error e
      | .ok amounts =>
        match amounts.mapM (fun kv => (parseAmount kv.2).map fun a => (kv.1, a)) with
        | none => .error .notNumeric
        | some amounts =>
          if amounts = [] ∨ r.saveName = [] then .error .noAmounts
          else match fieldKey r.saveName with
            | .error e => .error e
            | .ok _ => .ok [.transferAirtime r.saveName amounts] := by
  simp only [ofFields, rowAction, rowNodeAction, h, dispatch_exported]
  cases pairsToDict r.mainargDict with
  | error e => rfl
  | ok d =>
    dsimp only
    cases d.mapM (fun kv => (parseAmount kv.2).map fun a => (kv.1, a)) with
    | none => rfl
    | some amounts =>
      by_cases hor : amounts = [] ∨ r.saveName = []
      · simp only [hor, if_true]
      · cases fieldKey r.saveName <;> simp only [hor, if_false, Option.toList, List.append_nil]

/-! ### what an action comes back as, kind by kind

The row the exporter writes (`toFields`, by `rfl`) under the compile side's lemma for its type; the type equation
by `with_reducible rfl`: under plain `rfl` the unifier spells the word of the type out letter by letter. -/

theorem roundTrip_of_toFields {a : Act} {r : RowFields} {x : Except Err (List Act)} (h : toFields a = .ok r)
    (hx : ofFields r = x) : roundTrip a = x := by
  unfold roundTrip
  rw [h]
  exact hx

theorem roundTrip_ok {a : Act} {l : List Act} (h : roundTrip a = .ok l) :
    ∃ r, toFields a = .ok r ∧ ofFields r = .ok l := by
  unfold roundTrip at h
  cases ht : toFields a with
  | error e => rw [ht] at h; cases h
  | ok r => rw [ht] at h; exact ⟨r, rfl, h⟩

theorem roundTrip_sendMsg {text : Str} {atts qrs : List Str} {allUrns : Bool} {topic : Str}
    {templ : Option Templating} {r : RowFields} (h : toFields (.sendMsg text atts qrs allUrns topic templ) = .ok r) :
    roundTrip (.sendMsg text atts qrs allUrns topic templ) =
      if text = [] then .error .emptyText else
        .ok [.sendMsg text ((mediaAttachments r ++ r.attachments).filter (· ≠ [])) (qrs.filter (· ≠ [])) false []
          (waToTempl (templToWa templ))] := by
  refine roundTrip_of_toFields h ?_
  simp only [toFields, Except.ok.injEq] at h
  subst h
  exact ofFields_sendMessage (by with_reducible rfl)

theorem roundTrip_setContactField (name key ft value : Str) :
    roundTrip (.setContactField name key ft value) =
      match (if key = [] then fieldKey name else .ok key) with
      | .error e => .error e
      | .ok _ => match fieldKey name with
        | .error e => .error e
        | .ok k =>
          if value.length > maxFieldValue then .error .valueTooLong
          else .ok [.setContactField name k [] value] := by
  simp only [roundTrip, toFields]
  cases (if key = [] then fieldKey name else .ok key) with
  | error e => rfl
  | ok k => exact ofFields_saveValue (by with_reducible rfl)

theorem roundTrip_setContactProp (p : ContactProp) (value : Str) :
    roundTrip (.setContactProp p value) =
      if value = [] then .error .emptyValue else .ok [.setContactProp p value] := by
  refine roundTrip_of_toFields rfl ((ofFields_setContact (by with_reducible rfl)).trans ?_)
  dsimp only
  rw [contactProp_of_rowType]

theorem roundTrip_setRunResult (name value category : Str) :
    roundTrip (.setRunResult name value category) =
      if value.length > maxResultValue then .error .valueTooLong
      else .ok [.setRunResult name value category] :=
  roundTrip_of_toFields rfl (ofFields_saveFlowResult (by with_reducible rfl))

theorem roundTrip_enterFlow (name : Str) (uuid : Option Str) :
    roundTrip (.enterFlow name uuid) =
      if name = [] then .error .noFlowName
      else .ok [.enterFlow name (if uuid.getD [] = [] then none else some (uuid.getD []))] :=
  roundTrip_of_toFields rfl (ofFields_startNewFlow (by with_reducible rfl))

theorem roundTrip_callWebhook (rn url method body : Str) (headers : List (Str × Str)) :
    roundTrip (.callWebhook rn url method body headers) =
      if (if method ≠ [] then method else defaultMethod) ∉ httpMethods then .error .badMethod
      else if url = [] ∨ rn = [] then .error .noUrlOrName
      else match fieldKey rn with
        | .error e => .error e
        | .ok _ => .ok [.callWebhook rn url (if method ≠ [] then method else defaultMethod) body
            (dictOfPairs headers)] := by
  refine roundTrip_of_toFields rfl ((ofFields_callWebhook (by with_reducible rfl)).trans ?_)
  dsimp only
  rw [pairsToDict_dictToPairs]

theorem roundTrip_transferAirtime (rn : Str) (amounts : List (Str × Amount)) :
    roundTrip (.transferAirtime rn amounts) =
      match (dictOfPairs (amounts.map fun kv => (kv.1, kv.2.print))).mapM
          (fun kv => (parseAmount kv.2).map fun a => (kv.1, a)) with
      | none => .error .notNumeric
      | some am =>
        if am = [] ∨ rn = [] then .error .noAmounts
        else match fieldKey rn with
          | .error e => .error e
          | .ok _ => .ok [.transferAirtime rn am] := by
  refine roundTrip_of_toFields rfl ((ofFields_transferAirtime (by with_reducible rfl)).trans ?_)
  dsimp only
  rw [pairsToDict_pairs]

/-- `tel` is written as an empty cell, which reads as `tel`: so does the empty scheme -/
theorem roundTrip_addContactUrn (path scheme : Str) :
    roundTrip (.addContactUrn path scheme) =
      .ok [.addContactUrn path (if scheme = [] then defaultScheme else scheme)] := by
  refine roundTrip_of_toFields rfl ((ofFields_addContactUrn (by with_reducible rfl)).trans ?_)
  dsimp only
  by_cases e : scheme = defaultScheme
  · simp [e, defaultScheme]
  · by_cases hs : scheme = [] <;> simp [e, hs]

theorem roundTrip_addGroups (g0 : GroupRef) (rest : List GroupRef) :
    roundTrip (.addGroups (g0 :: rest)) = .ok [.addGroups (backGroups g0 rest)] := by
  refine roundTrip_of_toFields rfl ((ofFields_addToGroup (by with_reducible rfl)).trans ?_)
  simp only [List.map_cons, rowGroups, resolve_rowGroups, backGroups]

theorem roundTrip_removeGroups (g0 : GroupRef) (rest : List GroupRef) (all : Bool) :
    roundTrip (.removeGroups (g0 :: rest) all) = .ok [.removeGroups (backGroups g0 rest) false] := by
  refine roundTrip_of_toFields rfl ((ofFields_removeFromGroup (by with_reducible rfl)).trans ?_)
  simp only [List.map_cons, rowGroups, resolve_rowGroups, backGroups]

/-- kind by kind from the closed form `roundTrip_…`: each clause of `Expressible` says that one field of what
comes back is the original's -/
theorem roundTrip_iff_expressible {a : Act} : roundTrip a = .ok [a] ↔ Expressible a := by
  cases a with
  | sendMsg text atts qrs allUrns topic templ =>
    rw [roundTrip_sendMsg rfl, Expressible]
    by_cases ht : text = []
    · simp [ht]
    · have hatt := attachments_back (atts := atts)
        (r := {
          type := rSendMessage, mainargMessageText := text, choices := qrs, image := _, audio := _,
          video := _, attachments := _, waTemplate := templToWa templ })
        rfl ⟨rfl, rfl, rfl⟩ rfl
      simp only [if_neg ht, Except.ok.injEq, List.cons.injEq, and_true, Act.sendMsg.injEq, true_and]
      constructor
      · rintro ⟨ha, hq, hu, htp, htm⟩
        exact ⟨ht, (hatt.1 ha).1, filter_ne_nil_eq_self.1 hq, (hatt.1 ha).2, hu.symm, htp.symm,
          waToTempl_templToWa.1 htm⟩
      · rintro ⟨-, ha, hq, hm, hu, htp, htm⟩
        exact ⟨hatt.2 ⟨ha, hm⟩, filter_ne_nil_eq_self.2 hq, hu.symm, htp.symm, waToTempl_templToWa.2 htm⟩
  | setContactField name key ft value =>
    rw [roundTrip_setContactField, Expressible]
    cases fieldKey name with
    | error e => by_cases hkey : key = [] <;> simp [hkey]
    | ok k =>
      have : (if key = [] then (Except.ok k : Except Err Str) else .ok key) = .ok (if key = [] then k else key) := by
        split <;> rfl
      rw [this]
      by_cases hv : value.length > maxFieldValue
      · simp only [hv, if_true, reduceCtorEq, false_iff]
        exact fun h => absurd h.2.2 (Nat.not_le.mpr hv)
      · simp only [hv, if_false, Except.ok.injEq, List.cons.injEq, and_true, Act.setContactField.injEq, true_and]
        exact ⟨fun h => ⟨h.1, h.2.symm, Nat.not_lt.mp hv⟩, fun h => ⟨h.1, h.2.1.symm⟩⟩
  | setContactProp p value =>
    rw [roundTrip_setContactProp, Expressible]
    by_cases hv : value = [] <;> simp [hv]
  | setContactChannel u n => simp [roundTrip, toFields, Expressible]
  | addGroups gs =>
    cases gs with
    | nil => simp [roundTrip, toFields, groupFields, Expressible, GroupsOk, GroupsOkModTailUuids]
    | cons g rest =>
      rw [roundTrip_addGroups, Expressible, ← backGroups_eq_iff]
      simp only [Except.ok.injEq, List.cons.injEq, and_true, Act.addGroups.injEq]
  | removeGroups gs all =>
    cases gs with
    | nil => simp [roundTrip, toFields, groupFields, Expressible, GroupsOk, GroupsOkModTailUuids]
    | cons g rest =>
      rw [roundTrip_removeGroups, Expressible, ← backGroups_eq_iff]
      simp only [Except.ok.injEq, List.cons.injEq, and_true, Act.removeGroups.injEq]
      exact and_congr_right fun _ => eq_comm
  | setRunResult name value category =>
    rw [roundTrip_setRunResult, Expressible]
    by_cases hv : value.length > maxResultValue
    · simp only [hv, if_true, reduceCtorEq, false_iff]; omega
    · simp only [hv, if_false, true_iff]; omega
  | enterFlow name uuid =>
    rw [roundTrip_enterFlow, Expressible]
    by_cases hn : name = []
    · simp [hn]
    · cases uuid with
      | none => simp [hn]
      | some u => by_cases hu : u = [] <;> simp [hn, hu]
  | callWebhook rn url method body headers =>
    rw [roundTrip_callWebhook, Expressible, KeyOk, ← dictOfPairs_eq_self]
    have ⟨hnil, hpost, hd⟩ : ([] : Str) ∉ httpMethods ∧ defaultMethod ∈ httpMethods ∧ defaultMethod ≠ [] := by
      decide +kernel
    by_cases hmm : method ∈ httpMethods
    · have hm : method ≠ [] := fun e => hnil (e ▸ hmm)
      cases fieldKey rn <;> by_cases hu : url = [] <;> by_cases hr : rn = [] <;>
        simp [hm, hmm, hu, hr, Except.toBool]
    · -- comes back, if at all, with `POST` in place of an empty method
      by_cases hm : method = []
      · subst hm
        cases fieldKey rn <;> by_cases hu : url = [] <;> by_cases hr : rn = [] <;>
          simp [hu, hr, hmm, hpost, hd, Except.toBool]
      · simp [hm, hmm]
  | transferAirtime rn amounts =>
    rw [roundTrip_transferAirtime, Expressible, KeyOk, ← amounts_back]
    cases (dictOfPairs (amounts.map fun kv => (kv.1, kv.2.print))).mapM
        (fun kv => (parseAmount kv.2).map fun a => (kv.1, a)) with
    | none => simp
    | some am =>
      cases fieldKey rn <;> by_cases ha : am = [] <;> by_cases hr : rn = [] <;>
        simp [ha, hr, Except.toBool]
      exact fun e => e ▸ ha
  | addContactUrn path scheme =>
    rw [roundTrip_addContactUrn, Expressible]
    have hd : defaultScheme ≠ [] := by decide
    by_cases hs : scheme = [] <;> simp [hs, hd]
  | unsupported t => simp [roundTrip, toFields, Expressible]

end Rpft.ActionCodec
