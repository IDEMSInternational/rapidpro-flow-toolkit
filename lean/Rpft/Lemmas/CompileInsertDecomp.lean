/-
The two runs cut into their phases (`insert_run`, `insertLeave_run`, `twin_run`, `closeGroup_run`), and a
node-creating row cut into its own: its action and node (identifiers are drawn), its edges, and the closed form
`rowAdded` of the state it leaves.
-/
import Rpft.Lemmas.CompileInsertGood
namespace Rpft.Compile
open Rpft Function

theorem insert_run {r : Row} {body : List Event} {s₀ z₁ : St} (h : (step (.insert r body)).run s₀ = .ok ((), z₁)) :
    ∃ b₁, (steps body).run (enterSt s₀) = .ok ((), b₁) ∧ (insertLeave s₀ s₀.groups.size r).run b₁ = .ok ((), z₁) := by
  unfold step at h
  obtain ⟨p, u, h1, h⟩ := run_bind_ok h
  obtain ⟨rfl, rfl⟩ := run_det (insertEnter_run s₀) h1
  obtain ⟨_, b₁, h2, h⟩ := run_bind_ok h
  exact ⟨b₁, h2, h⟩

theorem insertLeave_run {s₀ b₁ z₁ : St} {G : Nat} {r : Row} (h : (insertLeave s₀ G r).run b₁ = .ok ((), z₁)) :
    b₁.stack.length = 1 ∧ ∃ i n x₁,
      (entryNode (2 * (restoreSt b₁ s₀).groups.size + 8) G).run (restoreSt b₁ s₀) = .ok (i, restoreSt b₁ s₀) ∧
      (restoreSt b₁ s₀).nodes[i]? = some n ∧
      ((dropTrivial r.edges).forM (addRowEdge (.node n.uid))).run (restoreSt b₁ s₀) = .ok ((), x₁) ∧
      (appendGroup G r.rowId).run x₁ = .ok ((), z₁) := by
  unfold insertLeave at h
  obtain ⟨s2, u, h1, h⟩ := run_bind_ok h
  obtain ⟨rfl, rfl⟩ := run_det (get_run b₁) h1
  by_cases hl : b₁.stack.length ≠ 1
  · rw [if_pos hl] at h; cases h
  rw [if_neg hl] at h
  refine ⟨Decidable.of_not_not hl, ?_⟩
  obtain ⟨_, w, h2, h⟩ := run_bind_ok h
  obtain ⟨-, rfl⟩ := run_det (modify_run _ b₁) h2
  obtain ⟨f, u, h3, h⟩ := run_bind_ok h
  obtain ⟨rfl, rfl⟩ := run_det (fuelOf_run _) h3
  obtain ⟨i, u, h4, h⟩ := run_bind_ok h
  have hu : u = restoreSt b₁ s₀ := ro_entryNode _ _ _ _ _ h4
  subst hu
  obtain ⟨n, u, h5, h⟩ := run_bind_ok h
  obtain ⟨hn1, rfl⟩ := wp_of_run ((wp_getNode i (restoreSt b₁ s₀) (fun n u => (restoreSt b₁ s₀).nodes[i]? = some n ∧
    u = restoreSt b₁ s₀)).mpr (fun n hn => ⟨hn, rfl⟩)) h5
  obtain ⟨_, x₁, h6, h⟩ := run_bind_ok h
  exact ⟨i, n, x₁, h4, hn1, h6, h⟩

theorem twin_run {r r₁ : Row} {rest post : List Event} {s₀ f₂ : St} (hns : noStartL rest = true)
    (h : (steps (twin r (.row r₁ :: rest) ++ post)).run s₀ = .ok ((), f₂)) :
    ∃ o₂ a₂ b₂ z₂, (openGroup r.edges false).run s₀ = .ok ((), o₂) ∧
      (parseRow (retargetRow r₁)).run o₂ = .ok ((), a₂) ∧ (steps rest).run a₂ = .ok ((), b₂) ∧
      (closeGroup r.rowId).run b₂ = .ok ((), z₂) ∧ (steps post).run z₂ = .ok ((), f₂) := by
  have e : twin r (.row r₁ :: rest) ++ post =
      .openGroup r.edges false :: .row (retargetRow r₁) :: (rest ++ (.closeGroup r.rowId :: post)) := by
    simp only [twin, retarget, List.map_cons, retargetEv, List.cons_append, List.nil_append, List.append_assoc]
    have := retarget_of_noStart hns
    simp only [retarget] at this
    rw [this]
  rw [e] at h
  obtain ⟨o₂, h1, h⟩ := steps_cons_run h
  obtain ⟨a₂, h2, h⟩ := steps_cons_run h
  obtain ⟨b₂, h3, h⟩ := steps_append_run h
  obtain ⟨z₂, h4, h⟩ := steps_cons_run h
  unfold step at h1 h2 h4
  exact ⟨o₂, a₂, b₂, z₂, h1, h2, h3, h4, h⟩

theorem closeGroup_run {id : Str} {s t : St} {b : Nat} {st : List Nat} (hst : s.stack = b :: st)
    (h : (closeGroup id).run s = .ok ((), t)) : (appendGroup b id).run { s with stack := st } = .ok ((), t) := by
  refine wp_of_run (Q := fun _ t => (appendGroup b id).run { s with stack := st } = .ok ((), t)) ?_ h
  rw [wp_closeGroup]
  intro b' c rest h'
  rw [hst] at h'; cases h'
  exact (wp_def ..).mpr fun _ _ hr => hr

/-- the state after a node-creating row, read off the state `u` its edges left: the row group of its node `N` is
pushed and appended to the open block `b` (children `cs`), the row id and the node name are recorded -/
def rowAdded (u : St) (N : Nat) (ty id nm : Str) (b : Nat) (cs : List Nat) : St :=
  { appended { u with groups := u.groups.push (.row [N] ty) } b cs u.groups.size id with names := (nm, N) :: u.names }

section
variable {u : St} {N b j : Nat} {ty id nm : Str} {cs rest : List Nat}

theorem rowAdded_groups_b (h : b < u.groups.size) :
    (rowAdded u N ty id nm b cs).groups[b]? = some (.block (cs ++ [u.groups.size])) := by
  show ((u.groups.push _).setIfInBounds b _)[b]? = _
  rw [Array.getElem?_setIfInBounds_self_of_lt (by rw [Array.size_push]; exact Nat.lt_succ_of_lt h)]

theorem rowAdded_groups_last (h : b < u.groups.size) :
    (rowAdded u N ty id nm b cs).groups[u.groups.size]? = some (.row [N] ty) := by
  show ((u.groups.push _).setIfInBounds b _)[u.groups.size]? = _
  rw [Array.getElem?_setIfInBounds_ne (Nat.ne_of_lt h), Array.getElem?_push_size]

theorem rowAdded_groups_size : (rowAdded u N ty id nm b cs).groups.size = u.groups.size + 1 := by
  show ((u.groups.push _).setIfInBounds _ _).size = _
  rw [Array.size_setIfInBounds, Array.size_push]

theorem rowAdded_groups_ne (h1 : j ≠ b) (h2 : j < u.groups.size) :
    (rowAdded u N ty id nm b cs).groups[j]? = u.groups[j]? := by
  show ((u.groups.push _).setIfInBounds b _)[j]? = _
  rw [Array.getElem?_setIfInBounds, if_neg (Ne.symm h1), Array.getElem?_push, if_neg (Nat.ne_of_lt h2)]

theorem rowAdded_recent (hst : u.stack = b :: rest) (h : b < u.groups.size) :
    mostRecentIn (rowAdded u N ty id nm b cs).groups (rowAdded u N ty id nm b cs).stack = some u.groups.size := by
  show mostRecentIn _ u.stack = _
  rw [hst, mostRecentIn, rowAdded_groups_b h]
  simp only [List.getLast?_concat]

theorem rowAdded_named (h : id ≠ []) : lookupIn (rowAdded u N ty id nm b cs).rowIds id = some u.groups.size := by
  show lookupIn (if id.isEmpty then _ else _) id = _
  rw [if_neg (by simpa using h), lookupIn_cons, if_pos rfl]

end

theorem newRow_inv {r : Row} {nm : Str} {s t : St} (h : (newRow r nm).run s = .ok ((), t)) :
    ∃ n kk u b rest cs,
      (rowAction r >>= rowNode r).run s = .ok (n, { s with next := s.next + kk }) ∧
      (r.edges.forM (addRowEdge (.node n.uid))).run { s with next := s.next + kk, nodes := s.nodes.push n } = .ok ((), u) ∧
      u.stack = b :: rest ∧ u.groups[b]? = some (.block cs) ∧ t = rowAdded u s.nodes.size r.type r.rowId nm b cs := by
  unfold newRow at h
  obtain ⟨act, s1, h1, h⟩ := run_bind_ok h
  obtain ⟨k0, rfl⟩ := (wp_of_run (rowAction_spec r s) h1).bump
  obtain ⟨n, s2, h2, h⟩ := run_bind_ok h
  obtain ⟨k1, rfl⟩ := (wp_of_run (rowNode_spec r act _) h2).drew.bump
  obtain ⟨i, s2', h3, h⟩ := run_bind_ok h
  obtain ⟨rfl, rfl⟩ := run_det (addNode_run n _) h3
  obtain ⟨_, u, h4, h⟩ := run_bind_ok h
  obtain ⟨g, u', h5, h⟩ := run_bind_ok h
  obtain ⟨rfl, rfl⟩ := run_det (addGrp_run _ _) h5
  obtain ⟨_, t', h6, h⟩ := run_bind_ok h
  obtain ⟨b, rest, cs, hst, hgb, rfl⟩ := appendGroup_run h6
  -- the open block is not the group just pushed, which is a row group
  rcases getElem?_push_some hgb with ⟨-, e⟩ | ⟨-, hgb⟩
  · cases e
  · exact ⟨n, k0 + k1, u, b, rest, cs, Nat.add_assoc .. ▸ (run_bind_of h1).trans h2, Nat.add_assoc .. ▸ h4, hst, hgb,
      (run_det (modify_run _ _) h).2.symm⟩

end Rpft.Compile
