/-
C09, whole rows: a flow row written with the short headers (`from`, `condition`, …,
`message_text`) and `*` columns parses exactly like the fully indexed row
(`edges.1.from_`, `edges.2.condition.value`, …, `mainarg_…`) obtained by renaming the headers
and splitting every `*` cell into one column per element (`indexedRow`): `flow_short_eq_indexed`, from
`parseRow_eq_indexed`, which holds for every schema.
-/
import Rpft.Lemmas.RowGenTop
import Rpft.Lemmas.RowLeaf
import Rpft.Lemmas.RowFlow
namespace Rpft.Row
open Rpft

/-! ### rows that differ entry by entry in an irrelevant way -/

def EntryEq (top : Ty) (e e' : Str × ColVal) : Prop :=
  ∀ out, parseEntry top out e = parseEntry top out e'

theorem foldE_entryEq (top : Ty) (f : Str × ColVal → Str × ColVal) :
    ∀ (es : List (Str × ColVal)), (∀ e ∈ es, EntryEq top e (f e)) →
      ∀ out, foldE (parseEntry top) out es = foldE (parseEntry top) out (es.map f)
  | [], _, _ => rfl
  | e :: es, h, out => by
    simp only [List.map_cons, foldE]
    rw [← h e (by simp) out]
    cases parseEntry top out e with
    | error er => rfl
    | ok out' => exact foldE_entryEq top f es (fun x hx => h x (List.mem_cons_of_mem _ hx)) out'

/-- the text of the cell that stands for an entry -/
def cellText : ColVal → Str
  | .inl s => s
  | .inr (.atom x) => x
  | .inr (.list _) => []

/-- the fully indexed row: one column per entry -/
def indexedRow (cols : List (Str × ColVal)) : List (Str × Str) :=
  (expandAll cols).map fun e => (e.1, cellText e.2)

theorem parseRow_eq_indexed {sch : Schema} {d d1 : List (Str × Str)} {cols : List (Str × ColVal)}
    (h1 : rekey sch d = .ok d1) (h2 : preParse d1 = .ok cols)
    (hfix : rekey sch (indexedRow cols) = .ok (indexedRow cols))
    (hnostar : ∀ kv ∈ indexedRow cols, hasStar kv.1 = false)
    (heq : ∀ e ∈ expandAll cols, EntryEq sch.top e (e.1, Sum.inl (cellText e.2))) :
    parseRow sch d = parseRow sch (indexedRow cols) := by
  have hl : rowEntries sch d = .ok (expandAll cols) := by
    unfold rowEntries; rw [h1]; simp only; rw [h2]
  have hr := rowEntries_of_rekey sch _ _ hfix hnostar
  unfold parseRow
  rw [hl, hr]
  simp only [buildTree]
  have : (indexedRow cols).map (fun kv => (kv.1, (Sum.inl kv.2 : ColVal))) =
      (expandAll cols).map (fun e => (e.1, Sum.inl (cellText e.2))) := by
    simp [indexedRow, List.map_map, Function.comp]
  rw [this, ← foldE_entryEq sch.top _ (expandAll cols) heq]

/-! ### the flow row schema -/

/-- the strings of a `*` cell: one string, or a flat list of strings -/
def flatPV : PV → Bool
  | .atom x => strOk x
  | .list xs => xs.all fun
    | .atom x => strOk x
    | .list _ => false

/-- the `*` columns of a flow row (after the header remap) are `edges.*.b` for the leaves `b`
of an edge, and hold flat lists -/
def flowStarOk (cols : List (Str × ColVal)) : Bool :=
  cols.all fun c => match c.2 with
    | .inl _ => true
    | .inr pv => edgeLeaves.any (fun b => c.1 == "edges.*.".toList ++ b) && flatPV pv

theorem idxKey_keyChar (k : Nat) {b : Str} (hb : b ∈ edgeLeaves) :
    ∀ c ∈ idxKey k b, keyChar c = true := by
  obtain ⟨he, hdot, hl⟩ := edge_keyChars
  intro c hc
  simp only [idxKey, List.mem_append, List.mem_cons] at hc
  rcases hc with h | rfl | h | rfl | h
  · exact (he c h).1
  · exact hdot
  · exact printNat_keyChar k c h
  · exact hdot
  · exact hl b hb c h

theorem edge_posTy : ∃ t, childTy flowRowTy edgesS = some (.list t) ∧
    ∀ b ∈ edgeLeaves, (posTy t (splitDot b)).all isBasicTy = true := by
  flow_decode
  exact ⟨_, rfl, by decide +kernel⟩

theorem star_elem_eq_cell (k : Nat) {b : Str} (hb : b ∈ edgeLeaves) (out : Tree)
    {x t : Str} (h : parseAsString t = .ok x) :
    parseEntry flowRowTy out (idxKey k b, Sum.inr (.atom x)) =
    parseEntry flowRowTy out (idxKey k b, Sum.inl t) := by
  apply parseEntry_star_eq_cell h
  rw [getFieldName_key _ (idxKey_keyChar k hb)]
  simp only [idxKey]
  rw [splitDot_append edgesS _ (fun c hc => (edge_keyChars.1 c hc).2),
    splitDot_append _ _ (printNat_no_dot k)]
  obtain ⟨et, he, hall⟩ := edge_posTy
  simp only [posTy, he]
  -- at a list type the index segment leads to the element type, whatever it is
  exact hall b hb

theorem flow_ctx_idem {d : List (Str × Str)} {k0 k : Str} (h : ctxRemap flowRowSchema d k0 = .ok k)
    (ctx : List (Str × Str)) : ctxRemap flowRowSchema ctx k = .ok k := by
  obtain ⟨S1, S2, _⟩ := flow_ctx_static
  rcases ctxRemap_ok h with hb | ⟨tc, tb, t, hm, ha⟩ | ⟨rfl, hb, hne⟩
  · obtain ⟨_, h1, h2, _⟩ := S1 (k0, k) (Dict.mem_of_get (alookup_eq .. ▸ hb))
    exact flow_ctxRemap_id ctx h1 h2
  · obtain ⟨_, _, rfl⟩ := flow_main_inj hm
    obtain ⟨_, _, h1, h2, _⟩ := S2 _ (Dict.mem_of_get (alookup_eq .. ▸ ha))
    exact flow_ctxRemap_id ctx h1 h2
  · exact flow_ctxRemap_id ctx hb (hne _ _ _ flow_main)

theorem ctxKeys_not_edges : ∀ k ∈ ctxKeys flowRowSchema, headSeg k ≠ edgesS := by
  flow_decode
  decide +kernel

theorem headSeg_idxKey (i : Nat) (b : Str) : headSeg (idxKey i b) = edgesS :=
  takeWhile_append_dot edgesS _ fun c hc => (edge_keyChars.1 c hc).2

theorem flow_short_eq_indexed {d d1 : List (Str × Str)} {cols : List (Str × ColVal)}
    (h1 : rekey flowRowSchema d = .ok d1) (h2 : preParse d1 = .ok cols)
    (hstar : flowStarOk cols = true) (hnd : ((indexedRow cols).map Prod.fst).Nodup) :
    parseRow flowRowSchema d = parseRow flowRowSchema (indexedRow cols) ∧
    ∀ kv ∈ indexedRow cols, hasStar kv.1 = false ∧
      ctxRemap flowRowSchema (indexedRow cols) kv.1 = .ok kv.1 := by
  simp only [flowStarOk, List.all_eq_true] at hstar
  have hentry : ∀ e ∈ expandAll cols,
      (∃ s, e.2 = Sum.inl s ∧ hasStar e.1 = false ∧ (e.1, s) ∈ d1) ∨
      (∃ i b x, b ∈ edgeLeaves ∧ e = (idxKey i b, Sum.inr (.atom x)) ∧ strOk x = true) := by
    intro e he
    rcases expandAll_mem he with ⟨hm, s, hs⟩ | ⟨k, pv, i, x, hm, rfl, hx⟩
    · rcases preParse_spec h2 hm with h | ⟨pv, hp, _⟩
      · exact Or.inl h
      · rw [hs] at hp; cases hp
    · right
      have := hstar _ hm
      simp only [Bool.and_eq_true, List.any_eq_true, beq_iff_eq] at this
      obtain ⟨⟨b, hb, rfl⟩, hflat⟩ := this
      rw [star_key i hb]
      rcases hx with ⟨a, rfl, rfl⟩ | ⟨xs, rfl, hx⟩
      · exact ⟨i, b, a, hb, rfl, hflat⟩
      · simp only [flatPV, List.all_eq_true] at hflat
        have := hflat x hx
        cases x with
        | atom a => exact ⟨i, b, a, hb, rfl, this⟩
        | list _ => simp at this
  have hkeys : ∀ kv ∈ indexedRow cols, hasStar kv.1 = false ∧
      ∀ ctx, ctxRemap flowRowSchema ctx kv.1 = .ok kv.1 := by
    intro kv hkv
    obtain ⟨e, he, rfl⟩ := List.mem_map.mp hkv
    rcases hentry e he with ⟨s, _, hs, hm⟩ | ⟨i, b, x, hb, rfl, _⟩
    · unfold rekey at h1
      rcases rekey_keys flowRowSchema d d [] d1 h1 _ hm with h | ⟨k0, hk0⟩
      · simp at h
      · exact ⟨hs, flow_ctx_idem hk0⟩
    · exact ⟨hasStar_of_keyChar (idxKey_keyChar i hb), fun ctx =>
        ctxRemap_of_headSeg _ ctx (headSeg_idxKey i b) ctxKeys_not_edges⟩
  refine ⟨?_, fun kv hkv => ⟨(hkeys kv hkv).1, (hkeys kv hkv).2 _⟩⟩
  apply parseRow_eq_indexed h1 h2
  · unfold rekey
    have := rekey_map flowRowSchema (indexedRow cols) id (indexedRow cols) []
      (fun kv hkv => (hkeys kv hkv).2 _) (by simpa using hnd)
    simpa using this
  · exact fun kv hkv => (hkeys kv hkv).1
  · intro e he out
    rcases hentry e he with ⟨s, hs, _, _⟩ | ⟨i, b, x, hb, rfl, hx⟩
    · obtain ⟨k, cv⟩ := e
      simp only at hs
      subst hs
      rfl
    · obtain ⟨f1, f2⟩ := strOk_spec hx
      exact star_elem_eq_cell i hb out (parseAsString_ok f1 f2)

end Rpft.Row
