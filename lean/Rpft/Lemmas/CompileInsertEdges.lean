/-
Parser-level operations on the edges of a row (`_add_row_edge`; they leave scope and blocks alone, `SPost`) and
`append_node_group`.
-/
import Rpft.Lemmas.CompileInsertScope
namespace Rpft.Compile
open Rpft Function

variable {P : Params} {X : SParams}

def EdgesPre (P : Params) (X : SParams) (s₁ : St) (es : List Edge) : Prop := ∀ e ∈ es, EdgePre P X s₁ e

theorem EdgesPre.mono {s t : St} {es : List Edge} (hm : MR P s → MR P t) (h : EdgesPre P X s es) : EdgesPre P X t es :=
  fun e he => ⟨(h e he).1, fun h0 => hm ((h e he).2 h0)⟩

theorem EdgesPre.of_blkEq {s t : St} {es : List Edge} (hb : BlkEq s t) (h : EdgesPre P X s es) : EdgesPre P X t es :=
  h.mono (MR.of_blkEq hb)

/-- postcondition of a parser-level operation that leaves scope and blocks alone -/
def SPost (P : Params) (X : SParams) (s₁ s₂ : St) : PUnit → St → PUnit → St → Prop :=
  fun _ t₁ _ t₂ => Sim P X t₁ t₂ ∧ SEq s₁ t₁ ∧ SEq s₂ t₂ ∧ BlkEq s₁ t₁

theorem spost_trans {s₁ s₂ u₁ u₂ t₁ t₂ : St} (e1 : SEq s₁ u₁) (e2 : SEq s₂ u₂) (hb : BlkEq s₁ u₁)
    (h : SPost P X u₁ u₂ ⟨⟩ t₁ ⟨⟩ t₂) : SPost P X s₁ s₂ ⟨⟩ t₁ ⟨⟩ t₂ :=
  ⟨h.1, e1.trans h.2.1, e2.trans h.2.2.1, hb.trans h.2.2.2⟩

theorem Eff.of_spost {s₁ s₂ t₁ t₂ : St} (h : SPost P X s₁ s₂ ⟨⟩ t₁ ⟨⟩ t₂) : Eff P s₁ t₁ :=
  Eff.of_blkEq h.2.2.2 h.2.1.2.1

theorem srel_forM {β : Type} (l : List β) (f₁ f₂ : β → M PUnit) {s₁ s₂ : St} (h : Sim P X s₁ s₂)
    (hf : ∀ x ∈ l, ∀ u₁ u₂, Sim P X u₁ u₂ → BlkEq s₁ u₁ → SEq s₁ u₁ →
      rwp (f₁ x) (f₂ x) u₁ u₂ (SPost P X u₁ u₂)) :
    rwp (l.forM f₁) (l.forM f₂) s₁ s₂ (SPost P X s₁ s₂) := by
  have := rwp_forM (fun t₁ t₂ => Sim P X t₁ t₂ ∧ SEq s₁ t₁ ∧ SEq s₂ t₂ ∧ BlkEq s₁ t₁) id l
    f₁ f₂ ?_ s₁ s₂ ⟨h, SEq.refl _, SEq.refl _, BlkEq.refl _⟩
  · rw [List.map_id] at this; exact this
  · rintro x hx u₁ u₂ ⟨hu, e1, e2, hb⟩
    refine rwp_mono (hf x hx u₁ u₂ hu hb e1) ?_
    rintro _ t₁ _ t₂ ⟨ht, e1', e2', hb'⟩
    exact ⟨ht, e1.trans e1', e2.trans e2', hb.trans hb'⟩

variable (ok : P.Ok) {s₁ s₂ : St} (h : Sim P X s₁ s₂)
include ok h

theorem addExit_srel {f₁ f₂ j : Nat} (lv : P.Live j) (d : Dest) (c : Cond) (hdn : P.op = true → d ≠ Dest.none) :
    rwp (addExit f₁ j d c) (addExit f₂ (P.γ j) (rnDest P.ρ d) c) s₁ s₂ (SPost P X s₁ s₂) := by
  refine rwp_of_wp_left (addExit_blk f₁ j d c s₁) ?_
  refine rwp_mono (addExit_rel ok h.1 lv hdn) ?_
  rintro _ t₁ _ t₂ ⟨_, ha, e1, e2⟩ hb
  exact ⟨⟨ha, h.2.of_seq e1 e2⟩, e1, e2, hb⟩

theorem addRowEdge_rel {d : Dest} {e : Edge} (hp : EdgePre P X s₁ e) (hdn : P.op = true → d ≠ Dest.none) :
    rwp (addRowEdge d e) (addRowEdge (rnDest P.ρ d) e) s₁ s₂ (SPost P X s₁ s₂) := by
  unfold addRowEdge
  refine rwp_bind_ro (groupOfEdge_rel h hp) ?_
  rintro a _ ⟨rfl, hj⟩
  cases a with
  | none =>
    simp only [Option.map_none]
    rw [rwp_pure]
    exact ⟨h, SEq.refl _, SEq.refl _, BlkEq.refl _⟩
  | some g =>
    simp only [Option.map_some]
    refine rwp_bind_run (fuelOf_run s₁) (fuelOf_run s₂) ?_
    exact addExit_srel ok h (hj g rfl).1 d e.cond hdn

theorem edges_rel (d : Dest) {es : List Edge} (hpre : EdgesPre P X s₁ es) (hdn : P.op = true → d ≠ Dest.none) :
    rwp (es.forM (addRowEdge d)) (es.forM (addRowEdge (rnDest P.ρ d))) s₁ s₂ (SPost P X s₁ s₂) :=
  srel_forM es _ _ h fun e he _ _ hu hb _ => addRowEdge_rel ok hu (hpre.of_blkEq hb e he) hdn

theorem appendGroup_rel {g : Nat} (rowId : Str) (hdg : P.DG g)
    (hlt : g < s₁.groups.size)
    (hT : P.T g → (∀ b, s₁.stack.head? = some b → P.T b) ∧ (rowId ≠ [] → rowId ∈ X.F)) :
    rwp (appendGroup g rowId) (appendGroup (P.γ g) rowId) s₁ s₂ (fun _ t₁ _ t₂ =>
      Sim P X t₁ t₂ ∧ t₁.stack = s₁.stack ∧ (SB s₁ → SB t₁) ∧ (RV s₁ → RV t₁) ∧ HeadKeep s₁ t₁ ∧
      (¬ P.T g → MR P t₁ ∧ Eff P s₁ t₁)) := by
  rw [rwp_iff_wp, wp_appendGroup]
  intro b rest cs hst hg
  rw [wp_appendGroup]
  intro b₂ rest₂ cs₂ hst₂ hg₂
  have hdb : P.DG b := h.2.stackDG b (by rw [hst]; simp)
  have hcl := h.1.closed b _ hdb hg
  -- the right run appends to the image of the same block
  rw [h.2.stack, hst] at hst₂
  cases hst₂
  obtain ⟨cs2, hcs2, key⟩ := mapGrpAt_block_append (P := P) b cs g
  rw [h.1.groups b _ hdb hg, hcs2] at hg₂
  cases hg₂
  have a1 := h.1.setGrp ok hdb hg (g' := .block (cs ++ [g]))
    (fun _ hi => nomatch hi)
    (fun x hx => (List.mem_append.mp hx).imp_right fun hx => by
      cases List.mem_singleton.mp hx; exact ⟨hdg, fun htb htg => htb ((hT htg).1 b (by rw [hst]; rfl)), hlt⟩)
    (fun c cs e => by cases e; exact ⟨c, cs ++ [g], rfl⟩)
    (fun _ ⟨_, _, e, _⟩ => by rw [h.1.groups b _ hdb hg, mapGrpAt_block] at e; cases e)
  rw [key] at a1
  unfold appended
  cases hid : rowId.isEmpty with
  | true =>
    exact ⟨Sim.of_parts a1 h.2, rfl, appendChild_eff hst hg rfl rfl fun p hp => .inl hp⟩
  | false =>
    have hne : rowId ≠ [] := by intro e; rw [e] at hid; cases hid
    exact ⟨Sim.of_parts a1 (h.2.consRowId rowId hne hdg fun htg => (hT htg).2 hne), rfl,
      appendChild_eff hst hg rfl rfl fun p hp => (List.mem_cons.mp hp).elim (fun e => .inr (e ▸ hlt)) .inl⟩

end Rpft.Compile
