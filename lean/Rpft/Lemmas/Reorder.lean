/-
What `reorderDoc` does.  A document already in re-join order is left as it is and its categories are wired
(`reorderDoc_ordered`, `catsWired_of_ordered`), so the statements about ordered documents are instances of the general
ones.  The reordered copy of a valid wired document is valid and in re-join order (`valid_reorderDoc`,
`ordered_reorderDoc`), and so is its shape; the second round trip therefore starts from an ordered document and shapes
a shape, which changes nothing: `roundtrip_idem`.
-/
import Rpft.Lemmas.Document
namespace Rpft.Document
open Rpft

/-! ### a router in re-join order: its categories are others ++ [default] ++ [no-response] -/

theorem cats_defaultLast {cats : List CategoryD} {dflt : Str}
    (hn : (cats.map (·.uuid)).Nodup) (hl : (cats.map (·.uuid)).getLast? = some dflt) :
    ∃ pre d, cats = pre ++ [d] ∧ d.uuid = dflt ∧ ∀ c ∈ pre, c.uuid ≠ dflt := by
  obtain ⟨ys, hys⟩ := List.getLast?_eq_some_iff.mp hl
  obtain ⟨pre, l2, hcat, hpre, hl2⟩ := List.map_eq_append_iff.mp hys
  obtain ⟨d, rfl, hd⟩ := List.map_eq_singleton_iff.mp hl2
  refine ⟨pre, d, hcat, hd, ?_⟩
  intro c hc heq
  rw [hys, List.nodup_append] at hn
  exact hn.2.2 c.uuid (hpre ▸ List.mem_map_of_mem hc) dflt (by simp) heq

theorem rejoin_defaultLast {cats : List CategoryD} {dflt : Str} (hn : (cats.map (·.uuid)).Nodup)
    (hl : (cats.map (·.uuid)).getLast? = some dflt) :
    cats.filter (fun c => c.uuid != dflt) ++ (cats.find? (fun c => c.uuid == dflt)).toList = cats ∧
    dflt ∈ cats.map (·.uuid) := by
  obtain ⟨pre, d, rfl, hd, hp⟩ := cats_defaultLast hn hl
  have hnone : pre.find? (fun c => c.uuid == dflt) = none := by simpa using hp
  have hall : pre.filter (fun c => c.uuid != dflt) = pre := by simpa using hp
  simp [List.find?_append, List.filter_append, hnone, hall, hd]

theorem rejoin_noResponseLast {cats : List CategoryD} {dflt tc : Str} {rest : List Str}
    (hn : (cats.map (·.uuid)).Nodup) (hl : (cats.map (·.uuid)).reverse = tc :: dflt :: rest) :
    cats.filter (fun c => c.uuid != dflt && c.uuid != tc) ++ (cats.find? (fun c => c.uuid == dflt)).toList
      ++ (cats.find? (fun c => c.uuid == tc)).toList = cats ∧
    dflt ∈ cats.map (·.uuid) ∧ tc ∈ cats.map (·.uuid) ∧ tc ≠ dflt := by
  -- peel the last category off, then the default one
  obtain ⟨l1, nr, rfl, hnr, hp1⟩ := cats_defaultLast hn (by rw [← List.head?_reverse, hl]; rfl)
  simp only [List.map_append, List.map_cons, List.map_nil, List.reverse_append, List.reverse_cons,
    List.reverse_nil, List.nil_append, List.cons_append, List.cons.injEq] at hl
  rw [List.map_append, List.nodup_append] at hn
  obtain ⟨pre, d, rfl, hd, hp⟩ := cats_defaultLast hn.1 (by rw [← List.head?_reverse, hl.2]; rfl)
  have hne : dflt ≠ tc := hd ▸ hp1 d (by simp)
  have hnone1 : pre.find? (fun c => c.uuid == dflt) = none := by simpa using hp
  have hnone2 : pre.find? (fun c => c.uuid == tc) = none := by simpa using fun c hc => hp1 c (by simp [hc])
  have hall : pre.filter (fun c => c.uuid != dflt && c.uuid != tc) = pre := by
    simpa using fun c hc => ⟨hp c hc, hp1 c (by simp [hc])⟩
  simp [List.find?_append, List.filter_append, hnone1, hnone2, hall, hd, hnr, hne, Ne.symm hne]

theorem orderedRouter_spec (r : RouterD) (hv : validRouter r = true) (ho : orderedRouter r = true) :
    reorderRouter r = r ∧ DefaultWired r := by
  cases r with
  | random cats rn => exact ⟨rfl, trivial⟩
  | switch op cases cats dflt wait rn =>
    simp only [validRouter, Bool.and_eq_true, decide_eq_true_eq] at hv
    obtain ⟨⟨⟨_, hnd⟩, _⟩, _⟩ := hv
    simp only [orderedRouter] at ho
    cases hwt : wait.bind (·.timeout) with
    | none =>
      simp only [hwt, beq_iff_eq] at ho
      obtain ⟨hre, hm⟩ := rejoin_defaultLast hnd ho
      exact ⟨by simp only [reorderRouter, hwt, hre], hm, fun t ht => by rw [hwt] at ht; cases ht⟩
    | some t =>
      simp only [hwt] at ho
      split at ho
      · next n dd rest hrev =>
        simp only [Bool.and_eq_true, beq_iff_eq] at ho
        obtain ⟨rfl, rfl⟩ := ho
        obtain ⟨hre, hm, hmt, hne⟩ := rejoin_noResponseLast hnd hrev
        refine ⟨by simp only [reorderRouter, hwt, hre], hm, fun t' ht' => ?_⟩
        rw [hwt] at ht'
        cases ht'
        exact ⟨hmt, hne⟩
      · simp at ho

theorem exitOf_self (exits : List ExitD) (hn : (exits.map (·.uuid)).Nodup) :
    exits.map (fun e => exitOf exits e.uuid) = exits :=
  map_eq_self fun e he => by
    obtain ⟨a, ha, hm, hu⟩ := find_key ExitD.uuid (List.mem_map_of_mem he)
    simp [exitOf, ha, eq_of_nodup_map hn hm he hu]

theorem orderedNode_spec (n : NodeD) (hv : validNode n = true) (ho : orderedNode n = true)
    (hx : exitsByCats n = true) : reorderNode n = n ∧ catsWired n = true := by
  cases n with
  | mk uuid actions router exits =>
  cases router with
  | none => exact ⟨rfl, rfl⟩
  | some r =>
    obtain ⟨hre, hd⟩ := orderedRouter_spec r (validNode_router hv rfl) ho
    simp only [validNode, Bool.and_eq_true, bne_iff_ne, ne_eq, decide_eq_true_eq] at hv
    obtain ⟨⟨⟨_, hnd⟩, _⟩, _⟩ := hv
    simp only [exitsByCats, beq_iff_eq] at hx
    constructor
    · -- the exits looked up through the categories' `exit_uuid`s, which list the exits in order
      have hex : (routerCatsD r).map (fun c => exitOf exits c.exitUuid) = exits := by
        have : (routerCatsD r).map (fun c => exitOf exits c.exitUuid) = ((routerCatsD r).map (·.exitUuid)).map (exitOf exits) := by
          rw [List.map_map]; rfl
        rw [this, ← hx, List.map_map]
        exact exitOf_self exits hnd
      simp only [reorderNode, hre, hex]
    · simp only [catsWired, Bool.and_eq_true, decide_eq_true_eq, List.all_eq_true, List.contains_eq_mem]
      refine ⟨⟨fun c hc => hx ▸ List.mem_map_of_mem hc, hx ▸ hnd⟩, ?_⟩
      cases r with
      | random cats rn => rfl
      | switch op cases cats dflt wait rn =>
        simp only [Bool.and_eq_true, decide_eq_true_eq]
        refine ⟨hd.1, ?_⟩
        cases hwt : wait.bind (·.timeout) with
        | none => rfl
        | some t => simpa using hd.2 t hwt

/-! ### the reordered router and node are valid and in re-join order -/

theorem perm_filter_ne {α : Type} (key : α → Str) {l : List α} (hn : (l.map key).Nodup) {a : α} (ha : a ∈ l) :
    (l.filter (fun x => key x != key a) ++ [a]).Perm l := by
  induction l with
  | nil => cases ha
  | cons x xs ih =>
    simp only [List.map_cons, List.nodup_cons] at hn
    rcases List.mem_cons.mp ha with rfl | ha
    · have : xs.filter (fun x => key x != key a) = xs :=
        List.filter_eq_self.2 (fun y hy => by
          simpa using fun (h : key y = key a) => hn.1 (h ▸ List.mem_map_of_mem hy))
      simp [this]
    · have hx : key x ≠ key a := fun h => hn.1 (h ▸ List.mem_map_of_mem ha)
      simpa [List.filter_cons, hx] using (ih hn.2 ha).cons x

theorem reorder_switch {op : Blob} {cases : List CaseD} {cats : List CategoryD} {dflt : Str} {wait : Option WaitD}
    {rn : Option Blob} (hnd : (cats.map (·.uuid)).Nodup) (hd : DefaultWired (.switch op cases cats dflt wait rn)) :
    ∃ F dc tail, reorderRouter (.switch op cases cats dflt wait rn) = .switch op cases (F ++ [dc] ++ tail) dflt wait rn ∧
      (F ++ [dc] ++ tail).Perm cats ∧ dc.uuid = dflt ∧
      ((wait.bind (·.timeout) = none ∧ tail = []) ∨
       (∃ t nc, wait.bind (·.timeout) = some t ∧ tail = [nc] ∧ nc.uuid = t.categoryUuid)) := by
  obtain ⟨dc, hdc, hdcm, hdcu⟩ := find_key CategoryD.uuid hd.1
  cases hwt : wait.bind (·.timeout) with
  | none =>
    refine ⟨cats.filter (fun c => c.uuid != dflt), dc, [], by simp [reorderRouter, hwt, hdc], ?_, hdcu,
      Or.inl ⟨rfl, rfl⟩⟩
    simpa [hdcu] using perm_filter_ne CategoryD.uuid hnd hdcm
  | some t =>
    obtain ⟨htm, htne⟩ := hd.2 t hwt
    obtain ⟨nc, hnc, hncm, hncu⟩ := find_key CategoryD.uuid htm
    refine ⟨cats.filter (fun c => c.uuid != dflt && c.uuid != t.categoryUuid), dc, [nc],
      by simp [reorderRouter, hwt, hdc, hnc], ?_, hdcu, Or.inr ⟨t, nc, rfl, rfl, hncu⟩⟩
    -- take the no-response category out first, then the default one out of the rest
    have p1 := perm_filter_ne CategoryD.uuid hnd hncm
    have p2 := perm_filter_ne CategoryD.uuid (l := cats.filter (fun c => c.uuid != nc.uuid))
      ((List.filter_sublist.map _).nodup hnd) (a := dc)
      (List.mem_filter.2 ⟨hdcm, by simpa [hdcu, hncu] using Ne.symm htne⟩)
    rw [List.filter_filter] at p2
    simpa [hdcu, hncu] using (p2.append_right [nc]).trans p1

theorem reorderRouter_spec {exits : List ExitD} {r : RouterD} (h : RouterWired exits r) :
    ((routerCatsD (reorderRouter r)).map (·.exitUuid)).Nodup ∧
    validRouter (reorderRouter r) = true ∧ orderedRouter (reorderRouter r) = true := by
  obtain ⟨hv, _, hxd, hd⟩ := h
  cases r with
  | random cats rn => exact ⟨hxd, hv, rfl⟩
  | switch op cases cats dflt wait rn =>
    simp only [validRouter, Bool.and_eq_true, decide_eq_true_eq] at hv
    obtain ⟨⟨⟨hvc, hnd⟩, hcases⟩, hwait⟩ := hv
    obtain ⟨F, dc, tail, hre, hperm, hdcu, htail⟩ := reorder_switch hnd hd
    rw [hre]
    simp only [routerCatsD] at hxd ⊢
    refine ⟨(hperm.map _).nodup_iff.2 hxd, ?_, ?_⟩
    · simp only [validRouter, Bool.and_eq_true, decide_eq_true_eq]
      refine ⟨⟨⟨?_, (hperm.map _).nodup_iff.2 hnd⟩, hcases⟩, hwait⟩
      rw [List.all_eq_true]
      exact fun c hc => (List.all_eq_true.mp hvc) c (hperm.subset hc)
    · rcases htail with ⟨hwt, rfl⟩ | ⟨t, nc, hwt, rfl, hncu⟩
      · simp [orderedRouter, hwt, hdcu]
      · simp [orderedRouter, hwt, hdcu, hncu]

theorem reordered_exits (exits : List ExitD) (cats' : List CategoryD)
    (hexits : exits.all validExit = true)
    (hwm' : ∀ c ∈ cats', c.exitUuid ∈ exits.map (·.uuid)) :
    (cats'.map (fun c => exitOf exits c.exitUuid)).map (·.uuid) = cats'.map (·.exitUuid) ∧
    (cats'.map (fun c => exitOf exits c.exitUuid)).all validExit = true := by
  refine ⟨?_, ?_⟩
  · rw [List.map_map]
    exact List.map_congr_left (fun c hc => exitOf_uuid (hwm' c hc))
  · rw [List.all_eq_true]
    intro e he
    obtain ⟨c, hc, rfl⟩ := List.mem_map.mp he
    exact (List.all_eq_true.mp hexits) _ (exitOf_mem (hwm' c hc))

theorem reorderRouter_kind (r : RouterD) :
    (∃ cats rn, r = .random cats rn ∧ reorderRouter r = .random cats rn) ∨
    (∃ op cases cats cats' dflt wait rn, r = .switch op cases cats dflt wait rn ∧
      reorderRouter r = .switch op cases cats' dflt wait rn) := by
  cases r with
  | random cats rn => exact Or.inl ⟨cats, rn, rfl, rfl⟩
  | switch op cases cats dflt wait rn =>
    have : reorderRouter (.switch op cases cats dflt wait rn) =
        .switch op cases (routerCatsD (reorderRouter (.switch op cases cats dflt wait rn))) dflt wait rn := by
      simp only [reorderRouter]
      split <;> rfl
    exact Or.inr ⟨op, cases, cats, _, dflt, wait, rn, rfl, this⟩

theorem reorderNode_actions (n : NodeD) : (reorderNode n).actions = n.actions := by
  unfold reorderNode
  split <;> rfl

theorem nodeCasesD_reorder (n : NodeD) : nodeCasesD (reorderNode n) = nodeCasesD n := by
  cases n with
  | mk uuid actions router exits =>
    cases router with
    | none => rfl
    | some r =>
      rcases reorderRouter_kind r with ⟨cats, rn, rfl, hre⟩ | ⟨op, cases, cats, cats', dflt, wait, rn, rfl, hre⟩ <;>
        simp only [reorderNode, nodeCasesD, hre, routerCasesD]

theorem reorderNode_spec (n : NodeD) (h : NodeWired n) :
    validNode (reorderNode n) = true ∧ exitsByCats (reorderNode n) = true ∧ orderedNode (reorderNode n) = true := by
  have hv := h.1
  cases n with
  | mk uuid actions router exits =>
  cases router with
  | none => exact ⟨hv, rfl, rfl⟩
  | some r =>
    have hR : RouterWired exits r := h.router rfl
    simp only [validNode, Bool.and_eq_true, bne_iff_ne, ne_eq, decide_eq_true_eq] at hv
    obtain ⟨⟨⟨⟨huuid, hexits⟩, hnd⟩, hacts⟩, hrouter⟩ := hv
    obtain ⟨hxd', hvr', hor'⟩ := reorderRouter_spec hR
    obtain ⟨huu, hval⟩ := reordered_exits exits (routerCatsD (reorderRouter r)) hexits
      (fun c hc => hR.exit c (reorderRouter_subset r c hc))
    have hdef : reorderNode { uuid := uuid, actions := actions, router := some r, exits := exits }
        = { uuid := uuid, actions := actions, router := some (reorderRouter r),
            exits := (routerCatsD (reorderRouter r)).map (fun c => exitOf exits c.exitUuid) } := rfl
    rw [hdef]
    -- `validNode` looks at the kind of the router, which reordering keeps
    rcases reorderRouter_kind r with ⟨cats, rn, rfl, hre⟩ | ⟨op, cases, cats, cats', dflt, wait, rn, rfl, hre⟩ <;>
      rw [hre] at hvr' huu hval hxd' hor' ⊢ <;> simp only [Bool.and_eq_true] at hrouter
    all_goals
      refine ⟨?_, by simp only [exitsByCats, beq_iff_eq]; exact huu, by simpa [orderedNode] using hor'⟩
      simp only [validNode, Bool.and_eq_true, bne_iff_ne, ne_eq, decide_eq_true_eq]
      exact ⟨⟨⟨⟨huuid, hval⟩, by rw [huu]; exact hxd'⟩, hacts⟩, hvr', hrouter.2⟩

theorem allNodes_reorderDoc (d : DocD) : allNodes (reorderDoc d) = (allNodes d).map reorderNode := by
  simp only [allNodes, reorderDoc_flows, List.map_map, List.map_flatten]
  rfl

theorem nodeRefsD_reorder (n : NodeD) : nodeRefsD (reorderNode n) = nodeRefsD n := by
  rw [nodeRefsD_eq, nodeRefsD_eq, reorderNode_actions, nodeCasesD_reorder]

theorem nodeFlowRefsD_reorder (n : NodeD) : nodeFlowRefsD (reorderNode n) = nodeFlowRefsD n := by
  simp only [nodeFlowRefsD, reorderNode_actions]

theorem valid_reorderDoc {d : DocD} (hv : Valid d) (hw : CatsWired d) : Valid (reorderDoc d) := by
  refine hv.transfer ?_ hv.campaigns hv.triggers rfl rfl rfl ?_ ?_ rfl
  · rw [reorderDoc_flows, List.forall_mem_map]
    intro f hf
    have hvf := hv.flows f hf
    simp only [validFlow, Bool.and_eq_true] at hvf ⊢
    exact ⟨hvf.1, List.all_eq_true.2 (List.forall_mem_map.2 fun n hn' => (reorderNode_spec n (hv.nodeWired hw hf hn')).1)⟩
  · simp only [docGroupRefs, allNodes_reorderDoc, List.map_map, Function.comp_def, nodeRefsD_reorder]
    rfl
  · simp only [docFlowRefsPre, allNodes_reorderDoc, reorderDoc_flows, List.map_map, Function.comp_def,
      nodeFlowRefsD_reorder]
    rfl

theorem ordered_reorderDoc {d : DocD} (hv : Valid d) (hw : CatsWired d) :
    OrderedCats (reorderDoc d) ∧ ExitsByCats (reorderDoc d) := by
  have hspec := fun n hm => reorderNode_spec n ⟨hv.node hm, hw n hm⟩
  simp only [OrderedCats, ExitsByCats, allNodes_reorderDoc, List.forall_mem_map]
  exact ⟨fun n hm => (hspec n hm).2.2, fun n hm => (hspec n hm).2.1⟩

theorem untyped_reorderDoc {d : DocD} (hu : UntypedFields d) : UntypedFields (reorderDoc d) := by
  simp only [UntypedFields, allNodes_reorderDoc, List.forall_mem_map, reorderNode_actions]
  exact hu

theorem reorderDoc_ordered {d : DocD} (hv : Valid d) (ho : OrderedCats d) (hx : ExitsByCats d) : reorderDoc d = d := by
  have : d.flows.map reorderFlow = d.flows :=
    map_eq_self (fun f hf => by
      have : f.nodes.map reorderNode = f.nodes :=
        map_eq_self (fun n hn => (orderedNode_spec n (hv.node (mem_allNodes hf hn))
          (ho n (mem_allNodes hf hn)) (hx n (mem_allNodes hf hn))).1)
      simp only [reorderFlow, this])
  show ({ d with flows := d.flows.map reorderFlow } : DocD) = d
  rw [this]

theorem catsWired_of_ordered {d : DocD} (hv : Valid d) (ho : OrderedCats d) (hx : ExitsByCats d) : CatsWired d :=
  fun n hm => (orderedNode_spec n (hv.node hm) (ho n hm) (hx n hm)).2

theorem roundtrip_ordered {d : DocD} (hv : Valid d) (ho : OrderedCats d) (hx : ExitsByCats d) :
    roundtrip d = .ok (shapeDoc d) := by
  have := roundtrip_eq hv (catsWired_of_ordered hv ho hx)
  rwa [reorderDoc_ordered hv ho hx] at this

theorem roundtrip_idem {d o : DocD} (hv : Valid d) (hw : CatsWired d) (h : roundtrip d = .ok o) :
    roundtrip o = .ok o := by
  rw [roundtrip_eq hv hw] at h
  cases h
  obtain ⟨ho, hx⟩ := ordered_reorderDoc hv hw
  rw [roundtrip_ordered (valid_shapeDoc (valid_reorderDoc hv hw)) (ordered_shapeDoc ho)
    (exitsByCats_shapeDoc hx), shapeDoc_idem]

end Rpft.Document
