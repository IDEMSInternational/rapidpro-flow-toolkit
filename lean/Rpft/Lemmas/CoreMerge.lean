/-
Rows merged into an existing node (C02 fragment): a row that carries the node name of an earlier action
row adds its action to that row's node (`Compile.mergeRow`) and creates nothing.  In the lock-step
simulation such a row is a row without a node (`isNodeRow` is false for it: the mark `CRow.merged`); the
reference side is the FUSED reading `pass1RowF`: no edge, the row id stands for the first row of the
chain.  The node of that row accounts for the merged actions through the `post` argument of `RowSim`.
-/
import Rpft.Lemmas.CoreRowSim
namespace Rpft.CoreSheet
open Rpft Rpft.Compile Rpft.RefFlow

/-- the fused reading of a merged row: one edge, unconditional, with an explicit `from` (or no row id), from the first
row of its chain, for which the row id of the merged row stands from now on -/
theorem pass1RowF_merged {rows : List CRow} {st st' : P1} {k : Nat} {c : CRow} (hm : (c.merged && isNamedAct c) = true)
    (h : pass1RowF rows st k c = .ok st') :
    ∃ e a R cR, dropTrivial c.row.edges = [e] ∧ e.cond.blank = true ∧
      (e.from_.isEmpty = false ∨ c.row.rowId.isEmpty = true) ∧ c.row.action = some a ∧
      edgeSrc st k (toREdge e) = .ok (some R) ∧ rows[R]? = some cR ∧ isNamedAct cR = true ∧ cR.merged = false ∧
      cR.row.nodeName = c.row.nodeName ∧
      { st with ids := if c.row.rowId.isEmpty then st.ids else (c.row.rowId, R) :: st.ids } = st' := by
  unfold pass1RowF at h
  rw [hm] at h
  simp only [if_true] at h
  split at h
  rotate_left
  · cases h
  rename_i e hedges
  split at h
  rotate_left
  · cases h
  rename_i hcond
  simp only [Bool.and_eq_true, Bool.or_eq_true, Bool.not_eq_true', Option.isSome_iff_exists] at hcond
  obtain ⟨⟨heb, hfrom⟩, a, hact⟩ := hcond
  split at h
  rotate_left
  · cases h
  rename_i R hsrcT
  split at h
  rotate_left
  · cases h
  rename_i cR hcR
  split at h
  rotate_left
  · cases h
  rename_i hRok
  simp only [Bool.and_eq_true, Bool.not_eq_true', decide_eq_true_eq] at hRok
  obtain ⟨⟨hnaR, hmR⟩, hnm⟩ := hRok
  injection h with h
  exact ⟨e, a, R, cR, hedges, heb, hfrom, hact, hsrcT, hcR, hnaR, hmR, hnm, h⟩

/-- of the action rows with one node name only the first is not merged -/
theorem named_unique {rows : List CRow} (ha : Annot rows) {i j : Nat} {ci cj : CRow}
    (hi : rows[i]? = some ci) (hj : rows[j]? = some cj) (hni : isNamedAct ci = true) (hnj : isNamedAct cj = true)
    (hmi : ci.merged = false) (hmj : cj.merged = false) (hnm : ci.row.nodeName = cj.row.nodeName) : i = j := by
  have key : ∀ (a b : Nat) (ca cb : CRow), rows[a]? = some ca → rows[b]? = some cb → isNamedAct ca = true →
      isNamedAct cb = true → cb.merged = false → ca.row.nodeName = cb.row.nodeName → ¬ a < b := by
    intro a b ca cb hca hcb hna hnb hmb hnm hlt
    rw [(ha.merged_iff hcb hnb).mpr ⟨a, ca, hlt, hca, hna, hnm⟩] at hmb
    cases hmb
  rcases Nat.lt_trichotomy i j with h1 | h1 | h1
  · exact absurd h1 (key i j ci cj hi hj hni hnj hmj hnm)
  · exact h1
  · exact absurd h1 (key j i cj ci hj hi hnj hni hmi hnm.symm)

theorem NamesInv.find_named {rows : List CRow} {M : Maps} {kg : Nat} {names : List (Str × Nat)} (ha : Annot rows)
    (h : NamesInv rows M kg names) {R : Nat} {cR : CRow} (hR : R < kg) (hcR : rows[R]? = some cR)
    (hnodeR : isNodeRow cR = true) (hnaR : isNamedAct cR = true) (hmR : cR.merged = false) :
    ∃ p, names.find? (·.1 = cR.row.nodeName) = some p ∧ p.2 = M.nOf R := by
  have hmem := h.2 R cR hR hcR hnodeR (isNoop_of_named hnaR) (name_ne_of_named hnaR)
  cases hfd : names.find? (·.1 = cR.row.nodeName) with
  | none => simpa using List.find?_eq_none.mp hfd _ hmem
  | some p =>
    refine ⟨p, rfl, ?_⟩
    have hp1 : p.1 = cR.row.nodeName := by simpa using List.find?_some hfd
    obtain ⟨i, ci, hi, hci, hni, hnni, hnai, hnmi, hp2⟩ :=
      h.1 p (List.mem_of_find?_eq_some hfd) (by rw [hp1]; exact name_ne_of_named hnaR)
    have hmi : ci.merged = false := by
      have := unmerged_of_node hni
      rw [hnai, Bool.and_true] at this; exact this
    rw [hp2, named_unique ha hci hcR hnai hnaR hmi hmR (by rw [hnmi, hp1])]

theorem RowSim.addAct {M : Maps} {ns ns' : Array NodeM} (hext : NExt ns ns') {n : NodeM} {c : CRow} {post : List Str}
    {es : List OutEdge} {ro : Option Nat} (hk : kindOf c.row.type = .action) (hro : ∀ i ∈ ro.toList, ns'[i]? = ns[i]?)
    {u : Uid} {a : Str} (hs : RowSim M ns n c post es ro) :
    RowSim M ns' { n with actions := n.actions ++ [(u, a)] } c (post ++ [a]) es ro := by
  cases hs with
  | one hn =>
    cases hn with
    | plain _ hp =>
      refine .one (.plain hk ⟨hp.kind, hp.router, ?_, hp.dest.ext hext, hp.blank⟩)
      simp only [List.map_append, List.map_cons, List.map_nil, hp.acts, List.append_assoc]
    | sw r hk' _ => rcases hk' with h | h | h <;> rw [hk] at h <;> cases h
    | fix r sc hk' _ => rcases hk' with h | h | h <;> rw [hk] at h <;> cases h
    | rnd r hk' _ => rw [hk] at hk'; cases hk'
    | nop r hk' _ => rw [hk] at hk'; cases hk'
  | impl i' n' r _ hp =>
    refine .impl i' n' r hk ⟨hp.kind, hp.router, ?_, hp.link, by rw [hro i' (by simp)]; exact hp.rnode, hp.kind',
      hp.acts', hp.router', hp.operand, hp.rname, hp.wait, hp.noResp, hp.cases, hp.casecat, ?_, hp.dflt.ext hext,
      hp.some, hp.names⟩
    · simp only [List.map_append, List.map_cons, List.map_nil, hp.acts, List.append_assoc]
    · exact hp.catd.imp (fun _ _ hd => hd.ext hext)

/-- the relation after a merged row: the node of the first row of its chain has one more action, the row
id of the merged row stands for that row -/
theorem Rel.merge {rows : List CRow} {M : Maps} {k : Nat} {s : St} {st : P1} {c : CRow} (ha : Annot rows)
    (h : Rel rows M false k s st) (hc : rows[k]? = some c) (hmg : c.merged = true) (hna : isNamedAct c = true)
    {a : Str} (hact : c.row.action = some a)
    {R : Nat} {cR : CRow} (hR : R < k) (hcR : rows[R]? = some cR) (hnaR : isNamedAct cR = true)
    (hmR : cR.merged = false) (hnm : cR.row.nodeName = c.row.nodeName)
    {n : NodeM} (hn : s.nodes[M.nOf R]? = some n) (u : Uid) (ids : List (Str × Nat))
    (hlt : ∀ p ∈ ids, p.2 < k + 1 ∧ ∃ c, rows[p.2]? = some c ∧ isNodeRow c = true) (nx : Nat) (hnx : s.next ≤ nx) :
    Rel rows M false (k + 1)
      { s with nodes := s.nodes.setIfInBounds (M.nOf R) { n with actions := n.actions ++ [(u, a)] },
               rowIds := ids.map (fun p => (p.1, gOf rows p.2)), next := nx }
      { st with ids := ids } := by
  have hnode := isNodeRow_of_merged hmg hna
  have hnodeR : isNodeRow cR = true := by
    rw [isNodeRow_of_unmerged hmR, kindOf_of_named hnaR]; rfl
  have hvR : Valid rows M false k R cR := ⟨.inl hR, hcR, hnodeR, h.elno R cR hcR (isNoop_of_named hnaR)⟩
  have hext : NExt s.nodes (s.nodes.setIfInBounds (M.nOf R) { n with actions := n.actions ++ [(u, a)] }) :=
    NExt.set hn rfl
  refine h.step_skip hc hnode (s.nodes.setIfInBounds (M.nOf R) { n with actions := n.actions ++ [(u, a)] }) nx _
    ids rfl hlt ?_ ?_
  · -- the nodes
    intro j c' hv0
    obtain ⟨m, hm, hp'⟩ := h.node j c' hv0
    by_cases hjR : j = R
    · subst hjR
      have : c' = cR := by have := hv0.2.1; rw [hcR] at this; injection this with this; exact this.symm
      subst this
      rw [hn] at hm; injection hm with hm; subst hm
      refine ⟨_, getElem?_set_self_of_some _ hn, ?_⟩
      rw [postUpTo_merge rows k j c c' hc hcR hR hmg hna hnaR hnm.symm, hact]
      refine RowSim.addAct hext (kindOf_of_named hnaR) ?_ hp'
      exact fun i hi => Array.getElem?_setIfInBounds_ne (Ne.symm (h.rne j i (Option.mem_toList.mp hi)))
    · have hnotin : ∀ y, y ∈ idxs M j → y ≠ M.nOf R := by
        intro y hy e
        exact hjR (h.disj j c' R cR hv0 hvR y hy (by rw [e]; simp [idxs]))
      refine ⟨m, by rw [Array.getElem?_setIfInBounds_ne (Ne.symm (hnotin _ (by simp [idxs])))]; exact hm, ?_⟩
      rw [postUpTo_other rows k j c hc (fun cj hcj hnj hne => by
        have hcj' : cj = c' := by have := hv0.2.1; rw [hcj] at this; injection this
        subst hcj'
        have hmj : cj.merged = false := by
          have := unmerged_of_node hv0.2.2.1
          rw [hnj, Bool.and_true] at this; exact this
        exact hjR (named_unique ha hv0.2.1 hcR hnj hnaR hmj hmR (by rw [← hne, hnm])))]
      refine hp'.transfer hext ?_
      intro i hi
      exact Array.getElem?_setIfInBounds_ne (Ne.symm (hnotin i (by simp only [idxs, List.mem_cons]; exact .inr hi)))
  · refine h.rfresh.step hnx fun i m hm => .inl ?_
    by_cases hi : i = M.nOf R
    · subst hi
      rw [getElem?_set_self_of_some _ hn] at hm; injection hm with hm; subst hm
      exact ⟨n, hn, rfl⟩
    · rw [Array.getElem?_setIfInBounds_ne (Ne.symm hi)] at hm
      exact ⟨m, hm, rfl⟩

theorem merge_row_simN {rows : List CRow} (ha : Annot rows) {k : Nat} {c : CRow}
    (hc : rows[k]? = some c) (hf : nodeRowOk c = true) (hm : (c.merged && isNamedAct c) = true)
    {s : St} {stT stT' : P1} (h : RelN rows k s stT) (hst : pass1RowF rows stT k c = .ok stT') :
    wp (step (toEvent c)) s (fun _ s' => RelN rows (k + 1) s' stT') := by
  obtain ⟨M, st, pnd, h, hs⟩ := h
  obtain ⟨hmg, hna⟩ := Bool.and_eq_true_iff.mp hm
  have hfacts := rowFacts c hf
  have hnode := isNodeRow_of_merged hmg hna
  obtain ⟨e, a, R, cR, hedges, heb, hfrom, hact, hsrcT, hcR, hnaR, hmR, hnm, hst⟩ :=
    pass1RowF_merged hm hst
  have hsrc := hs.src h
  obtain ⟨hR, cR', hcR', hnodeR⟩ := hsrc.src_ok hsrcT
  rw [hcR] at hcR'; injection hcR' with hcR'; subst hcR'
  have hnnR := isNoop_of_named hnaR
  have helR := h.elno R cR hcR hnnR
  have hvR : Valid rows M false k R cR := ⟨.inl hR, hcR, hnodeR, helR⟩
  obtain ⟨n, hn, _⟩ := h.node R cR hvR
  have hgrpR := h.grp R cR hR hcR hnodeR hnnR
  obtain ⟨p, hfind, hp2⟩ := h.names.find_named ha hR hcR hnodeR hnaR hmR
  rw [hnm] at hfind
  -- the compiler side
  unfold step toEvent
  simp only
  rw [parseRow_node c.row hfacts.node hfacts.nnoop hfacts.ninsert]
  unfold actionRow
  wp_simp
  refine ⟨fun _ => trivial, fun hok => ?_⟩
  have e1 : (if List.isEmpty c.row.nodeUuid = true then c.row.nodeName else c.row.nodeUuid) = c.row.nodeName := by
    simp [hfacts.nouid]
  rw [e1]
  have hne : c.row.nodeName.isEmpty = false := List.isEmpty_eq_false_iff.mpr (name_ne_of_named hna)
  simp only [hne, Bool.false_eq_true, if_false, hfind, Option.map_some, hact]
  unfold mergeRow
  simp only [hedges]
  rw [if_neg (by simp [heb])]
  wp_simp
  -- the group the edge comes from
  have hfrom' : (e.from_ = [] ∧ stT.prev = some R) ∨ (e.from_ ≠ [] ∧ lookupId stT.ids e.from_ = some R) := edgeSrc_some hsrcT
  have hpred : (if e.from_.isEmpty then mostRecentIn s.groups s.stack
      else (s.rowIds.find? (·.1 = e.from_)).map (·.2)) = some (gOf rows R) := by
    rw [hsrc.recent, hsrc.byId]
    rcases hfrom' with ⟨hemp, hpv⟩ | ⟨hemp, hl⟩
    · rw [hemp, if_pos List.isEmpty_nil, hpv]; rfl
    · rw [if_neg (by simpa [List.isEmpty_iff] using hemp), hl]; rfl
  rw [wp_predGroup, hpred]
  simp only
  wp_simp [wp_fuelOf]
  rw [wp_entryNode_row hgrpR]
  refine ⟨fun _ => trivial, fun _ => ?_⟩
  wp_simp [wp_fresh, wp_getNode, wp_setNode]
  intro n0 hn0
  rw [hp2] at hn0 ⊢
  rw [hn] at hn0; injection hn0 with hn0; subst hn0
  -- the row id of the merged row stands for row `R` on both sides, or for nothing
  have fin : ∀ ids, (∀ p ∈ ids, p.2 < k + 1 ∧ ∃ c, rows[p.2]? = some c ∧ isNodeRow c = true) →
      RelN rows (k + 1)
        { s with nodes := s.nodes.setIfInBounds (M.nOf R) { n with actions := n.actions ++ [(tid s.next, a)] },
                 rowIds := ids.map (fun p => (p.1, gOf rows p.2)), next := s.next + 1 }
        { stT with ids := ids } :=
    fun ids hlt => ⟨M, { st with ids := ids }, pnd,
      Rel.merge ha h hc hmg hna hact hR hcR hnaR hmR hnm hn (tid s.next) ids hlt (s.next + 1) (Nat.le_succ _),
      (hs.skip h hc hnode).congr_ids (by rfl) ids⟩
  have hlt0 : ∀ p ∈ stT.ids, p.2 < k + 1 ∧ ∃ c, rows[p.2]? = some c ∧ isNodeRow c = true :=
    fun p hp => ⟨Nat.lt_succ_of_lt (hsrc.idok p hp).1, (hsrc.idok p hp).2⟩
  rw [← hst]
  refine ⟨fun hrid0 => ?_, fun hrid0 => ?_⟩
  · rw [if_pos hrid0]
    have := fin stT.ids hlt0
    rw [← hsrc.ids] at this
    exact this
  · -- an explicit `from`: the row id is registered for the group of the first row of the chain
    have hemp : e.from_ ≠ [] := by
      rcases hfrom with hh | hh
      · intro e0; rw [e0] at hh; cases hh
      · exact absurd hh hrid0
    wp_simp [wp_lookupRow]
    rw [hsrc.byId, hfrom'.elim (fun hh => absurd hh.1 hemp) (·.2), if_neg hrid0]
    simp only [Option.map_some]
    wp_simp
    have := fin ((c.row.rowId, R) :: stT.ids) (List.forall_mem_cons.mpr ⟨⟨Nat.lt_succ_of_lt hR, cR, hcR, hnodeR⟩, hlt0⟩)
    rw [List.map_cons, ← hsrc.ids] at this
    exact this

end Rpft.CoreSheet
