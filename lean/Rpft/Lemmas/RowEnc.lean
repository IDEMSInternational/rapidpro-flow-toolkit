/-
C09, positional vs keyword in general: the relation `Enc ty v pv` — "the parsed cell value
`pv` (what `CellParser.parse` returns: strings and nested lists) is AN encoding of the value
`v : ty`" — with lists given element by element (or as a single value), records given by
entries that are each positional or `key;value`, in any mixture and at any nesting depth;
and the theorem that every encoding decodes to the value (`assign_value` + validation): `enc_decodes`.
Its use on cell texts: the mixed positional / keyword cell of a record of basic fields (`EntriesOf`,
`readCell_mixed`) and the all-positional one (`readCell_positional`).
-/
import Rpft.Lemmas.RowAny
namespace Rpft.Row
open Rpft Rpft.Cell

def Decodes (ty : Ty) (v : Val) (pv : PV) : Prop :=
  ∃ tr, assignValue ty pv = .ok (some tr) ∧ validate ty tr = .ok v

/-- `assign_value` followed by validation -/
def decode (ty : Ty) (pv : PV) : Except Err Val :=
  match assignValue ty pv with
  | .error e => .error e
  | .ok r => validate ty (r.getD Tree.none)

theorem decode_of_decodes {ty : Ty} {v : Val} {pv : PV} (h : Decodes ty v pv) :
    decode ty pv = .ok v := by
  obtain ⟨tr, h1, h2⟩ := h
  simp [decode, h1, h2]

/-- the tree `pv` is assigned as -/
def treeOf (ty : Ty) (pv : PV) : Tree :=
  match assignValue ty pv with
  | .ok (some t) => t
  | _ => .none

theorem Decodes.tree {ty : Ty} {v : Val} {pv : PV} (h : Decodes ty v pv) :
    assignValue ty pv = .ok (some (treeOf ty pv)) ∧ validate ty (treeOf ty pv) = .ok v := by
  obtain ⟨tr, h1, h2⟩ := h
  simp only [treeOf, h1, h2, and_self]

theorem decodes_list (t : Ty) (zs : List (Val × PV)) (h : ∀ p ∈ zs, Decodes t p.1 p.2) :
    Decodes (.list t) (.list (zs.map Prod.fst)) (.list (zs.map Prod.snd)) := by
  refine ⟨.list (zs.map fun p => treeOf t p.2), ?_, ?_⟩
  · simp only [assignValue, assignList, listEntries]
    rw [mapE_map_ok _ Prod.snd (fun p => treeOf t p.2) zs fun p hp => by
      simp only [(h p hp).tree.1, Option.getD_some]]
  · simp only [validate]
    rw [mapE_map_ok (validate t) (fun p => treeOf t p.2) Prod.fst zs fun p hp => (h p hp).tree.2]

/-- **The encodings of a value** -/
inductive Enc : Ty → Val → PV → Prop
  /-- a basic value: its text -/
  | basic {ty : Ty} {v : Val} : isBasicTy ty = true → reprOk false ty v = true →
      Enc ty v (.atom (printBasic v))
  /-- an untyped list: itself; a single string stands for the one-element list -/
  | any {xs : List PV} : Enc .anyList (.any xs) (.list xs)
  | anyAtom {s : Str} : Enc .anyList (.any [.atom s]) (.atom s)
  /-- a typed list: element by element; a single non-blank string stands for a one-element
  list; the blank cell for the empty list -/
  | list {t : Ty} {xs : List Val} {pvs : List PV} : xs.length = pvs.length →
      (∀ p ∈ xs.zip pvs, Enc t p.1 p.2) → Enc (.list t) (.list xs) (.list pvs)
  | listAtom {t : Ty} {x : Val} {s : Str} : s ≠ [] → Enc t x (.atom s) →
      Enc (.list t) (.list [x]) (.atom s)
  | listEmpty {t : Ty} : Enc (.list t) (.list []) (.atom [])
  /-- a record: entries, each positional (at the index of its field) or `key;value`, every
  field at most once, the others at their defaults; no entry and not the whole value may look
  like a `key;value` pair unless it is one (the keyword-first rule, finding F-C09-a) -/
  | model {sfs : List Field} {h2f f2h : List (Str × Str)} {kvs : List (Str × Val)}
      (es : List REntry) :
      kvs.map Prod.fst = sfs.map (·.1) → (sfs.map (·.1)).Nodup →
      (∀ e ∈ es, (e.f, e.x) ∈ sfs.zip (kvs.map Prod.snd)) →
      RPosAt sfs 0 es → (es.map (·.f.1)).Nodup →
      (∀ e ∈ es, Enc e.f.2.1 e.x e.pv) →
      (∀ e ∈ es, e.kw = true → remap h2f e.key = e.f.1) →
      (∀ e ∈ es, e.kw = false → tryKwarg (fieldAssigners sfs) h2f e.pv = none) →
      tryKwarg (fieldAssigners sfs) h2f (.list (es.map (·.entry))) = none →
      (∀ p ∈ sfs.zip (kvs.map Prod.snd), (∃ e ∈ es, (e.f, e.x) = p) ∨ p.1.2.2 = some p.2) →
      Enc (.model sfs h2f f2h) (.model kvs) (.list (es.map (·.entry)))
  /-- a record given by a single string: its first entry -/
  | modelAtom {sfs : List Field} {h2f f2h : List (Str × Str)} {kvs : List (Str × Val)} {a : Str} :
      Enc (.model sfs h2f f2h) (.model kvs) (.list [.atom a]) →
      Enc (.model sfs h2f f2h) (.model kvs) (.atom a)

theorem enc_decodes {ty : Ty} {v : Val} {pv : PV} (h : Enc ty v pv) : Decodes ty v pv := by
  induction h with
  | basic hb hr =>
    exact ⟨_, (basic_leaf hb hr).assign, (basic_leaf hb hr).validate⟩
  | @any xs =>
    exact ⟨.list (Tree.ofPVs xs), by simp [assignValue, assignAny], by simp [validate, toPVs_ofPVs]⟩
  | @anyAtom s =>
    exact ⟨.list [.str s], by simp [assignValue, assignAny], by simp [validate, Tree.toPVs, Tree.toPV]⟩
  | @list t xs pvs hlen _ ih =>
    have := decodes_list t (xs.zip pvs) ih
    rwa [List.map_fst_zip (Nat.le_of_eq hlen), List.map_snd_zip (Nat.le_of_eq hlen.symm)] at this
  | @listAtom t x s hs _ ih =>
    obtain ⟨tr, h1, h2⟩ := ih
    exact ⟨.list [tr], by simp [assignValue, assignList, listEntries, hs, mapE, h1],
      by simp [validate, mapE, h2]⟩
  | listEmpty => exact ⟨.list [], by simp [assignValue, assignList, listEntries, mapE],
      by simp [validate, mapE]⟩
  | model es hnames hnd hmem hat hndE _ hkey hU2 hU1 hrest ih =>
    exact ⟨_, reads_model _ _ _ _ es (fun e => treeOf e.f.2.1 e.pv) hnames hnd hmem hat hndE
      (fun e he => (ih e he).tree) hkey hU2 hU1 hrest⟩
  | modelAtom _ ih =>
    obtain ⟨tr, h1, h2⟩ := ih
    refine ⟨tr, ?_, h2⟩
    simpa [assignValue, assignModel] using h1

/-! ### cells of records of basic fields -/

theorem readCell_eq_decode {ty : Ty} {t : Str} {pv : PV} (h : cellParse t = .ok pv) :
    readCell ty t = decode ty pv := by
  simp only [readCell, decode, h]
  cases assignValue ty pv <;> rfl

/-- the entries `es` give the record `skvs` of the fields `sfs` -/
structure EntriesOf (sfs : List Field) (skvs : List (Str × Val)) (es : List MEntry) : Prop where
  mem : ∀ e ∈ es, e.pair ∈ sfs.zip (skvs.map Prod.snd)
  posAt : PosAt sfs 0 es
  nodup : (es.map (·.pair.1.1)).Nodup
  repr : ∀ e ∈ es, reprOk false e.pair.1.2.1 e.pair.2 = true
  rest : ∀ p ∈ sfs.zip (skvs.map Prod.snd), (∃ e ∈ es, e.pair = p) ∨ p.1.2.2 = some p.2

theorem enc_mixed {sfs : List Field} {skvs : List (Str × Val)} {es : List MEntry}
    (hnames : skvs.map Prod.fst = sfs.map (·.1)) (hfam : subFamily sfs = true)
    (E : EntriesOf sfs skvs es) (hun : UnambiguousM sfs es = true) :
    Enc (plainTop sfs) (.model skvs) (.list (es.map (·.pv))) := by
  replace hfam := subFamily_iff.mp hfam
  have hentry : (es.map MEntry.toR).map (·.entry) = es.map (·.pv) := by
    rw [List.map_map]
    exact List.map_congr_left fun e _ => by cases e <;> rfl
  rw [← hentry]
  -- `e.toR` has the field and the value of `e.pair` by definition
  exact Enc.model (es.map MEntry.toR) hnames hfam.2 (List.forall_mem_map.mpr E.mem)
    (rposAt_toR sfs es 0 E.posAt) (by rw [List.map_map]; exact E.nodup)
    (List.forall_mem_map.mpr fun e he =>
      Enc.basic (hfam.1 _ (List.of_mem_zip (E.mem e he)).1).2 (E.repr e he))
    (List.forall_mem_map.mpr fun _ _ _ => remap_nil _)
    (List.forall_mem_map.mpr fun _ _ _ => rfl)
    (hentry ▸ tryKwarg_of_unambiguousM hun)
    (fun p hp => (E.rest p hp).imp_left fun ⟨e, he, h⟩ => ⟨e.toR, List.mem_map_of_mem he, h⟩)

theorem readCell_mixed {sfs : List Field} {skvs : List (Str × Val)} {es : List MEntry}
    (hnames : skvs.map Prod.fst = sfs.map (·.1)) (hfam : subFamily sfs = true) (hne : es ≠ [])
    (E : EntriesOf sfs skvs es)
    (hkwnb : ∀ p, MEntry.kw p ∈ es → printBasic p.2 ≠ [])
    (hlast : ∀ p, es.getLast? = some (.pos p) → printBasic p.2 ≠ [])
    (hun : UnambiguousM sfs es = true) :
    readCell (plainTop sfs) (joinCell (.list (es.map (·.elem)))) = .ok (.model skvs) := by
  have henc := enc_mixed hnames hfam E hun
  have hfs : ∀ e ∈ es, simpleName e.pair.1.1 = true ∧ isBasicTy e.pair.1.2.1 = true := fun e he =>
    (subFamily_iff.mp hfam).1 _ (List.of_mem_zip (E.mem e he)).1
  have hstr : ∀ e ∈ es, strOk (printBasic e.pair.2) = true := fun e he =>
    (basic_leaf (hfs e he).2 (E.repr e he)).strOk
  obtain ⟨hwf, hcok⟩ := wfCell_mixed es hne hstr
    (fun p hp => ⟨simpleName_strOk (hfs _ hp).1, hkwnb p hp⟩) hlast
  have hpv : PV.ofCell (.list (es.map (·.elem))) = .list (es.map (·.pv)) := by
    simp only [PV.ofCell, List.map_map, PV.list.injEq]
    apply List.map_congr_left
    intro e _
    cases e <;> simp [MEntry.elem, MEntry.pv, PV.ofElem, posElem, posEntry, subElem, subEntry]
  rw [readCell_eq_decode (cellParse_joinCell hwf hcok), hpv]
  exact decode_of_decodes (enc_decodes henc)

theorem posAt_pos (sfs : List Field) : ∀ (pm : List SPair) (pre rest : List Field),
    sfs = pre ++ pm.map (·.1) ++ rest → PosAt sfs pre.length (pm.map .pos)
  | [], _, _, _ => trivial
  | p :: pm, pre, rest, h => by
    refine ⟨by simp [h], ?_⟩
    simpa using posAt_pos sfs pm (pre ++ [p.1]) rest (by simpa using h)

theorem readCell_positional {sfs : List Field} {skvs : List (Str × Val)}
    {pm pr : List SPair} (hpairs : pm ++ pr = sfs.zip (skvs.map Prod.snd))
    (hnames : skvs.map Prod.fst = sfs.map (·.1)) (hfam : subFamily sfs = true) (hne : pm ≠ [])
    (hok : ∀ p ∈ pm, reprOk false p.1.2.1 p.2 = true)
    (hlast : ∀ p, pm.getLast? = some p → printBasic p.2 ≠ [])
    (hdef : ∀ p ∈ pr, p.1.2.2 = some p.2)
    (hun : Unambiguous sfs (pm.map fun p => printBasic p.2) = true) :
    readCell (plainTop sfs) (joinCell (.list (pm.map posElem))) = .ok (.model skvs) := by
  have hfst : pm.map (·.1) ++ pr.map (·.1) = sfs := by
    rw [← List.map_append, hpairs]; exact zip_map_fst hnames
  have hnd := (subFamily_iff.mp hfam).2
  have e1 : (pm.map MEntry.pos).map (·.pair.1.1) = pm.map (·.1.1) := by rw [List.map_map]; rfl
  have e2 : (pm.map MEntry.pos).map (·.elem) = pm.map posElem := by rw [List.map_map]; rfl
  rw [← e2]
  refine readCell_mixed hnames hfam (by simpa using hne)
    ⟨List.forall_mem_map.mpr fun p hp => hpairs ▸ List.mem_append_left _ hp,
      by simpa using posAt_pos sfs pm [] (pr.map (·.1)) (by simpa using hfst.symm), ?_,
      List.forall_mem_map.mpr hok, ?_⟩
    (fun p hp => by simp at hp) ?_ ((unambiguousM_pos sfs pm).trans hun)
  · rw [← hfst, List.map_append, List.map_map, List.map_map] at hnd
    exact e1 ▸ (List.nodup_append.mp hnd).1
  · intro p hp
    rw [← hpairs] at hp
    exact (List.mem_append.mp hp).imp (fun h => ⟨.pos p, List.mem_map_of_mem h, rfl⟩) (hdef p)
  · intro p hl
    rw [List.getLast?_map] at hl
    obtain ⟨a, hg, e⟩ := Option.map_eq_some_iff.mp hl
    exact MEntry.pos.inj e ▸ hlast a hg

end Rpft.Row
