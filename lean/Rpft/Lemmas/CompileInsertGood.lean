/-
A run compared with itself: the facts about reachable states the simulation tracks on its left
side (open blocks are blocks, row ids and group references name existing groups / nodes, the
test tables are those of the start, the unused exit identifiers of router nodes were drawn from
the counter) hold in every state reached from the initial one.
-/
import Rpft.Lemmas.CompileInsertTwin
import Rpft.Lemmas.CompileFinal
namespace Rpft.Compile
open Rpft Function

/-- the identity correspondence -/
def Pid (na nt : List Str) : Params :=
  { ρ := id, ν := id, γ := id, DN := fun _ => True, DG := fun _ => True, T := fun j => j = 0, bx := 0, gx := 0,
    base₁ := initSt na nt, base₂ := initSt na nt, hb := False, sp := false, na := na, nt := nt }

theorem ok_of_id {P : Params} (hρ : P.ρ = id) (hν : P.ν = id) (hγ : P.γ = id) (hsp : P.sp = false) (hop : P.op = false) :
    P.Ok :=
  ⟨hρ ▸ injective_id, hν ▸ injective_id, hγ ▸ injective_id, fun h => Bool.noConfusion (hsp.symm.trans h),
    fun x _ => congrFun hρ x, fun h => Bool.noConfusion (hop.symm.trans h)⟩

theorem Pid_ok (na nt : List Str) : (Pid na nt).Ok := ok_of_id rfl rfl rfl rfl rfl

def Xid : SParams := ⟨[], [], true, []⟩

theorem asim_self {na nt : List Str} {s : St} {DN DG T : Nat → Prop} {bx : Nat}
    (hna : s.noArgs = na) (hnt : s.testTypes = nt) (hbx : bx < s.groups.size)
    (hwf : RefsOk s) (hdex : DexOk s)
    (hnd : ∀ i, s.nodes.size ≤ i → DN i) (hgd : ∀ j, s.groups.size ≤ j → DG j ∧ ¬ T j)
    (hcl : ∀ (j : Nat) (g : Grp), DG j → s.groups[j]? = some g → (∀ i ∈ gnodes g, DN i) ∧ (∀ x ∈ grefs g, DG x))
    (hra : ∀ (j : Nat) (g : Grp), DG j → ¬ T j → s.groups[j]? = some g → ∀ x ∈ grefs g, ¬ T x) :
    ASim { Pid na nt with DN := DN, DG := DG, T := T, bx := bx, base₁ := s, base₂ := s } s s where
  na₁ := hna
  na₂ := hna
  nt₁ := hnt
  nt₂ := hnt
  mono₁ := ⟨Nat.le_refl _, Nat.le_refl _, Nat.le_refl _⟩
  mono₂ := ⟨Nat.le_refl _, Nat.le_refl _, Nat.le_refl _⟩
  idsync _ := rfl
  nsync _ := rfl
  gsync _ := rfl
  ndom := hnd
  gdom := hgd
  bxlt := hbx
  bne h := h.elim
  wf := hwf
  dex := hdex
  nodes i n _ hn := by
    show s.nodes[i]? = some (rnNode id n)
    rw [rnNode_id]; exact hn
  groups j g _ hg := by
    show s.groups[j]? = some (mapGrpAt _ j g)
    rw [mapGrpAt_fix (.inr rfl) (fun _ _ => rfl) (fun _ _ => rfl)]; exact hg
  closed := hcl
  ra := hra
  fr1n _ _ := rfl
  fr1g _ _ := rfl
  fr2n _ _ := rfl
  fr2g _ _ := rfl
  pl h := Bool.noConfusion h

/-- the facts about a reachable state -/
structure Good (na nt : List Str) (s : St) : Prop where
  hna : s.noArgs = na
  hnt : s.testTypes = nt
  pos : 0 < s.groups.size
  wf : RefsOk s
  dex : DexOk s
  rk : ∀ p ∈ s.rowIds, p.1 ≠ []
  sb : SB s
  rv : RV s
  /-- nobody refers to the root block -/
  ra : ∀ (j : Nat) (g : Grp), j ≠ 0 → s.groups[j]? = some g → ∀ x ∈ grefs g, x ≠ 0
  r0 : ∀ p ∈ s.rowIds, p.2 ≠ 0
  ss : s.stack.Pairwise (fun x y => x = 0 → y = 0)
  cl : CL (Pid na nt) s

theorem Good.sim_self {na nt : List Str} {s : St} (hg : Good na nt s) :
    Sim { Pid na nt with base₁ := s, base₂ := s } Xid s s where
  left := asim_self hg.hna hg.hnt hg.pos hg.wf hg.dex (fun _ _ => trivial)
    (fun j hj => ⟨trivial, fun (h : j = 0) => Nat.not_le_of_lt hg.pos (h ▸ hj)⟩) (fun _ _ _ _ => ⟨fun _ _ => trivial, fun _ _ => trivial⟩)
    (fun j g _ => hg.ra j g)
  right := {
    stack := by show s.stack = s.stack.map id ++ []; simp
    stackDG := fun _ _ => trivial
    tl := .inl rfl
    bxs := fun h => nomatch h
    ss := hg.ss
    ri := fun _ _ _ h => h
    riDG := fun _ _ => trivial
    rl := fun p hp h => absurd h (hg.r0 p hp)
    rk := hg.rk
    rk2 := fun id hid => by
      show lookupIn s.rowIds id = lookupIn [] id
      unfold lookupIn
      rw [List.find?_eq_none.mpr fun p hp => by simpa using hid p hp]
      rfl
    nm := fun _ x _ => by show lookupIn s.names x = (lookupIn s.names x).map id; simp
    nmDN := fun _ _ => trivial }

theorem initSt_groups {na nt : List Str} {j : Nat} {g : Grp} (h : (initSt na nt).groups[j]? = some g) :
    j = 0 ∧ g = .block [] := by
  have hlt : j < 1 := lt_size_of_getElem? h
  obtain rfl : j = 0 := Nat.lt_one_iff.mp hlt
  exact ⟨rfl, (Option.some.inj h).symm⟩

theorem good_init (na nt : List Str) : Good na nt (initSt na nt) where
  hna := rfl
  hnt := rfl
  pos := Nat.zero_lt_one
  wf j g hg := by
    obtain ⟨rfl, rfl⟩ := initSt_groups hg
    exact ⟨fun i hi => (nomatch hi), fun x hx => nomatch hx⟩
  dex i n hn := by simp [initSt] at hn
  rk p hp := nomatch hp
  sb b hb := by rw [List.mem_singleton.mp hb]; exact ⟨[], rfl⟩
  rv p hp := nomatch hp
  ra j g hj hg := absurd (initSt_groups hg).1 hj
  r0 p hp := nomatch hp
  ss := List.pairwise_singleton _ _
  cl := ⟨fun b hb cs hg c hc => by
    rw [List.mem_singleton.mp hb] at hg
    cases (initSt_groups hg).2
    exact (nomatch hc), fun b hb => by simp [initSt] at hb⟩

theorem good_steps {na nt : List Str} {s t : St} (hg : Good na nt s) {evs : List Event} (hid : okIdsL evs = true)
    (hr : (steps evs).run s = .ok ((), t)) : Good na nt t := by
  have ok : ({ Pid na nt with base₁ := s, base₂ := s } : Params).Ok := ok_of_id rfl rfl rfl rfl rfl
  have hcl : CL { Pid na nt with base₁ := s, base₂ := s } s := hg.cl
  -- the two-run theorem, both runs being this one
  obtain ⟨ht, hf⟩ := steps_clean evs hid _ Xid s s ok hg.sim_self rfl (.inl rfl) hcl hg.sb hg.rv (fun h => Bool.noConfusion h) () t () t hr hr
  refine ⟨ht.1.na₁, ht.1.nt₁, ?_, ht.1.wf, ht.1.dex, ht.2.rk, hf.sb hg.sb, hf.rv hg.rv, ?_, ?_, ht.2.ss, hf.cl hcl⟩
  · exact Nat.lt_of_lt_of_le hg.pos hf.hk.2.2
  · intro j g hj hgj x hx
    exact ht.1.ra j g trivial hj hgj x hx
  · intro p hp h0
    have := ht.2.rl p hp h0
    simp [Xid] at this

theorem good_run {na nt : List Str} {evs : List Event} {s : St} (hid : okIdsL evs = true)
    (hr : (steps evs).run (initSt na nt) = .ok ((), s)) : Good na nt s :=
  good_steps (good_init na nt) hid hr

end Rpft.Compile
