/-
`find_entry` calls the leaf assignment only at the type of the position the path leads to (`posTy`):
two column values that are assigned alike at that type act alike (`findSet_leaf_congr`; C09: an element
of a `*` column vs. the raw cell of the indexed column, `parseEntry_star_eq_cell`).
-/
import Rpft.Lemmas.RowGenCore
namespace Rpft.Row
open Rpft

/-- the type of the child a segment leads to (static walk of the schema) -/
def childTy (ty : Ty) (seg : Str) : Option Ty :=
  if isListTy ty then some (listChild ty)
  else match ty with
    | .model fs h2f _ => (fieldLookup (remap h2f seg) fs).map (·.2.1)
    | _ => none

/-- the type of the position a path leads to -/
def posTy : Ty → List Str → Option Ty
  | ty, [] => some ty
  | ty, seg :: rest =>
    match childTy ty seg with
    | none => none
    | some c => posTy c rest

theorem slot_ty {ty : Ty} {out : Tree} {seg : Str} {r : Ty × Tree × (Tree → Tree)}
    (h : slot ty out seg = .ok r) : childTy ty seg = some r.1 := by
  revert h
  fun_cases slot ty out seg <;> intro h <;> cases h
  case case4 hl => simp only [childTy, hl, if_true]
  case case7 hf hl => simp [childTy, hf, hl]

theorem findSet_leaf_congr {cv cv' : ColVal} {path : List Str} : ∀ {ty : Ty} {out : Tree},
    (∀ lt, posTy ty path = some lt → leafFn cv lt = leafFn cv' lt) →
    findSet (leafFn cv) ty out path = findSet (leafFn cv') ty out path := by
  induction path with
  | nil => intro _ _ _; simp only [findSet]
  | cons seg rest ih =>
    intro ty out h
    rw [findSet_cons, findSet_cons]
    cases hs : slot ty out seg with
    | error e => rfl
    | ok r =>
      have hr : ∀ lt, posTy r.1 rest = some lt → leafFn cv lt = leafFn cv' lt :=
        fun lt hlt => h lt (by simp only [posTy, slot_ty hs, hlt])
      simp only
      cases rest with
      | nil => simp only [pstep, hr r.1 rfl]
      | cons s rest' => simp only [pstep, ih hr]

theorem leafFn_star_eq_cell {x t : Str} (h : parseAsString t = .ok x) {ty : Ty}
    (hb : isBasicTy ty = true) : leafFn (Sum.inr (.atom x)) ty = leafFn (Sum.inl t) ty := by
  cases ty <;> simp [isBasicTy] at hb <;> simp [leafFn, leafValue, isListTy, isModelTy, h]

theorem parseEntry_star_eq_cell {top : Ty} {out : Tree} {key x t : Str}
    (h : parseAsString t = .ok x)
    (hty : (posTy top (splitDot (getFieldName key))).all isBasicTy = true) :
    parseEntry top out (key, Sum.inr (.atom x)) = parseEntry top out (key, Sum.inl t) :=
  findSet_leaf_congr fun lt hlt => leafFn_star_eq_cell h
    (show (some lt).all isBasicTy = true from hlt ▸ hty)

end Rpft.Row
