/-
The `insert_as_block` row (`insert_rel`), given the statement for its body as induction hypothesis
(`BodyRel`).  The hypothesis is used twice on the same two runs of the nested parser: for the correspondence
itself, and for the correspondence restricted to the part of the arenas created from the row on
(`Params.restrict`), whose frame says that the nested parser does not touch the groups of the outer one.
-/
import Rpft.Lemmas.CompileInsertSteps
namespace Rpft.Compile
open Rpft Function

/-- the same correspondence, on the nodes from `N` and the groups from `G` on, framed w.r.t. `u₁`, `u₂` -/
def Params.restrict (P : Params) (N G : Nat) (u₁ u₂ : St) : Params :=
  { P with DN := fun i => P.DN i ∧ N ≤ i, DG := fun j => P.DG j ∧ G ≤ j, base₁ := u₁, base₂ := u₂ }

variable {P : Params}

theorem Params.Ok.restrict (ok : P.Ok) (N G : Nat) (u₁ u₂ : St) : (P.restrict N G u₁ u₂).Ok :=
  ⟨ok.hρ, ok.hν, ok.hγ, ok.hT, ok.hfix, ok.hgx⟩

theorem mapGrpAt_restrict (N G : Nat) (u₁ u₂ : St) (j : Nat) (g : Grp) :
    mapGrpAt (P.restrict N G u₁ u₂) j g = mapGrpAt P j g := by
  cases g <;> rfl

theorem ASim.restrict {u₁ u₂ : St} (h : ASim P u₁ u₂) (N G : Nat) (hN : N ≤ u₁.nodes.size) (hG : G ≤ u₁.groups.size)
    (hcl : ∀ j g, G ≤ j → u₁.groups[j]? = some g → (∀ i ∈ gnodes g, N ≤ i) ∧ (∀ x ∈ grefs g, G ≤ x)) :
    ASim (P.restrict N G u₁ u₂) u₁ u₂ :=
  { h with
    mono₁ := ⟨Nat.le_refl _, Nat.le_refl _, Nat.le_refl _⟩
    mono₂ := ⟨Nat.le_refl _, Nat.le_refl _, Nat.le_refl _⟩
    ndom := fun i hi => ⟨h.ndom i hi, Nat.le_trans hN hi⟩
    gdom := fun j hj => ⟨⟨(h.gdom j hj).1, Nat.le_trans hG hj⟩, (h.gdom j hj).2⟩
    nodes := fun i n hd hn => h.nodes i n hd.1 hn
    groups := fun j g hd hg => (mapGrpAt_restrict N G u₁ u₂ j g).symm ▸ h.groups j g hd.1 hg
    closed := fun j g hd hg =>
      have c1 := h.closed j g hd.1 hg
      have c2 := hcl j g hd.2 hg
      ⟨fun i hi => ⟨c1.1 i hi, c2.1 i hi⟩, fun x hx => ⟨c1.2 x hx, c2.2 x hx⟩⟩
    ra := fun j g hd ht hg => h.ra j g hd.1 ht hg
    fr1n := fun _ _ => rfl
    fr1g := fun _ _ => rfl
    fr2n := fun _ _ => rfl
    fr2g := fun _ _ => rfl }

variable {X : SParams}

mutual
/-- no `loose_exit` row (also inside inserted templates) -/
def Event.noLoose : Event → Bool
  | .row r => decide (r.type ≠ "loose_exit".toList)
  | .openGroup _ _ => true
  | .closeGroup _ => true
  | .insert _ body => noLooseL body
def noLooseL : List Event → Bool
  | [] => true
  | e :: es => e.noLoose && noLooseL es
end

theorem Event.noLoose_row {r : Row} (h : Event.noLoose (.row r) = true) : r.type ≠ "loose_exit".toList := by
  unfold Event.noLoose at h; exact of_decide_eq_true h

theorem Event.noLoose_insert {r : Row} {body : List Event} (h : Event.noLoose (.insert r body) = true) :
    noLooseL body = true := by
  unfold Event.noLoose at h; exact h

theorem noLooseL_cons {e : Event} {es : List Event} (h : noLooseL (e :: es) = true) :
    e.noLoose = true ∧ noLooseL es = true := by
  unfold noLooseL at h
  exact Bool.and_eq_true_iff.mp h

/-- what the nested parser of an `insert_as_block` row is known to do (induction hypothesis) -/
def BodyRel (body : List Event) : Prop :=
  ∀ (P : Params) (X : SParams) (s₁ s₂ : St), P.Ok → Sim P X s₁ s₂ → X.F = [] → X.nmAll = true →
    CL P s₁ → SB s₁ → RV s₁ → (P.op = true → noLooseL body = true) →
    rwp (steps body) (steps body) s₁ s₂ (fun _ t₁ _ t₂ => Sim P X t₁ t₂ ∧ Eff P s₁ t₁)

/-- the state in which the nested parser starts -/
def enterSt (s : St) : St :=
  { s with groups := s.groups.push (Grp.block []), stack := [s.groups.size], rowIds := [], names := [] }

theorem insertEnter_run (s : St) : insertEnter.run s = .ok ((s, s.groups.size), enterSt s) := rfl

/-- the outer parser's scope is back -/
def restoreSt (v s : St) : St := { v with stack := s.stack, rowIds := s.rowIds, names := s.names }

/-- `_parse_insert_as_block_row`: a nested parser on the new part of the arenas, then the row's
edges into the entry node of the block it built -/
theorem insert_rel (ok : P.Ok) {s₁ s₂ : St} (h : Sim P X s₁ s₂) (r : Row) (body : List Event)
    (hbody : BodyRel body) (hpre : EdgesPre P X s₁ (dropTrivial r.edges)) (hsb : SB s₁)
    (hnl : P.op = true → noLooseL body = true) :
    rwp (step (.insert r body)) (step (.insert r body)) s₁ s₂ fun _ t₁ _ t₂ => RowPost P X s₁ True t₁ t₂ := by
  unfold step
  refine rwp_bind_run (u₁ := enterSt s₁) (u₂ := enterSt s₂) rfl rfl ?_
  simp only []
  have hd := h.1.gdom s₁.groups.size (Nat.le_refl _)
  have h0 : P.γ s₁.groups.size = s₂.groups.size := by simpa using h.1.gsync 0
  have hne : s₁.groups.size ≠ P.bx := Nat.ne_of_gt h.1.bxlt
  have au : ASim P (enterSt s₁) (enterSt s₂) := (h.1.addGrp (.block []) rfl fun _ hi => nomatch hi).congr
  have hnew : (enterSt s₁).groups[s₁.groups.size]? = some (.block []) := Array.getElem?_push_size
  -- the new part of the arenas is the new block alone
  have a' : ASim (P.restrict s₁.nodes.size s₁.groups.size (enterSt s₁) (enterSt s₂)) (enterSt s₁) (enterSt s₂) := by
    refine au.restrict _ _ (Nat.le_refl _) (by show _ ≤ (s₁.groups.push _).size; simp) fun j g hj hg => ?_
    rcases getElem?_push_some (a := s₁.groups) hg with ⟨_, rfl⟩ | ⟨hjs, hg⟩
    · exact ⟨fun _ hi => (nomatch hi), fun _ hx => (nomatch hx)⟩
    · exact absurd (lt_size_of_getElem? hg) (by omega)
  -- the nested parser starts in a scope of its own: one open block, the new one, and nothing else
  have ss : SSim P ⟨[], [], true, []⟩ (enterSt s₁) (enterSt s₂) :=
    { stack := by show [s₂.groups.size] = [P.γ s₁.groups.size] ++ []; rw [h0]; rfl
      stackDG := fun b hb => by cases List.mem_singleton.mp hb; exact hd.1
      tl := .inl rfl
      bxs := fun _ hb => absurd (List.mem_singleton.mp hb).symm hne
      ss := List.pairwise_singleton _ _
      ri := fun _ _ _ hl => nomatch hl
      riDG := fun _ hp => nomatch hp
      rl := fun _ hp => nomatch hp
      rk := fun _ hp => nomatch hp
      rk2 := fun _ _ => rfl
      nm := fun _ _ _ => rfl
      nmDN := fun _ hp => nomatch hp }
  have ss' : SSim (P.restrict s₁.nodes.size s₁.groups.size (enterSt s₁) (enterSt s₂)) ⟨[], [], true, []⟩
      (enterSt s₁) (enterSt s₂) :=
    { ss with
      stackDG := fun b hb => by cases List.mem_singleton.mp hb; exact ⟨hd.1, Nat.le_refl _⟩
      riDG := fun _ hp => nomatch hp
      nmDN := fun _ hp => nomatch hp }
  have cl' : CL P (enterSt s₁) := by
    refine ⟨fun b hb cs hg c hc => ?_, fun b hb => nomatch hb⟩
    cases List.mem_singleton.mp hb
    rw [hnew] at hg
    cases hg; cases hc
  have sb' : SB (enterSt s₁) := fun b hb => ⟨[], List.mem_singleton.mp hb ▸ hnew⟩
  rw [rwp_bind]
  refine rwp_mono (rwp_and (hbody _ _ _ _ ok ⟨au, ss⟩ rfl rfl cl' sb' (fun _ hp => nomatch hp) hnl)
    (hbody _ _ _ _ (ok.restrict _ _ _ _) ⟨a', ss'⟩ rfl rfl cl' sb' (fun _ hp => nomatch hp) hnl)) ?_
  rintro _ v₁ _ v₂ ⟨⟨hv, _⟩, hv', _⟩
  -- the base of the restricted correspondence is the state the nested parser started in
  have hvsz : s₁.groups.size + 1 ≤ v₁.groups.size := by
    have : (s₁.groups.push (Grp.block [])).size ≤ v₁.groups.size := hv'.1.mono₁.2.2
    simpa using this
  unfold insertLeave
  rw [rwp_get]
  refine rwp_ite (fun _ => rwp_fail_left) (fun _ => ?_)
    (hc := by rw [hv.2.stack, List.append_nil, List.length_map])
  refine rwp_bind_run rfl rfl ?_
  change rwp _ _ (restoreSt v₁ s₁) (restoreSt v₂ s₂) _
  have hw : Sim P X (restoreSt v₁ s₁) (restoreSt v₂ s₂) := Sim.of_parts hv.1 h.2
  -- the nested parser left the groups of the outer parser alone
  have hlow : ∀ j, j < s₁.groups.size → (restoreSt v₁ s₁).groups[j]? = s₁.groups[j]? := fun j hj =>
    (hv'.1.fr1g j fun hdd => Nat.not_le_of_lt hj hdd.2).trans (getElem?_push_ne _ (Nat.ne_of_lt hj))
  have hwsz : s₁.groups.size ≤ (restoreSt v₁ s₁).groups.size := Nat.le_of_succ_le hvsz
  have hef : Eff P s₁ (restoreSt v₁ s₁) :=
    Eff.of_stackSame rfl (fun b hb => hlow b (hsb.lt hb)) (fun hr p hp => Nat.lt_of_lt_of_le (hr p hp) hwsz)
      ⟨fun j i l t hg => ⟨l, (hlow j (lt_size_of_getElem? hg)).trans hg⟩,
        fun j c cs hg => ⟨cs, (hlow j (lt_size_of_getElem? hg)).trans hg⟩, hwsz⟩
  refine rwp_bind_run (fuelOf_run _) (fuelOf_run _) ?_
  have hen := entryNode_rel ok hw.1 (f₁ := 2 * (restoreSt v₁ s₁).groups.size + 8)
    (f₂ := 2 * (restoreSt v₂ s₂).groups.size + 8) hd
  rw [h0] at hen
  refine rwp_bind_ro hen ?_
  rintro i _ ⟨rfl, hdi⟩
  refine rwp_getNode_bind hw.1 hdi fun n hn => ?_
  rw [rwp_bind]
  refine rwp_mono (edges_rel ok hw (.node n.uid) (hpre.mono hef.mr) (fun _ e' => by cases e')) ?_
  rintro _ x₁ _ x₂ ⟨hx, e1, e2, hb⟩
  have hxlt : s₁.groups.size < x₁.groups.size := Nat.lt_of_lt_of_le hvsz hb.gsize
  have hap := appendGroup_rel ok hx r.rowId hd.1 hxlt (fun ht => absurd ht hd.2)
  rw [h0] at hap
  refine rwp_mono hap ?_
  rintro _ t₁ _ t₂ ⟨ht, e3, _, _, _, hm⟩
  exact ⟨ht, e3.trans e1.1, (hef.trans (Eff.of_blkEq hb e1.2.1)).trans (hm hd.2).2, fun _ => (hm hd.2).1⟩

end Rpft.Compile
