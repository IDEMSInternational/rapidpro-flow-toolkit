/-
The general round trip (C07 `parse_unparse`): every value of a type that
fits one cell (`packTy`) is written as one cell that reads back as the value (`PackRT`):
basic values, lists of basic values, lists of lists of basic values, untyped lists, records
of basic fields.
-/
import Rpft.Lemmas.RowGenCore
import Rpft.Lemmas.RowEnc
namespace Rpft.Row
open Rpft Rpft.Cell

/-- the value is written as ONE cell `text` (wherever it is written), and that cell is read
back as the tree `tr` which validates to the value -/
structure PackedAs (ty : Ty) (v : Val) (text : Str) (tr : Tree) : Prop where
  writes : ∀ pfx out, writeValue ty v pfx out = writeOut pfx text out
  reads : leafFn (Sum.inl text) ty = .ok (some tr)
  validates : validate ty tr = .ok v

def PackRT (ty : Ty) (v : Val) : Prop := ∃ text tr, PackedAs ty v text tr

theorem packRT_basic {ty : Ty} {v : Val} (hb : isBasicTy ty = true) (hr : reprOk false ty v = true) :
    PackRT ty v := by
  have L := basic_leaf hb hr
  refine ⟨printBasic v, leafTree v, ?_, ?_, L.validate⟩
  · intro pfx out; simp [writeValue, L.basicVal]
  · simp only [leafFn, leafValue_basic hb L.strOk, L.assign]

/-! ### a list in one cell -/

/-- the element `x : t` of a list packed into one cell is the cell element `e` (well formed, not blank,
of representable strings), which decodes to `x` -/
structure ElemCell (t : Ty) (x : Val) (e : Elem) : Prop where
  nested : toNested t x = .ok (elemToNested e)
  wf : Props.C08.WFElem e
  nonblank : e ≠ .atom []
  strs : ElemAll (fun s => strOk s = true) e
  reads : Decodes t x (PV.ofElem e)

theorem packRT_list {t : Ty} (f : Val → Elem) {xs : List Val} (hne : xs ≠ [])
    (h : ∀ x ∈ xs, ElemCell t x (f x)) : PackRT (.list t) (.list xs) := by
  have hwf : Props.C08.WFCell (.list (xs.map f)) :=
    wfCell_map hne (fun x hx => (h x hx).wf) (fun x hx => (h x hx).nonblank)
  have hok : CellOk (.list (xs.map f)) := List.forall_mem_map.mpr fun x hx => (h x hx).strs
  have hD : Decodes (.list t) (.list xs) (PV.ofCell (.list (xs.map f))) := by
    simpa [PV.ofCell, List.map_map, Function.comp_def] using
      decodes_list t (xs.map fun x => (x, PV.ofElem (f x)))
        (List.forall_mem_map.mpr fun x hx => (h x hx).reads)
  refine ⟨joinCell (.list (xs.map f)), _, ?_, ?_, hD.tree.2⟩
  · intro pfx out
    have h1 : mapE (toNested t) xs = .ok ((xs.map f).map elemToNested) := by
      rw [List.map_map]
      exact mapE_mem_ok fun x hx => (h x hx).nested
    simp only [writeValue, isBasicVal, Bool.false_eq_true, if_false, toNested, h1]
    rw [joinPacked_cell]
  · simp only [leafFn, leafValue, isListTy, Bool.true_or, if_true]
    rw [cellParse_joinCell hwf hok]
    exact hD.tree.1

/-! ### lists of basic values, lists of lists of basic values -/

theorem packRT_listBasic {t : Ty} (hb : isBasicTy t = true) {xs : List Val} (hne : xs ≠ [])
    (hxs : ∀ x ∈ xs, reprOk true t x = true) : PackRT (.list t) (.list xs) :=
  packRT_list (fun x => .atom (printBasic x)) hne fun x hx => by
    obtain ⟨L, hn⟩ := basic_elem hb (hxs x hx)
    exact ⟨L.nested, trivial, fun e => hn (Elem.atom.inj e), L.strOk, _, L.assign, L.validate⟩

def valElems : Val → List Val
  | .list ys => ys
  | _ => []

def innerElem (x : Val) : Elem := .list ((valElems x).map printBasic)

theorem inner_list_facts {u : Ty} {x : Val} (hx : reprOk true (.list u) x = true) :
    x = .list (valElems x) ∧ valElems x ≠ [] ∧ ∀ y ∈ valElems x, reprOk true u y = true := by
  cases x <;> simp [reprOk] at hx
  case list ys =>
    refine ⟨rfl, ?_, fun y hy => hx.2 y hy⟩
    simpa [valElems] using hx.1

theorem packRT_listList {u : Ty} (hb : isBasicTy u = true) {xs : List Val} (hne : xs ≠ [])
    (hxs : ∀ x ∈ xs, reprOk true (.list u) x = true) : PackRT (.list (.list u)) (.list xs) :=
  packRT_list innerElem hne fun x hx => by
    obtain ⟨e, hne', h3⟩ := inner_list_facts (hxs x hx)
    have hy := fun y hy => basic_elem hb (h3 y hy)
    refine ⟨?_, wfElem_map hne' fun y hy' => (hy y hy').2, by simp [innerElem],
      List.forall_mem_map.mpr fun y hy' => (hy y hy').1.strOk, ?_⟩
    · conv => lhs; rw [e]
      simp [toNested, mapE_mem_ok fun y hy' => (hy y hy').1.nested, innerElem, elemToNested,
        List.map_map, Function.comp]
    · conv => arg 2; rw [e]
      simpa [innerElem, PV.ofElem, List.map_map, Function.comp_def] using
        decodes_list u ((valElems x).map fun y => (y, .atom (printBasic y)))
          (List.forall_mem_map.mpr fun y hy' => ⟨_, (hy y hy').1.assign, (hy y hy').1.validate⟩)

/-! ### untyped lists -/

theorem packRT_any {xs : List PV} (hne : xs ≠ []) (hxs : ∀ x ∈ xs, pvOk x = true) :
    PackRT .anyList (.any xs) := by
  obtain ⟨hnest, hback⟩ := nestedOfPVs_map xs hxs
  have hwf : Props.C08.WFCell (.list (xs.map pvToElem)) :=
    wfCell_map hne (fun x hx => (pv_elem_facts (hxs x hx)).2.2.1)
      (fun x hx => (pv_elem_facts (hxs x hx)).2.2.2.2)
  have hok : CellOk (.list (xs.map pvToElem)) :=
    List.forall_mem_map.mpr fun x hx => (pv_elem_facts (hxs x hx)).2.2.2.1
  refine ⟨joinCell (.list (xs.map pvToElem)), .list (Tree.ofPVs xs), ?_, ?_, ?_⟩
  · intro pfx out
    simp only [writeValue, isBasicVal, Bool.false_eq_true, if_false, toNested, hnest]
    rw [joinPacked_cell]
  · simp only [leafFn, leafValue, isListTy, Bool.true_or, if_true]
    rw [cellParse_joinCell hwf hok]
    simp [PV.ofCell, hback, assignValue, assignAny]
  · simp [validate, toPVs_ofPVs]

/-! ### records of basic fields -/

theorem toNested_model_congr (fs : List Field) (h2f f2h h2f' f2h' : List (Str × Str)) (v : Val) :
    toNested (.model fs h2f f2h) v = toNested (.model fs h2f' f2h') v := by
  cases v <;> simp [toNested]

theorem validate_model_congr (fs : List Field) (h2f f2h h2f' f2h' : List (Str × Str)) (t : Tree) :
    validate (.model fs h2f f2h) t = validate (.model fs h2f' f2h') t := by
  cases t <;> simp [validate]

theorem assignValue_model_congr (fs : List Field) (h2f f2h f2h' : List (Str × Str)) :
    assignValue (.model fs h2f f2h) = assignValue (.model fs h2f f2h') := by
  simp [assignValue]

theorem sub_cell {sfs : List Field} {skvs : List (Str × Val)} {h2f f2h : List (Str × Str)}
    (hfam : subFamily sfs = true) (hrm : ∀ f ∈ sfs, remap h2f f.1 = f.1)
    (hr : reprOk false (.model sfs h2f f2h) (.model skvs) = true)
    (hfo : fieldOk false (.model sfs h2f f2h) (.model skvs) = true) :
    PackedAs (.model sfs h2f f2h) (.model skvs) (subText sfs skvs) (subTree sfs skvs) := by
  have D := subData_of_repr hfam hr hfo
  have hokf := subOk_filter D.hok
  have hndall : ∀ p ∈ (sfs.zip (skvs.map Prod.snd)).filter nonDefault, nonDefault p = true :=
    fun p hp => (List.mem_filter.mp hp).2
  obtain ⟨hwf, hcok⟩ := wfCell_pairs D.hne hokf hndall
    (fun p hp => D.hfok p (List.mem_filter.mp hp).1 (hndall p hp))
  refine ⟨?_, ?_, (sub_reads f2h hrm D).2⟩
  · intro pfx out
    have h1 := nestedFields_sub D.hok
    rw [D.hfst] at h1
    simp only [writeValue, isBasicVal, Bool.false_eq_true, if_false, toNested, h1]
    rw [joinPacked_cell]
    rfl
  · simp only [leafFn, leafValue, isListTy, isModelTy, Bool.false_or, if_true, subText]
    rw [cellParse_joinCell hwf hcok]
    have hpv : ∀ nd : List SPair, PV.ofCell (.list (nd.map subElem)) = .list (nd.map subEntry) :=
      fun nd => by simp [PV.ofCell, List.map_map, PV.ofElem, subElem, subEntry, Function.comp]
    simp only [hpv]
    exact (sub_reads f2h hrm D).1

end Rpft.Row
