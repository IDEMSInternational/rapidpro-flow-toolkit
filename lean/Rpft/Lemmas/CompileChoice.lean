/-
Exact behaviour of `SwitchRouter.add_choice` for a NEW test (no case with this test and these arguments
yet): the generated category name is free, so with a generated name, or an explicit one not in use,
exactly one category (at the end of the categories) and one case (at the end of the cases, naming that
category) are added; with `is_default` the default category takes the destination and one case is added.
-/
import Rpft.Lemmas.CompileWp
namespace Rpft.Compile
open Rpft

theorem catByName_isSome_iff (r : SwitchR) (n : Str) : (r.catByName n).isSome = true ↔ n ∈ r.allCats.map (·.name) := by
  unfold SwitchR.catByName
  rw [List.find?_isSome]
  simp only [List.mem_map, decide_eq_true_eq]

theorem length_filter_lt_of_imp {α : Type} {p q : α → Bool} {l : List α} (hpq : ∀ x, p x = true → q x = true)
    {x0 : α} (h0 : x0 ∈ l) (hq : q x0 = true) (hp : ¬ p x0 = true) :
    (l.filter p).length < (l.filter q).length := by
  rw [← (filter_filter_of_imp (l := l) fun x _ => hpq x).1]
  exact List.length_filter_lt_length_iff_exists.mpr ⟨x0, List.mem_filter.mpr ⟨h0, hq⟩, hp⟩

/-- the loop of `generate_category_name` returns a free name when its fuel exceeds the number of
names at least as long as the candidate -/
theorem genCatName_go_free (r : SwitchR) : ∀ (fuel : Nat) (n : Str),
    ((r.allCats.map (·.name)).filter (fun x => decide (n.length ≤ x.length))).length < fuel →
    genCatName.go r fuel n ∉ r.allCats.map (·.name) := by
  intro fuel
  induction fuel with
  | zero => intro n h; omega
  | succ f ih =>
    intro n h
    unfold genCatName.go
    by_cases hs : (r.catByName n).isSome = true
    · rw [if_pos hs]
      apply ih
      have hn : n ∈ r.allCats.map (·.name) := (catByName_isSome_iff r n).mp hs
      have hlen : (n ++ "_alt".toList).length = n.length + 4 := by rw [List.length_append]; rfl
      rw [hlen]
      have := length_filter_lt_of_imp (l := r.allCats.map (·.name))
        (p := fun x => decide (n.length + 4 ≤ x.length)) (q := fun x => decide (n.length ≤ x.length))
        (fun x hx => by simp only [decide_eq_true_eq] at hx ⊢; omega) hn (by simp) (by simp)
      omega
    · rw [if_neg hs]
      intro hn
      exact hs ((catByName_isSome_iff r n).mpr hn)

theorem genCatName_free (r : SwitchR) (args : List (Option Str)) : r.catByName (genCatName r args) = none := by
  have : genCatName r args ∉ r.allCats.map (·.name) := by
    unfold genCatName
    apply genCatName_go_free
    have := List.length_filter_le (fun x => decide ((joinUnderscore (args.map fun a => pyTitle (argStr a))).length ≤ x.length))
      (r.allCats.map (·.name))
    simp only [List.length_map] at this ⊢
    omega
  cases h : r.catByName (genCatName r args) with
  | none => rfl
  | some c =>
    exact absurd ((catByName_isSome_iff r _).mp (by simp [h])) this

/-! ### `add_choice` on a new test

With no case for the test yet, `addChoice` selects a category (`choiceCat`) and appends a case
(`choiceCase`); each of the two has an exact weakest precondition. -/

theorem wp_choiceCase (r : SwitchR) (type : Str) (stored : List (Option Str)) (catUid : Uid) (s : St)
    (Q : SwitchR → St → Prop) :
    wp (choiceCase r type stored catUid) s Q ↔
      (s.testTypes.contains type = true →
        Q { r with cases := r.cases ++ [{ uid := tid s.next, type := type, args := stored, catUid := catUid }] }
          { s with next := s.next + 1 }) := by
  unfold choiceCase
  wp_simp [wp_fresh, implies_true, and_true]

theorem wp_choiceCat_default (r : SwitchR) (name : Str) (dest : Dest) (s : St) (Q : SwitchR × Uid → St → Prop) :
    wp (choiceCat r name dest true) s Q ↔
      Q ({ r with dflt := { r.dflt with dest := dest, name := if name.isEmpty then r.dflt.name else name } },
         r.dflt.uid) s := by
  unfold choiceCat
  wp_simp [if_true]

theorem wp_choiceCat_new (r : SwitchR) (name : Str) (dest : Dest) (s : St) (Q : SwitchR × Uid → St → Prop)
    (hfree : r.catByName name = none) :
    wp (choiceCat r name dest false) s Q ↔
      (¬ name.length > 115 →
        Q ({ r with cats := r.cats ++ [{ uid := tid s.next, name := name, exitUid := tid (s.next + 1), dest := dest }] },
           tid s.next) { s with next := s.next + 2 }) := by
  unfold choiceCat
  rw [hfree]
  wp_simp [wp_mkCat, Bool.false_eq_true, if_false, implies_true, true_and]

/-- the router whose operand `addChoice` has set -/
def withOperand (r : SwitchR) (var : Str) : SwitchR := if var.isEmpty then r else { r with operand := var }

theorem withOperand_eq (r : SwitchR) (var : Str) :
    withOperand r var = { r with operand := if var.isEmpty then r.operand else var } := by
  unfold withOperand; split <;> rfl

theorem wp_addChoice_fresh {r : SwitchR} {var type : Str} {args : List (Option Str)} {catName : Str}
    {dest : Dest} {isDefault : Bool} {s : St} {Q : SwitchR → St → Prop}
    (hnew : ∀ k ∈ r.cases, ¬ (k.type = type ∧ k.args = (if s.noArgs.contains type then [] else args))) :
    wp (addChoice r var type args catName dest isDefault) s Q ↔
      wp (choiceCat (withOperand r var) (if catName.isEmpty then genCatName (withOperand r var) args else catName)
            dest isDefault) s
        (fun rc s1 => wp (choiceCase rc.1 type (if s.noArgs.contains type then [] else args) rc.2) s1 Q) := by
  have hnone : (withOperand r var).cases.find?
      (fun k => decide (k.type = type ∧ k.args = (if s.noArgs.contains type then [] else args))) = none := by
    rw [List.find?_eq_none, withOperand_eq]
    intro k hk; simpa using hnew k hk
  unfold addChoice
  wp_simp
  rw [← withOperand, hnone]
  wp_simp

/-- **a new test whose category is new**: named explicitly (a name not in use) or by the generator;
one category (at the end of the categories) and one case naming it are added -/
theorem addChoice_any {r : SwitchR} {var type : Str} {args : List (Option Str)} {name : Str} {dest : Dest} {s : St}
    (hnew : ∀ k ∈ r.cases, ¬ (k.type = type ∧ k.args = (if s.noArgs.contains type then [] else args)))
    (hfree : name ≠ [] → r.catByName name = none)
    {Q : SwitchR → St → Prop}
    (h : s.testTypes.contains type = true →
      Q { r with operand := if var.isEmpty then r.operand else var,
                 cats := r.cats ++ [{ uid := tid s.next,
                                      name := if name.isEmpty then genCatName (if var.isEmpty then r else { r with operand := var }) args else name,
                                      exitUid := tid (s.next + 1), dest := dest }],
                 cases := r.cases ++ [{ uid := tid (s.next + 2), type := type,
                                        args := if s.noArgs.contains type then [] else args,
                                        catUid := tid s.next }] }
        { s with next := s.next + 3 }) :
    wp (addChoice r var type args name dest false) s Q := by
  rw [wp_addChoice_fresh hnew, wp_choiceCat_new]
  · intro _
    rw [wp_choiceCase]
    intro ht
    have := h ht
    by_cases hv : var.isEmpty = true <;> simp only [withOperand, hv, ↓reduceIte] at this ⊢ <;> exact this
  · split
    · exact genCatName_free _ _
    · rename_i hn
      rw [withOperand_eq]
      exact hfree (by intro e; rw [e] at hn; exact hn rfl)

/-- **a new test selecting the default category** (`is_default`): the default category takes the
destination (and the name, if one is given); one case is added -/
theorem addChoice_default {r : SwitchR} {var type : Str} {args : List (Option Str)} {name : Str} {dest : Dest} {s : St}
    (hnew : ∀ k ∈ r.cases, ¬ (k.type = type ∧ k.args = (if s.noArgs.contains type then [] else args)))
    (hne : name ≠ [])
    {Q : SwitchR → St → Prop}
    (h : s.testTypes.contains type = true →
      Q { r with operand := if var.isEmpty then r.operand else var,
                 dflt := { r.dflt with dest := dest, name := name },
                 cases := r.cases ++ [{ uid := tid s.next, type := type,
                                        args := if s.noArgs.contains type then [] else args,
                                        catUid := r.dflt.uid }] }
        { s with next := s.next + 1 }) :
    wp (addChoice r var type args name dest true) s Q := by
  have hn : ¬ name.isEmpty = true := by simpa [List.isEmpty_iff] using hne
  rw [wp_addChoice_fresh hnew, if_neg hn, wp_choiceCat_default, if_neg hn, wp_choiceCase]
  intro ht
  have := h ht
  by_cases hv : var.isEmpty = true <;> simp only [withOperand, hv, ↓reduceIte] at this ⊢ <;> exact this

end Rpft.Compile
