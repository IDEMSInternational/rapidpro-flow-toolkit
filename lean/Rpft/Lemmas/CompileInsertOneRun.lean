/-
One run of the compiler machine, as an equation (the rules for such equations are in `CompileWp`), above the
primitives: looking up a row identifier, the edge of a row, `append_node_group`, event sequences.  For an operation
that may fail, `X_run` says what a successful run went through.
-/
import Rpft.Lemmas.CompileWp
import Rpft.Lemmas.Dict
namespace Rpft.Compile
open Rpft

/-- what a list of pairs (latest first) assigns to a key -/
def lookupIn (l : List (Str × Nat)) (id : Str) : Option Nat := (l.find? (·.1 = id)).map (·.2)

theorem lookupIn_eq_get (l : List (Str × Nat)) (id : Str) : lookupIn l id = Dict.get l id :=
  (Dict.get_eq_find? l id).symm

theorem lookupIn_cons (p : Str × Nat) (l : List (Str × Nat)) (id : Str) :
    lookupIn (p :: l) id = if p.1 = id then some p.2 else lookupIn l id := by
  rw [lookupIn_eq_get, lookupIn_eq_get]; rfl

theorem lookupIn_mem {l : List (Str × Nat)} {id : Str} {j : Nat} (h : lookupIn l id = some j) : (id, j) ∈ l :=
  Dict.mem_of_get ((lookupIn_eq_get l id).symm.trans h)

theorem lookupRow_run (id : Str) (s : St) : (lookupRow id).run s = .ok (lookupIn s.rowIds id, s) := rfl

theorem groupOfEdge_run (e : Edge) (s : St) :
    (groupOfEdge e).run s =
      if e.from_ = "start".toList then .ok (none, s)
      else if e.from_ = [] then .ok (mostRecentIn s.groups s.stack, s)
      else match lookupIn s.rowIds e.from_ with
        | some g => .ok (some g, s)
        | none => .error (.critical "Edge from row_id which does not exist.") := by
  unfold groupOfEdge
  simp only [List.isEmpty_iff]
  split
  · rfl
  · split
    · rw [run_bind_of (lookupRow_run _ s)]
      cases lookupIn s.rowIds e.from_ <;> rfl
    · rw [if_pos (Decidable.of_not_not ‹_›)]; rfl

theorem addRowEdge_run_none {d : Dest} {e : Edge} {s : St} (h : (groupOfEdge e).run s = .ok (none, s)) :
    (addRowEdge d e).run s = .ok ((), s) := by
  unfold addRowEdge
  rw [run_bind_of h]
  rfl

theorem addRowEdge_run_some {d : Dest} {e : Edge} {s : St} {src : Nat} (h : (groupOfEdge e).run s = .ok (some src, s)) :
    (addRowEdge d e).run s = (addExit (2 * s.groups.size + 8) src d e.cond).run s := by
  unfold addRowEdge
  rw [run_bind_of h]
  exact run_bind_of (fuelOf_run s)

theorem appendGroup_run {g : Nat} {id : Str} {s t : St} (h : (appendGroup g id).run s = .ok ((), t)) :
    ∃ b rest cs, s.stack = b :: rest ∧ s.groups[b]? = some (.block cs) ∧ t = appended s b cs g id :=
  wp_of_run (Q := fun _ t => ∃ b rest cs, s.stack = b :: rest ∧ s.groups[b]? = some (.block cs) ∧ t = appended s b cs g id)
    ((wp_appendGroup g id s _).mpr fun b rest cs h1 h2 => ⟨b, rest, cs, h1, h2, rfl⟩) h

theorem steps_append (a b : List Event) : steps (a ++ b) = (do steps a; steps b) := by
  induction a with
  | nil => simp only [List.nil_append]; unfold steps; simp
  | cons e es ih =>
    simp only [List.cons_append]
    rw [steps, ih, steps]
    simp [bind_assoc]

theorem steps_nil_run (s : St) : (steps []).run s = .ok ((), s) := by rw [steps]; rfl

theorem steps_cons_run {e : Event} {es : List Event} {s t : St} (h : (steps (e :: es)).run s = .ok ((), t)) :
    ∃ u, (step e).run s = .ok ((), u) ∧ (steps es).run u = .ok ((), t) := by
  rw [steps] at h
  obtain ⟨_, u, h1, h2⟩ := run_bind_ok h
  exact ⟨u, h1, h2⟩

theorem steps_cons_run_of {e : Event} {es : List Event} {s u t : St} (h1 : (step e).run s = .ok ((), u))
    (h2 : (steps es).run u = .ok ((), t)) : (steps (e :: es)).run s = .ok ((), t) := by
  rw [steps, run_bind_of h1]; exact h2

theorem steps_append_run {a b : List Event} {s t : St} (h : (steps (a ++ b)).run s = .ok ((), t)) :
    ∃ u, (steps a).run s = .ok ((), u) ∧ (steps b).run u = .ok ((), t) := by
  rw [steps_append] at h
  obtain ⟨_, u, h1, h2⟩ := run_bind_ok h
  exact ⟨u, h1, h2⟩

theorem steps_single_run {e : Event} {s t : St} (h : (steps [e]).run s = .ok ((), t)) : (step e).run s = .ok ((), t) := by
  obtain ⟨u, h1, h2⟩ := steps_cons_run h
  obtain ⟨-, rfl⟩ := run_det (steps_nil_run u) h2
  exact h1

theorem steps_snoc_run {es : List Event} {e : Event} {s t : St} (h : (steps (es ++ [e])).run s = .ok ((), t)) :
    ∃ u, (steps es).run s = .ok ((), u) ∧ (step e).run u = .ok ((), t) := by
  obtain ⟨u, h1, h2⟩ := steps_append_run h
  exact ⟨u, h1, steps_single_run h2⟩

end Rpft.Compile
