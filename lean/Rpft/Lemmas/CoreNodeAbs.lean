/-
One row of the fragment: the action the reference reads from it, by kind (`refAct_of_ok`), and the correspondence
between its reference node and its compiled node (`node_abs_rel`: same actions, same decision, corresponding
destinations).
-/
import Rpft.Lemmas.CoreSheetSim
import Rpft.Lemmas.CoreChain
namespace Rpft.CoreSheet
open Rpft Rpft.Compile Rpft.RefFlow Rpft.Flow

section
variable {c : CRow} (hok : rowOk c = true)
include hok

theorem refAct_of_ok (hn : (kindOf c.row.type).isNode = true) :
    (toRRow c).act = match kindOf c.row.type with
      | .action => c.row.action
      | .enterFlow | .webhook | .airtime => some (c.row.ownAction.getD [])
      | _ => none := by
  rcases rowOk_cases hok with h | h | h
  · simp only [nodeRowOk, Bool.or_eq_true] at h
    rcases h with ((h | h) | h) | h
    · simp only [plainActionRow, Bool.and_eq_true, Bool.not_eq_true', decide_eq_true_eq] at h
      rw [kindOf_action h.1.1.1]
      exact h.2.symm
    · simp only [switchRow, Bool.and_eq_true, Option.isNone_iff_eq_none] at h
      rcases kindOf_switch (switch_type h.1.1.1) with k | k | k <;> rw [k] <;> exact h.2
    · simp only [fixedRow, Bool.and_eq_true, decide_eq_true_eq] at h
      rcases kindOf_fixed (fixed_type h.1.1.1) with k | k | k <;> rw [k] <;> exact h.2
    · simp only [randomRow, Bool.and_eq_true, decide_eq_true_eq, Option.isNone_iff_eq_none] at h
      rw [h.1.1.1, kindOf_random]
      exact h.2
  · rw [hn] at h; cases h
  · simp only [noopRow, Bool.and_eq_true, Option.isNone_iff_eq_none] at h
    rw [kind_of_noop h.1.1]
    exact h.2

theorem refAct_of_noop (hn : isNoop c = true) : c.refAct = none := by
  have := refAct_of_ok hok (by rw [kind_of_noop hn]; rfl)
  rw [kind_of_noop hn] at this
  exact this

theorem act_of_action (hk : kindOf c.row.type = .action) :
    nodeRowOk c = true ∧ (toRRow c).act = c.row.action := by
  have hact := refAct_of_ok hok (by rw [hk]; rfl)
  rw [hk] at hact
  exact ⟨nodeRowOk_of_kind hok (by rw [hk]; rfl) (action_not_noop hk), hact⟩

theorem act_of_named (hna : isNamedAct c = true) :
    ∃ a, c.row.action = some a ∧ (toRRow c).act = some a := by
  obtain ⟨hfc, hact⟩ := act_of_action hok (kindOf_of_named hna)
  rcases (rowFacts c hfc).noname with h | ⟨_, h⟩
  · exact absurd h (name_ne_of_named hna)
  · obtain ⟨a, ha⟩ := Option.isSome_iff_exists.mp h
    exact ⟨a, ha, hact.trans ha⟩

end

section
variable {rows : List CRow} {t : Nat} {ct : CRow} (hct : rows[t]? = some ct) (hok : rowOk ct = true)
include hct hok

theorem action_acts (lvl : ObsLevel) (r : Flow) (hk : kindOf ct.row.type = .action) (es : List OutEdge) :
    (absNode lvl r (mkNode t (toRRow ct) es)).acts = actsOf rows t := by
  rw [mkNode_action_acts lvl r t _ es hk, (act_of_action hok hk).2, actsOf, hct]; rfl

theorem actsOf_named (hna : isNamedAct ct = true) : actsOf rows t ≠ [] := by
  obtain ⟨a, ha, _⟩ := act_of_named hok hna
  rw [actsOf, hct, Option.bind_some, ha]
  exact List.cons_ne_nil _ _

end

theorem SwitchSim.waitSim {F r : Flow} {M : Maps} {ns : Array NodeM} {n : NodeM} {c : CRow} {es : List OutEdge} {rr : SwitchR}
    (hp : SwitchSim M ns n c es rr) : WaitSim F r M ns es rr (refWait (toRRow c) es) := by
  have hnone : (∀ m, rr.wait ≠ some (m + 1)) → rr.noResp = none := fun hne =>
    Option.not_isSome_iff_eq_none.mp fun hs => (hp.nrSome.mp hs).elim hne
  unfold refWait
  by_cases hk : kindOf c.row.type = .wait
  · have hw : rr.wait = some (timeoutOf c.row) := by rw [hp.wait, waitOf, if_pos (type_wait.mpr hk)]
    rw [if_pos (show (toRRow c).kind = .wait from hk), show (toRRow c).timeout = timeoutOf c.row from rfl]
    cases hto : timeoutOf c.row with
    | zero =>
      rw [hto] at hw
      exact .reply hw (hnone fun m hm => by rw [hw] at hm; cases hm)
    | succ m =>
      rw [hto] at hw
      obtain ⟨nr, hnn⟩ := Option.isSome_iff_exists.mp (hp.nrSome.mpr ⟨m, hw⟩)
      exact .timeout m nr _ hw hnn (dr_last _ (fun e he => (List.mem_filter.mp he).1) _ (hp.nr nr hnn))
  · have hw : rr.wait = none := by rw [hp.wait, waitOf, if_neg (mt type_wait.mp hk)]
    rw [if_neg (show ¬ (toRRow c).kind = .wait from hk)]
    exact .none hw (hnone fun m hm => by rw [hw] at hm; cases hm)

theorem node_abs_rel (rnf : Bool) (F r : Flow) {M : Maps} {ns : Array NodeM} (j : Nat) {n : NodeM} {c : CRow}
    {post : List Str} {es : List OutEdge} (hsim : NodeSim M ns n c post es) (hok : rowOk c = true)
    (hn : (kindOf c.row.type).isNode = true) (hpost : kindOf c.row.type ≠ .action → post = [])
    (hnop : kindOf c.row.type = .noOp → testsOf .noOp es ≠ [] ∧ SameVar es) (hfn0 : n.fids.Nodup) :
    AbsRel (DR F r M ns es) post (absNode ⟨false, rnf⟩ r (mkNode j (toRRow c) es))
      (absNode ⟨false, rnf⟩ F (renderNode n)) := by
  have hact := refAct_of_ok hok hn
  cases hsim with
  | plain hk hp =>
    rw [hk] at hact
    rw [absNode_plain_ref _ r j (toRRow c) es (.inl hk) hp.blank, absNode_cmp_noRouter _ _ hp.router, hp.acts, hact]
    have hd := dr_last (F := F) (r := r) es (fun _ he => he) (fun _ => true) (by rw [List.filter_true]; exact hp.dest)
    rw [lastTgt_eq, List.filter_true, Option.bind_map] at hd
    exact ⟨rfl, rfl, .cons hd .nil⟩
  | sw rr hk hp =>
    obtain rfl : post = [] := hpost (by rcases hk with h | h | h <;> rw [h] <;> decide)
    have hact : (toRRow c).act = none := by rcases hk with h | h | h <;> rw [h] at hact <;> exact hact
    rw [mkNode_switch j (toRRow c) es hk hact]
    exact switch_abs_rel rnf j hp.router hp.acts hfn0 hp.rsim hp.operand hp.rname hp.waitSim
  | fix rr sc hk hp =>
    obtain rfl : post = [] := hpost (by rcases hk with h | h | h <;> rw [h] <;> decide)
    have hact : (toRRow c).act = some (c.row.ownAction.getD []) := by
      rcases hk with h | h | h <;> rw [h] at hact <;> exact hact
    rw [absNode_fix_ref rnf r j (toRRow c) es hk, absNode_fix_cmp rnf F hk hp hfn0, hact]
    exact ⟨(List.append_nil _).symm, rfl, .cons (dr_last es (fun _ he => he) _ hp.succ)
      (forall2_replicate (dr_last es (fun _ he => he) _ hp.dflt) _)⟩
  | rnd rr hk hp =>
    obtain rfl : post = [] := hpost (by rw [hk]; decide)
    rw [hk] at hact
    rw [absNode_rnd_ref rnf r j (toRRow c) es hk hact, absNode_rnd_cmp rnf F hp hfn0]
    refine ⟨(List.append_nil _).symm, rfl, forall2_flip_map hp.rel ?_⟩
    intro cat b hb hd
    refine ⟨cat.dest, some b.2, hd.1, fun k hk2 => ?_, rfl, rfl⟩
    obtain ⟨e, he, het⟩ := buckets_tgt es b hb
    exact ⟨e, he, by rw [het]; exact Option.some.inj hk2⟩
  | nop rr hk hp =>
    obtain rfl : post = [] := hpost (by rw [hk]; decide)
    rw [hk] at hact
    exact nop_abs rnf F r j hk hp hact (hnop hk).1 (hnop hk).2 hfn0

end Rpft.CoreSheet
