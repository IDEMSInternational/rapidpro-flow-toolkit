/-
Helper lemmas for C04 (graph level): the DFS of `_to_rows_recurse` as an inductive big-step
relation `Run` over a SKELETON of the sheet (`Item`s: one `block` per completed node with the
incoming edges of its first row, one `goto` per backward edge; the rows of a block in closed form:
`blockRows_cons`), and the bridge `dfs … = .ok st' → Run …` (`dfs_run`; for a whole export `toRowsT_run`,
which also says that the `go_to` rows carry pairwise distinct counters).  All graph-level facts
(Lemmas/ExportGraph*.lean) are proved by induction on `Run`.
-/
import Rpft.ExportGraph
import Rpft.Lemmas.ExportDfs
import Rpft.Lemmas.ExportIds
set_option linter.unusedSectionVars false
namespace Rpft.Export
open Function

variable {U : Type} [DecidableEq U]

/-- `n` is the node `find_node` returns for its own uuid (the first node with that uuid) -/
def Canon (f : FlowX U) (n : NodeX U) : Prop := findNode f n.uuid = some n

theorem findNode_mem {f : FlowX U} {d : U} {c : NodeX U} (h : findNode f d = some c) : c ∈ f :=
  List.mem_of_find?_eq_some h

theorem findNode_uuid {f : FlowX U} {d : U} {c : NodeX U} (h : findNode f d = some c) : c.uuid = d := by
  have := List.find?_some h
  simpa using this

theorem findNode_canon {f : FlowX U} {d : U} {c : NodeX U} (h : findNode f d = some c) : Canon f c := by
  unfold Canon
  rw [findNode_uuid h]; exact h

theorem Canon.eq {f : FlowX U} {n m : NodeX U} (hn : Canon f n) (hm : Canon f m) (h : n.uuid = m.uuid) : n = m := by
  unfold Canon at hn hm
  rw [h] at hn
  rw [hn] at hm
  exact Option.some.inj hm

theorem canon_head (n0 : NodeX U) (f : FlowX U) : Canon (n0 :: f) n0 := by
  simp [Canon, findNode]

def firstId (n : NodeX U) : TempId U := rowId n 0
def lastId (n : NodeX U) : TempId U := rowId n (n.rows.length - 1)

inductive Item (U : Type) where
  | goto (k : Nat) (c : NodeX U) (e : EdgeT U)
  | block (n : NodeX U) (es : List (EdgeT U))

/-- the rows of a node whose first row has the incoming edges `es` -/
def blockRows (n : NodeX U) (es : List (EdgeT U)) : List (RowT U) :=
  match n.rows with
  | [] => []
  | (p, o) :: rest =>
    { id := rowId n 0, nodeId := some n.uuid, objId := o, payload := p, edges := es, goto := [] }
      :: mkRowsFrom n 1 ⟨some (rowId n 0), blankLabel⟩ rest

def Item.render : Item U → List (RowT U)
  | .goto k c e => [gotoRow k c e]
  | .block n es => blockRows n es

def renderAll (items : List (Item U)) : List (RowT U) := items.flatMap Item.render

theorem mem_renderAll {items : List (Item U)} {r : RowT U} : r ∈ renderAll items ↔ ∃ it ∈ items, r ∈ it.render :=
  List.mem_flatMap

def Item.blockNode? : Item U → Option (NodeX U)
  | .block n _ => some n
  | .goto .. => none

/-- the completed nodes, in sheet order -/
def blockNodes (items : List (Item U)) : List (NodeX U) := items.filterMap Item.blockNode?
def blockUuids (items : List (Item U)) : List U := (blockNodes items).map (·.uuid)

theorem blockNodes_cons_block (n : NodeX U) (es : List (EdgeT U)) (items : List (Item U)) :
    blockNodes (.block n es :: items) = n :: blockNodes items := by
  simp [blockNodes, Item.blockNode?]

theorem blockNodes_cons_goto (k : Nat) (c : NodeX U) (e : EdgeT U) (items : List (Item U)) :
    blockNodes (.goto k c e :: items) = blockNodes items := by
  simp [blockNodes, List.filterMap_cons, Item.blockNode?]

theorem blockUuids_cons_block (n : NodeX U) (es : List (EdgeT U)) (items : List (Item U)) :
    blockUuids (.block n es :: items) = n.uuid :: blockUuids items := by
  rw [blockUuids, blockNodes_cons_block]; rfl

theorem blockUuids_cons_goto (k : Nat) (c : NodeX U) (e : EdgeT U) (items : List (Item U)) :
    blockUuids (.goto k c e :: items) = blockUuids items := by
  rw [blockUuids, blockNodes_cons_goto]; rfl

theorem mem_blockNodes {items : List (Item U)} {n : NodeX U} :
    n ∈ blockNodes items ↔ ∃ es, Item.block n es ∈ items := by
  simp only [blockNodes, List.mem_filterMap]
  constructor
  · rintro ⟨it, hit, he⟩
    cases it with
    | goto k c e => simp [Item.blockNode?] at he
    | block m es => simp only [Item.blockNode?, Option.some.injEq] at he; subst he; exact ⟨es, hit⟩
  · rintro ⟨es, h⟩
    exact ⟨_, h, rfl⟩

theorem blockUuids_append (a b : List (Item U)) : blockUuids (a ++ b) = blockUuids a ++ blockUuids b := by
  simp [blockUuids, blockNodes]

def Item.gotoK? : Item U → Option Nat
  | .goto k _ _ => some k
  | .block .. => none

/-- the fresh-uuid counters of the `go_to` rows, in sheet order -/
def gotoKs (items : List (Item U)) : List Nat := items.filterMap Item.gotoK?

/-- the `go_to` rows carry the values the fresh-uuid counter had when they were made: decreasing down the sheet,
all below the current value -/
def GFresh (fresh : Nat) (items : List (Item U)) : Prop := (fresh :: gotoKs items).Pairwise (· > ·)

/-- `prepend_edge_to_row_models` on the skeleton -/
def prependItem (cu : U) (e : EdgeT U) : Item U → Item U
  | .block n es => if n.uuid = cu then .block n (e :: es) else .block n es
  | .goto k c e' => .goto k c e'

theorem mkRows_eq_blockRows (n : NodeX U) (pe : EdgeT U) : mkRows n pe = blockRows n [pe] := by
  unfold mkRows blockRows
  cases n.rows with
  | nil => rfl
  | cons x rest => obtain ⟨p, o⟩ := x; rfl

/-- row `x.2` (≥ 1) of node `n`, with content `x.1`: it hangs off the row before it -/
def chainRow (n : NodeX U) (x : (Payload × Option U) × Nat) : RowT U :=
  { id := rowId n x.2, nodeId := some n.uuid, objId := x.1.2, payload := x.1.1,
    edges := [⟨some (rowId n (x.2 - 1)), blankLabel⟩], goto := [] }

theorem mkRowsFrom_chain (n : NodeX U) : ∀ (rs : List (Payload × Option U)) (i : Nat),
    mkRowsFrom n (i + 1) ⟨some (rowId n i), blankLabel⟩ rs = (rs.zipIdx (i + 1)).map (chainRow n)
  | [], _ => rfl
  | (p, o) :: rs, i => by rw [mkRowsFrom, mkRowsFrom_chain n rs (i + 1)]; rfl

theorem blockRows_cons {n : NodeX U} {p : Payload} {o : Option U} {rest : List (Payload × Option U)}
    (hr : n.rows = (p, o) :: rest) (es : List (EdgeT U)) :
    blockRows n es = { id := rowId n 0, nodeId := some n.uuid, objId := o, payload := p, edges := es, goto := [] }
      :: (rest.zipIdx 1).map (chainRow n) := by
  simp only [blockRows, hr, mkRowsFrom_chain]

theorem mem_blockRows {n : NodeX U} {es : List (EdgeT U)} {r : RowT U} (h : r ∈ blockRows n es) :
    ∃ j, j < n.rows.length ∧ r.id = rowId n j ∧ r.nodeId = some n.uuid ∧ r.goto = [] ∧
      ((j = 0 ∧ r.edges = es) ∨ (0 < j ∧ r.edges = [⟨some (rowId n (j - 1)), blankLabel⟩])) := by
  cases hr : n.rows with
  | nil => simp [blockRows, hr] at h
  | cons x rest =>
    rw [blockRows_cons hr, List.mem_cons, List.mem_map] at h
    rcases h with rfl | ⟨x, hx, rfl⟩
    · exact ⟨0, Nat.succ_pos _, rfl, rfl, rfl, .inl ⟨rfl, rfl⟩⟩
    · exact ⟨x.2, by have := List.snd_lt_of_mem_zipIdx hx; simpa using this, rfl, rfl, rfl,
        .inr ⟨List.le_snd_of_mem_zipIdx hx, rfl⟩⟩

theorem head_blockRows {n : NodeX U} (es : List (EdgeT U)) (h : n.rows ≠ []) : ∃ r ∈ blockRows n es, r.edges = es := by
  unfold blockRows
  cases hr : n.rows with
  | nil => exact absurd hr h
  | cons x rest => exact ⟨_, List.mem_cons_self .., rfl⟩

theorem blockRows_ids (n : NodeX U) (es : List (EdgeT U)) :
    (blockRows n es).map (·.id) = (List.range' 0 n.rows.length).map (rowId n) := by
  cases hr : n.rows with
  | nil => simp [blockRows, hr]
  | cons x rest =>
    rw [blockRows_cons hr, List.length_cons, List.range'_succ, List.map_cons, List.map_cons, List.map_map,
      ← List.zipIdx_map_snd 1 rest, List.map_map]
    rfl

theorem blockRows_ids_nodup (n : NodeX U) (es : List (EdgeT U)) : ((blockRows n es).map (·.id)).Nodup :=
  blockRows_ids n es ▸ (List.nodup_range' (step := 1) (by omega)).map _ fun _ _ hne e => hne (rowId_inj n e)

theorem rowId_fst (n : NodeX U) (i : Nat) : (rowId n i).1 = .inl n.uuid := rfl

theorem rowId_eq_uuid {n m : NodeX U} {i j : Nat} (h : rowId n i = rowId m j) : n.uuid = m.uuid := by
  have := congrArg Prod.fst h
  simpa [rowId] using this

theorem prependEdge_append (tid : TempId U) (e : EdgeT U) (a b : List (RowT U)) :
    prependEdge tid e (a ++ b) = prependEdge tid e a ++ prependEdge tid e b := by
  simp [prependEdge]

theorem prependEdge_blockRows (n : NodeX U) (es : List (EdgeT U)) (tid : TempId U) (e : EdgeT U)
    (h : ∀ j, 0 < j → rowId n j ≠ tid) :
    prependEdge tid e (blockRows n es) = blockRows n (if rowId n 0 = tid then e :: es else es) := by
  cases hr : n.rows with
  | nil => simp [blockRows, hr, prependEdge]
  | cons x rest =>
    have ht : ((rest.zipIdx 1).map (chainRow n)).map (fun r => if r.id = tid then { r with edges := e :: r.edges } else r)
        = (rest.zipIdx 1).map (chainRow n) := by
      rw [List.map_map]
      refine List.map_congr_left fun x hx => if_neg (h x.2 (List.le_snd_of_mem_zipIdx hx))
    rw [blockRows_cons hr, blockRows_cons hr, prependEdge, List.map_cons, ht]
    split <;> rfl

theorem prependEdge_render (c : NodeX U) (e : EdgeT U) (items : List (Item U))
    (h : ∀ n es, Item.block n es ∈ items → n.uuid = c.uuid → n = c) :
    prependEdge (rowId c 0) e (renderAll items) = renderAll (items.map (prependItem c.uuid e)) := by
  induction items with
  | nil => rfl
  | cons it items ih =>
    have ih' := ih (fun n es hm => h n es (List.mem_cons_of_mem _ hm))
    simp only [renderAll, List.flatMap_cons, List.map_cons] at ih' ⊢
    rw [prependEdge_append, ih']
    congr 1
    cases it with
    | goto k c' e' => simp [Item.render, prependItem, prependEdge, gotoRow, rowId]
    | block n es =>
      simp only [Item.render, prependItem]
      by_cases hu : n.uuid = c.uuid
      · cases h n es (List.mem_cons_self ..) hu
        rw [prependEdge_blockRows _ es _ e fun j hj he => by have := rowId_inj _ he; omega]
        simp
      · rw [prependEdge_blockRows n es _ e fun j _ he => hu (rowId_eq_uuid he), if_neg fun he => hu (rowId_eq_uuid he),
          if_neg hu]

/-! ### the DFS as a relation -/

inductive Task (U : Type) where
  | loop (n : NodeX U) (es : List (Label × Option U))
  | node (n : NodeX U) (pe : EdgeT U)

/-- Big-step relation of `_to_rows_recurse` on `(visited, skeleton)`.  `D` is an extra premise of the
"edge to a completed node" branch: `DTrue` for the real exporter; a run that is known never to take that branch for
the exits of one node is a run with a stronger `D` (`DNe`, `run_noPrepended` in `ExportGraphOrder.lean`). -/
inductive Run (f : FlowX U) (D : List (Item U) → NodeX U → NodeX U → Label → Prop) :
    Task U → List U → List (Item U) → List U → List (Item U) → Prop
  | nil {n vis items} : Run f D (.loop n []) vis items vis items
  | skip {n lab es vis items vis' items'} :
      Run f D (.loop n es) vis items vis' items' →
      Run f D (.loop n ((lab, none) :: es)) vis items vis' items'
  | done {n lab d es c vis items vis' items'} :
      findNode f d = some c → c.uuid ∈ blockUuids items → D items n c lab →
      Run f D (.loop n es) vis (items.map (prependItem c.uuid ⟨some (lastId n), lab⟩)) vis' items' →
      Run f D (.loop n ((lab, some d) :: es)) vis items vis' items'
  | back {n lab d es c k vis items vis' items'} :
      findNode f d = some c → c.uuid ∉ blockUuids items → c.uuid ∈ vis →
      Run f D (.loop n es) vis (.goto k c ⟨some (lastId n), lab⟩ :: items) vis' items' →
      Run f D (.loop n ((lab, some d) :: es)) vis items vis' items'
  | new {n lab d es c vis items vis1 items1 vis' items'} :
      findNode f d = some c → c.uuid ∉ blockUuids items → c.uuid ∉ vis →
      Run f D (.node c ⟨some (lastId n), lab⟩) vis items vis1 items1 →
      Run f D (.loop n es) vis1 items1 vis' items' →
      Run f D (.loop n ((lab, some d) :: es)) vis items vis' items'
  | node {n pe vis items vis' items'} :
      n.rows ≠ [] →
      Run f D (.loop n n.edges.reverse) (n.uuid :: vis) items vis' items' →
      Run f D (.node n pe) vis items vis' (.block n [pe] :: items')

def DTrue : List (Item U) → NodeX U → NodeX U → Label → Prop := fun _ _ _ _ => True

theorem run_node_head {f : FlowX U} {D : List (Item U) → NodeX U → NodeX U → Label → Prop} {n : NodeX U} {pe : EdgeT U}
    {vis vis' : List U} {items items' : List (Item U)} (h : Run f D (.node n pe) vis items vis' items') :
    ∃ rest, items' = .block n [pe] :: rest := by
  cases h
  exact ⟨_, rfl⟩

/-- bridge invariant between the exporter state and the skeleton -/
structure Bridge (f : FlowX U) (st : St U) (items : List (Item U)) : Prop where
  rows : st.rows = renderAll items
  comp : st.completed = blockUuids items
  canon : ∀ n es, Item.block n es ∈ items → Canon f n

theorem blockNode?_prepend (cu : U) (e : EdgeT U) (it : Item U) :
    (prependItem cu e it).blockNode? = it.blockNode? := by
  cases it with
  | goto k c e' => rfl
  | block n es => simp only [prependItem]; split <;> rfl

theorem blockNodes_map_prepend (cu : U) (e : EdgeT U) (items : List (Item U)) :
    blockNodes (items.map (prependItem cu e)) = blockNodes items := by
  simp only [blockNodes, List.filterMap_map]
  congr 1
  funext it
  exact blockNode?_prepend cu e it

theorem blockUuids_map_prepend (cu : U) (e : EdgeT U) (items : List (Item U)) :
    blockUuids (items.map (prependItem cu e)) = blockUuids items := by
  simp only [blockUuids, blockNodes_map_prepend]

theorem gotoKs_map_prepend (cu : U) (e : EdgeT U) (items : List (Item U)) :
    gotoKs (items.map (prependItem cu e)) = gotoKs items := by
  simp only [gotoKs, List.filterMap_map]
  congr 1
  funext it
  cases it with
  | goto k c e' => rfl
  | block n es => simp only [Function.comp, prependItem]; split <;> rfl

theorem GFresh.pushGoto {fresh : Nat} {items : List (Item U)} (h : GFresh fresh items) {c : NodeX U} {e : EdgeT U} :
    GFresh (fresh + 1) (.goto fresh c e :: items) :=
  List.pairwise_cons.2 ⟨fun k hk => (List.mem_cons.1 hk).elim (fun e => e ▸ Nat.lt_succ_self _)
    (fun hk => Nat.lt_succ_of_lt ((List.pairwise_cons.1 h).1 k hk)), h⟩

theorem mem_map_prepend {cu : U} {e : EdgeT U} {items : List (Item U)} {n : NodeX U} {es : List (EdgeT U)}
    (h : Item.block n es ∈ items.map (prependItem cu e)) : ∃ es0, Item.block n es0 ∈ items ∧ (es = es0 ∨ es = e :: es0) := by
  obtain ⟨it, hit, he⟩ := List.mem_map.1 h
  cases it with
  | goto k c e' => simp [prependItem] at he
  | block m es0 =>
    simp only [prependItem] at he
    split at he
    · injection he with h1 h2; subst h1; exact ⟨es0, hit, .inr h2.symm⟩
    · injection he with h1 h2; subst h1; exact ⟨es0, hit, .inl h2.symm⟩

theorem Bridge.prepend {f : FlowX U} {st : St U} {items : List (Item U)} (hb : Bridge f st items) {c : NodeX U}
    (hcc : Canon f c) {e : EdgeT U} :
    Bridge f { st with rows := prependEdge (rowId c 0) e st.rows } (items.map (prependItem c.uuid e)) := by
  refine ⟨?_, ?_, ?_⟩
  · simp only [hb.rows]
    exact prependEdge_render c _ items (fun m es hm hu => Canon.eq (hb.canon m es hm) hcc hu)
  · simp only [hb.comp, blockUuids_map_prepend]
  · intro m es hm
    obtain ⟨es0, h0, _⟩ := mem_map_prepend hm
    exact hb.canon m es0 h0

theorem Bridge.pushGoto {f : FlowX U} {st : St U} {items : List (Item U)} (hb : Bridge f st items) {c : NodeX U} {e : EdgeT U} :
    Bridge f { st with rows := gotoRow st.fresh c e :: st.rows, fresh := st.fresh + 1 } (.goto st.fresh c e :: items) := by
  refine ⟨?_, ?_, ?_⟩
  · simp only [hb.rows, renderAll, List.flatMap_cons, Item.render]; rfl
  · rw [blockUuids_cons_goto]; exact hb.comp
  · intro m es hm
    cases hm with
    | tail _ hm => exact hb.canon m es hm

/-- `Run` leaves the counter of a `go_to` row open; the bridge records that the exporter numbers them with its
fresh-uuid counter (`GFresh`), which is what makes their temp ids distinct. -/
theorem loop_run (f : FlowX U) (rc : NodeX U → EdgeT U → St U → Except Err (St U))
    (hrc : ∀ c e s its s', Canon f c → Bridge f s its → rc c e s = .ok s' →
      ∃ its', Run f DTrue (.node c e) s.visited its s'.visited its' ∧ Bridge f s' its' ∧
        (GFresh s.fresh its → GFresh s'.fresh its'))
    (n : NodeX U) {es : List (Label × Option U)} {st st' : St U} (h : loop f rc (lastId n) es st = .ok st') :
    ∀ items, Bridge f st items →
      ∃ items', Run f DTrue (.loop n es) st.visited items st'.visited items' ∧ Bridge f st' items' ∧
        (GFresh st.fresh items → GFresh st'.fresh items') := by
  revert h
  fun_induction loop f rc (lastId n) es st with
  | case1 => rintro ⟨⟩ items hb; exact ⟨items, .nil, hb, id⟩
  | case2 _ _ _ ih =>
    intro h items hb
    obtain ⟨items', hr, hb', hg⟩ := ih h items hb
    exact ⟨items', .skip hr, hb', hg⟩
  | case3 => nofun
  | case4 _ _ _ _ _ hfn h1 ih =>
    intro h items hb
    obtain ⟨items', hr, hb', hg⟩ := ih h _ (hb.prepend (findNode_canon hfn))
    exact ⟨items', .done hfn (hb.comp ▸ h1) trivial hr, hb', fun h0 => hg (by rw [GFresh, gotoKs_map_prepend]; exact h0)⟩
  | case5 _ _ _ _ _ hfn h1 h2 ih =>
    intro h items hb
    obtain ⟨items', hr, hb', hg⟩ := ih h _ hb.pushGoto
    exact ⟨items', .back hfn (hb.comp ▸ h1) h2 hr, hb', fun h0 => hg h0.pushGoto⟩
  | case6 => nofun
  | case7 _ _ _ st c hfn h1 h2 s1 hr ih =>
    intro h items hb
    obtain ⟨its1, r1, b1, g1⟩ := hrc c _ st items s1 (findNode_canon hfn) hb hr
    obtain ⟨items', r2, hb', g2⟩ := ih h its1 b1
    exact ⟨items', .new hfn (hb.comp ▸ h1) h2 r1 r2, hb', g2 ∘ g1⟩

theorem dfs_run_fresh (f : FlowX U) (fuel : Nat) :
    ∀ (n : NodeX U) (pe : EdgeT U) (st : St U) (items : List (Item U)) (st' : St U), Canon f n → Bridge f st items →
      dfs f fuel n pe st = .ok st' →
      ∃ items', Run f DTrue (.node n pe) st.visited items st'.visited items' ∧ Bridge f st' items' ∧
        (GFresh st.fresh items → GFresh st'.fresh items') := by
  induction fuel with
  | zero => intro n pe st items st' _ _ h; cases h
  | succ fuel ih =>
    intro n pe st items st' hc hb h
    obtain ⟨st2, hr, hl, rfl⟩ := dfs_ok h
    obtain ⟨items2, r2, b2, g2⟩ := loop_run f (dfs f fuel) ih n hl items
      ⟨hb.rows, hb.comp, hb.canon⟩
    refine ⟨.block n [pe] :: items2, .node hr r2, ⟨?_, ?_, ?_⟩, g2⟩
    · simp only [b2.rows, renderAll, List.flatMap_cons, Item.render, mkRows_eq_blockRows]
    · rw [blockUuids_cons_block, ← b2.comp]
    · intro m es hm
      cases hm with
      | head => exact hc
      | tail _ hm => exact b2.canon m es hm

theorem dfs_run (f : FlowX U) (fuel : Nat) :
    ∀ (n : NodeX U) (pe : EdgeT U) (st : St U) (items : List (Item U)) (st' : St U), Canon f n → Bridge f st items →
      dfs f fuel n pe st = .ok st' →
      ∃ items', Run f DTrue (.node n pe) st.visited items st'.visited items' ∧ Bridge f st' items' :=
  fun n pe st items st' hc hb h => (dfs_run_fresh f fuel n pe st items st' hc hb h).imp fun _ hx => ⟨hx.1, hx.2.1⟩

theorem toRowsT_run {n0 : NodeX U} {f : FlowX U} {rows : List (RowT U)} (h : toRowsT (n0 :: f) = .ok rows) :
    ∃ vis items, Run (n0 :: f) DTrue (.node n0 ⟨none, blankLabel⟩) [] [] vis items ∧ rows = renderAll items ∧
      (gotoKs items).Nodup := by
  obtain ⟨st, hd, rfl⟩ := toRowsT_ok h
  obtain ⟨items, r, b, g⟩ := dfs_run_fresh (n0 :: f) _ n0 _ ⟨[], [], [], 0⟩ [] st (canon_head n0 f)
    ⟨rfl, rfl, by intro _ _ hm; cases hm⟩ hd
  exact ⟨st.visited, items, r, b.rows, (List.pairwise_cons.1 (g (List.pairwise_singleton _ _))).2.imp Nat.ne_of_gt⟩

end Rpft.Export
