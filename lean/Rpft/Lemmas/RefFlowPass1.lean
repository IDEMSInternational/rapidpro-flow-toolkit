import Rpft.RefFlow
import Rpft.Lemmas.Except
import Rpft.Lemmas.Dict
/-! Pass 1 of the reference interpretation, edge by edge; every recorded target is a node-producing row. -/
namespace Rpft.RefFlow
open Rpft Rpft.Flow

def IsNodeIdx (rows : List RRow) (k : Nat) : Prop := ∃ r, rows[k]? = some r ∧ r.kind.isNode = true

def TgtOk (rows : List RRow) : Target → Prop
  | .row k => IsNodeIdx rows k
  | .exit => True

structure P1Inv (rows : List RRow) (st : P1) : Prop where
  ids : ∀ p ∈ st.ids, IsNodeIdx rows p.2
  out : ∀ e ∈ st.out, TgtOk rows e.tgt

theorem lookupId_mem {ids : List (Str × Nat)} {id : Str} {t : Nat} (h : lookupId ids id = some t) :
    ∃ p ∈ ids, p.2 = t :=
  ⟨_, Dict.mem_of_get ((Dict.get_eq_find? ids id).trans h), rfl⟩

theorem edgeSrc_eq (st : P1) (k : Nat) (e : REdge) :
    edgeSrc st k e =
      if e.from_ = "start".toList then .ok none
      else if e.from_ = [] then .ok st.prev
      else match lookupId st.ids e.from_ with
        | some j => .ok (some j)
        | none => .error (.unknownFrom k e.from_) := by
  unfold edgeSrc
  simp only [List.isEmpty_iff]
  cases st.prev <;> rfl

theorem edgeSrc_some {st : P1} {k : Nat} {e : REdge} {R : Nat} (h : edgeSrc st k e = .ok (some R)) :
    (e.from_ = [] ∧ st.prev = some R) ∨ (e.from_ ≠ [] ∧ lookupId st.ids e.from_ = some R) := by
  rw [edgeSrc_eq] at h
  split at h
  · cases h
  · split at h
    · rename_i hemp
      injection h with h
      exact .inl ⟨hemp, h⟩
    · rename_i hemp
      split at h
      · rename_i j hl
        injection h with h
        exact .inr ⟨hemp, hl.trans h⟩
      · cases h

/-- one step of `addEdges` -/
def edgeStep (st : P1) (k : Nat) (e : REdge) (t : Target) : Except WfErr P1 :=
  match edgeSrc st k e with
  | .error err => .error err
  | .ok none => .ok st
  | .ok (some j) => .ok { st with out := { src := j, cond := e.cond, tgt := t } :: st.out }

theorem addEdges_nil (st : P1) (k : Nat) : addEdges st k [] = .ok st := rfl

theorem addEdges_cons (st : P1) (k : Nat) (e : REdge) (t : Target) (es : List (REdge × Target)) :
    addEdges st k ((e, t) :: es) =
      match edgeStep st k e t with
      | .error err => .error err
      | .ok st1 => addEdges st1 k es := by
  simp only [addEdges, List.foldlM_cons, edgeStep, bind, Except.bind]
  cases edgeSrc st k e with
  | error err => rfl
  | ok o => cases o <;> rfl

theorem addEdges_cons_ok {st st' : P1} {k : Nat} {e : REdge} {t : Target} {es : List (REdge × Target)}
    (h : addEdges st k ((e, t) :: es) = .ok st') : ∃ st1, edgeStep st k e t = .ok st1 ∧ addEdges st1 k es = .ok st' := by
  rw [addEdges_cons] at h
  cases h1 : edgeStep st k e t with
  | error err => rw [h1] at h; cases h
  | ok st1 => rw [h1] at h; exact ⟨st1, rfl, h⟩

theorem edgeStep_prefix {st st1 : P1} {k : Nat} {e : REdge} {t : Target} (h : edgeStep st k e t = .ok st1) :
    st.out.reverse <+: st1.out.reverse ∧ st1.ids = st.ids ∧ st1.prev = st.prev := by
  unfold edgeStep at h
  split at h
  · cases h
  · injection h with h; subst h; exact ⟨List.prefix_rfl, rfl, rfl⟩
  · injection h with h; subst h
    exact ⟨by simp only [List.reverse_cons]; exact List.prefix_append _ _, rfl, rfl⟩

theorem addEdges_prefix : ∀ (es : List (REdge × Target)) (st st' : P1) (k : Nat),
    addEdges st k es = .ok st' → st.out.reverse <+: st'.out.reverse := by
  intro es
  induction es with
  | nil => intro st st' k h; rw [addEdges_nil] at h; injection h with h; subst h; exact List.prefix_rfl
  | cons p es ih =>
    intro st st' k h
    obtain ⟨e, t⟩ := p
    obtain ⟨st1, h1, h⟩ := addEdges_cons_ok h
    exact (edgeStep_prefix h1).1.trans (ih st1 st' k h)

theorem pass1Row_prefix (r : RRow) (st st' : P1) (k : Nat) (h : pass1Row st k r = .ok st') :
    st.out.reverse <+: st'.out.reverse := by
  unfold pass1Row at h
  simp only [bind, Except.bind, pure, Except.pure] at h
  split at h
  · exact addEdges_prefix _ _ _ _ h
  · exact addEdges_prefix _ _ _ _ h
  · generalize (if r.dests.length = 1 then List.replicate _ (r.dests.headD []) else r.dests) = ds at h
    split at h
    · simp [throw, throwThe, MonadExceptOf.throw] at h
    · split at h
      · cases h
      · exact addEdges_prefix _ _ _ _ h
  · split at h
    · cases h
    · rename_i st1 h1
      injection h with h; subst h
      exact addEdges_prefix _ st st1 _ h1

theorem edgeStep_inv {rows : List RRow} {st st1 : P1} {k : Nat} {e : REdge} {t : Target} (hi : P1Inv rows st)
    (ht : TgtOk rows t) (h : edgeStep st k e t = .ok st1) : P1Inv rows st1 := by
  unfold edgeStep at h
  split at h
  · cases h
  · injection h with h; subst h; exact hi
  · injection h with h; subst h
    exact ⟨hi.ids, List.forall_mem_cons.mpr ⟨ht, hi.out⟩⟩

theorem addEdges_inv {rows : List RRow} {k : Nat} {es : List (REdge × Target)}
    (hes : ∀ p ∈ es, TgtOk rows p.2) :
    ∀ {st st' : P1}, P1Inv rows st → addEdges st k es = .ok st' →
      P1Inv rows st' ∧ st'.ids = st.ids := by
  induction es with
  | nil =>
    intro st st' hi h
    rw [addEdges_nil] at h
    injection h with h; subst h
    exact ⟨hi, rfl⟩
  | cons p es ih =>
    intro st st' hi h
    obtain ⟨e, t⟩ := p
    obtain ⟨st1, h1, h⟩ := addEdges_cons_ok h
    obtain ⟨hi', hids⟩ := ih (fun p hp => hes p (by simp [hp])) (edgeStep_inv hi (hes (e, t) (by simp)) h1) h
    exact ⟨hi', hids.trans (edgeStep_prefix h1).2.1⟩

theorem mapM_lookup_ok {rows : List RRow} {st : P1} {k : Nat} (hi : P1Inv rows st) :
    ∀ {ds : List Str} {tgts : List Target},
      (ds.mapM fun d => match lookupId st.ids d with
        | some t => (pure (Target.row t) : Except WfErr Target)
        | none => throw (WfErr.unknownDest k d)) = .ok tgts →
      ∀ t ∈ tgts, TgtOk rows t := by
  intro ds
  induction ds with
  | nil =>
    intro tgts h
    simp only [List.mapM_nil, Except.pure_eq_ok] at h
    subst h
    simp
  | cons d ds ih =>
    intro tgts h
    simp only [List.mapM_cons, Except.bind_eq_ok, Except.pure_eq_ok] at h
    obtain ⟨t, ht, rest, hrest, rfl⟩ := h
    intro t' ht'
    simp only [List.mem_cons] at ht'
    rcases ht' with rfl | ht'
    · split at ht
      · rename_i t0 hl
        simp only [Except.pure_eq_ok] at ht
        subst ht
        obtain ⟨p, hp, hpt⟩ := lookupId_mem hl
        exact hpt ▸ hi.ids p hp
      · simp only [Except.throw_eq_ok] at ht
    · exact ih hrest t' ht'

theorem pass1Row_inv {rows : List RRow} {k : Nat} {r : RRow} (hk : rows[k]? = some r)
    {st st' : P1} (hi : P1Inv rows st) (h : pass1Row st k r = .ok st') : P1Inv rows st' := by
  have hexit : ∀ (es : List REdge), ∀ p ∈ es.map (fun e => (e, Target.exit)), TgtOk rows p.2 := by
    intro es p hp; simp at hp; obtain ⟨_, _, rfl⟩ := hp; trivial
  unfold pass1Row at h
  simp only at h
  split at h
  · exact (addEdges_inv (hexit _) hi h).1
  · exact (addEdges_inv (hexit _) hi h).1
  · generalize (if r.dests.length = 1 then _ else r.dests : List Str) = ds at h
    split at h
    · simp only [Except.bind_eq_ok, Except.throw_eq_ok, false_and, exists_false] at h
    · simp only [Except.bind_eq_ok] at h
      obtain ⟨tgts, htg, h⟩ := h
      refine (addEdges_inv ?_ hi h).1
      intro p hp
      exact mapM_lookup_ok hi htg p.2 (List.of_mem_zip hp).2
  · rename_i hne1 hne2 hne3
    simp only [Except.bind_eq_ok, Except.pure_eq_ok] at h
    obtain ⟨st1, hst1, rfl⟩ := h
    have hnode : IsNodeIdx rows k := by
      refine ⟨r, hk, ?_⟩
      cases hkind : r.kind <;> simp_all [Kind.isNode]
    obtain ⟨hi1, hids⟩ := addEdges_inv (by
      rintro p hp; simp at hp; obtain ⟨_, _, rfl⟩ := hp; exact hnode) hi hst1
    refine ⟨fun p hp => ?_, hi1.out⟩
    simp only at hp
    split at hp
    · rw [hids] at hp; exact hi.ids p hp
    · simp only [List.mem_cons] at hp
      rcases hp with rfl | hp
      · exact hnode
      · rw [hids] at hp; exact hi.ids p hp

theorem foldl_pass1_inv (rows : List RRow) :
    ∀ (l : List (RRow × Nat)), (∀ p ∈ l, rows[p.2]? = some p.1) →
    ∀ (st st' : P1), P1Inv rows st →
      l.foldlM (fun st (p : RRow × Nat) => pass1Row st p.2 p.1) st = .ok st' → P1Inv rows st' := by
  intro l
  induction l with
  | nil =>
    intro _ st st' hi h
    simp only [List.foldlM_nil, Except.pure_eq_ok] at h
    subst h; exact hi
  | cons p l ih =>
    intro hl st st' hi h
    simp only [List.foldlM_cons, Except.bind_eq_ok] at h
    obtain ⟨st1, hst1, h⟩ := h
    exact ih (fun q hq => hl q (by simp [hq])) st1 st'
      (pass1Row_inv (hl p (by simp)) hi hst1) h

theorem pass1_targets (rows : List RRow) (out : List OutEdge) (h : pass1 rows = .ok out) :
    ∀ e ∈ out, TgtOk rows e.tgt := by
  unfold pass1 at h
  simp only [Except.bind_eq_ok, Except.pure_eq_ok] at h
  obtain ⟨st, hst, rfl⟩ := h
  have := foldl_pass1_inv rows rows.zipIdx (fun _ => List.mem_zipIdx_iff_getElem?.mp) {} st ⟨by simp, by simp⟩ (by simpa using hst)
  intro e he
  exact this.out e (by simpa using he)

end Rpft.RefFlow
