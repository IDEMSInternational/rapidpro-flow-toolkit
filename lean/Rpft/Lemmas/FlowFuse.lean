/-
Node fusion: a chain of nodes of `A` — each performing actions, deciding nothing, with one exit that
leads to the next node of the chain — may be replaced by ONE node of `B` that performs all their
actions in order, without changing what a contact observes.  Node `ia j` of `A` corresponds to the
segment of the actions of node `ib j` of `B` that starts at `off j`; the last node of a chain may
moreover be split (actions / decision), and a node of `A` that does nothing may be missing in `B`.
Stated for the index-resolved abstractions of `Lemmas/FlowAbs.lean`, over an arbitrary index type
`ι` (the rows of a sheet, in the application).  Splitting alone (`SplitOf`, at the end) is the
case of chains of length one: every node of `A` starts at offset 0 of its node of `B`.
-/
import Rpft.Lemmas.FlowFuel
import Mathlib.Data.List.Forall2
namespace Rpft.Flow
open Rpft Rpft.Bisim

section
variable {ι : Type} (A B : List ANode) (V : ι → Prop) (ia ib off : ι → Nat) (ir : ι → Option Nat)

/-- corresponding destinations: a destination of `A` names the FIRST node of a chain (`off j = 0`),
or a do-nothing node that has no counterpart in `B` -/
inductive DRelO : Option (Option Nat) → Option (Option Nat) → Prop
  | none : DRelO none none
  | out : DRelO (some none) (some none)
  | node (j : ι) : V j → off j = 0 → DRelO (some (some (ia j))) (some (some (ib j)))
  | skip (k : Nat) (a : ANode) (y : Option (Option Nat)) : A[k]? = some a → a.acts = [] → a.ask = none →
      DRelO (a.dests.head?.join) y → DRelO (some (some k)) y

/-- the actions of node `ia j` of `A` are the actions of node `ib j` of `B` from `off j` on; the node
is the last of its chain (and then possibly split, the decision being made by node `q` of `B`), or it
is linked to the next node `ia j'` of its chain, whose actions follow in the same node of `B` -/
structure FuseOf : Prop where
  node : ∀ j, V j → ∃ a b, A[ia j]? = some a ∧ B[ib j]? = some b ∧
    (∀ k, k < a.acts.length → b.acts[off j + k]? = a.acts[k]?) ∧
    ( (ir j = none ∧ b.acts.length = off j + a.acts.length ∧ b.ask = a.ask ∧
         List.Forall₂ (DRelO A V ia ib off) a.dests b.dests) ∨
      (∃ q b2, ir j = some q ∧ a.ask.isSome = true ∧ b.acts.length = off j + a.acts.length ∧ b.ask = none ∧
         b.dests = [some (some q)] ∧ B[q]? = some b2 ∧ b2.acts = [] ∧ b2.ask = a.ask ∧
         List.Forall₂ (DRelO A V ia ib off) a.dests b2.dests) ∨
      (∃ j', V j' ∧ a.acts ≠ [] ∧ a.ask = none ∧ a.dests = [some (some (ia j'))] ∧ ib j' = ib j ∧
         off j' = off j + a.acts.length ∧ ∃ a', A[ia j']? = some a' ∧ a'.acts ≠ []) )

/-- corresponding positions: inside the actions of a node of `A`, the same action in its segment; at a decision, a
position of `B` that makes the same decision with corresponding destinations -/
inductive SRelO : St → St → Prop
  | div : SRelO .div .div
  | act (j : ι) (a : ANode) (k : Nat) : V j → A[ia j]? = some a → k < a.acts.length →
      SRelO (.at ⟨ia j, k⟩) (.at ⟨ib j, off j + k⟩)
  | ask {p p' : Pos} {a b : ANode} {r : RouterObs} : A[p.node]? = some a → a.acts[p.k]? = none → a.ask = some r →
      B[p'.node]? = some b → b.acts[p'.k]? = none → b.ask = some r →
      List.Forall₂ (DRelO A V ia ib off) a.dests b.dests → SRelO (.at p) (.at p')

variable {A B V ia ib off ir}

theorem DRelO.get {l1 l2 : List (Option (Option Nat))} (h : List.Forall₂ (DRelO A V ia ib off) l1 l2) (c : Nat) :
    DRelO A V ia ib off (l1[c]?).join (l2[c]?).join := by
  induction h generalizing c with
  | nil => exact .none
  | cons hab _ ih =>
    cases c with
    | zero => exact hab
    | succ c => simpa using ih c

theorem DRelO.head {l1 l2 : List (Option (Option Nat))} (h : List.Forall₂ (DRelO A V ia ib off) l1 l2) :
    DRelO A V ia ib off l1.head?.join l2.head?.join := by
  rw [List.head?_eq_getElem?, List.head?_eq_getElem?]
  exact DRelO.get h 0

theorem fuse_acts_lt {a b : ANode} {o : Nat} (hacts : ∀ k, k < a.acts.length → b.acts[o + k]? = a.acts[k]?)
    {k : Nat} (hk : k < a.acts.length) : o + k < b.acts.length := by
  have h := hacts k hk
  by_contra hge
  rw [List.getElem?_eq_none (Nat.le_of_not_lt hge), List.getElem?_eq_getElem hk] at h
  cases h

/-- Where `A` is once `k` actions of node `ia j` are performed corresponds to where `B` is at the corresponding
position of node `ib j`.  When both nodes end there deciding nothing, the two go on to corresponding exits: `hE`,
which the inductions along a chain of do-nothing nodes fill with their hypothesis. -/
theorem fuse_arrive (hs : FuseOf A B V ia ib off ir) {j : ι} (hj : V j) {a b : ANode} (ha : A[ia j]? = some a)
    (hb : B[ib j]? = some b) {k : Nat} (hk : k ≤ a.acts.length)
    (hE : a.acts.length = k → a.ask = none → b.acts.length = off j + k → b.ask = none →
      DRelO A V ia ib off a.dests.head?.join b.dests.head?.join →
      OptRel (SRelO A B V ia ib off) (aEnter A (A.length + 1) a.dests.head?.join)
        (aEnter B (B.length + 1) b.dests.head?.join)) :
    OptRel (SRelO A B V ia ib off) (aArrive A (ia j) a k) (aArrive B (ib j) b (off j + k)) := by
  obtain ⟨a', b', ha', hb', hacts, hcase⟩ := hs.node j hj
  cases ha.symm.trans ha'
  cases hb.symm.trans hb'
  rcases Nat.lt_or_eq_of_le hk with hlt | rfl
  · rw [aArrive_lt hlt, aArrive_lt (fuse_acts_lt hacts hlt)]
    exact .act j a k hj ha hlt
  have hx : a.acts[a.acts.length]? = none := List.getElem?_eq_none (Nat.le_refl _)
  rcases hcase with ⟨-, hlen, hbk, hbd⟩ | ⟨q, b2, -, hask, hlen, hbk, hbq, hb2, hb2a, hb2k, hb2d⟩ |
    ⟨j', hj', -, hak, had, hib, hoff', a2, ha2, hne2⟩
  · -- last of its chain, not split
    cases hr : a.ask with
    | some r =>
      rw [aArrive_ask hr, aArrive_ask (hbk.trans hr)]
      exact .ask ha hx hr hb (List.getElem?_eq_none (Nat.le_of_eq hlen)) (hbk.trans hr) hbd
    | none =>
      rw [aArrive_end (Nat.le_refl _) hr, aArrive_end (Nat.le_of_eq hlen) (hbk.trans hr)]
      exact hE rfl hr hlen (hbk.trans hr) (DRelO.head hbd)
  · -- split: `b` ends here and leads to `q`, which decides
    obtain ⟨r, hr⟩ := Option.isSome_iff_exists.1 hask
    rw [aArrive_ask hr, aArrive_end (Nat.le_of_eq hlen) hbk, hbq]
    show OptRel _ _ (aEnter B (B.length + 1) (some (some q)))
    rw [aEnter_sys_node hb2, aArrive_ask (hb2k.trans hr)]
    exact .ask ha hx hr hb2 (by rw [hb2a]; rfl) (hb2k.trans hr) hb2d
  · -- linked: `A` enters the next node of the chain, `B` stays in its node
    obtain ⟨a2', b', ha2', hb', hacts', -⟩ := hs.node j' hj'
    cases ha2.symm.trans ha2'
    cases (hib ▸ hb').symm.trans hb
    have hl2 : 0 < a2.acts.length := List.length_pos_iff.mpr hne2
    rw [aArrive_end (Nat.le_refl _) hak, had]
    show OptRel _ (aEnter A (A.length + 1) (some (some (ia j')))) _
    rw [aEnter_sys_node ha2, aArrive_lt hl2, ← hoff', aArrive_lt (k := off j') (fuse_acts_lt hacts' hl2), ← hib]
    exact .act j' a2 0 hj' ha2 hl2

theorem fuse_enter_fwd (hs : FuseOf A B V ia ib off ir) :
    ∀ x, aEnter A (A.length + 1) x ≠ some .div → ∀ y, DRelO A V ia ib off x y →
      OptRel (SRelO A B V ia ib off) (aEnter A (A.length + 1) x) (aEnter B (B.length + 1) y) := by
  refine aEnter_sys_ind fun x ih y hxy => ?_
  cases hxy with
  | none => trivial
  | out => trivial
  | node j hj hoff =>
    obtain ⟨a, b, ha, hb, -⟩ := hs.node j hj
    have := fuse_arrive hs hj ha hb (Nat.zero_le _) fun h1 h2 _ _ hd =>
      ih _ _ rfl ha (List.eq_nil_of_length_eq_zero h1) h2 _ hd
    rwa [hoff, ← aEnter_sys_node ha, ← aEnter_sys_node hb] at this
  | skip k a y hk h1 h2 hd =>
    rw [aEnter_sys_skip hk h1 h2]
    exact ih _ _ rfl hk h1 h2 _ hd

theorem fuse_enter_bwd (hs : FuseOf A B V ia ib off ir) :
    ∀ y, aEnter B (B.length + 1) y ≠ some .div → ∀ x, DRelO A V ia ib off x y →
      OptRel (SRelO A B V ia ib off) (aEnter A (A.length + 1) x) (aEnter B (B.length + 1) y) := by
  refine aEnter_sys_ind fun y ih x hxy => ?_
  -- the do-nothing nodes of `A` that `B` lacks are finitely many on every path: `DRelO` is inductive
  induction hxy with
  | none => trivial
  | out => trivial
  | node j hj hoff =>
    obtain ⟨a, b, ha, hb, -⟩ := hs.node j hj
    have := fuse_arrive hs hj ha hb (Nat.zero_le _) fun _ _ h1 h2 hd =>
      ih _ _ rfl hb (List.eq_nil_of_length_eq_zero (by rw [h1, hoff])) h2 _ hd
    rwa [hoff, ← aEnter_sys_node ha, ← aEnter_sys_node hb] at this
  | skip k a y hk h1 h2 _ ihd =>
    rw [aEnter_sys_skip hk h1 h2]
    exact ihd ih

theorem fuse_enter_rel (hs : FuseOf A B V ia ib off ir) {x y : Option (Option Nat)}
    (hxy : DRelO A V ia ib off x y) :
    OptRel (SRelO A B V ia ib off) (aEnter A (A.length + 1) x) (aEnter B (B.length + 1) y) := by
  by_cases hA : aEnter A (A.length + 1) x = some .div
  · by_cases hB : aEnter B (B.length + 1) y = some .div
    · rw [hA, hB]; exact .div
    · exact fuse_enter_bwd hs y hB x hxy
  · exact fuse_enter_fwd hs x hA y hxy

theorem srelO_step (hs : FuseOf A B V ia ib off ir) (s t : St) (hst : SRelO A B V ia ib off s t) :
    aObs A s = aObs B t ∧ aArity A s = aArity B t ∧
      ∀ c, c < aArity A s → OptRel (SRelO A B V ia ib off) (aNext A s c) (aNext B t c) := by
  cases hst with
  | div => exact ⟨rfl, rfl, fun c hc => absurd hc (Nat.not_lt_zero c)⟩
  | act j a k hj ha hlt =>
    obtain ⟨a', b, ha', hb, hacts, -⟩ := hs.node j hj
    cases ha.symm.trans ha'
    have hx : a.acts[k]? = some a.acts[k] := List.getElem?_eq_getElem hlt
    obtain ⟨oA, rA, nA⟩ := aSys_act ha hx
    obtain ⟨oB, rB, nB⟩ := aSys_act hb ((hacts k hlt).trans hx)
    refine ⟨oA.trans oB.symm, rA.trans rB.symm, fun c _ => ?_⟩
    rw [nA, nB]
    exact fuse_arrive hs hj ha hb hlt fun _ _ _ _ => fuse_enter_rel hs
  | ask ha hx hr hb hbx hbr hd =>
    obtain ⟨oA, rA, nA⟩ := aSys_ask ha hx hr
    obtain ⟨oB, rB, nB⟩ := aSys_ask hb hbx hbr
    refine ⟨oA.trans oB.symm, (rA.trans hd.length_eq).trans rB.symm, fun c _ => ?_⟩
    rw [nA, nB]
    exact fuse_enter_rel hs (DRelO.get hd c)

theorem run_fuse (hs : FuseOf A B V ia ib off ir)
    (hstart : (A = [] ∧ B = []) ∨ (A ≠ [] ∧ B ≠ [] ∧ ∃ j0, V j0 ∧ off j0 = 0 ∧ ia j0 = 0 ∧ ib j0 = 0))
    (env : Nat → Nat) (n : Nat) :
    run (aSys A) (aStart A) env n = run (aSys B) (aStart B) env n := by
  refine run_eq_of_rel (srelO_step hs) ?_
  rcases hstart with ⟨hA, hB⟩ | ⟨hA, hB, j0, hj0, h0, h1, h2⟩
  · subst hA hB; trivial
  · have := fuse_enter_rel hs (.node j0 hj0 h0)
    rwa [h1, h2, ← aStart_cons hA, ← aStart_cons hB] at this

theorem trace_eq_of_fuse {lvl : ObsLevel} {f g : Flow} (hs : FuseOf (absFlow lvl f) (absFlow lvl g) V ia ib off ir)
    (hstart : (absFlow lvl f = [] ∧ absFlow lvl g = []) ∨
      (absFlow lvl f ≠ [] ∧ absFlow lvl g ≠ [] ∧ ∃ j0, V j0 ∧ off j0 = 0 ∧ ia j0 = 0 ∧ ib j0 = 0))
    (env : Nat → Nat) (n : Nat) : trace lvl f env n = trace lvl g env n := by
  rw [trace_abs, trace_abs]
  exact run_fuse hs hstart env n

end

section
variable {ι : Type} (A B : List ANode) (V : ι → Prop) (ia ib : ι → Nat) (ir : ι → Option Nat)

/-- corresponding destinations; a node of `A` that does nothing (no action, no decision) may have no
counterpart in `B` at all: a destination that names it corresponds to what its own exit corresponds to -/
inductive DRel : Option (Option Nat) → Option (Option Nat) → Prop
  | none : DRel none none
  | out : DRel (some none) (some none)
  | node (j : ι) : V j → DRel (some (some (ia j))) (some (some (ib j)))
  | skip (k : Nat) (a : ANode) (y : Option (Option Nat)) : A[k]? = some a → a.acts = [] → a.ask = none →
      DRel (a.dests.head?.join) y → DRel (some (some k)) y

/-- node `ia j` of `A` is node `ib j` of `B`, or (when `ir j = some q`) is split into the nodes
`ib j` (the actions) and `q` (the decision) of `B` -/
structure SplitOf : Prop where
  node : ∀ j, V j → ∃ a, A[ia j]? = some a ∧
    ((ir j = none ∧ ∃ b, B[ib j]? = some b ∧ b.acts = a.acts ∧ b.ask = a.ask ∧
        List.Forall₂ (DRel A V ia ib) a.dests b.dests) ∨
     (∃ q b1 b2, ir j = some q ∧ a.ask.isSome = true ∧ B[ib j]? = some b1 ∧ b1.acts = a.acts ∧ b1.ask = none ∧
        b1.dests = [some (some q)] ∧ B[q]? = some b2 ∧ b2.acts = [] ∧ b2.ask = a.ask ∧
        List.Forall₂ (DRel A V ia ib) a.dests b2.dests))

variable {A B V ia ib ir}

theorem DRel.toFuse {x y : Option (Option Nat)} (h : DRel A V ia ib x y) :
    DRelO A V ia ib (fun _ => 0) x y := by
  induction h with
  | none => exact .none
  | out => exact .out
  | node j hj => exact .node j hj rfl
  | skip k a y hk h1 h2 _ ih => exact .skip k a y hk h1 h2 ih

theorem SplitOf.toFuse (hs : SplitOf A B V ia ib ir) : FuseOf A B V ia ib (fun _ => 0) ir := by
  refine ⟨fun j hj => ?_⟩
  obtain ⟨a, ha, hcase⟩ := hs.node j hj
  rcases hcase with ⟨hir, b, hb, hb1, hb2, hbd⟩ |
    ⟨q, b1, b2, hir, hask, hb1, hb1a, hb1k, hb1d, hb2, hb2a, hb2k, hb2d⟩
  · exact ⟨a, b, ha, hb, fun k _ => by rw [Nat.zero_add, hb1],
      .inl ⟨hir, by rw [Nat.zero_add, hb1], hb2, hbd.imp fun _ _ => DRel.toFuse⟩⟩
  · exact ⟨a, b1, ha, hb1, fun k _ => by rw [Nat.zero_add, hb1a],
      .inr (.inl ⟨q, b2, hir, hask, by rw [Nat.zero_add, hb1a], hb1k, hb1d, hb2, hb2a, hb2k,
        hb2d.imp fun _ _ => DRel.toFuse⟩)⟩

theorem run_split (hs : SplitOf A B V ia ib ir)
    (hstart : (A = [] ∧ B = []) ∨ (A ≠ [] ∧ B ≠ [] ∧ ∃ j0, V j0 ∧ ia j0 = 0 ∧ ib j0 = 0))
    (env : Nat → Nat) (n : Nat) :
    run (aSys A) (aStart A) env n = run (aSys B) (aStart B) env n := by
  refine run_fuse hs.toFuse ?_ env n
  rcases hstart with h | ⟨hA, hB, j0, hj0, h1, h2⟩
  · exact .inl h
  · exact .inr ⟨hA, hB, j0, hj0, rfl, h1, h2⟩

end

theorem trace_eq_of_split {ι : Type} (lvl : ObsLevel) (f g : Flow) (V : ι → Prop) (ia ib : ι → Nat) (ir : ι → Option Nat)
    (hs : SplitOf (absFlow lvl f) (absFlow lvl g) V ia ib ir)
    (hstart : (absFlow lvl f = [] ∧ absFlow lvl g = []) ∨
      (absFlow lvl f ≠ [] ∧ absFlow lvl g ≠ [] ∧ ∃ j0, V j0 ∧ ia j0 = 0 ∧ ib j0 = 0))
    (env : Nat → Nat) (n : Nat) : trace lvl f env n = trace lvl g env n := by
  rw [trace_abs, trace_abs]
  exact run_split hs hstart env n

end Rpft.Flow
