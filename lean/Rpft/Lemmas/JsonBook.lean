/-
Lemmas for JSON workbook files (`Rpft/Sheets.lean`, section JsonFiles): the text `to_json` writes
has no CR (so text mode reads it unchanged), the `book` value has distinct keys at every level,
`contentOf` inverts `contentJV`, and `sheetsOfMembers` runs `readJsonSheet` sheet by sheet.
-/
import Rpft.Lemmas.Sheets
import Rpft.Lemmas.JsonText
import Rpft.Lemmas.Str
namespace Rpft.Sheets
open Rpft Rpft.JsonText

theorem hexDigit_noCR : ∀ n : Fin 16, hexDigit n.val ≠ '\r' := by decide

theorem escapeChar_noCR (c : Char) : ∀ x ∈ escapeChar c, x ≠ '\r' := by
  rcases escapeChar_cases c with ⟨e, h, _, _, he⟩ | ⟨hc, h⟩ | ⟨_, _, hc, h⟩ <;>
    simp only [h, List.forall_mem_cons]
  · exact ⟨by decide, he, nofun⟩
  · exact ⟨by decide, by decide, by decide, by decide, hexDigit_noCR ⟨c.toNat / 16, by omega⟩,
      hexDigit_noCR ⟨c.toNat % 16, Nat.mod_lt _ (by decide)⟩, nofun⟩
  · exact ⟨fun h => by subst h; exact absurd hc (by decide), nofun⟩

theorem encodeString_noCR (s : Str) : ∀ x ∈ encodeString s, x ≠ '\r' := by
  simp only [encodeString, List.forall_mem_cons, List.forall_mem_append, List.mem_flatMap]
  exact ⟨by decide, fun x ⟨c, _, hc⟩ => escapeChar_noCR c x hc, by decide, nofun⟩

theorem nl_noCR (lvl : Nat) : ∀ x ∈ nl lvl, x ≠ '\r' := by
  intro x hx
  simp only [nl, List.mem_cons, List.mem_replicate] at hx
  rcases hx with h | ⟨_, h⟩ <;> subst h <;> decide

mutual
theorem dumpValue_noCR : ∀ (v : JV) (lvl : Nat), ∀ x ∈ dumpValue lvl v, x ≠ '\r'
  | .str s, lvl => by rw [dumpValue]; exact encodeString_noCR s
  | .arr .nil, lvl => by rw [dumpValue]; decide
  | .arr (.cons y ys), lvl => by
    rw [dumpValue_arr_cons]
    simp only [List.forall_mem_cons, List.forall_mem_append]
    exact ⟨by decide, ⟨⟨nl_noCR _, dumpElems_noCR (.cons y ys) _⟩, nl_noCR _⟩, by decide, nofun⟩
  | .obj .nil, lvl => by rw [dumpValue]; decide
  | .obj (.cons k v ms), lvl => by
    rw [dumpValue_obj_cons]
    simp only [List.forall_mem_cons, List.forall_mem_append]
    exact ⟨by decide, ⟨⟨nl_noCR _, dumpMembers_noCR (.cons k v ms) _⟩, nl_noCR _⟩, by decide, nofun⟩
theorem dumpElems_noCR : ∀ (xs : JVs) (lvl : Nat), ∀ x ∈ dumpElems lvl xs, x ≠ '\r'
  | .nil, lvl => by rw [dumpElems]; nofun
  | .cons y .nil, lvl => by rw [dumpElems]; exact dumpValue_noCR y lvl
  | .cons y (.cons z zs), lvl => by
    rw [dumpElems_cons_cons]
    simp only [List.forall_mem_cons, List.forall_mem_append]
    exact ⟨dumpValue_noCR y lvl, by decide, nl_noCR _, dumpElems_noCR (.cons z zs) lvl⟩
theorem dumpMembers_noCR : ∀ (ms : JMs) (lvl : Nat), ∀ x ∈ dumpMembers lvl ms, x ≠ '\r'
  | .nil, lvl => by rw [dumpMembers]; nofun
  | .cons k v .nil, lvl => by
    rw [dumpMembers]
    simp only [List.forall_mem_cons, List.forall_mem_append]
    exact ⟨encodeString_noCR k, by decide, by decide, dumpValue_noCR v lvl⟩
  | .cons k v (.cons k2 v2 ms), lvl => by
    rw [dumpMembers_cons_cons]
    simp only [List.forall_mem_cons, List.forall_mem_append]
    exact ⟨encodeString_noCR k, by decide, by decide, dumpValue_noCR v lvl, by decide, nl_noCR _,
      dumpMembers_noCR (.cons k2 v2 ms) lvl⟩
end

theorem universalNewlines_noCR {s : Str} (h : ∀ x ∈ s, x ≠ '\r') : universalNewlines s = s := by
  have hn : '\r' ∉ s := fun hm => h _ hm rfl
  unfold universalNewlines
  rw [replace2_noOcc _ _ _ s hn, replace1_noOcc _ _ s hn]

theorem jmKeys_ofList : ∀ (l : List (Str × JV)), jmKeys (jmsOfList l) = l.map Prod.fst
  | [] => rfl
  | (k, v) :: l => by simp [jmsOfList, jmKeys, jmKeys_ofList l]

theorem ukMs_ofList : ∀ (l : List (Str × JV)), (∀ p ∈ l, ukV p.2) → ukMs (jmsOfList l)
  | [], _ => by simp [jmsOfList, ukMs]
  | (k, v) :: l, h => by
    simp only [jmsOfList, ukMs]
    exact ⟨h (k, v) (by simp), ukMs_ofList l (fun p hp => h p (by simp [hp]))⟩

theorem ukVs_ofList : ∀ (l : List JV), (∀ x ∈ l, ukV x) → ukVs (jvsOfList l)
  | [], _ => by simp [jvsOfList, ukVs]
  | x :: l, h => by
    simp only [jvsOfList, ukVs]
    exact ⟨h x (by simp), ukVs_ofList l (fun y hy => h y (by simp [hy]))⟩

theorem ukV_strRow (r : List (Str × Str)) (h : (r.map Prod.fst).Nodup) :
    ukV (.obj (jmsOfList (r.map (fun kv => (kv.1, JV.str kv.2))))) := by
  simp only [ukV]
  refine ⟨?_, ukMs_ofList _ ?_⟩
  · rw [jmKeys_ofList, List.map_map]
    exact h
  · refine List.forall_mem_map.2 fun kv _ => ?_
    simp [ukV]

theorem ukV_strList (r : List Str) : ukV (.arr (jvsOfList (r.map JV.str))) := by
  simp only [ukV]
  apply ukVs_ofList
  refine List.forall_mem_map.2 fun c _ => ?_
  simp [ukV]

theorem ukV_content (s : Sheet) (hrect : Uniform s.headers s.rows)
    (hnd : s.headers.Nodup) : ukV (contentJV (toJson s)) := by
  unfold toJson tableDict
  split
  · split
    · simp [contentJV, jvsOfList, ukV, ukVs]
    · simp only [contentJV, ukV]
      exact ukVs_ofList _ (List.forall_mem_map.2 fun r _ => ukV_strList r)
  · simp only [contentJV, ukV]
    apply ukVs_ofList
    refine List.forall_mem_map.2 (List.forall_mem_map.2 fun r hr => ?_)
    apply ukV_strRow
    rw [odOfPairs_zip hnd (hrect r hr), List.map_fst_zip (Nat.le_of_eq (hrect r hr).symm)]
    exact hnd

theorem ukV_book (w : Workbook) (hn : (w.map Sheet.name).Nodup)
    (h : ∀ s ∈ w, Uniform s.headers s.rows ∧ s.headers.Nodup) :
    ukV (bookJV w) := by
  simp only [bookJV, ukV, ukMs, jmKeys]
  refine ⟨by decide, ⟨by decide, trivial, trivial⟩, ⟨?_, ?_⟩, trivial⟩
  · rw [jmKeys_ofList, List.map_map]
    exact hn
  · apply ukMs_ofList
    refine List.forall_mem_map.2 fun s hs => ?_
    exact ukV_content s (h s hs).1 (h s hs).2

theorem strMembers_ofList : ∀ (r : List (Str × Str)),
    strMembers (jmsOfList (r.map (fun kv => (kv.1, JV.str kv.2)))) = some r
  | [] => rfl
  | (k, v) :: r => by simp [jmsOfList, strMembers, strMembers_ofList r]

theorem strCells_ofList : ∀ (r : List Str), strCells (jvsOfList (r.map JV.str)) = some r
  | [] => rfl
  | c :: r => by simp [jvsOfList, strCells, strCells_ofList r]

theorem objRows_ofList : ∀ (rows : List (List (Str × Str))),
    objRows (jvsOfList (rows.map (fun r => JV.obj (jmsOfList (r.map (fun kv => (kv.1, JV.str kv.2)))))))
      = some rows
  | [] => rfl
  | r :: rows => by simp [jvsOfList, objRows, strMembers_ofList r, objRows_ofList rows]

theorem listRows_ofList : ∀ (rows : List (List Str)),
    listRows (jvsOfList (rows.map (fun r => JV.arr (jvsOfList (r.map JV.str))))) = some rows
  | [] => rfl
  | r :: rows => by simp [jvsOfList, listRows, strCells_ofList r, listRows_ofList rows]

theorem contentOf_contentJV {c : JContent} (h : c ≠ .lists []) : contentOf (contentJV c) = some c := by
  cases c with
  | objs rows =>
    cases rows with
    | nil => rfl
    | cons r rows =>
      have := objRows_ofList (r :: rows)
      simp only [List.map_cons, jvsOfList] at this
      simp [contentJV, jvsOfList, contentOf, this]
  | lists rows =>
    cases rows with
    | nil => exact absurd rfl h
    | cons r rows =>
      have := listRows_ofList (r :: rows)
      simp only [List.map_cons, jvsOfList] at this
      simp [contentJV, jvsOfList, contentOf, this]

theorem toJson_ne_lists_nil (s : Sheet) : toJson s ≠ .lists [] := by
  unfold toJson tableDict
  split
  · split
    · intro h; cases h
    · rename_i hr
      intro h
      have h2 : s.rows = [] := by injection h
      rw [h2] at hr
      simp at hr
  · intro h; cases h

theorem sheetsOfMembers_book_gen (g : Sheet → Sheet) : ∀ (w : Workbook),
    (∀ s ∈ w, readJsonSheet s.name (toJson s) = .ok (g s)) →
    sheetsOfMembers (jmsOfList (w.map (fun s => (s.name, contentJV (toJson s))))) = .ok (w.map g)
  | [], _ => rfl
  | s :: w, h => by
    have ih := sheetsOfMembers_book_gen g w (fun x hx => h x (by simp [hx]))
    simp [jmsOfList, sheetsOfMembers, contentOf_contentJV (toJson_ne_lists_nil s), h s (by simp), ih]

theorem sheetsOfMembers_book (w : Workbook) (h : ∀ s ∈ w, readJsonSheet s.name (toJson s) = .ok s) :
    sheetsOfMembers (jmsOfList (w.map (fun s => (s.name, contentJV (toJson s))))) = .ok w := by
  have := sheetsOfMembers_book_gen id w h
  simpa using this

theorem jmLookup_snd {k1 k2 : Str} {v1 v2 : JV} {ms : JMs} (h : k1 ≠ k2) :
    jmLookup k2 (.cons k1 v1 (.cons k2 v2 ms)) = some v2 := by
  simp [jmLookup, h]

theorem loadJson_encodeUtf8 (text : Str) :
    loadJson (Csv.encodeUtf8 text) = loadJsonText (universalNewlines text) := by
  rw [loadJson, Csv.utf8_roundtrip]

/-- the file `rpft convert` writes, read back: text mode changes nothing (no CR), `json.load` returns
the `book`, and its `"sheets"` member goes to the loop over the sheets -/
theorem loadJson_toJsonBytes (w : Workbook) (huk : ukV (bookJV w)) :
    loadJson (toJsonBytes w)
      = sheetsOfMembers (jmsOfList (w.map (fun s => (s.name, contentJV (toJson s))))) := by
  have hne : "meta".toList ≠ "sheets".toList := by
    -- A string literal is `String.ofList` of its characters, so this rewrite spells it as a character
    -- list for nothing, whereas evaluating `String.toList` on the literal decodes its UTF-8 bytes one
    -- by one.  Every evaluation of a statement with string literals starts with it.
    rw [String.toList_ofList, String.toList_ofList]
    decide
  rw [toJsonBytes, loadJson_encodeUtf8, toJsonText, dumps,
    universalNewlines_noCR (dumpValue_noCR _ 0), loadJsonText, ← dumps, loads_dumps _ huk]
  simp only [bookJV]
  rw [jmLookup_snd hne]

end Rpft.Sheets
