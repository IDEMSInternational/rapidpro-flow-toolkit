/-
The general round trip (C07 `parse_unparse`): the instance for the flow sheet's row model
(`FlowRowModel` with the `Edge` remap, nested `Condition`, `Webhook` with its untyped
`headers`, `WhatsAppTemplating` with a list), whose top-level headers are remapped by
`field_name_to_header_name` and found again by `header_name_to_field_name_with_context`
(`flow_roundtrip`).  All side conditions on the tables are checked by the kernel on the T1-tied schema
(`flow_static`).
-/
import Rpft.Lemmas.RowGenTop
import Rpft.Lemmas.RowFlow
namespace Rpft.Row
open Rpft

/-- the value-level condition for flow rows: every written field whose header is
`message_text` is the main argument that `row_type_to_main_arg` selects for the row's `type` -/
def flowMainOk (kvs : List (Str × Val)) : Bool :=
  match alookup typeCol kvs with
  | some (.str t) =>
    ((flowRowFields.zip (kvs.map Prod.snd)).filter nonDefault).all fun p =>
      hdr flowF2H p != msgHdr || decide (alookup t flowMainArg = some p.1.1)
  | _ => false

/-- side conditions on the fields of `FlowRowModel` and `field_name_to_header_name`: the row model is
in the family; headers are segments; two fields share a header only at `message_text`; no header
that the context remap rewrites starts with a field name; a remapped header other than
`message_text` is a short header of its field; `type` is a required field, written as is -/
theorem flow_static :
    goodTop flowRowTy = true ∧
    (∀ f ∈ flowRowFields, simpleName (remap flowF2H f.1) = true) ∧
    (∀ f ∈ flowRowFields, ∀ g ∈ flowRowFields, remap flowF2H f.1 = remap flowF2H g.1 →
      remap flowF2H f.1 = msgHdr ∨ f.1 = g.1) ∧
    (∀ k ∈ ctxKeys flowRowSchema, ∀ f ∈ flowRowFields, headSeg k ≠ f.1) ∧
    (∀ f ∈ flowRowFields, remap flowF2H f.1 = f.1 ∨ remap flowF2H f.1 = msgHdr ∨
      alookup (remap flowF2H f.1) flowBasicHeaders = some f.1) ∧
    (∃ f ∈ flowRowFields, f.1 = typeCol ∧ f.2.2 = none) ∧
    remap flowF2H typeCol = typeCol := by
  flow_decode
  decide +kernel

theorem flow_roundtrip {lay : Layout} {kvs : List (Str × Val)}
    (hr : Representable flowRowTy (.model kvs) = true)
    (hl : LayoutOk flowRowSchema lay (.model kvs) = true) (hm : flowMainOk kvs = true) :
    ∃ cells, unparseRow flowRowSchema lay (.model kvs) = .ok cells ∧
      parseRow flowRowSchema cells = .ok (.model kvs) := by
  obtain ⟨G, S1, S3, S4, S5, S7, S8⟩ := flow_static
  simp only [goodTop, flowRowTy, List.all_eq_true, Bool.and_eq_true, decide_eq_true_eq] at G
  obtain ⟨⟨S0, S2⟩, Sg⟩ := G
  obtain ⟨_, hM, S6, _⟩ := flow_ctx_static
  simp only [Representable, flowRowTy, Bool.and_eq_true, decide_eq_true_eq] at hr
  obtain ⟨hnames, hrf⟩ := hr
  obtain ⟨he, hlay⟩ := layoutOk_top (sch := flowRowSchema) (fs := flowRowFields) (h2f := [])
    (f2h := flowF2H) rfl hl
  unfold flowMainOk at hm
  cases hty : alookup typeCol kvs with
  | none => simp [hty] at hm
  | some tv =>
    cases tv with
    | str t =>
      simp only [hty, List.all_eq_true, Bool.or_eq_true, bne_iff_ne, ne_eq, decide_eq_true_eq] at hm
      have hinj : ∀ p ∈ (flowRowFields.zip (kvs.map Prod.snd)).filter nonDefault,
          ∀ q ∈ (flowRowFields.zip (kvs.map Prod.snd)).filter nonDefault,
          hdr flowF2H p = hdr flowF2H q → p = q := by
        intro p hp q hq hpq
        have hp' := (List.mem_filter.mp hp).1
        have hq' := (List.mem_filter.mp hq).1
        apply mem_zip_eq hnames S2 hp' hq'
        by_cases hmsg : hdr flowF2H p = msgHdr
        · have h1 := hm p hp
          have h2 := hm q hq
          rw [← hpq] at h2
          simp only [hmsg, not_true_eq_false, false_or] at h1 h2
          rw [h1] at h2
          exact Option.some.inj h2
        · exact (S3 p.1 (List.of_mem_zip hp').1 q.1 (List.of_mem_zip hq').1 hpq).resolve_left hmsg
      have hpnd : ((flowRowFields.zip (kvs.map Prod.snd)).filter nonDefault).Nodup := by
        apply List.Nodup.sublist List.filter_sublist
        refine List.Pairwise.of_map (R := (· ≠ ·)) (S := (· ≠ ·)) (fun p : SPair => p.1.1)
          (fun _ _ hab e => hab (e ▸ rfl)) ?_
        rw [zip_map_name hnames]; exact S2
      apply top_roundtrip flowRowSchema lay he flowRowFields [] flowF2H rfl
        S0 S2 Sg kvs hnames hrf hlay (nodup_map_on _ _ hpnd hinj)
        (fun p hp _ => S1 p.1 (List.of_mem_zip hp).1)
      intro cells _ hbasic p hp hpn
      have hmem : p.1 ∈ flowRowFields := (List.of_mem_zip hp).1
      constructor
      · intro _
        exact ⟨remap_nil _, fun k hk => ctxRemap_of_headSeg _ cells hk fun k' hk' => S4 k' hk' p.1 hmem⟩
      · intro hrm
        by_cases hmsg : hdr flowF2H p = msgHdr
        · have h1 := hm p (List.mem_filter.mpr ⟨hp, hpn⟩)
          simp only [hmsg, not_true_eq_false, false_or] at h1
          have htcell : alookup typeCol cells = some t := by
            obtain ⟨⟨_, fty, _⟩, hfm, rfl, rfl⟩ := S7
            obtain ⟨v, hv⟩ := zip_mem_of_fst hnames _ hfm
            have hv' := alookup_zip flowRowFields kvs hnames S2 _ hv
            simp only at hv'
            rw [hty] at hv'
            cases hv'
            have := hbasic _ hv (by simp [nonDefault, isDefault]) rfl
            simpa [hdr, S8, printBasic] using this
          refine ⟨p.1.1, ?_, S0 p.1 hmem, remap_nil _⟩
          rw [hmsg]
          exact ctxRemap_main flowRowSchema cells msgHdr typeCol flowMainArg flow_main S6 t p.1.1
            htcell (by rw [(hM _ (Dict.mem_of_get (alookup_eq .. ▸ h1))).2.1]; exact h1)
        · rcases S5 p.1 hmem with h | h | h
          · exact absurd h hrm
          · exact absurd h hmsg
          · exact ⟨p.1.1, ctxRemap_basic flowRowSchema cells _ _ h, S0 p.1 hmem, remap_nil _⟩
    | _ => simp [hty] at hm

end Rpft.Row
