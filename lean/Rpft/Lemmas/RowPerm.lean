/-
Frame lemma of `find_entry` at the top level (`parseEntry_eff`) and commutation of columns that belong
to different top-level fields (`column_swap`; C09 `column_perm`), on the entries of a row
(`parseEntries`) and on `parse_row` (`parseRow_obs`).
-/
import Rpft.Lemmas.RowGenCore
namespace Rpft.Row
open Rpft

theorem nodup_aset {α : Type} {key : Str} {v : α} {kvs : List (Str × α)}
    (h : (Dict.keys kvs).Nodup) : (Dict.keys (aset key v kvs)).Nodup :=
  aset_eq key v kvs ▸ Dict.nodup_set h key v

theorem nodup_ensureKey {key : Str} {kvs : List (Str × Tree)} (h : (Dict.keys kvs).Nodup) :
    (Dict.keys (ensureKey key kvs)).Nodup := by
  unfold ensureKey
  cases alookup key kvs with
  | some _ => exact h
  | none => exact nodup_aset h

/-! ### the effect of one column on the top-level dictionary -/

def colPath (col : Str × ColVal) : List Str := splitDot (getFieldName col.1)

/-- top-level key a column writes to -/
def colKey (h2f : List (Str × Str)) (col : Str × ColVal) : Str :=
  remap h2f ((colPath col).headD [])

/-- new value of that key, as a function of the old lookup -/
def eff (fs : List Field) (h2f : List (Str × Str)) (col : Str × ColVal) (old : Option Tree) :
    Except Err Tree :=
  match colPath col with
  | [] => .error .assertion
  | seg :: rest =>
    match fieldLookup (remap h2f seg) fs with
    | none => .error .noField
    | some f => pstep f.2.1 (old.getD .none) (rest, col.2)

def applyEff (key : Str) (kvs : List (Str × Tree)) : Except Err Tree → Except Err Tree
  | .error e => .error e
  | .ok t => .ok (.dict (aset key t (ensureKey key kvs)))

/-- **frame lemma**: one column only reads and writes the entry of its own top-level key -/
theorem parseEntry_eff (fs : List Field) (h2f f2h : List (Str × Str)) (kvs : List (Str × Tree))
    (col : Str × ColVal) :
    parseEntry (.model fs h2f f2h) (.dict kvs) col =
      applyEff (colKey h2f col) kvs (eff fs h2f col (alookup (colKey h2f col) kvs)) := by
  unfold parseEntry eff colKey colPath
  cases splitDot (getFieldName col.1) with
  | nil => simp [findSet, applyEff]
  | cons seg rest =>
    rw [findSet_cons, slot_model]
    simp only [List.headD_cons]
    cases fieldLookup (remap h2f seg) fs with
    | none => rfl
    | some f => simp only; cases pstep f.2.1 _ (rest, col.2) <;> rfl

/-! ### the top-level dictionary as its lookup function

`find_entry` and the validation read a dictionary only through its lookups.  On lookup functions a
column is a partial map (`stepL`), equal states are equal, and columns of different fields commute as
functions; `Rep` ties a result of the fold to the lookups it stands for. -/

abbrev Look := Str → Option Tree

def look (kvs : List (Str × Tree)) : Look := fun k => alookup k kvs

def Look.set (σ : Look) (key : Str) (t : Tree) : Look := fun k => if key = k then some t else σ k

/-- one column, on the lookups -/
def stepL (fs : List Field) (h2f : List (Str × Str)) (σ : Look) (col : Str × ColVal) : Option Look :=
  match eff fs h2f col (σ (colKey h2f col)) with
  | .error _ => none
  | .ok t => some (σ.set (colKey h2f col) t)

inductive Rep : Except Err Tree → Option Look → Prop
  | err (e) : Rep (.error e) none
  | dict {kvs σ} : (Dict.keys kvs).Nodup → look kvs = σ → Rep (.ok (.dict kvs)) (some σ)

theorem rep_step (fs : List Field) (h2f f2h : List (Str × Str)) {kvs : List (Str × Tree)}
    (hnd : (Dict.keys kvs).Nodup) (col : Str × ColVal) :
    Rep (parseEntry (.model fs h2f f2h) (.dict kvs) col) (stepL fs h2f (look kvs) col) := by
  rw [parseEntry_eff]
  unfold stepL look
  cases eff fs h2f col (alookup (colKey h2f col) kvs) with
  | error e => exact .err e
  | ok t =>
    refine .dict (nodup_aset (nodup_ensureKey hnd)) (funext fun k => ?_)
    simp only [look, Look.set, alookup_aset, alookup_ensureKey]
    split <;> rfl

theorem rep_fold (fs : List Field) (h2f f2h : List (Str × Str)) :
    ∀ (cols : List (Str × ColVal)) {kvs : List (Str × Tree)}, (Dict.keys kvs).Nodup →
      Rep (foldE (parseEntry (.model fs h2f f2h)) (.dict kvs) cols) (cols.foldlM (stepL fs h2f) (look kvs))
  | [], _, hnd => .dict hnd rfl
  | c :: cols, kvs, hnd => by
    simp only [foldE, List.foldlM_cons]
    have h := rep_step fs h2f f2h hnd c
    revert h
    generalize parseEntry (.model fs h2f f2h) (.dict kvs) c = x
    generalize stepL fs h2f (look kvs) c = y
    rintro (e | ⟨hnd', rfl⟩)
    · exact .err e
    · exact rep_fold fs h2f f2h cols hnd'

theorem stepL_comm {α : Type} (fs : List Field) {h2f : List (Str × Str)} {c₁ c₂ : Str × ColVal}
    (hk : colKey h2f c₁ ≠ colKey h2f c₂) (g : Look → Option α) (σ : Look) :
    (stepL fs h2f σ c₁ >>= fun σ' => stepL fs h2f σ' c₂ >>= g) =
    (stepL fs h2f σ c₂ >>= fun σ' => stepL fs h2f σ' c₁ >>= g) := by
  unfold stepL
  -- a step at one key leaves the lookup at the other alone
  cases e₁ : eff fs h2f c₁ (σ (colKey h2f c₁)) <;> cases e₂ : eff fs h2f c₂ (σ (colKey h2f c₂)) <;>
    simp only [Option.bind_eq_bind, Option.bind_some, Option.bind_none, Look.set, if_neg hk,
      if_neg (Ne.symm hk), e₁, e₂]
  refine congrArg g (funext fun k => ?_)
  simp only [Look.set]
  by_cases h1 : colKey h2f c₁ = k
  · have h2 : ¬ colKey h2f c₂ = k := fun h2 => hk (h1.trans h2.symm)
    simp only [if_pos h1, if_neg h2]
  · simp only [if_neg h1]

/-! ### the parsed value only depends on the lookups -/

theorem alookup_dropNone {kvs : List (Str × Tree)} (hnd : (Dict.keys kvs).Nodup) (k : Str) :
    alookup k (dropNone kvs) = (alookup k kvs).bind fun t => if t.isNone then none else some t := by
  have hnd' : (Dict.keys (dropNone kvs)).Nodup := hnd.sublist (List.filter_sublist.map _)
  -- with distinct keys a lookup finds `t` iff `(k, t)` is an entry
  ext t
  rw [alookup_eq, alookup_eq, Dict.get_eq_some_iff_mem hnd', Option.bind_eq_some_iff]
  simp only [dropNone, List.mem_filter, Dict.get_eq_some_iff_mem hnd]
  constructor
  · intro ⟨hm, ht⟩
    exact ⟨t, hm, by simpa using ht⟩
  · intro ⟨t', hm, ht⟩
    cases h : t'.isNone <;> simp [h] at ht
    exact ht ▸ ⟨hm, by simp [h]⟩

theorem validateFields_congr {x y : List (Str × Tree)} (h : ∀ k, alookup k x = alookup k y) :
    ∀ (fs : List Field), validateFields fs x = validateFields fs y
  | [] => rfl
  | (n, t, d) :: rest => by
    simp only [validateFields, h n, validateFields_congr h rest]

theorem finish_congr (fs : List Field) (h2f f2h : List (Str × Str)) {a b : List (Str × Tree)}
    (ha : (Dict.keys a).Nodup) (hb : (Dict.keys b).Nodup) (h : look a = look b) :
    finish (.model fs h2f f2h) (.dict a) = finish (.model fs h2f f2h) (.dict b) := by
  simp only [finish, validate]
  rw [validateFields_congr (x := dropNone a) (y := dropNone b)]
  intro k
  rw [alookup_dropNone ha, alookup_dropNone hb, show alookup k a = alookup k b from congrFun h k]

/-- the observable of a parse: the row value, or nothing when the code raises -/
def parseEntries (top : Ty) (entries : List (Str × ColVal)) : Option Val :=
  match buildTree top entries with
  | .ok t =>
    match finish top t with
    | .ok v => some v
    | .error _ => none
  | .error _ => none

/-- `parseEntries` as a function of what `buildTree` returns -/
def obsE (top : Ty) : Except Err Tree → Option Val
  | .ok t =>
    match finish top t with
    | .ok v => some v
    | .error _ => none
  | .error _ => none

theorem obs_of_rep (fs : List Field) (h2f f2h : List (Str × Str)) {x x' : Except Err Tree} {y : Option Look}
    (h : Rep x y) (h' : Rep x' y) : obsE (.model fs h2f f2h) x = obsE (.model fs h2f f2h) x' := by
  cases h with
  | err e => cases h'; rfl
  | dict hnd hσ =>
    cases h' with
    | dict hnd' hσ' => simp only [obsE, finish_congr fs h2f f2h hnd hnd' (hσ.trans hσ'.symm)]

theorem column_swap (fs : List Field) {h2f : List (Str × Str)} (f2h : List (Str × Str))
    (pre post : List (Str × ColVal)) {c₁ c₂ : Str × ColVal} (hk : colKey h2f c₁ ≠ colKey h2f c₂) :
    parseEntries (.model fs h2f f2h) (pre ++ c₁ :: c₂ :: post) =
    parseEntries (.model fs h2f f2h) (pre ++ c₂ :: c₁ :: post) := by
  have hobs : ∀ cols, parseEntries (.model fs h2f f2h) cols =
      obsE (.model fs h2f f2h) (foldE (parseEntry (.model fs h2f f2h)) (.dict []) cols) := fun cols => by
    simp only [parseEntries, buildTree, obsE]
  have hrep := fun cols => rep_fold fs h2f f2h cols (kvs := []) List.nodup_nil
  rw [hobs, hobs]
  refine obs_of_rep fs h2f f2h (hrep _) ?_
  have h2 := hrep (pre ++ c₂ :: c₁ :: post)
  simp only [List.foldlM_append, List.foldlM_cons] at h2 ⊢
  simp only [stepL_comm fs hk]
  exact h2

/-- reorderings generated by swapping adjacent columns of different top-level fields: exactly
the permutations that keep the relative order of the columns of each field -/
inductive FieldPerm (h2f : List (Str × Str)) : List (Str × ColVal) → List (Str × ColVal) → Prop
  | refl (cols) : FieldPerm h2f cols cols
  | swap (pre post c₁ c₂) (h : colKey h2f c₁ ≠ colKey h2f c₂) :
      FieldPerm h2f (pre ++ c₁ :: c₂ :: post) (pre ++ c₂ :: c₁ :: post)
  | trans {a b c} : FieldPerm h2f a b → FieldPerm h2f b c → FieldPerm h2f a c

/-- the row value, or nothing when the code raises (exception classes are not compared) -/
def toOpt : Except Err Val → Option Val
  | .ok v => some v
  | .error _ => none

theorem parseRow_obs {sch : Schema} {data : List (Str × Str)} {es : List (Str × ColVal)}
    (h : rowEntries sch data = .ok es) : toOpt (parseRow sch data) = parseEntries sch.top es := by
  simp only [parseRow, h, parseEntries]
  cases buildTree sch.top es with
  | error e => rfl
  | ok t => simp only; cases finish sch.top t <;> rfl

end Rpft.Row
