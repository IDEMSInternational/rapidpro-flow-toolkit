/-
The kinds of row `_parse_row` distinguishes: `no_op` rows, `go_to` rows, rows merged into an existing node,
rows creating a node.
-/
import Rpft.Lemmas.CompileInsertEdges
namespace Rpft.Compile
open Rpft Function

/-- what a row leaves behind: the correspondence, the stack as it was, the unary invariants; under `c` the row has
appended a node group, which is then the most recent one and untainted -/
structure RowPost (P : Params) (X : SParams) (s₁ : St) (c : Prop) (t₁ t₂ : St) : Prop where
  sim : Sim P X t₁ t₂
  stack : t₁.stack = s₁.stack
  eff : Eff P s₁ t₁
  mr : c → MR P t₁

variable {P : Params} {X : SParams} (ok : P.Ok) {s₁ s₂ : St} (h : Sim P X s₁ s₂)
include ok h

theorem noopEdge_rel {g : Nat} (hdg : P.DG g) {e : Edge} (hp : EdgePre P X s₁ e) (hrv : RV s₁) :
    rwp (noopEdge g e) (noopEdge (P.γ g) e) s₁ s₂ (SPost P X s₁ s₂) := by
  unfold noopEdge
  refine rwp_bind_ro (groupOfEdge_rel h hp) ?_
  rintro a _ ⟨rfl, hj⟩
  cases a with
  | none =>
    simp only [Option.map_none]
    rw [rwp_pure]
    exact ⟨h, SEq.refl _, SEq.refl _, BlkEq.refl _⟩
  | some src =>
    simp only [Option.map_some]
    refine rwp_getGrp_bind h.1 hdg fun grp hg => ?_
    cases grp with
    | row _ _ => exact rwp_fail_left
    | block _ => exact rwp_fail_left
    | noop parents router =>
      simp only [mapGrpAt_noop]
      have a1 := h.1.setNoop ok hdg hg (ps' := parents ++ [(src, e.cond)]) (r' := router)
        (fun p hp => by
          rcases List.mem_append.mp hp with hp | hp
          · exact .inl hp
          · cases List.mem_singleton.mp hp
            exact .inr ⟨(hj src rfl).1.1, fun _ => (hj src rfl).1.2, (hj src rfl).2 hrv⟩)
        (fun i e => .inl e)
      simp only [List.map_append, List.map_cons, List.map_nil] at a1
      have hblk : BlkEq s₁ { s₁ with groups := s₁.groups.setIfInBounds g (.noop (parents ++ [(src, e.cond)]) router) } :=
        BlkEq.set hg (by intro cs e'; cases e') (by intro cs e'; cases e') (by intro i l t e'; cases e') rfl rfl (Nat.le_refl _)
      have hsim : Sim P X _ _ := Sim.of_parts a1 h.2
      refine rwp_bind_run rfl rfl ?_
      cases router with
      | none =>
        simp only [Option.map_none]
        rw [rwp_pure]
        exact ⟨hsim, SEq.refl _, SEq.refl _, hblk⟩
      | some j =>
        simp only [Option.map_some]
        have hdj : P.DN j := h.1.noop_router hdg hg
        refine rwp_getNode_bind hsim.1 hdj fun n hn => ?_
        refine rwp_bind_run (fuelOf_run _) (fuelOf_run _) ?_
        refine rwp_mono (addExit_srel ok hsim (hj src rfl).1 (.node n.uid) e.cond
          (fun _ e' => by cases e')) ?_
        intro _ t₁ _ t₂ hp
        refine spost_trans ?_ ?_ hblk hp
        · exact ⟨rfl, rfl, rfl⟩
        · exact ⟨rfl, rfl, rfl⟩

theorem parseNoop_rel {edges : List Edge} (rowId : Str)
    (hpre : EdgesPre P X s₁ edges) (hrv : RV s₁) :
    rwp (parseNoop edges rowId) (parseNoop edges rowId) s₁ s₂ fun _ t₁ _ t₂ => RowPost P X s₁ True t₁ t₂ := by
  unfold parseNoop
  refine rwp_addGrp_bind h (.noop [] none) rfl (fun _ hi => nomatch hi) fun lv _ hsim => ?_
  have hrv1 : RV { s₁ with groups := s₁.groups.push (.noop [] none) } :=
    fun p hp => Nat.lt_of_lt_of_le (hrv p hp) (by simp)
  have hblk : BlkEq s₁ { s₁ with groups := s₁.groups.push (.noop [] none) } :=
    BlkEq.push (by intro cs e; cases e) rfl rfl (Nat.le_refl _)
  rw [rwp_bind]
  refine rwp_mono (srel_forM edges (noopEdge s₁.groups.size) (noopEdge (P.γ s₁.groups.size)) hsim ?_) ?_
  · intro e he u₁ u₂ hu hb hse
    exact noopEdge_rel ok hu lv.1 (hpre.of_blkEq (hblk.trans hb) e he) ((Eff.of_blkEq (P := P) hb hse.2.1).rv hrv1)
  · rintro _ u₁ _ u₂ ⟨hu, e1, e2, hb⟩
    have hltu : s₁.groups.size < u₁.groups.size := Nat.lt_of_lt_of_le (by simp) hb.gsize
    refine rwp_mono (appendGroup_rel ok hu rowId lv.1 hltu (fun ht => absurd ht lv.2)) ?_
    rintro _ t₁ _ t₂ ⟨ht, e3, _, _, _, hm⟩
    exact ⟨ht, e3.trans e1.1, (Eff.of_blkEq (hblk.trans hb) e1.2.1).trans (hm lv.2).2, fun _ => (hm lv.2).1⟩

theorem gotoEdge_rel {ed : Edge × Str} (hd : ed.2 ∉ X.F) (hp : EdgePre P X s₁ ed.1) :
    rwp (gotoEdge ed) (gotoEdge ed) s₁ s₂ (SPost P X s₁ s₂) := by
  unfold gotoEdge
  refine rwp_bind_run (lookupRow_run _ s₁) (lookupRow_run _ s₂) ?_
  cases hl : lookupIn s₁.rowIds ed.2 with
  | none => exact rwp_fail_left
  | some g =>
    obtain ⟨e2, lv, _⟩ := h.2.lookup hd hl
    rw [e2]
    simp only []
    refine rwp_bind_run (fuelOf_run s₁) (fuelOf_run s₂) ?_
    refine rwp_bind_ro (entryNode_rel ok h.1 lv) ?_
    rintro i _ ⟨rfl, hdi⟩
    refine rwp_getNode_bind h.1 hdi fun n hn => ?_
    exact addRowEdge_rel ok h hp (fun _ e' => by cases e')

theorem parseGoto_rel (r : Row)
    (hpre : EdgesPre P X s₁ r.edges) (hds : ∀ d ∈ r.dests, d ∉ X.F) :
    rwp (parseGoto r) (parseGoto r) s₁ s₂ (SPost P X s₁ s₂) := by
  unfold parseGoto
  simp only []
  refine rwp_ite (fun _ => rwp_fail_left) fun _ => ?_
  refine srel_forM _ gotoEdge gotoEdge h ?_
  intro ed hed u₁ u₂ hu hb _
  obtain ⟨he, hd⟩ := List.of_mem_zip (a := ed.1) (b := ed.2) hed
  refine gotoEdge_rel ok hu ?_ (hpre.of_blkEq hb _ he)
  split at hd
  · rename_i h1
    have := List.eq_of_mem_replicate hd
    rw [this]
    match hr : r.dests, h1 with
    | [x], _ => simp only [List.headD_cons]; exact hds x (by rw [hr]; simp)
  · exact hds _ hd

theorem mergeRow_rel (r : Row) {ex : Nat} (hdx : P.DN ex) (act : Str)
    (hpre : EdgesPre P X s₁ r.edges) :
    rwp (mergeRow r ex act) (mergeRow r (P.ν ex) act) s₁ s₂ (fun _ t₁ _ t₂ =>
      Sim P X t₁ t₂ ∧ BlkEq s₁ t₁ ∧ (RV s₁ → RV t₁)) := by
  unfold mergeRow
  match hre : r.edges with
  | [] => exact rwp_fail_left
  | _ :: _ :: _ => exact rwp_fail_left
  | [e] =>
    simp only []
    have hp := hpre e (by rw [hre]; simp)
    refine rwp_ite (fun _ => rwp_fail_left) fun _ => ?_
    have hpred : rwp (predGroup e) (predGroup e) s₁ s₂
        (RO (fun a b => ∀ j, a = some j → b = some (P.γ j) ∧ P.Live j) s₁ s₂) := by
      unfold predGroup
      refine rwp_ite (fun hem => ?_) fun hem => ?_
      · obtain ⟨e1, e2⟩ := mostRecent_sim h
        refine rwp_of_run (mostRecent_run s₁) (mostRecent_run s₂)
          ⟨fun j hj => ⟨?_, e2 j hj, hp.2 (by simpa using hem) j hj⟩, rfl, rfl⟩
        rw [e1, hj]; rfl
      · refine rwp_of_run (lookupRow_run _ s₁) (lookupRow_run _ s₂) ⟨fun j hj => ?_, rfl, rfl⟩
        obtain ⟨e2, lv, _⟩ := h.2.lookup (hp.1 (by simpa using hem)) hj
        exact ⟨e2, lv⟩
    refine rwp_bind_ro hpred fun a b hab => ?_
    cases a with
    | none => exact rwp_fail_left
    | some pg =>
      obtain ⟨hb, lv⟩ := hab pg rfl
      subst hb
      simp only []
      refine rwp_bind_run (fuelOf_run s₁) (fuelOf_run s₂) ?_
      refine rwp_bind_ro (entryNode_rel ok h.1 lv) ?_
      rintro en _ ⟨rfl, hden⟩
      refine rwp_ite (fun _ => rwp_fail_left) (fun _ => ?_)
        (hc := not_congr ⟨congrArg P.ν, fun e' => ok.hν e'⟩)
      refine rwp_bind_id h.1 IdRel.fresh fun au k a0 => ?_
      refine rwp_getNode_bind a0 hdx fun n hn => ?_
      have a1 := a0.setNode ok hdx hn (n' := { n with actions := n.actions ++ [(au, act)] }) (.inl rfl)
        (fun _ hl => noLoose_actions _ hl)
      refine rwp_bind_run rfl rfl ?_
      have e3 : (rnNode P.ρ { n with actions := n.actions ++ [(au, act)] }) =
          { rnNode P.ρ n with actions := (rnNode P.ρ n).actions ++ [(P.ρ au, act)] } := by
        simp [rnNode, rnAct]
      rw [← e3]
      refine rwp_ite (fun _ => ?_) fun hid => ?_
      · rw [rwp_pure]
        exact ⟨Sim.of_parts a1 h.2, BlkEq.of_groups rfl rfl (Nat.le_of_eq Array.size_setIfInBounds.symm), fun hr => hr⟩
      refine rwp_bind_run (lookupRow_run _ _) (lookupRow_run _ _) ?_
      simp only []
      cases hl : lookupIn s₁.rowIds e.from_ with
      | none => exact rwp_fail_left
      | some g0 =>
        -- the key that was found is not the empty one: row ids are never empty
        have he0 : e.from_ ≠ [] := h.2.rk _ (lookupIn_mem hl)
        obtain ⟨e2, ⟨hdg, htg⟩, hlt⟩ := h.2.lookup (hp.1 he0) hl
        rw [e2]
        simp only []
        rw [rwp_iff_wp, wp_modify, wp_modify]
        exact ⟨Sim.of_parts a1 (h.2.consRowId r.rowId (fun e' => hid (by rw [e']; rfl)) hdg fun ht => (htg ht).elim),
          BlkEq.of_groups rfl rfl (Nat.le_of_eq Array.size_setIfInBounds.symm),
          fun hr => List.forall_mem_cons.mpr ⟨hlt hr, hr⟩⟩

theorem newRow_rel (r : Row) {nodeName : Str}
    (hgiv : P.ρ r.nodeUuid = r.nodeUuid) (hpre : EdgesPre P X s₁ r.edges) :
    rwp (newRow r nodeName) (newRow r nodeName) s₁ s₂ fun _ t₁ _ t₂ => RowPost P X s₁ True t₁ t₂ := by
  unfold newRow
  refine rwp_bind_id h.1 (rowAction_rel r) fun act k0 a0 => ?_
  refine rwp_bind_id_wp a0 (rowNode_dex r act _) (rowNode_rel r hgiv ok.hρ act) fun n k1 ak hdexn => ?_
  have a1 := ak.addNode n (.inl hdexn)
  dsimp only at a1 ⊢
  have hs1 : Sim P X _ _ := Sim.of_parts a1 h.2
  have hb1 : BlkEq s₁ { s₁ with next := s₁.next + k0 + k1, nodes := s₁.nodes.push n } :=
    BlkEq.of_groups rfl rfl (by simp)
  have h0 : P.ν s₁.nodes.size = s₂.nodes.size := by simpa using h.1.nsync 0
  have hdi : P.DN s₁.nodes.size := h.1.ndom _ (Nat.le_refl _)
  refine rwp_bind_run rfl rfl ?_
  rw [rwp_bind]
  refine rwp_mono (edges_rel ok hs1 (.node n.uid) (hpre.of_blkEq hb1) (fun _ e' => by cases e')) ?_
  rintro _ u₁ _ u₂ ⟨hu, e1, e2, hb⟩
  have hnlt : s₁.nodes.size < u₁.nodes.size := by
    have := hb.nsize
    simp at this; omega
  rw [← h0]
  refine rwp_addGrp_bind hu (.row [s₁.nodes.size] r.type) rfl
    (fun i hi => List.mem_singleton.mp hi ▸ ⟨hdi, hnlt⟩) fun lv _ hs2 => ?_
  have hb2 : BlkEq u₁ { u₁ with groups := u₁.groups.push (.row [s₁.nodes.size] r.type) } :=
    BlkEq.push (by intro cs e; cases e) rfl rfl (Nat.le_refl _)
  rw [rwp_bind]
  refine rwp_mono (appendGroup_rel ok hs2 r.rowId lv.1 (by simp) (fun ht => absurd ht lv.2)) ?_
  rintro _ v₁ _ v₂ ⟨hv, e3, _, _, _, hm⟩
  rw [rwp_iff_wp, wp_modify, wp_modify]
  have hst : v₁.stack = s₁.stack := by rw [e3]; exact e1.1
  -- recording the node name touches none of the unary invariants
  have ef3 : Eff P v₁ { v₁ with names := (nodeName, s₁.nodes.size) :: v₁.names } :=
    Eff.of_blkEq (BlkEq.of_groups rfl rfl (Nat.le_refl _)) rfl
  exact ⟨Sim.of_parts hv.1 (hv.2.consName nodeName hdi), hst,
    ((Eff.of_blkEq ((hb1.trans hb).trans hb2) e1.2.1).trans (hm lv.2).2).trans ef3, fun _ => ef3.mr (hm lv.2).1⟩

theorem actionRow_rel (r : Row)
    (hgiv : P.ρ r.nodeUuid = r.nodeUuid) (hpre : EdgesPre P X s₁ r.edges)
    (hnmk : X.nmAll = true ∨ (r.nodeUuid = [] ∧ r.nodeName = [])) :
    rwp (actionRow r) (actionRow r) s₁ s₂
      fun _ t₁ _ t₂ => RowPost P X s₁ (r.nodeUuid = [] ∧ r.nodeName = []) t₁ t₂ := by
  unfold actionRow
  refine rwp_ite (fun _ => rwp_fail_left) fun _ => ?_
  simp only []
  rw [rwp_get]
  have newc : rwp (newRow r (if r.nodeUuid.isEmpty = true then r.nodeName else r.nodeUuid))
      (newRow r (if r.nodeUuid.isEmpty = true then r.nodeName else r.nodeUuid)) s₁ s₂
      fun _ t₁ _ t₂ => RowPost P X s₁ (r.nodeUuid = [] ∧ r.nodeName = []) t₁ t₂ :=
    rwp_mono (newRow_rel ok h r hgiv hpre) fun _ _ _ _ hp => { hp with mr := fun _ => hp.mr trivial }
  generalize hnn : (if r.nodeUuid.isEmpty = true then r.nodeName else r.nodeUuid) = nodeName at newc ⊢
  by_cases hne : nodeName.isEmpty = true
  · simp only [hne, if_true]
    exact newc
  · simp only [hne, Bool.false_eq_true, if_false]
    have hne' : nodeName ≠ [] := by simpa using hne
    have hall : X.nmAll = true := by
      rcases hnmk with hh | hh
      · exact hh
      · exfalso; apply hne'; rw [← hnn]; simp [hh.1, hh.2]
    have hnm := h.2.nm hall nodeName hne'
    unfold lookupIn at hnm
    rw [hnm]
    cases hf : (s₁.names.find? (·.1 = nodeName)) with
    | none => simp only [Option.map_none]; exact newc
    | some p =>
      simp only [Option.map_some]
      cases hact : r.action with
      | none => exact newc
      | some act =>
        simp only []
        have hdx : P.DN p.2 := h.2.nmDN p (List.mem_of_find?_eq_some hf)
        refine rwp_mono (mergeRow_rel ok h r hdx act hpre) ?_
        rintro _ t₁ _ t₂ ⟨ht, hb, hrv'⟩
        refine ⟨ht, hb.stack, Eff.of_blkEq_rv hb hrv', ?_⟩
        intro ⟨h1, h2⟩
        exfalso
        apply hne'
        rw [← hnn]
        simp [h1, h2]

end Rpft.Compile
