/-
Lock-step simulation, one out-edge: the single-meaning conditions read off the reference's out-edges
(`Good`), and the dispatch of `RowNodeGroup.add_exit` over the kinds of rows (`addExit_sim`).
-/
import Rpft.Lemmas.CoreImpl
namespace Rpft.CoreSheet
open Rpft Rpft.Compile Rpft.RefFlow

/-- kinds of rows whose conditional out-edges are tests of a switch -/
abbrev isTestKind (K : Kind) : Prop := isSwitchKind K ∨ K = .action ∨ K = .noOp

/-- the single-meaning conditions of the fragment, as facts about `outF`, all the out-edges pass 1 records for the
sheet -/
structure Good (rows : List CRow) (outF : List OutEdge) : Prop where
  ok : ∀ e ∈ outF, edgeOk rows e = true
  dist : ∀ (j : Nat) (c : CRow), rows[j]? = some c → isTestKind (kindOf c.row.type) →
    ((testsOf (kindOf c.row.type) (outF.filter (·.src = j))).map (fun e => refTest (kindOf c.row.type) e.cond)).Nodup
  var : ∀ (j : Nat) (c : CRow), rows[j]? = some c → (kindOf c.row.type = .action ∨ kindOf c.row.type = .noOp) →
    ∀ e ∈ (outF.filter (·.src = j)).filter (fun e => !e.cond.blank), e.cond.var = implVar (outF.filter (·.src = j))
  names : ∀ (j : Nat) (c : CRow), rows[j]? = some c → isTestKind (kindOf c.row.type) →
    namesOk (kindOf c.row.type) (timeoutOf c.row) [] (testsOf (kindOf c.row.type) (outF.filter (·.src = j))) = true
  /-- the merged rows are marked -/
  annot : Annot rows

theorem Good.newTest {rows : List CRow} {outF : List OutEdge} (g : Good rows outF) {j : Nat} {c : CRow}
    (hc : rows[j]? = some c) {K : Kind} (hK : kindOf c.row.type = K) (hk : isTestKind K) {es : List OutEdge} {e : OutEdge}
    (hl : es ++ [e] <+: outF.filter (·.src = j)) (hb : e.cond.blank = false)
    (htests : testsOf K (es ++ [e]) = testsOf K es ++ [e]) : NewTest K (timeoutOf c.row) es e := by
  subst hK
  have hpre : testsOf (kindOf c.row.type) (es ++ [e]) <+: testsOf (kindOf c.row.type) (outF.filter (·.src = j)) := by
    unfold testsOf
    exact (hl.filter _).filter _
  refine ⟨(g.dist j c hc hk).sublist (hpre.map _).sublist, fun hne => ?_, fun hk' => ?_⟩
  · have hok := namesOk_prefix _ _ _ _ hpre (g.names j c hc hk)
    rw [htests] at hok
    exact namesOk_last _ _ _ _ hok hne
  · have hmem : e ∈ (es ++ [e]).filter (fun e => !e.cond.blank) := by
      rw [List.mem_filter]; exact ⟨by simp, by simp [hb]⟩
    rw [g.var j c hc hk' e (List.mem_filter.mpr ⟨hl.subset (List.mem_filter.mp hmem).1, (List.mem_filter.mp hmem).2⟩)]
    exact implVar_prefix hl (List.ne_nil_of_mem hmem)

theorem blank_value {cond : Compile.Cond} (h : cond.blank = true) : cond.value = [] := by
  unfold Compile.Cond.blank at h
  simp only [Bool.and_eq_true, List.isEmpty_iff] at h
  exact h.1.1.1

theorem lower_eq (v : Str) : RefFlow.lower v = Compile.lower v := rfl

theorem Good.noop_cond {rows : List CRow} {outF : List OutEdge} (g : Good rows outF) {N : Nat} {cN : CRow}
    (hcN : rows[N]? = some cN) (hnN : isNoop cN = true) {tgt : Target} {cond : Compile.Cond}
    (hmem : newEdge tgt cond N ∈ outF) (he : cond.blank = false) : cond.var ≠ [] ∧ cond.value ≠ [] := by
  have hok := g.ok _ hmem
  simp only [edgeOk, hcN, Option.map_some, kind_of_noop hnN, toRCond_blank, he, Bool.false_or, Bool.and_eq_true,
    Bool.not_eq_true', List.isEmpty_eq_false_iff] at hok
  exact hok

/-- `add_exit` at the node of a fixed-outcome row: the edge names the first outcome, or the other one (for `call_webhook`
/ `transfer_airtime` also by being unconditional), or the compiler rejects it -/
theorem wp_exit_fix {K : Kind} (hK : isFixedKind K) {n : NodeM} (hk : n.kind = fixKind K) {i : Nat} {d : Dest}
    {cond : Compile.Cond} {e : OutEdge} (he : e.cond = toRCond cond) {rest : Compile.M PUnit} {s : St} {Q : PUnit → St → Prop}
    (hs : isSucc K e = true → wp (updSwitch i fun r => setCatDestByName r (succName K) d) s Q)
    (hf : isSucc K e = false → isFail K e = true → wp (updSwitch i (setDfltM d)) s Q) :
    wp (if cond.blank ∧ n.kind ≠ .random then rowExitBlank i n d
        else if n.kind = .enter then rowExitEnter i cond d
        else if n.kind = .webhook ∨ n.kind = .airtime then rowExitHook i cond d else rest) s Q := by
  have hv : RefFlow.lower e.cond.value = Compile.lower cond.value := by rw [he]; rfl
  have hb : e.cond.blank = cond.blank := by rw [he]; rfl
  have hnot : ∀ {p : Prop}, ¬ p → (isSucc K e = true ↔ p) → isSucc K e = false :=
    fun hp hiff => eq_false_of_ne_true (fun hh => hp (hiff.mp hh))
  by_cases hent : K = .enterFlow
  · subst hent
    have hkind : n.kind = .enter := hk
    rw [hkind]
    wp_simp
    refine ⟨fun _ => by unfold rowExitBlank; rw [hkind]; exact trivial, fun _ => ⟨fun _ => ?_, fun hh => absurd trivial hh⟩⟩
    unfold rowExitEnter
    simp only
    split
    · rename_i hx
      exact hs ((isSucc_enter e).mpr (by rw [hv]; exact hx))
    · rename_i hx
      split
      · rename_i hy
        exact hf (hnot hx (by rw [isSucc_enter, hv])) ((isFail_enter e).mpr (by rw [hv]; exact hy))
      · exact trivial
  · have hkind : n.kind = .webhook ∨ n.kind = .airtime := by
      rw [hk]; rcases hK with h1 | h1 | h1
      · exact absurd h1 hent
      · rw [h1]; exact .inl rfl
      · rw [h1]; exact .inr rfl
    have hsn : succName K = "Success".toList := by unfold succName; rw [if_neg hent]
    rw [hsn] at hs
    wp_simp
    refine ⟨fun hbl => ?_, fun hbl => ⟨fun hh => ?_, fun _ => ⟨fun _ => ?_, fun hh => absurd hkind hh⟩⟩⟩
    · -- an unconditional edge: the other outcome
      have hval : Compile.lower cond.value ≠ "success".toList := by rw [blank_value hbl.1]; decide
      have := hf (hnot hval (by rw [isSucc_hook K hent, hv])) ((isFail_hook K hent e).mpr (.inl (by rw [hb]; exact hbl.1)))
      unfold rowExitBlank
      rcases hkind with h1 | h1 <;> rw [h1] <;> exact this
    · rcases hkind with h1 | h1 <;> rw [h1] at hh <;> cases hh
    · unfold rowExitHook
      simp only
      split
      · rename_i hx
        exact hs ((isSucc_hook K hent e).mpr (by rw [hv]; exact hx))
      · rename_i hx
        split
        · rename_i hy
          exact hf (hnot hx (by rw [isSucc_hook K hent, hv])) ((isFail_hook K hent e).mpr (.inr (by rw [hv]; exact hy)))
        · exact trivial

theorem edgePost'_of_edgePost {rows : List CRow} {M : Maps} {pd : Bool} {kg : Nat} {tgt : Target} {cond : Compile.Cond} {s : St}
    {st : P1} {j : Nat} {m : Compile.M PUnit} (h : wp m s (EdgePost rows M pd kg tgt cond s st j)) :
    wp m s (EdgePost' rows M pd kg tgt cond s st j) :=
  wp_mono h (fun _ s' ⟨r, e, hg⟩ => ⟨M, fun _ => rfl, rfl, rfl, r, e, fun _ _ => by rw [hg]⟩)

/-- one out-edge leaving row `j`, whose node (or the router node behind it) gets the exit -/
theorem addExit_sim {rows : List CRow} {outF : List OutEdge} (g : Good rows outF) {M : Maps} {pd : Bool} {kg : Nat}
    {d : Dest} {tgt : Target} (cond : Compile.Cond) {s : St} {st : P1} {j : Nat} (h : Rel rows M pd kg s st)
    (hj : j < kg) (hjn : ∃ c, rows[j]? = some c ∧ isNodeRow c = true ∧ isNoop c = false)
    (hd : EdgeTo M pd kg s.nodes d tgt)
    (hpre : outOf st j ++ [newEdge tgt cond j] <+: outF.filter (·.src = j)) (f : Nat) :
    wp (addExit (f + 1) (gOf rows j) d cond) s (EdgePost' rows M pd kg tgt cond s st j) := by
  obtain ⟨c, hc, hnode0, hnn⟩ := hjn
  have hnode : isNodeRow c = true ∧ M.el j = false := ⟨hnode0, h.elno j c hc hnn⟩
  have hg := h.grp j c hj hc hnode0 hnn
  obtain ⟨n, hn, hrsim⟩ := h.node j c ⟨.inl hj, hc, hnode⟩
  have hsrc : EdgeFrom rows M kg s j n c := ⟨hj, hn, hc, hnode⟩
  -- what the single-meaning conditions say about this edge
  have hok : edgeOk rows (newEdge tgt cond j) = true := g.ok _ (List.mem_filter.mp (hpre.subset (by simp))).1
  simp only [edgeOk, hc, Option.map_some, toRCond_blank] at hok
  unfold addExit
  wp_simp [wp_getGrp]
  intro grp hgrp
  rw [hg] at hgrp; injection hgrp with hgrp; subst hgrp
  simp only
  unfold rowAddExit
  generalize hro : M.rOf j = ro at hrsim
  cases hrsim with
  | impl i' n' r hk hp =>
    -- an action row with a router node behind its node: the edge goes to the router node
    simp only [Option.toList, List.getLast?_cons_cons, List.getLast?_singleton]
    wp_simp [wp_getNode]
    intro n'' hn''
    rw [hp.rnode] at hn''; injection hn'' with hn''; subst hn''
    rw [hk] at hok
    simp only [hp.kind', ne_eq, reduceCtorEq, not_false_eq_true, and_true, or_self,
      false_implies, true_implies, true_and]
    refine ⟨fun he => impl_blank_sim h hsrc hk hd hro hp he,
      fun he => ?_⟩
    have he' : cond.blank = false := by simpa using he
    refine ⟨fun hnr => by simp [he', isNR_toRCond, hnr] at hok, fun _ => ?_⟩
    exact impl_test_sim h hsrc hk hd hro hp he' (g.newTest hc hk (.inr (.inl rfl)) hpre he' (tests_append (by decide) _ _ he'))
  | one hsim =>
  simp only [Option.toList, List.getLast?_singleton]
  rw [wp_bind, wp_getNode]
  intro n' hn'
  rw [hn] at hn'; injection hn' with hn'; subst hn'
  cases hsim with
  | plain hk hp =>
    wp_simp
    simp only [hp.kind, ne_eq, reduceCtorEq, not_false_eq_true, and_true, false_and, or_self,
      false_implies, true_implies, true_and]
    rw [hk] at hok
    refine ⟨fun he => edgePost'_of_edgePost (plain_edge_sim h hsrc hro hd hk hp he), fun he => ?_⟩
    have he' : cond.blank = false := by simpa using he
    exact impl_first_sim h hsrc hk hd hro hp he' (g.newTest hc hk (.inr (.inl rfl)) hpre he' (tests_append (by decide) _ _ he'))
  | sw r hk hp =>
    wp_simp
    simp only [hp.kind, ne_eq, reduceCtorEq, not_false_eq_true, and_true, or_self,
      false_implies, true_implies, true_and]
    refine ⟨fun he => edgePost'_of_edgePost (sw_blank_sim h hsrc hro hd hk hp he), fun he => ?_⟩
    have he' : cond.blank = false := by simpa using he
    rw [he'] at hok
    refine ⟨fun hnr => ?_, fun hnr => ?_⟩
    · -- only a wait row can be left by a "no response" edge
      have hkwait : kindOf c.row.type = .wait := by
        rcases hk with h1 | h1 | h1
        · exact h1
        · rw [h1] at hok; simp [isNR_toRCond, hnr] at hok
        · rw [h1] at hok; simp [isNR_toRCond, hnr] at hok
      exact edgePost'_of_edgePost (sw_nr_sim h hsrc hro hd hkwait hp he' hnr)
    · have hnew := g.newTest hc rfl (.inl hk) hpre he' (testsOf_append_test _ _ _ he' (fun h2 => hnr (of_decide_eq_true h2.2)))
      have hvar : kindOf c.row.type = .wait → cond.var = [] := by
        intro h1; rw [h1] at hok
        simp only [Bool.false_or, List.isEmpty_iff, toRCond] at hok; exact hok
      exact edgePost'_of_edgePost (sw_test_sim h hsrc hro hd hk hp he' hnr hvar hnew)
  | rnd r hk hp =>
    wp_simp
    simp only [hp.kind, ne_eq, reduceCtorEq, not_false_eq_true, false_and, or_self, not_true_eq_false,
      false_implies, true_implies, true_and, and_false]
    rw [hk] at hok
    exact edgePost'_of_edgePost (rand_edge_sim h hsrc hro hd hk hp hok)
  | nop r hk hp =>
    rw [isNoop_of_kind hk] at hnn; cases hnn
  | fix r sc hk hp =>
    refine wp_exit_fix hk hp.kind (e := newEdge tgt cond j) rfl (fun hs => ?_) (fun hs hf => ?_)
    · exact edgePost'_of_edgePost (fix_succ_sim h hsrc hro hd hk hp hs)
    · exact edgePost'_of_edgePost (fix_fail_sim h hsrc hro hd hk hp hs hf)

end Rpft.CoreSheet
