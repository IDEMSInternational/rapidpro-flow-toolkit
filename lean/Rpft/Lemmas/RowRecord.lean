/-
Record cells (C09, and the packed sub-record of C07): reading one cell (`readCell`), the entries of a
cell of a record of basic fields — each the plain value of the field at its index (`MEntry.pos`) or a
`name;value` pair for any field (`MEntry.kw`) —, when the keyword-first rule of `assign_value` stays out
of the way (`Unambiguous`, `UnambiguousM`), and that such a cell is well formed (`wfCell_mixed`).  An
`MEntry` carries the text of its cell element; as an entry of the record VALUE it is the `REntry`
`MEntry.toR` (`rposAt_toR`), and it is through `reads_model` on these that the cells are read as the
record: `readCell_mixed` / `readCell_positional` in RowEnc.lean.  The cell `unparse` writes has keyword
entries only (`wfCell_pairs`).
-/
import Rpft.Lemmas.RowSub
namespace Rpft.Row
open Rpft Rpft.Cell

/-- decode one packed cell for a position of type `ty`: `CellParser.parse`, `assign_value`,
pydantic validation -/
def readCell (ty : Ty) (text : Str) : Except Err Val :=
  match cellParse text with
  | .error e => .error e
  | .ok pv =>
    match assignValue ty pv with
    | .error e => .error e
    | .ok r => validate ty (r.getD Tree.none)

def posEntry (p : SPair) : PV := .atom (printBasic p.2)
def posElem (p : SPair) : Elem := .atom (printBasic p.2)

section
set_option linter.unusedVariables false
/-- hypotheses on the leading (field, value) pairs given positionally -/
def PosOk (sfs : List Field) (pm : List SPair) : Prop :=
  (pm.map (·.1.1)).Nodup ∧
  ∀ p ∈ pm, isBasicTy p.1.2.1 = true ∧ reprOk false p.1.2.1 p.2 = true
end

/-- one entry of a record cell -/
inductive MEntry where
  | pos (p : SPair)      -- the value alone, at the position of its field
  | kw (p : SPair)       -- `name;value`

def MEntry.pair : MEntry → SPair
  | .pos p => p
  | .kw p => p
def MEntry.pv : MEntry → PV
  | .pos p => posEntry p
  | .kw p => subEntry p
def MEntry.elem : MEntry → Elem
  | .pos p => posElem p
  | .kw p => subElem p

/-- a positional entry at index `i` (counting keyword entries too, as `enumerate` does)
holds the value of the `i`-th field -/
def PosAt (sfs : List Field) : Nat → List MEntry → Prop
  | _, [] => True
  | i, .pos p :: es => sfs[i]? = some p.1 ∧ PosAt sfs (i + 1) es
  | i, .kw _ :: es => PosAt sfs (i + 1) es

/-- an entry of a mixed cell as an entry of a record value (the key is read for keyword entries only) -/
def MEntry.toR (e : MEntry) : REntry :=
  ⟨match e with | .kw _ => true | .pos _ => false, e.pair.1.1, e.pair.1, e.pair.2, posEntry e.pair⟩

theorem rposAt_toR (sfs : List Field) : ∀ (es : List MEntry) (i : Nat),
    PosAt sfs i es → RPosAt sfs i (es.map MEntry.toR)
  | [], _, _ => trivial
  | .pos _ :: es, i, h => And.intro (fun _ => h.1) (rposAt_toR sfs es (i + 1) h.2)
  | .kw _ :: es, i, h => And.intro (fun hk => nomatch hk) (rposAt_toR sfs es (i + 1) h)

/-! ### the keyword-first rule -/

/-- `Unambiguous`: the positional cell is not a pair whose first value is (after
header→field remap; none here) the name of a field of the record — the case in which
`assign_value` prefers the keyword reading (finding F-C09-a).  Entries of a positional
cell of basic values are plain strings, so the entry-level rule cannot fire. -/
def Unambiguous (sfs : List Field) (texts : List Str) : Bool :=
  match texts with
  | [k, _] => (fieldLookup k sfs).isNone
  | _ => true

/-- the whole-cell keyword rule cannot fire on a mixed cell unless it has exactly two entries
whose first is a plain value naming a field -/
def UnambiguousM (sfs : List Field) : List MEntry → Bool
  | [.pos p, _] => (fieldLookup (printBasic p.2) sfs).isNone
  | _ => true

theorem tryKwarg_of_unambiguousM {sfs : List Field} {es : List MEntry}
    (h : UnambiguousM sfs es = true) :
    tryKwarg (fieldAssigners sfs) [] (.list (es.map (·.pv))) = none := by
  match es, h with
  | [], _ => simp [tryKwarg]
  | [e], _ => simp [tryKwarg]
  | [.kw p, e2], _ => simp [tryKwarg, MEntry.pv, subEntry]
  | [.pos p, e2], h =>
    simp only [UnambiguousM, Option.isNone_iff_eq_none] at h
    simp [tryKwarg, MEntry.pv, posEntry, remap_nil, alookup_fieldAssigners, h]
  | _ :: _ :: _ :: _, _ => simp [tryKwarg]

theorem unambiguousM_pos (sfs : List Field) (pm : List SPair) :
    UnambiguousM sfs (pm.map .pos) = Unambiguous sfs (pm.map fun p => printBasic p.2) := by
  match pm with
  | [] | [_] | [_, _] | _ :: _ :: _ :: _ => rfl

/-- names and texts are trimmed and template free; a keyword entry has a non-blank value (the blank last
element of its pair would be lost), and so has a positional entry in last place -/
theorem wfCell_mixed (es : List MEntry) (hne : es ≠ [])
    (hstr : ∀ e ∈ es, strOk (printBasic e.pair.2) = true)
    (hkw : ∀ p, MEntry.kw p ∈ es → strOk p.1.1 = true ∧ printBasic p.2 ≠ [])
    (hlast : ∀ p, es.getLast? = some (.pos p) → printBasic p.2 ≠ []) :
    Props.C08.WFCell (.list (es.map (·.elem))) ∧ CellOk (.list (es.map (·.elem))) := by
  refine ⟨⟨fun h => hne (List.map_eq_nil_iff.mp h), ?_, ?_⟩, ?_⟩
  · intro x hx
    obtain ⟨e, he, rfl⟩ := List.mem_map.mp hx
    cases e with
    | pos p => trivial
    | kw p => exact ⟨List.cons_ne_nil _ _, fun _ h => (hkw p he).2 (Option.some.inj h)⟩
  · intro _ hl
    rw [List.getLast?_map] at hl
    cases hg : es.getLast? with
    | none => rw [hg] at hl; cases hl
    | some e =>
      rw [hg] at hl
      cases e with
      | pos p => exact hlast p hg (Elem.atom.inj (Option.some.inj hl))
      | kw p => cases hl
  · intro x hx
    obtain ⟨e, he, rfl⟩ := List.mem_map.mp hx
    cases e with
    | pos p => exact hstr (.pos p) he
    | kw p =>
      intro s hs
      simp only [List.mem_cons, List.not_mem_nil, or_false] at hs
      rcases hs with rfl | rfl
      · exact (hkw p he).1
      · exact hstr (.kw p) he

theorem wfCell_pairs {skvs} {nd : List SPair} (hne : nd ≠ []) (hok : SubOk skvs nd)
    (hnd : ∀ p ∈ nd, nonDefault p = true)
    (hfok : ∀ p ∈ nd, fieldOk true p.1.2.1 p.2 = true) :
    Props.C08.WFCell (.list (nd.map subElem)) ∧ CellOk (.list (nd.map subElem)) := by
  have leaf : ∀ p ∈ nd, simpleName p.1.1 = true ∧ BasicLeaf p.1.2.1 p.2 := fun p hp =>
    have P := hok.2 p hp
    ⟨P.name, basic_leaf P.basic (P.repr (hnd p hp))⟩
  have := wfCell_mixed (nd.map .kw) (fun h => hne (List.map_eq_nil_iff.mp h))
    (List.forall_mem_map.mpr fun p hp => (leaf p hp).2.strOk)
    (fun p he => by
      obtain ⟨_, hp, e⟩ := List.mem_map.mp he
      cases e
      exact ⟨simpleName_strOk (leaf p hp).1, (leaf p hp).2.nonblank (hfok p hp)⟩)
    (fun p hl => by
      rw [List.getLast?_map] at hl
      cases hg : nd.getLast? <;> rw [hg] at hl <;> cases hl)
  rwa [List.map_map] at this

end Rpft.Row
