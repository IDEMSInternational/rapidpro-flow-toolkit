/-
What the functions of the template model (`Rpft/Template.lean`, M8) do, stated without the
predicates of C16: sequencing (`joinM`, the item lists of `evalE` / `evalC`); the references and the
search of an item list as `flatMap` / `findSome?`; printing — a strict print fails on exactly the
`Undefined` object the wrapper's search finds, every other print is the policy-free one.
-/
import Rpft.Template
namespace Rpft.Template
open Rpft Rpft.Cell

theorem not_defined_iff {ctx : Ctx} {p : Path} :
    ¬ Defined ctx p ↔ resolve ctx p = .undef ∨ resolve ctx p = .broken := by
  unfold Defined
  cases resolve ctx p <;> simp

section
variable {f : Val → Except Err Str} {xs : List Val}

theorem joinM_error {y : Err} (h : joinM f xs = .error y) : ∃ e ∈ xs, f e = .error y := by
  fun_induction joinM f xs with
  | case1 => cases h
  | case2 a as x hx => cases h; exact ⟨a, by simp, hx⟩
  | case3 a as _ _ x hj ih => cases h; obtain ⟨e, he, hfe⟩ := ih hj; exact ⟨e, by simp [he], hfe⟩
  | case4 => cases h

theorem joinM_error_of_mem {e : Val} {x : Err} (he : e ∈ xs) (hf : f e = .error x) :
    ∃ y, joinM f xs = .error y := by
  fun_induction joinM f xs with
  | case1 => cases he
  | case2 _ _ z => exact ⟨z, rfl⟩
  | case3 _ _ _ _ z => exact ⟨z, rfl⟩
  | case4 a as s ha r hj ih =>
    rcases List.mem_cons.mp he with rfl | hm
    · rw [hf] at ha; cases ha
    · obtain ⟨y, hy⟩ := ih hm
      rw [hy] at hj; cases hj

theorem joinM_ok {g : Val → Str} (h : ∀ e ∈ xs, f e = .ok (g e)) : joinM f xs = .ok (xs.flatMap g) := by
  induction xs with
  | nil => rfl
  | cons a as ih =>
    simp only [joinM, h a (by simp), ih (fun e he => h e (by simp [he])), List.flatMap_cons]

end

/-- `evalItems` and `evalCItems` are this one function of the element evaluator -/
def mapItems {α : Type} (f : α → Except Err PVal) :
    List (Str × α) → Except Err (List (Str × PVal))
  | [] => .ok []
  | (k, a) :: rest =>
    match f a with
    | .error x => .error x
    | .ok pv =>
      match mapItems f rest with
      | .error x => .error x
      | .ok pvs => .ok ((k, pv) :: pvs)

theorem evalItems_eq (ctx : Ctx) (items : List (Str × Expr)) :
    evalItems ctx items = mapItems (evalE ctx) items := by
  induction items with
  | nil => rfl
  | cons kv rest ih => simp only [evalItems, mapItems, ih]; rfl

theorem evalCItems_eq (ctx : Ctx) (items : List (Str × CExpr)) :
    evalCItems ctx items = mapItems (evalC ctx) items := by
  induction items with
  | nil => rfl
  | cons kv rest ih => simp only [evalCItems, mapItems, ih]; rfl

section
variable {α : Type} {f : α → Except Err PVal} {items : List (Str × α)}

theorem mapItems_error {x : Err} (h : mapItems f items = .error x) : ∃ kv ∈ items, f kv.2 = .error x := by
  fun_induction mapItems f items with
  | case1 => cases h
  | case2 k a rest x hx => cases h; exact ⟨(k, a), by simp, hx⟩
  | case3 k a rest _ _ x hr ih => cases h; obtain ⟨kv, hm, hkv⟩ := ih hr; exact ⟨kv, by simp [hm], hkv⟩
  | case4 => cases h

theorem mapItems_ok {pvs : List (Str × PVal)} (h : mapItems f items = .ok pvs) :
    items.map (fun kv => f kv.2) = pvs.map fun pkv => .ok pkv.2 := by
  fun_induction mapItems f items generalizing pvs with
  | case1 => cases h; rfl
  | case2 => cases h
  | case3 => cases h
  | case4 k a rest pv hf ps hr ih => cases h; simp only [List.map_cons, hf, ih hr]

theorem mapItems_mem {pvs : List (Str × PVal)} (h : mapItems f items = .ok pvs) :
    (∀ pkv ∈ pvs, ∃ kv ∈ items, f kv.2 = .ok pkv.2) ∧
    (∀ kv ∈ items, ∃ pkv ∈ pvs, f kv.2 = .ok pkv.2) := by
  have hm := mapItems_ok h
  constructor
  · intro pkv hp
    have : Except.ok pkv.2 ∈ items.map fun kv => f kv.2 := hm ▸ List.mem_map_of_mem hp
    obtain ⟨kv, hk, hkv⟩ := List.mem_map.mp this
    exact ⟨kv, hk, hkv⟩
  · intro kv hk
    have : f kv.2 ∈ pvs.map fun pkv => Except.ok pkv.2 := hm ▸ List.mem_map_of_mem hk
    obtain ⟨pkv, hp, hpkv⟩ := List.mem_map.mp this
    exact ⟨pkv, hp, hpkv.symm⟩

end

theorem itemsRefs_eq (items : List (Str × Expr)) :
    itemsRefs items = items.flatMap fun kv => kv.2.refs := by
  induction items with
  | nil => rfl
  | cons kv rest ih => simp only [itemsRefs, List.flatMap_cons, ih]

theorem bareRefsItems_eq (items : List (Str × CExpr)) :
    bareRefsItems items = items.flatMap fun kv => kv.2.bareRefs := by
  induction items with
  | nil => rfl
  | cons kv rest ih => simp only [bareRefsItems, List.flatMap_cons, ih]

theorem findUndefItems_eq (items : List (Str × PVal)) :
    findUndefItems items = (items.map Prod.snd).findSome? PVal.findUndef := by
  induction items with
  | nil => rfl
  | cons kv rest ih =>
    simp only [findUndefItems, List.map_cons, List.findSome?_cons, ih]
    cases kv.2.findUndef <;> rfl

/-- a print under `pol` of a value in which the search finds `o` and whose policy-free text is
`s`: only the strict policy fails, on what the search finds -/
def printed (pol : Policy) (o : Option Path) (s : Str) : Except Err Str :=
  match o with
  | some p => if pol = .strict then .error (.undefined p) else .ok s
  | none => .ok s

@[simp] theorem printed_none (pol : Policy) (s : Str) : printed pol none s = .ok s := rfl

@[simp] theorem printed_strict_some (p : Path) (s : Str) :
    printed .strict (some p) s = .error (.undefined p) := rfl

theorem repr_eq (pol : Policy) (pv : PVal) : pv.repr pol = printed pol pv.findUndef pv.reprL := by
  refine PVal.rec (motive_1 := fun pv => pv.repr pol = printed pol pv.findUndef pv.reprL)
    (motive_2 := fun items => ∀ k,
      reprItems pol k items = printed pol (findUndefItems items) (reprItemsL k items))
    (motive_3 := fun kv => kv.2.repr pol = printed pol kv.2.findUndef kv.2.reprL)
    ?_ ?_ ?_ ?_ ?_ ?_ ?_ pv
  · intro v; rfl
  · intro p; simp only [PVal.repr, PVal.findUndef, PVal.reprL, printed]
  · intro k items ih
    simp only [PVal.repr, ih k, PVal.findUndef, PVal.reprL, printed]
    cases findUndefItems items with
    | none => rfl
    | some p => by_cases h : pol = .strict <;> simp only [h, if_true, if_false]
  · intro n; rfl
  · intro k; rfl
  · intro kv rest ih1 ih2 k
    simp only [reprItems, ih1, ih2 k, findUndefItems, reprItemsL, printed]
    by_cases h : pol = .strict <;>
      cases kv.2.findUndef <;> cases findUndefItems rest <;> simp only [h, if_true, if_false]
  · intro k pv ih; exact ih

/-- for `strict` only: under `strictShallow` the bare object fails and one inside a container prints
as a word -/
theorem str_strict (pv : PVal) : pv.str .strict = printed .strict pv.findUndef pv.strL := by
  cases pv with
  | val v => rfl
  | undef p => rfl
  | num n => exact repr_eq .strict _
  | coll k items => exact repr_eq .strict _

theorem str_of_findUndef_none (pol : Policy) {pv : PVal} (h : pv.findUndef = none) :
    pv.str pol = .ok pv.strL := by
  cases pv with
  | val v => rfl
  | undef p => cases h
  | num n => rfl
  | coll k items => exact (repr_eq pol _).trans (by rw [h]; rfl)

end Rpft.Template
