/-
An event-level condition under which the twin block is tight (`tight_of_follows`, concluding
`TightAt`): the insert row directly follows a plain action row (`PlainRow`) and is attached to it
unconditionally (`Follows`: blank `from`, or its row id).  The action row's node is a basic node
without router whose only exit the edge into the block connects — no unconnected exit of a row
leading into the block is left.
-/
import Rpft.Lemmas.CompileInsertTheorem
namespace Rpft.Compile
open Rpft Function

/-- a plain action row: it creates a basic node of its own (`send_message`, `save_value`, … without
`_nodeId` / node name) -/
def PlainRow (q : Row) : Prop :=
  basicTypes.contains q.type = true ∧ q.nodeUuid = [] ∧ q.nodeName = []

instance (q : Row) : Decidable (PlainRow q) := by unfold PlainRow; exact inferInstance

/-- the row `r` is attached, unconditionally and only, to the row `q` read just before it: by a
blank `from` or by `q`'s row id -/
def Follows (q r : Row) : Prop :=
  ∃ e, dropTrivial r.edges = [e] ∧ e.cond.blank = true ∧
    (e.from_ = [] ∨ (e.from_ = q.rowId ∧ q.rowId ≠ [] ∧ q.rowId ≠ startS))

theorem withAct_kind (n : NodeM) (a : Option (Uid × Str)) : (n.withAct a).kind = n.kind ∧ (n.withAct a).router = n.router := by
  cases a <;> exact ⟨rfl, rfl⟩

theorem rowNode_plain (r : Row) (act : Option (Uid × Str)) (hb : basicTypes.contains r.type = true) (s : St) :
    wp (rowNode r act) s (fun n _ => n.kind = .basic ∧ n.router = none) := by
  unfold rowNode
  rw [if_pos hb]
  split
  · unfold basicNode newBasic nodeUid
    split
    · wp_simp [wp_fresh]
      exact withAct_kind _ act
    · wp_simp [wp_fresh]
      exact withAct_kind _ act
  · rw [wp_fail]; trivial

theorem plain_types {q : Row} (hb : basicTypes.contains q.type = true) :
    q.type ≠ "hard_exit".toList ∧ q.type ≠ "loose_exit".toList ∧ q.type ≠ "go_to".toList ∧
    q.type ≠ "no_op".toList ∧ q.type ≠ "insert_as_block".toList := by
  have : q.type ∈ basicTypes := by simpa using hb
  simp only [basicTypes, List.map_cons, List.map_nil, List.mem_cons, List.not_mem_nil, or_false] at this
  -- deciding with string literals decodes them byte by byte: they are spelt as character lists first
  rcases this with h | h | h | h | h <;> (rw [h]; repeat rw [String.toList_ofList]; decide)

theorem parseRow_plain {q : Row} (hp : PlainRow q) {s t : St} (h : (parseRow q).run s = .ok ((), t)) :
    (newRow { q with edges := dropTrivial q.edges } []).run s = .ok ((), t) :=
  parseRow_newRow (plain_types hp.1) hp.2.1 hp.2.2 h

/-- what is known of the state after a plain action row `q`: its row group (holding one basic node
without router) is the most recent one and the one `q`'s row id names -/
structure ParentAt (s₀ : St) (q : Row) (g i : Nat) : Prop where
  grp : s₀.groups[g]? = some (.row [i] q.type)
  node : ∃ n0, s₀.nodes[i]? = some n0 ∧ n0.kind = .basic ∧ n0.router = none
  recent : mostRecentIn s₀.groups s₀.stack = some g
  named : q.rowId ≠ [] → lookupIn s₀.rowIds q.rowId = some g

theorem parent_at {q : Row} (hp : PlainRow q) {s s₀ : St} (h : (parseRow q).run s = .ok ((), s₀)) :
    ∃ g i, ParentAt s₀ q g i := by
  obtain ⟨n, kk, u, b, rest, cs, hM, h3, hst, hgb, rfl⟩ := newRow_inv (parseRow_plain hp h)
  have hk := wp_of_run ((wp_bind ..).mpr ((wp_def ..).mpr fun act s' _ => rowNode_plain _ act hp.1 s')) hM
  -- the edges keep the node just pushed, of its kind and without router
  obtain ⟨n', hn', hkr⟩ := (wp_of_run (Frame.forM Ext.pre (fun x _ => ext_addRowEdge (.node n.uid) x) _) h3).2
    s.nodes.size n (Array.getElem?_push_size ..)
  have hb : b < u.groups.size := lt_size_of_getElem? hgb
  exact ⟨u.groups.size, s.nodes.size, rowAdded_groups_last hb, ⟨n', hn', hkr.1.trans hk.1, hkr.2 hk.2⟩,
    rowAdded_recent hst hb, rowAdded_named⟩

theorem psOf_follows {s₀ : St} {q r : Row} {g i : Nat} (hp : ParentAt s₀ q g i) (hf : Follows q r) :
    ∃ c, c.blank = true ∧ psOf s₀ (dropTrivial r.edges) = some [(g, c)] := by
  obtain ⟨e, he, hc, hfrom⟩ := hf
  refine ⟨e.cond, hc, ?_⟩
  rw [he]
  unfold psOf
  have hge : (groupOfEdge e).run s₀ = .ok (some g, s₀) := by
    rw [groupOfEdge_run]
    rcases hfrom with h0 | ⟨h1, h2, h3⟩
    · rw [h0, if_neg (by decide), if_pos rfl, hp.recent]
    · rw [h1, if_neg (c := q.rowId = "start".toList) h3, if_neg h2, hp.named h2]
  rw [hge]
  simp [psOf]

theorem addExit_parent {t : St} {g i : Nat} {ty : Str} {n0 : NodeM} (hg : t.groups[g]? = some (.row [i] ty))
    (hn : t.nodes[i]? = some n0) (hk : n0.kind = .basic) (hr : n0.router = none) (f : Nat) (u : Uid) (c : Cond)
    (hc : c.blank = true) :
    wp (addExit (f + 1) g (.node u) c) t (fun _ e => e.groups = t.groups ∧ ∃ n1, e.nodes[i]? = some n1 ∧ NoLoose n1) := by
  unfold addExit
  rw [wp_bind, wp_getGrp]
  intro grp hgrp
  rw [hg] at hgrp; injection hgrp with hgrp; subst hgrp
  simp only []
  unfold rowAddExit
  simp only [List.getLast?_singleton]
  rw [wp_bind, wp_getNode]
  intro n hn'
  rw [hn] at hn'; injection hn' with hn'; subst hn'
  have hcond : c.blank = true ∧ n0.kind ≠ NodeKind.random := ⟨hc, by rw [hk]; intro e; cases e⟩
  rw [if_pos hcond, wp_rowExitBlank_basic _ hk]
  refine ⟨rfl, ?_⟩
  have hlt : i < t.nodes.size := lt_size_of_getElem? hn
  refine ⟨{ n0 with dexitUid := tid t.next, dexitDest := .node u }, ?_, ?_⟩
  · show (t.nodes.setIfInBounds i _)[i]? = _
    rw [Array.getElem?_setIfInBounds, if_pos rfl, if_pos hlt, hk]
  exact ⟨(hasLoose_basic (n := { n0 with dexitUid := tid t.next, dexitDest := .node u }) hr).mpr (fun e => by cases e),
    fun _ e => by cases e⟩

theorem tight_of_follows (na nt : List Str) {pre' : List Event} {q r r₁ : Row} (hq : PlainRow q)
    (hf : Follows q r) (he : EntryRow r₁) (hid : okIdsL (pre' ++ [Event.row q]) = true) :
    ∀ a₂, (steps ((pre' ++ [Event.row q]) ++ [Event.openGroup r.edges false, Event.row (retargetRow r₁)])).run (initSt na nt) =
      .ok ((), a₂) → TightAt a₂ := by
  intro a₂ hrun
  obtain ⟨s₀, hp, hrest⟩ := steps_append_run hrun
  obtain ⟨s', hp', hq1⟩ := steps_snoc_run hp
  have hgd : Good na nt s₀ := good_run hid hp
  obtain ⟨o₂, hO, hF⟩ := steps_snoc_run (es := [_]) hrest
  have hO := steps_single_run hO
  unfold step at hq1 hO hF
  obtain ⟨g, i, hpa⟩ := parent_at hq hq1
  obtain ⟨ps, hps, ho⟩ := wp_of_run (openGroup_twin s₀ hgd.sb r.edges) hO
  subst ho
  obtain ⟨c, hc, hps'⟩ := psOf_follows hpa hf
  rw [hps'] at hps
  injection hps with hps
  subst hps
  have hglt : g < s₀.groups.size := lt_size_of_getElem? hpa.grp
  obtain ⟨n0, hn0, hk0, hr0⟩ := hpa.node
  have hilt : i < s₀.nodes.size := lt_size_of_getElem? hn0
  obtain ⟨n, kk, e₂, -, -, hE, hE2, rfl⟩ := entry_twin he hgd
    (by intro p hp; rw [List.mem_singleton.mp hp]; exact hglt) hF
  -- the one edge into the block connects the only exit of `q`'s node
  have hE' : (addExit (2 * (s₀.groups.size + 2) + 6 + 1) g (.node n.uid) c).run (twT s₀ [(g, c)] n kk) =
      .ok ((), e₂) := (run_forM_single _ _ _).symm.trans hE
  have hgt : (twT s₀ [(g, c)] n kk).groups[g]? = some (.row [i] q.type) := by
    rw [twT_groups_lt hglt]; exact hpa.grp
  have hnt : (twT s₀ [(g, c)] n kk).nodes[i]? = some n0 := by
    rw [twT_nodes_lt hilt]; exact hn0
  obtain ⟨eg, n1, hn1, hnl1⟩ := wp_of_run (addExit_parent hgt hnt hk0 hr0 _ n.uid c hc) hE'
  have hgsz := hE2.gsz
  refine ⟨s₀.groups.size, ?_, [(g, c)], ?_, ?_⟩
  · show e₂.stack.head? = _
    rw [hE2.stack]; rfl
  · rw [rowAdded_groups_ne (Nat.succ_ne_self _) (hgsz ▸ Nat.lt_succ_self _)]; exact hE2.noop
  · intro p hp
    rw [List.mem_singleton.mp hp]
    refine ⟨[i], q.type, ?_, ?_⟩
    · rw [rowAdded_groups_ne (Nat.ne_of_lt hglt) (hgsz ▸ Nat.lt_add_right 2 hglt), eg]; exact hgt
    · intro j hj
      rw [List.mem_singleton.mp hj]
      exact ⟨n1, hn1, hnl1⟩

end Rpft.Compile
