/-
The flat tree `FItem` (end rows kept) against the tree model `Sugar.Item`: writing end rows and erasing
them again (`unerase`, `FItem.erase`) gives the tree back, and both keep every row where its kind says
(`WkI`); desugaring keeps it there too (`WkIL_dsItem`); and on a quiet sheet — where the rows that only
the flat machine reads cannot fail — the tree reading `evF` of the flat machine is `Sugar.evItem` of
the erased tree (`evF_eq_evItem`).
-/
import Rpft.Lemmas.Sugar
import Rpft.Lemmas.SugarFlat
namespace Rpft.SugarFlat
open Rpft Rpft.Sugar
open Rpft.Cli (RowType BlockType Fault isEndOfBlock blockEndMap)

variable {Raw Inst Ctx Val Hdr Err S : Type}

/-! ## `Sugar.Item` trees as flat sheets -/

mutual
/-- every row of a `Sugar.Item` tree sits where its kind says -/
def WkI (kind : Raw → RowKind) : Item Raw → Prop
  | .row r => kind r = .other
  | .forLoop b body => kind b = .beginFor ∧ WkIL kind body
  | .block b body => kind b = .beginBlock ∧ WkIL kind body
def WkIL (kind : Raw → RowKind) : List (Item Raw) → Prop
  | [] => True
  | it :: its => WkI kind it ∧ WkIL kind its
end

mutual
theorem erase_unerase (ef eb : Raw) : ∀ (it : Item Raw), (unerase ef eb it).erase = it
  | .row r => by simp [unerase, FItem.erase]
  | .forLoop b body => by simp [unerase, FItem.erase, eraseL_uneraseL ef eb body]
  | .block b body => by simp [unerase, FItem.erase, eraseL_uneraseL ef eb body]
theorem eraseL_uneraseL (ef eb : Raw) : ∀ (its : List (Item Raw)), eraseL (uneraseL ef eb its) = its
  | [] => by simp [uneraseL, eraseL]
  | it :: its => by simp [uneraseL, eraseL, erase_unerase ef eb it, eraseL_uneraseL ef eb its]
end

mutual
theorem WkF_unerase (kind : Raw → RowKind) (ef eb : Raw) (hef : kind ef = .endFor) (heb : kind eb = .endBlock) :
    ∀ (it : Item Raw), WkI kind it → WkF kind (unerase ef eb it)
  | .row r, h => by simpa [unerase, WkF, WkI] using h
  | .forLoop b body, h => by
    simp only [WkI] at h
    simp only [unerase, WkF]
    exact ⟨h.1, WkFL_uneraseL kind ef eb hef heb body h.2, hef⟩
  | .block b body, h => by
    simp only [WkI] at h
    simp only [unerase, WkF]
    exact ⟨h.1, WkFL_uneraseL kind ef eb hef heb body h.2, heb⟩
theorem WkFL_uneraseL (kind : Raw → RowKind) (ef eb : Raw) (hef : kind ef = .endFor) (heb : kind eb = .endBlock) :
    ∀ (its : List (Item Raw)), WkIL kind its → WkFL kind (uneraseL ef eb its)
  | [], _ => by simp [uneraseL, WkFL]
  | it :: its, h => by
    simp only [WkIL] at h
    simp only [uneraseL, WkFL]
    exact ⟨WkF_unerase kind ef eb hef heb it h.1, WkFL_uneraseL kind ef eb hef heb its h.2⟩
end

mutual
theorem WkI_erase (kind : Raw → RowKind) : ∀ (it : FItem Raw), WkF kind it → WkI kind it.erase
  | .row r, h => by simpa [FItem.erase, WkF, WkI] using h
  | .forLoop b body e, h => by
    simp only [WkF] at h
    simp only [FItem.erase, WkI]
    exact ⟨h.1, WkIL_eraseL kind body h.2.1⟩
  | .block b body e, h => by
    simp only [WkF] at h
    simp only [FItem.erase, WkI]
    exact ⟨h.1, WkIL_eraseL kind body h.2.1⟩
theorem WkIL_eraseL (kind : Raw → RowKind) : ∀ (its : List (FItem Raw)), WkFL kind its → WkIL kind (eraseL its)
  | [], _ => by simp [eraseL, WkIL]
  | it :: its, h => by
    simp only [WkFL] at h
    simp only [eraseL, WkIL]
    exact ⟨WkI_erase kind it h.1, WkIL_eraseL kind its h.2⟩
end

theorem WkIL_append (kind : Raw → RowKind) (a b : List (Item Raw)) :
    WkIL kind (a ++ b) ↔ WkIL kind a ∧ WkIL kind b := by
  induction a with
  | nil => simp [WkIL]
  | cons x a ih => simp [WkIL, ih, and_assoc]

theorem WkIL_append_of (kind : Raw → RowKind) (a b : List (Item Raw)) (ha : WkIL kind a) (hb : WkIL kind b) :
    WkIL kind (a ++ b) := (WkIL_append kind a b).2 ⟨ha, hb⟩

theorem kind_lit (I : FIface Raw Inst Ctx Val Hdr Err S) (L : Laws I.toIface) (FL : FlatLaws I) (ctx : Ctx)
    (i : Inst) : I.kind (I.lit i) = I.kindI i :=
  (FL.kind_inst ctx (I.lit i) i (L.inst_lit ctx i)).symm

theorem WkIL_dsItems_of (I : FIface Raw Inst Ctx Val Hdr Err S) (its : List (Item Raw))
    (H : ∀ it ∈ its, WkI I.kind it → ∀ (ctx : Ctx), OkAll (WkIL I.kind) (dsItem I.toIface ctx it))
    (h : WkIL I.kind its) (ctx : Ctx) : OkAll (WkIL I.kind) (dsItems I.toIface ctx its) := by
  induction its with
  | nil => rw [dsItems]; exact .ok trivial
  | cons it its ih =>
    rw [dsItems_cons]
    exact (H it (List.mem_cons_self ..) h.1 ctx).appendOk (WkIL_append_of I.kind)
      (ih (fun x hx => H x (List.mem_cons_of_mem _ hx)) h.2)

/-- the desugared form of a well-kinded tree is well kinded (`hab`: a begin_for row rewritten as
a block is a begin_block row) -/
theorem WkIL_dsItem (I : FIface Raw Inst Ctx Val Hdr Err S) (L : Laws I.toIface) (FL : FlatLaws I)
    (hab : ∀ i, I.kindI i = .beginFor → I.kindI (I.asBlock i) = .beginBlock) :
    ∀ (it : Item Raw), WkI I.kind it → ∀ (ctx : Ctx) (out : List (Item Raw)),
      dsItem I.toIface ctx it = .ok out → WkIL I.kind out := by
  intro it
  -- in each case the goal is `OkAll (WkIL I.kind) (dsItem I.toIface ctx it)`, written out
  induction it using Item.induct with
  | row r =>
    intro h ctx
    simp only [WkI] at h
    simp only [dsItem, apply_ite Except.ok]
    exact OkAll.gate trivial fun i hi _ => .ok ⟨(kind_lit I L FL ctx i).trans ((FL.kind_inst ctx r i hi).trans h), trivial⟩
  | block b body ih =>
    intro h ctx
    rw [dsItem]
    refine OkAll.gate trivial fun i hi _ => ?_
    cases hd : dsItems I.toIface ctx body with
    | error e => exact .error e
    | ok bs =>
      exact .ok ⟨⟨(kind_lit I L FL ctx i).trans ((FL.kind_inst ctx b i hi).trans h.1),
        WkIL_dsItems_of I body ih h.2 ctx bs hd⟩, trivial⟩
  | forLoop b body ih =>
    intro h ctx
    rw [dsItem]
    refine OkAll.gate trivial fun i hi _ => ?_
    cases I.loopVars i with
    | none => exact .error _
    | some p =>
      dsimp only
      split
      · exact .error _
      · next bss hs =>
        exact .ok ⟨⟨(kind_lit I L FL ctx _).trans (hab i ((FL.kind_inst ctx b i hi).trans h.1)),
          OkAll.sequence trivial (WkIL_append_of I.kind) (I.iterList i).zipIdx _
            (fun x => WkIL_dsItems_of I body ih h.2 (iterCtx I.toIface ctx p.1 p.2 x.1 x.2)) _
            (congrArg (Except.map List.flatten) hs)⟩, trivial⟩

theorem WkIL_dsItems (I : FIface Raw Inst Ctx Val Hdr Err S) (L : Laws I.toIface) (FL : FlatLaws I)
    (hab : ∀ i, I.kindI i = .beginFor → I.kindI (I.asBlock i) = .beginBlock) :
    ∀ (its : List (Item Raw)), WkIL I.kind its → ∀ (ctx : Ctx), OkAll (WkIL I.kind) (dsItems I.toIface ctx its) :=
  fun its => WkIL_dsItems_of I its fun it _ => WkIL_dsItem I L FL hab it

/-! ## the tree reading and `Sugar.evItems` -/

theorem firstFail_quiet (I : FIface Raw Inst Ctx Val Hdr Err S) (rows : List Raw) (h : Quiet I rows) :
    firstFail I rows = none := by
  induction rows with
  | nil => rfl
  | cons r rs ih =>
    simp only [firstFail, (h r (by simp)).1]
    exact ih (fun q hq => h q (by simp [hq]))

theorem Quiet_append (I : FIface Raw Inst Ctx Val Hdr Err S) (a b : List Raw) :
    Quiet I (a ++ b) ↔ Quiet I a ∧ Quiet I b := List.forall_mem_append

theorem Quiet_cons (I : FIface Raw Inst Ctx Val Hdr Err S) (r : Raw) (b : List Raw) :
    Quiet I (r :: b) ↔ Quiet I [r] ∧ Quiet I b := by
  rw [← Quiet_append]; rfl

theorem thenEnd_quiet (I : FIface Raw Inst Ctx Val Hdr Err S) (e : Raw) (h : Quiet I [e])
    (he : I.kind e = .endFor ∨ I.kind e = .endBlock) (c : Ctx) (r : Except Err (List (Ev Inst Hdr))) :
    thenEnd I c e r = r := by
  obtain ⟨i, hi⟩ := (h e (by simp)).2 he c
  cases r <;> simp [thenEnd, hi]

theorem evFs_eq_of (I : FIface Raw Inst Ctx Val Hdr Err S) (its : List (FItem Raw))
    (H : ∀ it ∈ its, WkF I.kind it → Quiet I (flattenF it) → ∀ (c : Ctx),
      evF I c it = evItem I.toIface c it.erase) :
    WkFL I.kind its → Quiet I (flattenFL its) → ∀ (c : Ctx),
      evFs I c its = evItems I.toIface c (eraseL its) := by
  induction its with
  | nil => intro _ _ c; simp [evFs, eraseL, evItems]
  | cons it its ih =>
    intro h q c
    simp only [flattenFL] at q
    rw [Quiet_append] at q
    rw [evFs, eraseL, evItems, H it (List.mem_cons_self ..) h.1 q.1 c,
      ih (fun x hx => H x (List.mem_cons_of_mem _ hx)) h.2 q.2 c]
    cases evItem I.toIface c it.erase with
    | error x => rfl
    | ok a => cases evItems I.toIface c (eraseL its) <;> rfl

theorem evF_eq_evItem (I : FIface Raw Inst Ctx Val Hdr Err S) :
    ∀ (it : FItem Raw), WkF I.kind it → Quiet I (flattenF it) → ∀ (c : Ctx),
      evF I c it = evItem I.toIface c it.erase := by
  intro it
  induction it using FItem.induct with
  | row r =>
    intro h q c
    simp only [evF, FItem.erase, evItem]
    cases I.inst c r <;> rfl
  | block b body e ih =>
    intro h q c
    obtain ⟨hb, hbody, he⟩ := h
    simp only [flattenF] at q
    rw [Quiet_cons, Quiet_append] at q
    obtain ⟨qb, qbody, qe⟩ := q
    have ih := evFs_eq_of I body ih hbody qbody c
    have hskip : firstFail I (flattenFL body ++ [e]) = none :=
      firstFail_quiet I _ ((Quiet_append I _ _).2 ⟨qbody, qe⟩)
    simp only [evF, FItem.erase, evItem, skipRows, hskip, thenEnd_quiet I e qe (Or.inr he), ih]
    cases I.inst c b with
    | error x => rfl
    | ok i =>
      simp only []
      cases I.includeIf i with
      | false => rfl
      | true =>
        simp only [if_true]
        cases evItems I.toIface c (eraseL body) <;> rfl
  | forLoop b body e ih =>
    intro h q c
    obtain ⟨hb, hbody, he⟩ := h
    simp only [flattenF] at q
    rw [Quiet_cons, Quiet_append] at q
    obtain ⟨qb, qbody, qe⟩ := q
    have hskip : firstFail I (flattenFL body ++ [e]) = none :=
      firstFail_quiet I _ ((Quiet_append I _ _).2 ⟨qbody, qe⟩)
    have hpt : ∀ c', thenEnd I c' e (evFs I c' body) = evItems I.toIface c' (eraseL body) := by
      intro c'
      rw [thenEnd_quiet I e qe (Or.inl he), evFs_eq_of I body ih hbody qbody c']
    simp only [evF, FItem.erase, evItem, skipRows, hskip, evLoop, hpt]
    cases I.inst c b with
    | error x => rfl
    | ok i =>
      simp only []
      cases I.includeIf i with
      | false => rfl
      | true =>
        simp only [if_true]
        cases I.loopVars i with
        | none => rfl
        | some vi =>
          obtain ⟨v, idx⟩ := vi
          simp only []
          cases hl : I.iterList i with
          | nil => simp [sequence]
          | cons x xs =>
            simp only [List.isEmpty_cons, Bool.false_eq_true, if_false]
            cases sequence (List.map (fun x_1 : Val × Nat =>
                evItems I.toIface (iterCtx I.toIface c v idx x_1.1 x_1.2) (eraseL body)) (x :: xs).zipIdx) <;> rfl

theorem evFs_eq_evItems (I : FIface Raw Inst Ctx Val Hdr Err S) :
    ∀ (its : List (FItem Raw)), WkFL I.kind its → Quiet I (flattenFL its) → ∀ (c : Ctx),
      evFs I c its = evItems I.toIface c (eraseL its) :=
  fun its => evFs_eq_of I its fun it _ => evF_eq_evItem I it

end Rpft.SugarFlat
