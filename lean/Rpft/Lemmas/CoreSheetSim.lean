/-
The whole sheet: the lock-step simulation from the initial state (`relN_init`) over all rows (`rows_simN`) and the
emitted node list (`emit_rel`: the nodes of the node-producing rows, in row order).
-/
import Rpft.Lemmas.CoreMerge
import Rpft.Lemmas.CompileFinal
namespace Rpft.CoreSheet
open Rpft Rpft.Compile Rpft.RefFlow

theorem rel_init (rows : List CRow) (M : Maps) (hM : ∀ j, M.rOf j = none) (hel : ∀ j, M.el j = false)
    (hfr : ∀ j, M.fr j = false) (testTypes : List Str) :
    Rel rows M false 0 (initSt RefFlow.noArgsTests testTypes) {} := by
  refine ⟨by rw [gOf_zero]; rfl, by rw [gOf_zero]; rfl, fun j c hj => absurd hj (Nat.not_lt_zero j),
    fun j c hj => absurd hj (Nat.not_lt_zero j), fun j _ _ _ => hel j, ?_, ?_, rfl, rfl,
    ?_, by simp [gOf_zero], ?_, ?_, rfl, ?_, ?_, ?_, fun j _ => hM j, fun j _ _ _ => hM j, ?_,
    ⟨fun p hp => by simp [initSt] at hp, fun i _ hi => absurd hi (Nat.not_lt_zero i)⟩⟩
  · intro j hj; rw [hfr j] at hj; cases hj
  · intro e he; cases he
  · intro p hp; cases hp
  · intro e he; cases he
  · intro e he; cases he
  · intro j c hv; rcases hv.1 with h1 | h1
    · exact absurd h1 (Nat.not_lt_zero j)
    · exact absurd h1.1 (by simp)
  · intro j c j' c' hv; rcases hv.1 with h1 | h1
    · exact absurd h1 (Nat.not_lt_zero j)
    · exact absurd h1.1 (by simp)
  · intro j i' hi'; rw [hM j] at hi'; cases hi'
  · intro i n r hn; simp [initSt] at hn

theorem relN_init (rows : List CRow) (testTypes : List Str) :
    RelN rows 0 (initSt RefFlow.noArgsTests testTypes) {} := by
  refine ⟨⟨fun _ => 0, fun _ => none, fun _ => false, fun _ => false⟩, {}, [],
    rel_init rows _ (fun _ => rfl) (fun _ => rfl) (fun _ => rfl) testTypes, rfl, rfl, ?_, rfl, ?_, ?_, ?_, ?_, ?_, ?_⟩
  · intro j; simp [outOf]
  · intro e he; cases he
  · intro e he; cases he
  · intro N hN; cases hN
  · intro N hN; cases hN
  · intro N c hN; exact absurd hN (Nat.not_lt_zero N)
  · intro N _ hN; exact absurd hN (Nat.not_lt_zero N)

theorem pass1RowF_prefix {rows : List CRow} {c : CRow} {st st' : P1} {k : Nat} (h : pass1RowF rows st k c = .ok st') :
    st.out.reverse <+: st'.out.reverse := by
  cases hm : c.merged && isNamedAct c with
  | true =>
    obtain ⟨_, _, _, _, _, _, _, _, _, _, _, _, _, rfl⟩ := pass1RowF_merged hm h
    exact List.prefix_refl _
  | false =>
    unfold pass1RowF at h
    rw [hm] at h
    exact pass1Row_prefix _ st st' k h

theorem pass1RowF_fold_prefix {rows : List CRow} : ∀ (l : List CRow) {k : Nat} {st st' : P1},
    (l.zipIdx k).foldlM (fun st (p : CRow × Nat) => pass1RowF rows st p.2 p.1) st = .ok st' →
    st.out.reverse <+: st'.out.reverse := by
  intro l
  induction l with
  | nil =>
    intro k st st' h
    simp only [List.zipIdx_nil, List.foldlM_nil, pure, Except.pure, Except.ok.injEq] at h
    subst h; exact List.prefix_rfl
  | cons c l ih =>
    intro k st st' h
    simp only [List.zipIdx_cons, List.foldlM_cons, Except.bind_eq_ok] at h
    obtain ⟨st1, h1, h⟩ := h
    exact (pass1RowF_prefix h1).trans (ih h)

theorem row_simN {rows : List CRow} {outF : List OutEdge} (g : Sheet rows outF) {k : Nat} {c : CRow}
    (hc : rows[k]? = some c) (hf : rowOk c = true) {s : Compile.St} {stT stT' : P1} (h : RelN rows k s stT)
    (hst : pass1RowF rows stT k c = .ok stT') (hpre : stT'.out.reverse <+: outF) :
    wp (step (toEvent c)) s (fun _ s' => RelN rows (k + 1) s' stT') := by
  cases hm : c.merged && isNamedAct c with
  | true =>
    -- a merged row is an action row
    have hna : isNamedAct c = true := (Bool.and_eq_true _ _ ▸ hm).2
    have hf' := nodeRowOk_of_kind hf (by rw [kindOf_of_named hna]; rfl) (isNoop_of_named hna)
    exact merge_row_simN g.annot hc hf' hm h hst
  | false =>
    have hst' : pass1Row stT k (toRRow c) = .ok stT' := by
      unfold pass1RowF at hst; rw [hm] at hst; simpa using hst
    simp only [rowOk, Bool.or_eq_true] at hf
    rcases hf with ((hf | hf) | hf) | hf
    · exact node_row_simN g hc h hst' hpre hf hm
    · exact exit_row_simN g hc h hst' hpre hf
    · exact goto_row_simN g hc h hst' hpre hf
    · exact noop_row_simN g hc h hst' hpre hf

theorem rows_simN {rows : List CRow} {outF : List OutEdge} (g : Sheet rows outF) : ∀ (l : List CRow) (k : Nat),
    (∀ (i : Nat) (c : CRow), l[i]? = some c → rows[k + i]? = some c) → (∀ c ∈ l, rowOk c = true) →
    ∀ (s : Compile.St) (st st' : P1), RelN rows k s st →
      (l.zipIdx k).foldlM (fun st (p : CRow × Nat) => pass1RowF rows st p.2 p.1) st = .ok st' →
      st'.out.reverse <+: outF →
      wp (steps (l.map toEvent)) s (fun _ s' => RelN rows (k + l.length) s' st') := by
  intro l
  induction l with
  | nil =>
    intro k _ _ s st st' h hst _
    simp only [List.zipIdx_nil, List.foldlM_nil, pure, Except.pure, Except.ok.injEq] at hst
    subst hst
    simp only [List.map_nil]
    unfold steps; wp_simp
    simpa using h
  | cons c l ih =>
    intro k hrows hfr s st st' h hst hpre
    simp only [List.zipIdx_cons, List.foldlM_cons, Except.bind_eq_ok] at hst
    obtain ⟨st1, h1, hst⟩ := hst
    simp only [List.map_cons]
    unfold steps
    wp_simp
    have hck : rows[k]? = some c := by have := hrows 0 c (by simp); simpa using this
    have hpre1 : st1.out.reverse <+: outF := (pass1RowF_fold_prefix _ hst).trans hpre
    refine wp_mono (row_simN g hck (hfr c (by simp)) h h1 hpre1) fun _ s1 r1 => ?_
    have := ih (k + 1) (fun i c' hi => by
      have := hrows (i + 1) c' (by simpa using hi)
      rw [← this]; congr 1; omega) (fun c' hc' => hfr c' (by simp [hc'])) s1 st1 st' r1 hst hpre
    have e : k + 1 + l.length = k + (c :: l).length := by simp; omega
    rw [← e]
    exact this

/-- the arena indices of the nodes of row `j` (none when the row produces no node) -/
def nodeIdxs (rows : List CRow) (M : Maps) (j : Nat) : List Nat :=
  match rows[j]? with
  | some c => if isNodeRow c && !M.el j then idxs M j else []
  | none => []

theorem emit_rel {rows : List CRow} {M : Maps} {s : Compile.St} {st stT : P1} {pnd : List OutEdge}
    (h : Rel rows M false rows.length s st) (hs : Sched rows M rows.length s stT st pnd) :
    emit s (s.groups.size + 2) 0 = (List.range rows.length).flatMap (nodeIdxs rows M) := by
  have e1 : emit s (s.groups.size + 1 + 1) 0 =
      (List.range' 1 (gOf rows rows.length - 1)).flatMap (emit s (s.groups.size + 1)) := by
    simp [emit, h.root]
  rw [e1]
  have : ∀ (m : Nat), m ≤ rows.length →
      (List.range' 1 (gOf rows m - 1)).flatMap (emit s (s.groups.size + 1)) =
        (List.range m).flatMap (nodeIdxs rows M) := by
    intro m
    induction m with
    | zero => intro _; simp [gOf_zero]
    | succ m ihm =>
      intro hm
      obtain ⟨c, hc⟩ : ∃ c, rows[m]? = some c := ⟨rows[m], by simp⟩
      rw [List.range_succ, List.flatMap_append, ← ihm (by omega), gOf_succ rows m c hc]
      have hpos := gOf_pos rows m
      by_cases hn : isNodeRow c = true
      · have e2 : gOf rows m + (if isNodeRow c = true then 1 else 0) - 1 = (gOf rows m - 1) + 1 := by simp [hn]; omega
        rw [e2, List.range'_concat, List.flatMap_append]
        have e3 : 1 + (gOf rows m - 1) = gOf rows m := by omega
        cases hnn : isNoop c with
        | false =>
          have hg := h.grp m c (by omega) hc hn hnn
          have hel := h.elno m c hc hnn
          simp [e3, emit, hg, nodeIdxs, hc, hn, idxs, hel]
        | true =>
          obtain ⟨ps, ro, hg, hro⟩ := h.grpN m c (by omega) hc hnn
          cases hel : M.el m with
          | false =>
            rw [hro hel] at hg
            have hr : M.rOf m = none := h.rnoop m c hc hnn
            simp [e3, emit, hg, nodeIdxs, hc, hn, idxs, hel, hr]
          | true =>
            obtain ⟨ps', hg'⟩ := hs.elgrp m hel (by omega) ⟨c, hc, hnn⟩
            simp [e3, emit, hg', nodeIdxs, hc, hn, hel]
      · have hn' : isNodeRow c = false := by simpa using hn
        simp [hn', nodeIdxs, hc]
  exact this rows.length (Nat.le_refl _)

end Rpft.CoreSheet
