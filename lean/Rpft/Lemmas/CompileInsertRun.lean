/-
Whole event sequences preserve the simulation: in a clean scope (nested parsers, the body of the
inserted block) without any condition on the rows (`steps_clean`), and in the outer scope after the block for
the rows that avoid the tainted groups (`steps_top` under `avoids`; in open mode nothing is tainted and
`avoidsOpen` is enough, `steps_open`).
-/
import Rpft.Lemmas.CompileInsertNested
import Rpft.Lemmas.CompileArenaParse
namespace Rpft.Compile
open Rpft Function

theorem edgesPre_clean {P : Params} {X : SParams} {s₁ : St} (hF : X.F = []) (hm : MR P s₁) {es : List Edge} :
    EdgesPre P X s₁ es :=
  fun e _ => ⟨fun _ => by rw [hF]; simp, fun _ => hm⟩

theorem rowPre_clean {P : Params} {X : SParams} (ok : P.Ok) {s₁ : St} (hF : X.F = []) (hm : MR P s₁) (r : Row)
    (hid : ¬ Invented r.nodeUuid) (hrv : RV s₁) (hnm : X.nmAll = true ∨ (r.nodeUuid = [] ∧ r.nodeName = []))
    (hnl : P.op = true → r.type ≠ "loose_exit".toList) :
    RowPre P X s₁ r :=
  ⟨edgesPre_clean hF hm, fun d _ => by rw [hF]; simp, ok.hfix _ hid, hrv, hnm, hnl⟩

/-- the rows of this scope (not those of nested parsers) give no node names / identifiers -/
def Event.noNames : Event → Bool
  | .row r => r.nodeUuid.isEmpty && r.nodeName.isEmpty
  | _ => true

def noNamesL (es : List Event) : Bool := es.all Event.noNames

mutual
theorem step_clean : ∀ e : Event, e.okIds = true → ∀ (P : Params) (X : SParams) (s₁ s₂ : St), P.Ok →
    Sim P X s₁ s₂ → X.F = [] → (X.nmAll = true ∨ e.noNames = true) → CL P s₁ → SB s₁ → RV s₁ →
    (P.op = true → e.noLoose = true) →
    rwp (step e) (step e) s₁ s₂ (fun _ t₁ _ t₂ => Sim P X t₁ t₂ ∧ Eff P s₁ t₁)
  | .row r => by
    intro hid P X s₁ s₂ ok h hF hnm hcl hsb hrv hnl
    unfold step
    have hid' : ¬ Invented r.nodeUuid := by simpa [Event.okIds] using hid
    have hnm' : X.nmAll = true ∨ (r.nodeUuid = [] ∧ r.nodeName = []) :=
      hnm.imp_right fun hh => by simpa [Event.noNames] using hh
    refine rwp_mono (parseRow_rel ok h r (rowPre_clean ok hF hcl.mr r hid' hrv hnm'
      (fun hop => Event.noLoose_row (hnl hop)))) fun _ _ _ _ hp => ⟨hp.sim, hp.eff⟩
  | .openGroup edges starting => by
    intro _ P X s₁ s₂ ok h hF _ hcl hsb hrv _
    unfold step
    refine rwp_mono (openGroup_rel ok h edges starting (fun _ => edgesPre_clean hF hcl.mr) hrv) ?_
    rintro _ t₁ _ t₂ ⟨ht, _, _, hf, _⟩
    exact ⟨ht, hf⟩
  | .closeGroup rowId => by
    intro _ P X s₁ s₂ ok h hF _ hcl hsb hrv _
    unfold step
    refine rwp_mono (closeGroup_rel ok h rowId ?_ hsb) ?_
    · intro b c rest hst htb
      exact absurd htb (hcl.2 b (by rw [hst]; simp))
    · rintro _ t₁ _ t₂ ⟨ht, _, hsb', hrv', hhk, ⟨b, c, rest, hst⟩, hm⟩
      have := hm b (by rw [hst]; rfl) (hcl.2 b (by rw [hst]; simp))
      exact ⟨ht, fun _ => this.1, fun _ => this.2 hcl, hsb', hrv', hhk⟩
  | .insert r body => by
    intro hid P X s₁ s₂ ok h hF _ hcl hsb hrv hnl
    have hb : BodyRel body := fun P' X' u₁ u₂ ok' hu hF' hall =>
      steps_clean body (by simpa [Event.okIds] using hid) P' X' u₁ u₂ ok' hu hF' (.inl hall)
    refine rwp_mono (insert_rel ok h r body hb (edgesPre_clean hF hcl.mr) hsb
      (fun hop => Event.noLoose_insert (hnl hop))) fun _ _ _ _ hp => ⟨hp.sim, hp.eff⟩
theorem steps_clean : ∀ es : List Event, okIdsL es = true → ∀ (P : Params) (X : SParams) (s₁ s₂ : St), P.Ok →
    Sim P X s₁ s₂ → X.F = [] → (X.nmAll = true ∨ noNamesL es = true) → CL P s₁ → SB s₁ → RV s₁ →
    (P.op = true → noLooseL es = true) →
    rwp (steps es) (steps es) s₁ s₂ (fun _ t₁ _ t₂ => Sim P X t₁ t₂ ∧ Eff P s₁ t₁)
  | [] => by
    intro _ P X s₁ s₂ ok h hF _ hcl hsb hrv _
    unfold steps
    rw [rwp_pure]
    exact ⟨h, Eff.of_blkEq (BlkEq.refl _) rfl⟩
  | e :: es => by
    intro hid P X s₁ s₂ ok h hF hnm hcl hsb hrv hnl
    have hnl2 : P.op = true → e.noLoose = true ∧ noLooseL es = true := fun hop => noLooseL_cons (hnl hop)
    have hid2 : e.okIds = true ∧ okIdsL es = true := by simpa [okIdsL] using hid
    have hnm' : X.nmAll = true ∨ (e.noNames = true ∧ noNamesL es = true) :=
      hnm.imp_right fun hh => Bool.and_eq_true_iff.mp (List.all_cons ▸ hh)
    unfold steps
    rw [rwp_bind]
    refine rwp_mono (step_clean e hid2.1 P X s₁ s₂ ok h hF (hnm'.imp_right (·.1)) hcl hsb hrv (fun hop => (hnl2 hop).1)) ?_
    rintro _ u₁ _ u₂ ⟨hu, hf⟩
    refine rwp_mono (steps_clean es hid2.2 P X u₁ u₂ ok hu hF (hnm'.imp_right (·.2)) (hf.cl hcl) (hf.sb hsb) (hf.rv hrv)
      (fun hop => (hnl2 hop).2)) ?_
    rintro _ t₁ _ t₂ ⟨ht, hf'⟩
    exact ⟨ht, hf.trans hf'⟩
end

theorem bodyRel_of_okIds (body : List Event) (h : okIdsL body = true) : BodyRel body :=
  fun P X s₁ s₂ ok hs hF hall => steps_clean body h P X s₁ s₂ ok hs hF (.inl hall)

/-! ### the outer scope after the block -/

/-- an edge may be followed: it does not name a forbidden row id, and a blank `from` is used only
when the most recent node group is known to be untainted (`flag = false`) -/
def Edge.ok (F : List Str) (flag : Bool) (e : Edge) : Bool :=
  if e.from_.isEmpty then !flag else !F.contains e.from_

def edgesOk (F : List Str) (flag : Bool) (es : List Edge) : Bool := (dropTrivial es).all (Edge.ok F flag)

/-- the rows after the block never reach it (nor an enclosing block): no edge names a forbidden
row id (`F`: the block's id, the ids of the enclosing blocks closed later, the ids defined inside
the block), no `go_to` leads there, and no edge with a blank `from` is used while the most recent
node group may be the block or an enclosing block (`flag`); `depth` counts the blocks opened since -/
def avoids (F : List Str) : Bool → Nat → List Event → Bool
  | _, _, [] => true
  | flag, depth, .row r :: es =>
    edgesOk F flag r.edges && r.dests.all (fun d => !F.contains d) && avoids F (flag && !r.appends) depth es
  | flag, depth, .openGroup edges starting :: es =>
    (starting || edgesOk F flag edges) && avoids F (flag && starting) (depth + 1) es
  | _, 0, .closeGroup rowId :: es => (rowId.isEmpty || F.contains rowId) && avoids F true 0 es
  | _, depth + 1, .closeGroup _ :: es => avoids F false depth es
  | flag, depth, .insert r _ :: es => edgesOk F flag r.edges && avoids F false depth es

variable {P : Params} {X : SParams}

theorem edgesPre_of_ok {s₁ : St} {flag : Bool} {es : List Edge} (h : edgesOk X.F flag es = true)
    (hm : flag = false → MR P s₁) : EdgesPre P X s₁ (dropTrivial es) := by
  unfold edgesOk at h
  rw [List.all_eq_true] at h
  refine fun e he => ⟨fun hne => ?_, fun h0 => ?_⟩
  · have := h e he
    unfold Edge.ok at this
    have hem : e.from_.isEmpty = false := by cases hf : e.from_ <;> simp_all
    simp only [hem, Bool.false_eq_true, if_false, Bool.not_eq_true', List.contains_eq_mem,
      decide_eq_false_iff_not] at this
    exact this
  · have := h e he
    unfold Edge.ok at this
    simp only [h0, List.isEmpty_nil, if_true, Bool.not_eq_true'] at this
    exact hm this

theorem rowPre_of_ok (ok : P.Ok) (hall : X.nmAll = true) {s₁ : St} {flag : Bool} {r : Row}
    (he : edgesOk X.F flag r.edges = true) (hd : r.dests.all (fun d => !X.F.contains d) = true)
    (hm : flag = false → MR P s₁) (hid : Event.okIds (.row r) = true) (hrv : RV s₁)
    (hnl : P.op = true → Event.noLoose (.row r) = true) : RowPre P X s₁ r :=
  ⟨edgesPre_of_ok he hm, fun d hdm => by simpa using List.all_eq_true.mp hd d hdm,
    ok.hfix _ (by simpa [Event.okIds] using hid), hrv, .inl hall, fun hop => Event.noLoose_row (hnl hop)⟩

/-- the unary invariant of the outer scope: the most recent group is untainted unless `flag`, the
blocks opened since the inserted block are untainted, open blocks are blocks -/
structure TopInv (P : Params) (flag : Bool) (depth : Nat) (s : St) : Prop where
  mr : flag = false → MR P s
  dp : ∀ b ∈ s.stack.take depth, ¬ P.T b
  sb : SB s
  rv : RV s

theorem steps_top (ok : P.Ok) (hall : X.nmAll = true) : ∀ (es : List Event) (flag : Bool) (depth : Nat) (s₁ s₂ : St),
    avoids X.F flag depth es = true → okIdsL es = true → Sim P X s₁ s₂ → TopInv P flag depth s₁ →
    (P.op = true → noLooseL es = true) →
    rwp (steps es) (steps es) s₁ s₂ (fun _ t₁ _ t₂ => Sim P X t₁ t₂) := by
  intro es
  induction es with
  | nil =>
    intro flag depth s₁ s₂ _ _ h _ _
    unfold steps
    rw [rwp_pure]; exact h
  | cons e es ih =>
    intro flag depth s₁ s₂ hav hid h inv hnl
    have hnl2 : P.op = true → e.noLoose = true ∧ noLooseL es = true := fun hop => noLooseL_cons (hnl hop)
    have hnl3 : P.op = true → noLooseL es = true := fun hop => (hnl2 hop).2
    have hid2 : e.okIds = true ∧ okIdsL es = true := by simpa [okIdsL] using hid
    unfold steps
    rw [rwp_bind]
    cases e with
    | row r =>
      simp only [avoids, Bool.and_eq_true] at hav
      obtain ⟨⟨he, hd⟩, hrest⟩ := hav
      unfold step
      refine rwp_mono (parseRow_rel ok h r
        (rowPre_of_ok ok hall he hd inv.mr hid2.1 inv.rv fun hop => (hnl2 hop).1)) ?_
      rintro _ u₁ _ u₂ ⟨hu, est, hf, hap⟩
      refine ih _ depth u₁ u₂ hrest hid2.2 hu ⟨?_, by rw [est]; exact inv.dp, hf.sb inv.sb, hf.rv inv.rv⟩ hnl3
      intro hfl
      simp only [Bool.and_eq_false_iff, Bool.not_eq_false'] at hfl
      rcases hfl with hfl | hfl
      · exact hf.mr (inv.mr hfl)
      · exact hap hfl
    | openGroup edges starting =>
      simp only [avoids, Bool.and_eq_true, Bool.or_eq_true] at hav
      obtain ⟨he, hrest⟩ := hav
      unfold step
      refine rwp_mono (openGroup_rel ok h edges starting ?_ inv.rv) ?_
      · intro hs
        rcases he with he | he
        · rw [hs] at he; cases he
        · exact edgesPre_of_ok he inv.mr
      · rintro _ u₁ _ u₂ ⟨hu, est, hnt, hf, hm⟩
        refine ih _ (depth + 1) u₁ u₂ hrest hid2.2 hu ⟨?_, ?_, hf.sb inv.sb, hf.rv inv.rv⟩ hnl3
        · intro hfl
          simp only [Bool.and_eq_false_iff] at hfl
          rcases hfl with hfl | hfl
          · exact hf.mr (inv.mr hfl)
          · exact hm hfl
        · rw [est]
          intro b hb
          simp only [List.take_succ_cons, List.mem_cons] at hb
          rcases hb with hb | hb
          · rw [hb]; exact hnt
          · exact inv.dp b hb
    | closeGroup rowId =>
      unfold step
      cases depth with
      | zero =>
        simp only [avoids, Bool.and_eq_true, Bool.or_eq_true] at hav
        obtain ⟨he, hrest⟩ := hav
        refine rwp_mono (closeGroup_rel ok h rowId ?_ inv.sb) ?_
        · intro b c rest _ _ hne
          rcases he with he | he
          · exfalso; apply hne; simpa using he
          · simpa using he
        · rintro _ u₁ _ u₂ ⟨hu, est, hsb, hrv', _, _, _⟩
          refine ih true 0 u₁ u₂ hrest hid2.2 hu ⟨fun hh => ?_, ?_, hsb inv.sb, hrv' inv.rv⟩ hnl3
          · cases hh
          · intro b hb; simp at hb
      | succ d =>
        simp only [avoids] at hav
        refine rwp_mono (closeGroup_rel ok h rowId ?_ inv.sb) ?_
        · intro b c rest hst htb
          exact absurd htb (inv.dp b (by rw [hst]; simp))
        · rintro _ u₁ _ u₂ ⟨hu, est, hsb, hrv', _, ⟨b, c, rest, hst⟩, hm⟩
          have hb := hm b (by rw [hst]; rfl) (inv.dp b (by rw [hst]; simp))
          refine ih false d u₁ u₂ hav hid2.2 hu ⟨fun _ => hb.1, ?_, hsb inv.sb, hrv' inv.rv⟩ hnl3
          rw [est, hst]
          intro x hx
          apply inv.dp x
          rw [hst]
          simp only [List.tail_cons] at hx
          simp only [List.take_succ_cons, List.mem_cons]
          exact .inr hx
    | insert r body =>
      simp only [avoids, Bool.and_eq_true] at hav
      obtain ⟨he, hrest⟩ := hav
      have hb : BodyRel body := bodyRel_of_okIds body (by simpa [Event.okIds] using hid2.1)
      refine rwp_mono (insert_rel ok h r body hb (edgesPre_of_ok he inv.mr) inv.sb
        (fun hop => Event.noLoose_insert (hnl2 hop).1)) ?_
      rintro _ u₁ _ u₂ ⟨hu, est, hf, hm⟩
      exact ih false depth u₁ u₂ hrest hid2.2 hu ⟨fun _ => hm trivial, by rw [est]; exact inv.dp, hf.sb inv.sb, hf.rv inv.rv⟩ hnl3

/-! ### the outer scope after the block, open mode: nothing is tainted -/

/-- the event names no forbidden row id (by an edge or as a `go_to` destination) -/
def Event.avoidsF (F : List Str) : Event → Bool
  | .row r => edgesOk F false r.edges && r.dests.all (fun d => !F.contains d)
  | .openGroup edges starting => starting || edgesOk F false edges
  | .closeGroup _ => true
  | .insert r _ => edgesOk F false r.edges

def avoidsOpen (F : List Str) (es : List Event) : Bool := es.all (Event.avoidsF F)

/-- with nothing tainted, `avoids` asks no more than `avoidsOpen`: the flag stays down, and with enough depth
the case of a block closed below the start never arises -/
theorem avoids_of_open {F : List Str} : ∀ (es : List Event) (depth : Nat), es.length ≤ depth →
    avoidsOpen F es = true → avoids F false depth es = true
  | [], _, _, _ => rfl
  | .row r :: es, depth, hl, h => by
    obtain ⟨h1, h2⟩ := Bool.and_eq_true_iff.mp (h : (Event.avoidsF F (.row r) && avoidsOpen F es) = true)
    rw [avoids]
    exact Bool.and_eq_true_iff.mpr ⟨h1, avoids_of_open es depth (Nat.le_of_succ_le hl) h2⟩
  | .openGroup edges starting :: es, depth, hl, h => by
    obtain ⟨h1, h2⟩ :=
      Bool.and_eq_true_iff.mp (h : (Event.avoidsF F (.openGroup edges starting) && avoidsOpen F es) = true)
    rw [avoids]
    exact Bool.and_eq_true_iff.mpr
      ⟨h1, avoids_of_open es (depth + 1) (Nat.le_succ_of_le (Nat.le_of_succ_le hl)) h2⟩
  | .closeGroup _ :: es, 0, hl, _ => absurd hl (Nat.not_succ_le_zero _)
  | .closeGroup _ :: es, depth + 1, hl, h => by
    rw [avoids]
    exact avoids_of_open es depth (Nat.le_of_succ_le_succ hl) h
  | .insert r _ :: es, depth, hl, h => by
    obtain ⟨h1, h2⟩ := Bool.and_eq_true_iff.mp (h : (Event.avoidsF F (.insert r _) && avoidsOpen F es) = true)
    rw [avoids]
    exact Bool.and_eq_true_iff.mpr ⟨h1, avoids_of_open es depth (Nat.le_of_succ_le hl) h2⟩

theorem steps_open (ok : P.Ok) (hall : X.nmAll = true) (hT : ∀ j, ¬ P.T j) : ∀ (es : List Event) (s₁ s₂ : St),
    avoidsOpen X.F es = true → okIdsL es = true → Sim P X s₁ s₂ → SB s₁ → RV s₁ →
    (P.op = true → noLooseL es = true) →
    rwp (steps es) (steps es) s₁ s₂ (fun _ t₁ _ t₂ => Sim P X t₁ t₂) :=
  fun es s₁ s₂ hav hid h hsb hrv hnl =>
    steps_top ok hall es false es.length s₁ s₂ (avoids_of_open es _ (Nat.le_refl _) hav) hid h
      ⟨fun _ x _ => hT x, fun b _ => hT b, hsb, hrv⟩ hnl

end Rpft.Compile
