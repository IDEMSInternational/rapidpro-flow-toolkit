/-
Facts used by the lock-step simulation (`Lemmas/CoreSim.lean`) that do not mention the simulation
relation: lists related elementwise, the out-edges of one row, the edges pass 1 keeps of a row, the test the
compiler stores for a conditional edge, what the node constructors build for the rows of the fragment, the
buckets of a `split_random` row, category names.
-/
import Rpft.Lemmas.CoreKind
import Rpft.Lemmas.CompileExitSteps
import Rpft.Lemmas.RefFlowPass1
import Rpft.Lemmas.CompileChoice
import Mathlib.Data.List.Forall2
import Mathlib.Data.List.Infix
namespace Rpft.CoreSheet
open Rpft Rpft.Compile Rpft.RefFlow

/-! ### lists related elementwise -/

theorem forall2_imp_mem {α β} {R S : α → β → Prop} {l1 : List α} {l2 : List β} (h : List.Forall₂ R l1 l2)
    (himp : ∀ a b, b ∈ l2 → R a b → S a b) : List.Forall₂ S l1 l2 := by
  induction h with
  | nil => exact .nil
  | cons hab _ ih =>
    exact .cons (himp _ _ (by simp) hab) (ih (fun a b hb => himp a b (by simp [hb])))

theorem forall2_map_mem {α β γ δ} {R : α → β → Prop} {S : γ → δ → Prop} {f : α → γ} {g : β → δ} :
    ∀ {l1 : List α} {l2 : List β}, List.Forall₂ R l1 l2 → (∀ a b, a ∈ l1 → R a b → S (f a) (g b)) →
      List.Forall₂ S (l1.map f) (l2.map g) := by
  intro l1 l2 h
  induction h with
  | nil => intro _; exact .nil
  | cons hab _ ih =>
    intro himp
    exact .cons (himp _ _ (by simp) hab) (ih (fun a b ha => himp a b (by simp [ha])))

theorem forall2_any_iff {α β} {R : α → β → Prop} {p : α → Bool} {q : β → Bool} :
    ∀ {l1 : List α} {l2 : List β}, List.Forall₂ R l1 l2 → (∀ a b, R a b → p a = q b) → l1.any p = l2.any q := by
  intro l1 l2 h
  induction h with
  | nil => intro _; rfl
  | cons hab _ ih => intro himp; simp only [List.any_cons, himp _ _ hab, ih himp]

/-! ### the out-edges of one row -/

/-- the out-edges recorded so far that leave row `j`, in order -/
def outOf (st : P1) (j : Nat) : List OutEdge := st.out.reverse.filter (·.src = j)

theorem outOf_cons (st : P1) (new : OutEdge) (j : Nat) :
    outOf { st with out := new :: st.out } j = outOf st j ++ (if new.src = j then [new] else []) := by
  unfold outOf
  simp only [List.reverse_cons, List.filter_append, List.filter_cons, List.filter_nil]
  by_cases h : new.src = j <;> simp [h]

theorem outOf_cons_same (st : P1) (e : OutEdge) :
    outOf { st with out := e :: st.out } e.src = outOf st e.src ++ [e] := by
  rw [outOf_cons, if_pos rfl]

theorem outOf_cons_other (st : P1) (e : OutEdge) (j : Nat) (h : e.src ≠ j) :
    outOf { st with out := e :: st.out } j = outOf st j := by
  rw [outOf_cons, if_neg h, List.append_nil]

theorem outOf_append {st st1 : P1} {l : List OutEdge} (h : st1.out = l.reverse ++ st.out) (j : Nat) :
    outOf st1 j = outOf st j ++ l.filter (·.src = j) := by
  unfold outOf
  rw [h, List.reverse_append, List.reverse_reverse, List.filter_append]

theorem prefix_outOf {stT : P1} {new : OutEdge} {outF : List OutEdge} (h : (new :: stT.out).reverse <+: outF) :
    outOf stT new.src ++ [new] <+: outF.filter (·.src = new.src) := by
  rw [← outOf_cons_same]
  exact h.filter _

theorem mem_out_of_outOf {st : P1} {j : Nat} {e : OutEdge} (he : e ∈ outOf st j) : e ∈ st.out := by
  simpa using (List.mem_filter.mp he).1

theorem outOf_nil_of_src (st : P1) (k : Nat) (h : ∀ e ∈ st.out, e.src < k) : outOf st k = [] := by
  unfold outOf
  rw [List.filter_eq_nil_iff]
  intro e he
  have := h e (by simpa using he)
  simp; omega

theorem testsOf_append_skip (k : Kind) (es : List OutEdge) (e : OutEdge)
    (h : e.cond.blank = true ∨ (k = .wait ∧ isNR e.cond = true)) : testsOf k (es ++ [e]) = testsOf k es := by
  unfold testsOf
  rw [List.filter_append, List.filter_append]
  rcases h with h | ⟨h1, h2⟩
  · simp [h]
  · by_cases hb : e.cond.blank = true
    · simp [hb]
    · simp [hb, h1, h2]

theorem testsOf_append_test (k : Kind) (es : List OutEdge) (e : OutEdge) (hb : e.cond.blank = false)
    (h : ¬ (k = .wait ∧ isNR e.cond = true)) : testsOf k (es ++ [e]) = testsOf k es ++ [e] := by
  unfold testsOf
  rw [List.filter_append, List.filter_append]
  have : (decide (k = Kind.wait) && isNR e.cond) = false := by
    by_cases h1 : k = .wait
    · have : isNR e.cond = false := by
        cases hh : isNR e.cond
        · rfl
        · exact absurd ⟨h1, hh⟩ h
      simp [h1, this]
    · simp [h1]
  simp only [Bool.and_eq_false_iff, decide_eq_false_iff_not] at this
  simp [hb, this]

theorem mem_of_mem_tests {K : Kind} {es : List OutEdge} {e : OutEdge} (he : e ∈ testsOf K es) : e ∈ es :=
  (List.mem_filter.mp (List.mem_filter.mp he).1).1

theorem tests_eq {K : Kind} (hK : K ≠ .wait) (es : List OutEdge) :
    testsOf K es = es.filter (fun e => !e.cond.blank) := by
  unfold testsOf
  rw [decide_eq_false hK]
  simp

theorem tests_action_eq (es : List OutEdge) : testsOf .action es = es.filter (fun e => !e.cond.blank) :=
  tests_eq (by decide) es

theorem tests_noop_eq (es : List OutEdge) : testsOf .noOp es = es.filter (fun e => !e.cond.blank) :=
  tests_eq (by decide) es

theorem tests_append {K : Kind} (hK : K ≠ .wait) (es : List OutEdge) (e : OutEdge) (hb : e.cond.blank = false) :
    testsOf K (es ++ [e]) = testsOf K es ++ [e] :=
  testsOf_append_test K es e hb (fun h => hK h.1)

theorem tests_blank (K : Kind) (es : List OutEdge) (e : OutEdge) (hb : e.cond.blank = true) :
    testsOf K (es ++ [e]) = testsOf K es :=
  testsOf_append_skip _ _ _ (.inl hb)

theorem implVar_prefix {l L : List OutEdge} (hl : l <+: L) (hne : l.filter (fun e => !e.cond.blank) ≠ []) :
    implVar L = implVar l := by
  obtain ⟨t, rfl⟩ := hl
  unfold implVar
  rw [List.filter_append]
  cases hf : l.filter (fun e => !e.cond.blank) with
  | nil => exact absurd hf hne
  | cons a l' => rfl

theorem implVar_append {K : Kind} (hK : K ≠ .wait) (es : List OutEdge) (e : OutEdge) (h : testsOf K es ≠ []) :
    implVar (es ++ [e]) = implVar es :=
  implVar_prefix (List.prefix_append es [e]) (by rwa [tests_eq hK] at h)

theorem blanks_append_blank (es : List OutEdge) (e : OutEdge) (h : e.cond.blank = true) :
    (es ++ [e]).filter (·.cond.blank) = es.filter (·.cond.blank) ++ [e] := by
  simp [List.filter_append, h]

theorem blanks_append_cond (es : List OutEdge) (e : OutEdge) (h : e.cond.blank = false) :
    (es ++ [e]).filter (·.cond.blank) = es.filter (·.cond.blank) := by
  simp [List.filter_append, h]

theorem nrs_append_nr (es : List OutEdge) (e : OutEdge) (hb : e.cond.blank = false) (h : isNR e.cond = true) :
    ((es ++ [e]).filter (fun e => !e.cond.blank)).filter (fun e => isNR e.cond) =
      (es.filter (fun e => !e.cond.blank)).filter (fun e => isNR e.cond) ++ [e] := by
  simp [List.filter_append, hb, h]

theorem nrs_append_other (es : List OutEdge) (e : OutEdge) (h : e.cond.blank = true ∨ isNR e.cond = false) :
    ((es ++ [e]).filter (fun e => !e.cond.blank)).filter (fun e => isNR e.cond) =
      (es.filter (fun e => !e.cond.blank)).filter (fun e => isNR e.cond) := by
  rcases h with h | h
  · simp [List.filter_append, h]
  · by_cases hb : e.cond.blank = true
    · simp [List.filter_append, hb]
    · simp [List.filter_append, hb, h]

theorem toRCond_blank (c : Compile.Cond) : (toRCond c).blank = c.blank := rfl

theorem isNR_toRCond (c : Compile.Cond) : isNR (toRCond c) = decide (Compile.lower c.value = "no response".toList) := rfl

/-! ### pass 1 on the rows of a sheet -/

theorem trivial_toREdge (e : Compile.Edge) : isTrivial (toREdge e) = e.trivial := rfl

theorem dropTrivial_ref (es : List Compile.Edge) :
    ((es.map toREdge).zipIdx.filter fun (p : REdge × Nat) => p.2 = 0 || !isTrivial p.1).map (·.1) =
      (dropTrivial es).map toREdge := by
  unfold dropTrivial
  rw [List.zipIdx_map, List.filter_map, List.map_map, List.map_map]
  congr 1

theorem pass1Row_of_node {c : CRow} {st st' : P1} {k : Nat} (hk : (kindOf c.row.type).isNode = true)
    (h : pass1Row st k (toRRow c) = .ok st') :
    ∃ st1, addEdges st k ((dropTrivial c.row.edges).map fun e => (toREdge e, Target.row k)) = .ok st1 ∧
      { st1 with prev := some k, ids := if c.row.rowId.isEmpty then st1.ids else (c.row.rowId, k) :: st1.ids } = st' := by
  unfold pass1Row at h
  simp only [show (toRRow c).kind = kindOf c.row.type from rfl, show (toRRow c).edges = c.row.edges.map toREdge from rfl,
    dropTrivial_ref, List.map_map] at h
  split at h
  · rename_i hK; rw [hK] at hk; cases hk
  · rename_i hK; rw [hK] at hk; cases hk
  · rename_i hK; rw [hK] at hk; cases hk
  · simp only [Except.bind_eq_ok, Except.pure_eq_ok] at h
    obtain ⟨st1, h1, rfl⟩ := h
    exact ⟨st1, h1, rfl⟩

/-! ### the test the compiler stores for a conditional edge -/

theorem hasGroup_not_noArgs : RefFlow.noArgsTests.contains "has_group".toList = false := by decide +kernel

theorem inputText_nonempty : ("@input.text".toList).isEmpty = false := by decide

/-- the test the compiler stores for a conditional edge leaving a row that is not a `split_by_group` row is
the reference's -/
theorem stored_test_plain (K : Kind) (hK : K ≠ .splitGroup) (cond : Compile.Cond) :
    let ty := if cond.type.isEmpty = true then "has_any_word".toList else cond.type
    (ty, (if RefFlow.noArgsTests.contains ty = true then ([] : List (Option Str)) else [some cond.value]).map (·.getD [])) =
      refTest K (toRCond cond) := by
  intro ty
  unfold refTest
  rw [if_neg hK]
  unfold RefFlow.condTest toRCond
  simp only
  cases RefFlow.noArgsTests.contains ty <;> rfl

theorem args_plain (K : Kind) (hK : K ≠ .splitGroup) (cond : Compile.Cond) :
    ([some cond.value] : List (Option Str)) = argsOf K (toRCond cond) := by
  unfold argsOf
  rw [if_neg hK]
  rfl

/-- the test the compiler stores for a conditional edge is the reference's; the test of a `split_by_group`
row is `has_group` whatever the condition says -/
theorem stored_test (t : Str) (cond : Compile.Cond) :
    let ty0 := if t = "split_by_group".toList then "has_group".toList else cond.type
    let ty := if ty0.isEmpty = true then "has_any_word".toList else ty0
    (ty, (if RefFlow.noArgsTests.contains ty = true then ([] : List (Option Str))
        else (if t = "split_by_group".toList then [none, some cond.value] else [some cond.value])).map (·.getD [])) =
      refTest (kindOf t) (toRCond cond) := by
  have hne : ("has_group".toList).isEmpty = false := by decide
  simp only [type_group]
  by_cases hg : kindOf t = .splitGroup
  · simp only [hg, if_true, hne, Bool.false_eq_true, if_false, hasGroup_not_noArgs]
    rfl
  · simp only [hg, if_false]
    exact stored_test_plain _ hg cond

theorem args_switch (t : Str) (cond : Compile.Cond) :
    (if t = "split_by_group".toList then [none, some cond.value] else [some cond.value] : List (Option Str)) =
      argsOf (kindOf t) (toRCond cond) := by
  simp only [type_group]
  rfl

/-- the operand the compiler passes to `add_choice` leaves the operand of a deciding row alone -/
theorem operand_kept {cond : Compile.Cond} {n : NodeM} {r : SwitchR} {c : CRow} (hr : n.router = some (.sw r))
    (hk : isSwitchKind (kindOf c.row.type))
    (hvar : kindOf c.row.type = .wait → cond.var = []) (hop : r.operand = operandOf c.row) :
    let ow := if c.row.type = "split_by_group".toList ∨ c.row.type = "split_by_value".toList
      then (Compile.operandOf n, (none : Option Nat))
      else if ¬ cond.var.isEmpty = true then (cond.var, none) else ("@input.text".toList, some 0)
    (if ow.1.isEmpty = true then r.operand else ow.1) = r.operand := by
  have hsplit : (if (Compile.operandOf n).isEmpty = true then r.operand else Compile.operandOf n) = r.operand := by
    simp only [Compile.operandOf, hr]
    split <;> rfl
  simp only [type_group, type_value]
  rcases hk with h | h | h
  · simp only [h, reduceCtorEq, or_self, if_false, hvar h]
    have e0 : (if ¬ ([] : Str).isEmpty = true then (([] : Str), (none : Option Nat)) else ("@input.text".toList, some 0)) =
        ("@input.text".toList, some 0) := rfl
    rw [e0]
    show (if ("@input.text".toList).isEmpty = true then r.operand else "@input.text".toList) = r.operand
    rw [inputText_nonempty, if_neg Bool.false_ne_true, hop, operandOf_eq, h]
  · simp only [h, or_true, if_true]
    exact hsplit
  · simp only [h, true_or, if_true]
    exact hsplit

/-! ### machine steps; what the node constructors build -/

theorem mostRecent_root (gs : Array Grp) (m : Nat) (h : gs[0]? = some (.block (List.range' 1 m))) :
    mostRecentIn gs [0] = if m = 0 then none else some m := by
  simp only [mostRecentIn, h]
  cases m with
  | zero => simp
  | succ k =>
    have : (List.range' 1 (k + 1)).getLast? = some (k + 1) := by
      rw [List.range'_concat]; simp; omega
    simp [this]

theorem wp_appendGroup_push (s : St) (grp : Grp) (rowId : Str) (blk : List Nat) (hstack : s.stack = [0])
    (hroot : s.groups[0]? = some (.block blk)) (Q : PUnit → St → Prop) :
    wp (appendGroup s.groups.size rowId) { s with groups := s.groups.push grp } Q ↔
      Q ⟨⟩ { s with groups := (s.groups.push grp).setIfInBounds 0 (.block (blk ++ [s.groups.size])),
                    rowIds := if rowId.isEmpty then s.rowIds else (rowId, s.groups.size) :: s.rowIds } := by
  have hr : (s.groups.push grp)[0]? = some (.block blk) := by
    have := lt_size_of_getElem? hroot
    rw [Array.getElem?_push, if_neg (by omega)]; exact hroot
  rw [wp_appendGroup]
  constructor
  · intro h0; exact h0 0 [] blk hstack hr
  · intro h0 b rest cs hst hg
    have hb : b = 0 := by
      have e : b :: rest = [0] := hst.symm.trans hstack
      injection e
    subst hb
    rw [hr] at hg; injection hg with hg; injection hg with hg; subst hg
    exact h0

theorem rowAction_exact (r : Row) (s : St) :
    wp (rowAction r) s (fun act s' => (∃ k, Bump s s' k) ∧ act.map (·.2) = r.action) := by
  unfold rowAction
  split
  · rename_i a ha
    wp_simp [wp_fresh]
    exact ⟨⟨1, rfl⟩, by simp [ha]⟩
  · rename_i ha
    wp_simp
    exact ⟨⟨0, rfl⟩, by simp [ha]⟩

theorem rowNode_plain (r : Row) (act : Option (Uid × Str)) (s : St) (h : specialTypes.contains r.type = false) :
    wp (rowNode r act) s (fun n s' => (∃ k, Bump s s' k) ∧ n.kind = NodeKind.basic ∧ n.router = none ∧
      n.actions = act.toList ∧ n.dexitDest = Dest.none) := by
  rw [rowNode_eq, kindOf_action h]
  wp_simp
  refine ⟨fun _ => ⟨fun _ => ?_, fun _ => ?_⟩, fun _ => trivial⟩
  · unfold basicNode
    wp_simp [wp_newBasic]
    refine wp_mono nodeUid_spec ?_
    rintro u s1 ⟨⟨j, rfl, _⟩, _⟩
    refine ⟨⟨j + 2, by simp [Bump, Nat.add_assoc]⟩, ?_⟩
    cases act <;> simp [NodeM.withAct]
  · unfold otherNode
    wp_simp [wp_fresh]
    refine wp_mono nodeUid_spec ?_
    rintro u s1 ⟨⟨j, rfl, _⟩, _⟩
    refine ⟨⟨j + 1, by simp [Bump, Nat.add_assoc]⟩, ?_⟩
    cases act <;> simp [NodeM.withAct]

/-- what a freshly built switch router looks like -/
structure FreshSw (sw : SwitchR) (operand : Str) (rn : Option Str) (wait : Option Nat) : Prop where
  operand : sw.operand = operand
  rname : sw.resultName = rn
  wait : sw.wait = wait
  nrSome : sw.noResp.isSome = true ↔ ∃ m, sw.wait = some (m + 1)
  cases : sw.cases = []
  cats : sw.cats = []
  dflt : sw.dflt.dest = Dest.none
  nr : ∀ nr, sw.noResp = some nr → nr.dest = Dest.none
  dname : sw.dflt.name = "Other".toList
  nrname : ∀ nr, sw.noResp = some nr → nr.name = "No Response".toList

theorem newSwitch_fresh (operand : Str) (rn : Option Str) (wait : Option Nat) (s : St) :
    wp (newSwitch operand rn wait) s (fun sw s' => (∃ k, Bump s s' k) ∧ FreshSw sw operand rn wait) := by
  rw [wp_newSwitch]
  rcases wait with _ | _ | m
  · exact ⟨⟨2, rfl⟩, ⟨rfl, rfl, rfl, by simp, rfl, rfl, rfl, (by intro nr h; cases h), rfl, (by intro nr h; cases h)⟩⟩
  · exact ⟨⟨2, rfl⟩, ⟨rfl, rfl, rfl, by simp, rfl, rfl, rfl, (by intro nr h; cases h), rfl, (by intro nr h; cases h)⟩⟩
  · refine ⟨⟨4, rfl⟩, ⟨rfl, rfl, rfl, by simp, rfl, rfl, rfl, ?_, rfl, ?_⟩⟩
    · intro nr h; simp only [Option.some.injEq] at h; subst h; rfl
    · intro nr h; simp only [Option.some.injEq] at h; subst h; rfl

theorem rowNode_switch (r : Row) (act : Option (Uid × Str)) (s : St) (hk : isSwitchKind (kindOf r.type)) :
    wp (rowNode r act) s (fun n s' => (∃ k, Bump s s' k) ∧ n.kind = NodeKind.switch ∧ n.actions = [] ∧
      ∃ sw, n.router = some (.sw sw) ∧
        FreshSw sw (operandOf r) (some r.saveName)
          (if r.type = "wait_for_response".toList then some (timeoutOf r) else none)) := by
  have tail : ∀ (u : Uid) (s1 : St) (j : Nat) (operand : Str) (w : Option Nat), Bump s s1 j →
      wp (newSwitch operand (some r.saveName) w) s1 (fun sw s2 =>
        wp (newRouterNode u NodeKind.switch (RouterM.sw sw)) s2 (fun n s' =>
          (∃ k, Bump s s' k) ∧ n.kind = NodeKind.switch ∧ n.actions = [] ∧
            ∃ sw, n.router = some (.sw sw) ∧ FreshSw sw operand (some r.saveName) w)) := by
    intro u s1 j operand w hb
    subst hb
    refine wp_mono (newSwitch_fresh _ _ _ _) ?_
    rintro sw s2 ⟨⟨k, hb2⟩, hfr⟩; subst hb2
    rw [wp_newRouterNode]
    exact ⟨⟨j + k + 1, by simp [Bump, Nat.add_assoc]⟩, rfl, rfl, sw, rfl, hfr⟩
  rw [rowNode_eq]
  wp_simp
  refine ⟨fun _ => ?_, fun _ => trivial⟩
  simp only [type_wait, operandOf_eq, timeoutOf_eq]
  rcases hk with h | h | h <;> simp only [h, reduceCtorEq, if_true, if_false]
  · unfold waitNode
    wp_simp
    refine wp_mono nodeUid_spec ?_
    rintro u s1 ⟨⟨j, hb, _⟩, _⟩
    constructor
    · intro hemp
      have : (parseNat? r.noResponse).getD 0 = 0 := by unfold parseNat?; rw [if_pos hemp]; rfl
      rw [this]
      exact tail u s1 j _ _ hb
    · intro _
      split
      · rename_i m hm
        wp_simp
        rw [hm]
        exact tail u s1 j _ _ hb
      · wp_simp
  · unfold splitValueNode
    wp_simp
    refine wp_mono nodeUid_spec ?_
    rintro u s1 ⟨⟨j, hb, _⟩, _⟩
    exact ⟨fun _ => trivial, fun _ => tail u s1 j _ _ hb⟩
  · unfold splitGroupNode
    wp_simp
    refine wp_mono nodeUid_spec ?_
    rintro u s1 ⟨⟨j, hb, _⟩, _⟩
    exact tail u s1 j _ _ hb

theorem rowNode_random (r : Row) (act : Option (Uid × Str)) (s : St) (hK : kindOf r.type = .splitRandom) :
    wp (rowNode r act) s (fun n s' => (∃ k, Bump s s' k) ∧ n.kind = NodeKind.random ∧ n.actions = [] ∧
      n.router = some (.rnd { cats := [], resultName := some r.saveName })) := by
  rw [rowNode_eq, hK]
  wp_simp
  refine ⟨fun _ => ?_, fun _ => trivial⟩
  unfold splitRandomNode
  wp_simp [wp_newRouterNode]
  refine wp_mono nodeUid_spec ?_
  rintro u s1 ⟨⟨j, rfl, _⟩, _⟩
  exact ⟨⟨j + 1, by simp [Bump, Nat.add_assoc]⟩, trivial, trivial, trivial⟩

/-! ### the buckets of a `split_random` row -/

/-- one leaving edge: an unnamed bucket is new, a named bucket is new unless the name is in use (then
the bucket takes the edge's target) -/
def bstep (acc : List (Str × Target) × Nat) (e : OutEdge) : List (Str × Target) × Nat :=
  if (bucketName e.cond).isEmpty then (acc.1 ++ [("#".toList ++ RefFlow.natStr acc.2, e.tgt)], acc.2 + 1)
  else if acc.1.any (fun p => decide (p.1 = bucketName e.cond)) then
    (acc.1.map (fun p => if p.1 = bucketName e.cond then (p.1, e.tgt) else p), acc.2)
  else (acc.1 ++ [(bucketName e.cond, e.tgt)], acc.2)

/-- the buckets (name, target) of the edges leaving a `split_random` row, and the number of unnamed
ones -/
def bucketsOf (es : List OutEdge) : List (Str × Target) × Nat := es.foldl bstep ([], 0)

theorem bucketsOf_append (es : List OutEdge) (e : OutEdge) : bucketsOf (es ++ [e]) = bstep (bucketsOf es) e := by
  simp [bucketsOf, List.foldl_append]

/-- names of corresponding buckets: the same explicit name (none of the generated forms), or the two
generated names -/
def NameRel (cn bn : Str) : Prop :=
  (cn = bn ∧ bn ≠ [] ∧ bn.take 7 ≠ "Bucket ".toList ∧ bn.head? ≠ some '#') ∨
  (cn.take 7 = "Bucket ".toList ∧ bn.head? = some '#')

theorem bucketNameOk_spec {nm : Str} (h : bucketNameOk nm = true) (hne : nm ≠ []) :
    nm.take 7 ≠ "Bucket ".toList ∧ nm.head? ≠ some '#' := by
  unfold bucketNameOk at h
  have : nm.isEmpty = false := by cases nm with | nil => exact absurd rfl hne | cons _ _ => rfl
  rw [this, Bool.false_or] at h
  simp only [Bool.not_eq_true', Bool.or_eq_false_iff, decide_eq_false_iff_not] at h
  exact h

theorem NameRel.eq_iff {cn bn nm : Str} (h : NameRel cn bn) (h1 : nm.take 7 ≠ "Bucket ".toList)
    (h2 : nm.head? ≠ some '#') : cn = nm ↔ bn = nm := by
  rcases h with ⟨e, _, _, _⟩ | ⟨e1, e2⟩
  · rw [e]
  · constructor
    · intro e; rw [e] at e1; exact absurd e1 h1
    · intro e; rw [e] at e2; exact absurd e2 h2

theorem bstep_tgt (acc : List (Str × Target) × Nat) (e : OutEdge) (P : Target → Prop) (hP : P e.tgt)
    (h : ∀ b ∈ acc.1, P b.2) : ∀ b ∈ (bstep acc e).1, P b.2 := by
  unfold bstep
  intro b hb
  split at hb
  · simp only [List.mem_append, List.mem_singleton] at hb
    rcases hb with hb | hb
    · exact h b hb
    · rw [hb]; exact hP
  · split at hb
    · obtain ⟨a, ha, e1⟩ := List.mem_map.mp hb
      split at e1
      · rw [← e1]; exact hP
      · rw [← e1]; exact h a ha
    · simp only [List.mem_append, List.mem_singleton] at hb
      rcases hb with hb | hb
      · exact h b hb
      · rw [hb]; exact hP

theorem buckets_tgt (es : List OutEdge) : ∀ b ∈ (bucketsOf es).1, ∃ e ∈ es, e.tgt = b.2 := by
  induction es using List.reverseRecOn with
  | nil => intro b hb; cases hb
  | append_singleton es e ih =>
    rw [bucketsOf_append]
    refine bstep_tgt _ e (fun t => ∃ e' ∈ es ++ [e], e'.tgt = t) ⟨e, by simp, rfl⟩ ?_
    intro b hb
    obtain ⟨e', he', h'⟩ := ih b hb
    exact ⟨e', by simp [he'], h'⟩

theorem uid_iff_name (l : List Cat) (hu : (l.map (·.uid)).Nodup) (hn : (l.map (·.name)).Nodup)
    (c0 a : Cat) (hc0 : c0 ∈ l) (ha : a ∈ l) : a.uid = c0.uid ↔ a.name = c0.name := by
  constructor
  · intro e; rw [eq_of_nodup_map hu ha hc0 e]
  · intro e; rw [eq_of_nodup_map hn ha hc0 e]

theorem take7_bucket (x : Str) : ("Bucket ".toList ++ x).take 7 = "Bucket ".toList :=
  List.take_left' (by decide)

theorem head_hash (x : Str) : ("#".toList ++ x).head? = some '#' := rfl

/-! ### category names -/

theorem catByName_none_of_not_mem (r : SwitchR) (nm : Str) (h : nm ∉ r.allCats.map (·.name)) : r.catByName nm = none := by
  cases hc : r.catByName nm with
  | none => rfl
  | some c0 => exact absurd ((catByName_isSome_iff r nm).mp (by simp [hc])) h

theorem genCatName_go_eq (r : SwitchR) : ∀ (fuel : Nat) (n : Str),
    genCatName.go r fuel n = genName.go (r.allCats.map (·.name)) fuel n := by
  intro fuel
  induction fuel with
  | zero => intro n; rfl
  | succ f ih =>
    intro n
    unfold genCatName.go genName.go
    have : (r.catByName n).isSome = (r.allCats.map (·.name)).contains n := by
      cases h : (r.allCats.map (·.name)).contains n
      · cases h2 : (r.catByName n).isSome
        · rfl
        · have := (catByName_isSome_iff r n).mp h2
          rw [← List.contains_iff_mem, h] at this; cases this
      · exact (catByName_isSome_iff r n).mpr (List.contains_iff_mem.mp h)
    rw [this, ih]

theorem genCatName_eq (r : SwitchR) (args : List (Option Str)) :
    genCatName r args = genName (r.allCats.map (·.name)) args := by
  unfold genCatName genName
  rw [genCatName_go_eq]
  simp

theorem baseNames_plain (K : Kind) (hK : K ≠ .wait) (tmo : Nat) : baseNames K tmo = ["Other".toList] := by
  unfold baseNames
  rw [if_neg (fun h => hK h.1)]

theorem namesFrom_append (k : Kind) (tmo : Nat) : ∀ (l1 l2 : List OutEdge) (tn : List Str),
    namesFrom k tmo tn (l1 ++ l2) = namesFrom k tmo (namesFrom k tmo tn l1) l2 := by
  intro l1
  induction l1 with
  | nil => intro l2 tn; rfl
  | cons e l1 ih => intro l2 tn; simp only [List.cons_append, namesFrom]; exact ih l2 _

theorem namesOk_append (k : Kind) (tmo : Nat) : ∀ (l1 l2 : List OutEdge) (tn : List Str),
    namesOk k tmo tn (l1 ++ l2) = (namesOk k tmo tn l1 && namesOk k tmo (namesFrom k tmo tn l1) l2) := by
  intro l1
  induction l1 with
  | nil => intro l2 tn; simp [namesOk, namesFrom]
  | cons e l1 ih =>
    intro l2 tn
    simp only [List.cons_append, namesOk, namesFrom, ih, Bool.and_assoc]

theorem namesOk_prefix (k : Kind) (tmo : Nat) (l L : List OutEdge) (h : l <+: L) (hok : namesOk k tmo [] L = true) :
    namesOk k tmo [] l = true := by
  obtain ⟨t, rfl⟩ := h
  rw [namesOk_append, Bool.and_eq_true] at hok
  exact hok.1

theorem namesOk_last (k : Kind) (tmo : Nat) (l : List OutEdge) (e : OutEdge) (hok : namesOk k tmo [] (l ++ [e]) = true)
    (hne : e.cond.name ≠ []) : e.cond.name ∉ namesFrom k tmo [] l ++ baseNames k tmo := by
  rw [namesOk_append, Bool.and_eq_true] at hok
  have h2 := hok.2
  simp only [namesOk, Bool.and_true, Bool.or_eq_true, Bool.not_eq_true', List.isEmpty_iff] at h2
  rcases h2 with h2 | h2
  · exact absurd h2 hne
  · intro hm
    rw [List.contains_iff_mem.mpr hm] at h2; cases h2

end Rpft.CoreSheet
