/-
Helper lemmas for C17 / C04: the ids of the rows and their remapping.  Candidate names and row ids are
injective in their index; the uniqueness counter always finds a free name; what the table holds when the temp
ids are pairwise distinct (numbered: 1..n in row order; named: pairwise distinct, none is "start"); each remap
function is characterised once (`Looked`): the renaming by the table when every key it looks up is found,
`KeyError` otherwise; the renaming is injective on the row ids and never yields `"start"` (`remap_spec`).
-/
import Rpft.Export
import Rpft.Lemmas.Dict
import Rpft.Lemmas.ListFacts
namespace Rpft.Export
open Function

variable {U : Type} [DecidableEq U]

theorem natStr_inj {i j : Nat} (h : natStr i = natStr j) : i = j :=
  toList_toString_nat_inj h

theorem natStr_ne_start (i : Nat) : natStr i ≠ startStr := by
  intro h
  have hs : 's' ∈ natStr i := by rw [h]; decide
  simp only [natStr, Nat.toList_repr] at hs
  have := Nat.isDigit_of_mem_toDigits (by omega) (by omega) hs
  revert this
  decide

theorem cand_inj (base : Str) {i j : Nat} (h : cand base i = cand base j) : i = j := by
  simp only [cand] at h
  by_cases hi : i = 0 <;> by_cases hj : j = 0
  · omega
  · simp only [hi, hj, if_true, if_false] at h
    have := List.self_eq_append_right.1 h
    cases this
  · simp only [hi, hj, if_true, if_false] at h
    have := List.self_eq_append_right.1 h.symm
    cases this
  · simp only [hi, hj, if_false] at h
    have := List.append_cancel_left h
    simp only [List.cons.injEq, true_and] at this
    exact natStr_inj this

omit [DecidableEq U] in
theorem rowId_inj (n : NodeX U) {i j : Nat} (h : rowId n i = rowId n j) : i = j :=
  -- the name part of `rowId n i` is `cand n.short i`
  cand_inj n.short (congrArg Prod.snd h)

theorem pickName_not_mem {base : Str} {used : List Str} {new : Str} (h : pickName base used = .ok new) :
    new ∉ used := by
  revert h
  fun_cases pickName base used with
  | case1 k hk => rintro ⟨⟩; simpa using List.find?_some hk
  | case2 => nofun

theorem pickName_ok (base : Str) (used : List Str) : ∃ new, pickName base used = .ok new := by
  unfold pickName
  cases hf : (List.range (used.length + 1)).find? (fun k => decide (cand base k ∉ used)) with
  | some k => exact ⟨_, rfl⟩
  | none =>
    exfalso
    rw [List.find?_eq_none] at hf
    have hsub : (List.range (used.length + 1)).map (cand base) ⊆ used := by
      intro x hx
      obtain ⟨k, hk, e⟩ := List.mem_map.1 hx
      have := hf k hk
      simp only [decide_eq_true_eq, Classical.not_not] at this
      exact e ▸ this
    have hnd : ((List.range (used.length + 1)).map (cand base)).Nodup :=
      List.nodup_range.map _ fun a b hne e => hne (cand_inj base e)
    have := hnd.length_le_of_subset hsub
    simp only [List.length_map, List.length_range] at this
    omega

theorem buildTable_ok (numbered : Bool) (rows : List (RowT U)) (idx : Nat) (d : Dict (TempId U) Str) :
    ∃ d', buildTable numbered idx rows d = .ok d' := by
  fun_induction buildTable numbered idx rows d with
  | case1 _ d => exact ⟨d, rfl⟩
  | case2 _ _ _ _ _ ih => exact ih
  | case3 _ r _ d _ e hp => obtain ⟨new, hn⟩ := pickName_ok r.id.2 (usedValues d); cases hp.symm.trans hn
  | case4 _ _ _ _ _ _ _ ih => exact ih

def vals (d : Dict (TempId U) Str) : List Str := d.map (·.2)

theorem buildTable_spec (numbered : Bool) (rows : List (RowT U)) (idx : Nat) (d d' : Dict (TempId U) Str) :
      (Dict.keys d ++ rows.map (·.id)).Nodup → buildTable numbered idx rows d = .ok d' →
      Dict.keys d' = Dict.keys d ++ rows.map (·.id) ∧
      (numbered = true → vals d' = vals d ++ (List.range rows.length).map (fun i => natStr (idx + i + 1))) ∧
      (numbered = false → (usedValues d).Nodup → (usedValues d').Nodup) := by
  -- a row id that is not yet a key goes to the end of the table
  have set_eq {r : RowT U} {rows : List (RowT U)} {d : Dict (TempId U) Str} (v : Str)
      (hnd : (Dict.keys d ++ (r :: rows).map (·.id)).Nodup) : Dict.set d r.id v = d ++ [(r.id, v)] :=
    Dict.set_of_not_mem (fun hm => (List.nodup_append.1 hnd).2.2 _ hm _ (List.mem_cons_self ..) rfl) v
  fun_induction buildTable numbered idx rows d with
  | case1 _ d => rintro _ ⟨⟩; simp
  | case2 idx r rows d hn ih =>
    intro hnd h
    rw [set_eq _ hnd] at ih h
    obtain ⟨k1, k2, _⟩ := ih (by simpa [Dict.keys] using hnd) h
    refine ⟨by simpa [Dict.keys] using k1, fun _ => ?_, fun hf => by simp [hn] at hf⟩
    rw [k2 hn, List.length_cons, List.range_succ_eq_map]
    simp [vals, List.map_map, Function.comp_def, Nat.add_assoc, Nat.add_comm 1]
  | case3 => nofun
  | case4 idx r rows d hn new hp ih =>
    intro hnd h
    rw [set_eq _ hnd] at ih h
    obtain ⟨k1, _, k3⟩ := ih (by simpa [Dict.keys] using hnd) h
    refine ⟨by simpa [Dict.keys] using k1, fun ht => absurd ht hn, fun hf hu => k3 hf ?_⟩
    have : usedValues (d ++ [(r.id, new)]) = usedValues d ++ [new] := by simp [usedValues]
    rw [this, List.nodup_append]
    exact ⟨hu, List.pairwise_singleton _ _, fun a ha b hb e => pickName_not_mem hp (List.mem_singleton.1 hb ▸ e ▸ ha)⟩

/-! ### the remapping of the rows is a renaming, or a failed lookup -/

/-- the renaming a remapping table performs -/
def sigma (d : Dict (TempId U) Str) (k : TempId U) : Str := (Dict.get d k).getD []

def fromStr (σ : TempId U → Str) : Option (TempId U) → Str
  | none => startStr
  | some k => σ k

/-- a temp-id row with every id replaced -/
def renameRow (σ : TempId U → Str) (r : RowT U) : RowS :=
  { id := σ r.id, payload := r.payload, edges := r.edges.map (fun e => (fromStr σ e.from_, e.label)), goto := r.goto.map σ }

/-- every id a row mentions is a key of the table -/
def RowRefs (keys : List (TempId U)) (r : RowT U) : Prop :=
  r.id ∈ keys ∧ (∀ e ∈ r.edges, ∀ k, e.from_ = some k → k ∈ keys) ∧ ∀ k ∈ r.goto, k ∈ keys

/-- `r` is `val` when all keys are `found`, and `KeyError` otherwise -/
def Looked {α : Type} (r : Except Err α) (found : Prop) (val : α) : Prop :=
  (found ∧ r = .ok val) ∨ (¬ found ∧ r = .error .keyError)

theorem Looked.ok {α : Type} {r : Except Err α} {found : Prop} {val out : α} (h : Looked r found val) (e : r = .ok out) :
    out = val ∧ found := by
  rcases h with ⟨g, e'⟩ | ⟨_, e'⟩ <;> rw [e] at e' <;> cases e'
  exact ⟨rfl, g⟩

theorem Looked.error {α : Type} {r : Except Err α} {found : Prop} {val : α} {x : Err} (h : Looked r found val)
    (e : r = .error x) : x = .keyError := by
  rcases h with ⟨_, e'⟩ | ⟨_, e'⟩ <;> rw [e] at e' <;> cases e'
  rfl

theorem Looked.of_found {α : Type} {r : Except Err α} {found : Prop} {val : α} (h : Looked r found val) (g : found) :
    r = .ok val := by
  rcases h with ⟨_, e⟩ | ⟨ng, _⟩
  · exact e
  · exact absurd g ng

theorem look_looked (d : Dict (TempId U) Str) (k : TempId U) : Looked (look d k) (k ∈ Dict.keys d) (sigma d k) := by
  unfold look sigma
  cases hg : Dict.get d k with
  | none => exact .inr ⟨Dict.get_eq_none_iff.1 hg, rfl⟩
  | some w => exact .inl ⟨Dict.get_isSome_iff.1 (by rw [hg]; rfl), rfl⟩

theorem lookFrom_looked (d : Dict (TempId U) Str) (o : Option (TempId U)) :
    Looked (lookFrom d o) (∀ k, o = some k → k ∈ Dict.keys d) (fromStr (sigma d) o) := by
  cases o with
  | none => exact .inl ⟨fun _ h => (nomatch h), rfl⟩
  | some k =>
    rcases look_looked d k with ⟨g, e⟩ | ⟨g, e⟩
    · exact .inl ⟨fun _ h => Option.some.inj h ▸ g, e⟩
    · exact .inr ⟨fun h => g (h k rfl), e⟩

theorem remapIds_looked (d : Dict (TempId U) Str) (ks : List (TempId U)) :
    Looked (remapIds d ks) (∀ k ∈ ks, k ∈ Dict.keys d) (ks.map (sigma d)) := by
  induction ks with
  | nil => exact .inl ⟨fun _ h => (nomatch h), rfl⟩
  | cons k ks ih =>
    rcases look_looked d k with ⟨g1, e1⟩ | ⟨g1, e1⟩ <;> rcases ih with ⟨g2, e2⟩ | ⟨g2, e2⟩ <;>
      simp only [remapIds, e1, e2, List.forall_mem_cons]
    · exact .inl ⟨⟨g1, g2⟩, rfl⟩
    · exact .inr ⟨fun h => g2 h.2, rfl⟩
    · exact .inr ⟨fun h => g1 h.1, rfl⟩
    · exact .inr ⟨fun h => g1 h.1, rfl⟩

theorem remapEdges_looked (d : Dict (TempId U) Str) (es : List (EdgeT U)) :
    Looked (remapEdges d es) (∀ e ∈ es, ∀ k, e.from_ = some k → k ∈ Dict.keys d)
      (es.map (fun e => (fromStr (sigma d) e.from_, e.label))) := by
  induction es with
  | nil => exact .inl ⟨fun _ h => (nomatch h), rfl⟩
  | cons e es ih =>
    rcases lookFrom_looked d e.from_ with ⟨g1, e1⟩ | ⟨g1, e1⟩ <;> rcases ih with ⟨g2, e2⟩ | ⟨g2, e2⟩ <;>
      simp only [remapEdges, e1, e2, List.forall_mem_cons]
    · exact .inl ⟨⟨g1, g2⟩, rfl⟩
    · exact .inr ⟨fun h => g2 h.2, rfl⟩
    · exact .inr ⟨fun h => g1 h.1, rfl⟩
    · exact .inr ⟨fun h => g1 h.1, rfl⟩

theorem remapRow_looked (d : Dict (TempId U) Str) (r : RowT U) :
    Looked (remapRow d r) (RowRefs (Dict.keys d) r) (renameRow (sigma d) r) := by
  rcases look_looked d r.id with ⟨g1, e1⟩ | ⟨g1, e1⟩ <;> rcases remapIds_looked d r.goto with ⟨g2, e2⟩ | ⟨g2, e2⟩ <;>
    rcases remapEdges_looked d r.edges with ⟨g3, e3⟩ | ⟨g3, e3⟩ <;> simp only [remapRow, e1, e2, e3]
  · exact .inl ⟨⟨g1, g3, g2⟩, rfl⟩
  · exact .inr ⟨fun h => g3 h.2.1, rfl⟩
  · exact .inr ⟨fun h => g2 h.2.2, rfl⟩
  · exact .inr ⟨fun h => g2 h.2.2, rfl⟩
  all_goals exact .inr ⟨fun h => g1 h.1, rfl⟩

theorem remapRows_looked (d : Dict (TempId U) Str) (rows : List (RowT U)) :
    Looked (remapRows d rows) (∀ r ∈ rows, RowRefs (Dict.keys d) r) (rows.map (renameRow (sigma d))) := by
  induction rows with
  | nil => exact .inl ⟨fun _ h => (nomatch h), rfl⟩
  | cons r rows ih =>
    rcases remapRow_looked d r with ⟨g1, e1⟩ | ⟨g1, e1⟩ <;> rcases ih with ⟨g2, e2⟩ | ⟨g2, e2⟩ <;>
      simp only [remapRows, e1, e2, List.forall_mem_cons]
    · exact .inl ⟨⟨g1, g2⟩, rfl⟩
    · exact .inr ⟨fun h => g2 h.2, rfl⟩
    · exact .inr ⟨fun h => g1 h.1, rfl⟩
    · exact .inr ⟨fun h => g1 h.1, rfl⟩

theorem map_sigma_keys {d : Dict (TempId U) Str} (h : (Dict.keys d).Nodup) : (Dict.keys d).map (sigma d) = vals d := by
  simp only [Dict.keys, vals, List.map_map]
  apply List.map_congr_left
  intro kv hm
  simp only [Function.comp, sigma, Dict.get_of_mem (k := kv.1) (v := kv.2) h hm, Option.getD_some]

theorem remap_looked (numbered : Bool) (rows : List (RowT U)) (hnd : (rows.map (·.id)).Nodup) :
    ∃ d : Dict (TempId U) Str, Dict.keys d = rows.map (·.id) ∧
      (numbered = true → vals d = (List.range rows.length).map (fun i => natStr (i + 1))) ∧
      (startStr :: vals d).Nodup ∧
      Looked (remap numbered rows) (∀ r ∈ rows, RowRefs (rows.map (·.id)) r) (rows.map (renameRow (sigma d))) := by
  obtain ⟨d, hd⟩ := buildTable_ok numbered rows 0 []
  obtain ⟨(k1 : Dict.keys d = rows.map (·.id)), k2, k3⟩ := buildTable_spec numbered rows 0 [] d hnd hd
  have k2' : numbered = true → vals d = (List.range rows.length).map (fun i => natStr (i + 1)) := by
    intro hn
    rw [k2 hn]
    simp [vals]
  refine ⟨d, k1, k2', ?_, by simp only [remap, hd]; exact k1 ▸ remapRows_looked d rows⟩
  cases numbered with
  | false => exact k3 rfl (List.pairwise_singleton _ _)
  | true =>
    rw [k2' rfl, List.nodup_cons]
    constructor
    · intro hm
      obtain ⟨i, _, e⟩ := List.mem_map.1 hm
      exact natStr_ne_start _ e
    · exact List.nodup_range.map _ fun a b hne e => hne (Nat.succ.inj (natStr_inj e))

theorem remap_ids {numbered : Bool} {rows : List (RowT U)} {out : List RowS}
    (hnd : (rows.map (·.id)).Nodup) (h : remap numbered rows = .ok out) :
    (numbered = true → out.map (·.id) = (List.range out.length).map (fun i => natStr (i + 1))) ∧
    (numbered = false → (startStr :: out.map (·.id)).Nodup) := by
  obtain ⟨d, k1, k2, k3, hl⟩ := remap_looked numbered rows hnd
  obtain ⟨rfl, _⟩ := hl.ok h
  have hvals : (rows.map (renameRow (sigma d))).map (·.id) = vals d := by
    rw [← map_sigma_keys (k1 ▸ hnd), k1, List.map_map, List.map_map]; rfl
  rw [hvals, List.length_map]
  exact ⟨k2, fun _ => k3⟩

theorem remap_error {numbered : Bool} {rows : List (RowT U)} {e : Err} (h : remap numbered rows = .error e) :
    e = .keyError := by
  unfold remap at h
  obtain ⟨d, hd⟩ := buildTable_ok numbered rows 0 []
  simp only [hd] at h
  exact (remapRows_looked d rows).error h

/-! ### the table is injective and avoids `"start"` -/

theorem sigma_spec {d : Dict (TempId U) Str} (hv : (startStr :: vals d).Nodup) :
    (∀ a ∈ Dict.keys d, sigma d a ≠ startStr) ∧
    (∀ a ∈ Dict.keys d, ∀ b ∈ Dict.keys d, sigma d a = sigma d b → a = b) := by
  have hmem : ∀ a ∈ Dict.keys d, (a, sigma d a) ∈ d := by
    intro a ha
    obtain ⟨v, hg⟩ := Option.isSome_iff_exists.1 (Dict.get_isSome_iff.2 ha)
    rw [sigma, hg]
    exact Dict.mem_of_get hg
  rw [List.nodup_cons] at hv
  constructor
  · intro a ha heq
    apply hv.1
    rw [← heq]
    exact List.mem_map.2 ⟨_, hmem a ha, rfl⟩
  · intro a ha b hb heq
    have h1 := hmem a ha
    have h2 := hmem b hb
    rw [heq] at h1
    exact congrArg Prod.fst (eq_of_nodup_map hv.2 h1 h2 rfl)

theorem remap_spec {numbered : Bool} {rows : List (RowT U)} {out : List RowS}
    (hnd : (rows.map (·.id)).Nodup) (h : remap numbered rows = .ok out) :
    ∃ σ : TempId U → Str, out = rows.map (renameRow σ) ∧
      (∀ r ∈ rows, RowRefs (rows.map (·.id)) r) ∧
      (∀ a ∈ rows.map (·.id), σ a ≠ startStr) ∧
      (∀ a ∈ rows.map (·.id), ∀ b ∈ rows.map (·.id), σ a = σ b → a = b) := by
  obtain ⟨d, k1, _, k3, hl⟩ := remap_looked numbered rows hnd
  obtain ⟨o1, o2⟩ := hl.ok h
  obtain ⟨s1, s2⟩ := sigma_spec (d := d) k3
  exact ⟨sigma d, o1, o2, k1 ▸ s1, k1 ▸ s2⟩

theorem remap_ok_of_refs (numbered : Bool) (rows : List (RowT U)) (hnd : (rows.map (·.id)).Nodup)
    (hrefs : ∀ r ∈ rows, RowRefs (rows.map (·.id)) r) : ∃ out, remap numbered rows = .ok out := by
  obtain ⟨d, _, _, _, hl⟩ := remap_looked numbered rows hnd
  exact ⟨_, hl.of_found hrefs⟩

theorem strippedRows_ok_iff {numbered : Bool} {f : FlowX U} {out : List RowS} :
    strippedRows numbered f = .ok out ↔ ∃ rows, toRowsT f = .ok rows ∧ remap numbered rows = .ok out := by
  unfold strippedRows
  cases toRowsT f <;> simp

end Rpft.Export
