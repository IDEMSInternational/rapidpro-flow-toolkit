/-
The general round trip (C07 `parse_unparse`): the whole row — the root record
with its `field_name_to_header_name` table and the context remap
(`header_name_to_field_name_with_context`) that undoes it when the row is parsed
(`parseRow_absCols`, `top_roundtrip`); then the theorem in terms of the decidable domain predicates
of RowSpec.lean (`goodTop`, `Representable`, `LayoutOk`, `RemapConsistent`: `parse_unparse_gen`)
and its specialisation to row models without a context remap whose tables satisfy the static
side conditions `goodTy` (`parse_unparse_static`).
-/
import Rpft.Lemmas.RowGenMain
namespace Rpft.Row
open Rpft

/-! ### a written row, read back -/

/-- Parsing the row whose headers are the paths `c.1` of `cols`: the context remap sends the header
`keyOf c.1` to `g (keyOf c.1)`, a star-free header with the same path below its first segment `pn`;
the row is then read as the columns `cols` along their own paths, under a header→field table
`h2f'` that does to the first segment of `c.1` what `h2f` does to `pn`. -/
theorem parseRow_absCols {sch : Schema} {fs : List Field} {h2f f2h : List (Str × Str)}
    (h2f' : List (Str × Str)) (htop : sch.top = .model fs h2f f2h) {cols : List (List Str × Str)}
    {g : Str → Str}
    (hctx : ∀ c ∈ cols, ctxRemap sch (absCols [] cols) (keyOf c.1) = .ok (g (keyOf c.1)))
    (hpath : ∀ c ∈ cols, ∃ a pn r, c.1 = a :: r ∧ g (keyOf c.1) = keyOf (pn :: r) ∧ SegOk pn ∧
      (∀ s ∈ r, SegOk s) ∧ remap h2f pn = remap h2f' a)
    (hnd : (cols.map fun c => g (keyOf c.1)).Nodup) :
    parseRow sch (absCols [] cols) =
      match pfold (.model fs h2f' f2h) (.dict []) (inlCols cols) with
      | .error e => .error e
      | .ok t => finish sch.top t := by
  have hmapped : (absCols [] cols).map (fun kv => (g kv.1, kv.2)) =
      cols.map fun c => (g (keyOf c.1), c.2) := by
    simp [absCols, List.map_map, Function.comp]
  have hrekey : rekey sch (absCols [] cols) = .ok (cols.map fun c => (g (keyOf c.1), c.2)) := by
    have := rekey_map sch (absCols [] cols) g (absCols [] cols) []
      (List.forall_mem_map.mpr hctx)
      (by rw [List.nil_append, hmapped, List.map_map]; exact hnd)
    rwa [List.nil_append, hmapped] at this
  have hstar : ∀ kv ∈ (cols.map fun c => (g (keyOf c.1), c.2)), hasStar kv.1 = false := by
    refine List.forall_mem_map.mpr fun c hc => ?_
    obtain ⟨a, pn, r, _, e2, hpn, hr, _⟩ := hpath c hc
    simp only [e2]
    exact hasStar_of_keyChar (keyOf_keyChar _ (List.forall_mem_cons.mpr ⟨hpn, hr⟩))
  have hmm : (cols.map fun c => (g (keyOf c.1), c.2)).map (fun kv => (kv.1, (Sum.inl kv.2 : ColVal))) =
      (inlCols cols).map fun c => (g (keyOf c.1), c.2) := by
    simp [inlCols, List.map_map, Function.comp]
  unfold parseRow
  rw [rowEntries_of_rekey sch _ _ hrekey hstar]
  simp only [buildTree, hmm, htop]
  rw [parse_fold_congr fs h2f h2f' f2h g (inlCols cols) [] (List.forall_mem_map.mpr hpath)]
  cases pfold (.model fs h2f' f2h) (.dict []) (inlCols cols) <;> rfl

/-! ### the root record -/

/-- one column of the row: where it was written, and what the context remap makes of it -/
def ColFact (h2f f2h : List (Str × Str)) (g : Str → Str)
    (pairs : List SPair) (c : List Str × Str) : Prop :=
  ∃ p ∈ pairs, nonDefault p = true ∧ ∃ pn r, c.1 = hdr f2h p :: r ∧
    g (keyOf c.1) = keyOf (pn :: r) ∧ SegOk pn ∧ (∀ s ∈ r, SegOk s) ∧ remap h2f pn = p.1.1

/-- **The whole row round-trips.**  Core statement with the remap conditions as
propositions about the written row `cells`. -/
theorem top_roundtrip (sch : Schema) (lay : Layout) (he : lay.excluded = [])
    (fs : List Field) (h2f f2h : List (Str × Str)) (htop : sch.top = .model fs h2f f2h)
    (hsimple : ∀ f ∈ fs, simpleName f.1 = true) (hnd : (fs.map (·.1)).Nodup)
    (hgf : goodFields fs = true) (kvs : List (Str × Val))
    (hnames : kvs.map Prod.fst = fs.map (·.1)) (hrf : reprFields false fs kvs = true)
    (hlay : layOkFields lay f2h [] kvs fs = true)
    (H1 : (((fs.zip (kvs.map Prod.snd)).filter nonDefault).map (hdr f2h)).Nodup)
    (H2 : ∀ p ∈ fs.zip (kvs.map Prod.snd), nonDefault p = true → simpleName (hdr f2h p) = true)
    (H34 : ∀ cells, unparseRow sch lay (.model kvs) = .ok cells →
      (∀ p ∈ fs.zip (kvs.map Prod.snd), nonDefault p = true → isBasicVal p.2 = true →
        alookup (hdr f2h p) cells = some (printBasic p.2)) →
      ∀ p ∈ fs.zip (kvs.map Prod.snd), nonDefault p = true →
        (hdr f2h p = p.1.1 → remap h2f p.1.1 = p.1.1 ∧
          ∀ k, headSeg k = p.1.1 → ctxRemap sch cells k = .ok k) ∧
        (hdr f2h p ≠ p.1.1 → ∃ pn, ctxRemap sch cells (hdr f2h p) = .ok pn ∧
          simpleName pn = true ∧ remap h2f pn = p.1.1)) :
    ∃ cells, unparseRow sch lay (.model kvs) = .ok cells ∧
      parseRow sch cells = .ok (.model kvs) := by
  -- the virtual header→field table: exactly what the written headers must be sent to
  let pairs := fs.zip (kvs.map Prod.snd)
  let h2f' : List (Str × Str) := (pairs.filter nonDefault).map fun p => (hdr f2h p, p.1.1)
  have hback : ∀ p ∈ pairs, nonDefault p = true → remap h2f' (hdr f2h p) = p.1.1 := fun p hp hpn => by
    have := alookup_of_mem_nodup (l := h2f') (by rw [List.map_map]; exact H1)
      (List.mem_map.mpr ⟨p, List.mem_filter.mpr ⟨hp, hpn⟩, rfl⟩)
    simp [remap, this]
  obtain ⟨cols, trs, hU, hK, hN, hP, hT, hV, hE, hB⟩ :=
    model_fields_spec he (h2f := h2f') (segs := []) (fun f _ => posAll he f.2.1) hnd hgf
      (by intro s hs; simp at hs) hnames hrf hlay H1
      (fun p hp hpn => ⟨H2 p hp hpn, hback p hp hpn⟩)
  have hun : unparseRow sch lay (.model kvs) = .ok (absCols [] cols) := by
    unfold unparseRow
    rw [htop, unparseRec_model he (pfx := []) (by simp [matchesHeaders])]
    have := hU [] (by intro p _ _ kv hkv; simp at hkv)
    rw [zip_map_fst hnames] at this
    simpa [pathStr] using this
  refine ⟨absCols [] cols, hun, ?_⟩
  have hkeysnd : ((absCols [] cols).map Prod.fst).Nodup :=
    absCols_nodup (by simp) (fun c hc => by
      obtain ⟨p, hp, hpn, r, e, hr, _⟩ := hK c hc
      rw [e]
      exact ⟨by simp, List.forall_mem_cons.mpr ⟨segOk_simple (H2 p hp hpn), hr⟩⟩) hN
  have H := H34 _ hun (by
    intro p hp hpn hpb
    apply alookup_of_mem_nodup hkeysnd
    have := hB p hp hpn hpb
    have h2 : (keyOf ([] ++ [hdr f2h p]), printBasic p.2) ∈ absCols [] cols :=
      List.mem_map.mpr ⟨_, this, rfl⟩
    simpa [keyOf_cons, pathStr] using h2)
  -- what the context remap does to every written header
  let g : Str → Str := fun k => match ctxRemap sch (absCols [] cols) k with
    | .ok k' => k'
    | .error _ => k
  have hfact : ∀ c ∈ cols, ColFact h2f f2h g pairs c ∧
      ctxRemap sch (absCols [] cols) (keyOf c.1) = .ok (g (keyOf c.1)) := by
    intro c hc
    obtain ⟨p, hp, hpn, r, e, hr, hr0⟩ := hK c hc
    obtain ⟨hA, hB'⟩ := H p hp hpn
    by_cases hrm : hdr f2h p = p.1.1
    · obtain ⟨h1, h2⟩ := hA hrm
      have hctx : ctxRemap sch (absCols [] cols) (keyOf c.1) = .ok (keyOf c.1) := by
        apply h2
        rw [e, hrm]
        exact headSeg_keyOf (hsimple p.1 (List.of_mem_zip hp).1) r
      have hg : g (keyOf c.1) = keyOf c.1 := by simp only [g, hctx]
      exact ⟨⟨p, hp, hpn, hdr f2h p, r, e, by rw [hg, e], segOk_simple (H2 p hp hpn), hr, hrm ▸ h1⟩,
        by rw [hg]; exact hctx⟩
    · obtain ⟨pn, h1, h2, h3⟩ := hB' hrm
      have hr' := hr0 hrm
      subst hr'
      have hkey : keyOf c.1 = hdr f2h p := by rw [e, keyOf_cons]; simp [pathStr]
      have hg : g (keyOf c.1) = pn := by simp only [g, hkey, h1]
      exact ⟨⟨p, hp, hpn, pn, [], e, by rw [hg, keyOf_cons]; simp [pathStr], segOk_simple h2, hr, h3⟩,
        by rw [hg, hkey]; exact h1⟩
  -- the headers after the context remap are still distinct: they lead back to the fields
  have hinj : ∀ a ∈ cols.map (·.1), ∀ b ∈ cols.map (·.1), g (keyOf a) = g (keyOf b) → a = b := by
    intro a ha b hb hab
    obtain ⟨ca, hca, rfl⟩ := List.mem_map.mp ha
    obtain ⟨cb, hcb, rfl⟩ := List.mem_map.mp hb
    obtain ⟨p, hp, _, pn, r, e1, e2, hpn, hr, hbk⟩ := (hfact ca hca).1
    obtain ⟨q, hq, _, qn, s, f1, f2, hqn, hs, hbk'⟩ := (hfact cb hcb).1
    rw [e2, f2] at hab
    obtain ⟨hpq, hrs⟩ := List.cons.inj (keyOf_inj (by simp) (by simp)
      (List.forall_mem_cons.mpr ⟨hpn, hr⟩) (List.forall_mem_cons.mpr ⟨hqn, hs⟩) hab)
    have hpq' : p = q := mem_zip_eq hnames hnd hp hq (by rw [← hbk, ← hbk', hpq])
    rw [e1, f1, hpq', hrs]
  rw [parseRow_absCols h2f' htop (fun c hc => (hfact c hc).2)
    (fun c hc => by
      obtain ⟨p, hp, hpn', pn, r, e1, e2, hpn, hr, hb⟩ := (hfact c hc).1
      exact ⟨hdr f2h p, pn, r, e1, e2, hpn, hr, by rw [hb, hback p hp hpn']⟩)
    (by
      have := nodup_map_on (fun a => g (keyOf a)) _ hN hinj
      rwa [List.map_map] at this),
    hP [] (fun _ _ => rfl)]
  simp only [List.nil_append, htop, finish, dropNone_of_all (fun kv hkv => (hT kv hkv).2), validate]
  rw [validateFields_of_spec hnames hV]

/-! ### in terms of the decidable domain predicates -/

theorem layoutOk_top {sch : Schema} {lay : Layout} {fs : List Field} {h2f f2h : List (Str × Str)}
    {kvs : List (Str × Val)} (htop : sch.top = .model fs h2f f2h)
    (hl : LayoutOk sch lay (.model kvs) = true) :
    lay.excluded = [] ∧ layOkFields lay f2h [] kvs fs = true := by
  simp only [LayoutOk, Bool.and_eq_true, List.isEmpty_iff, htop] at hl
  refine ⟨hl.1, ?_⟩
  have := hl.2
  unfold layOk at this
  simpa [isBasicTy, matchesHeaders] using this

theorem representable_top {top : Ty} {v : Val} (hr : Representable top v = true) :
    ∃ fs h2f f2h kvs, top = .model fs h2f f2h ∧ v = .model kvs ∧
      kvs.map Prod.fst = fs.map (·.1) ∧ reprFields false fs kvs = true := by
  unfold Representable at hr
  split at hr
  · simp only [Bool.and_eq_true, decide_eq_true_eq] at hr
    exact ⟨_, _, _, _, rfl, rfl, hr⟩
  · cases hr

/-- **C07, general form.** -/
theorem parse_unparse_gen (sch : Schema) (lay : Layout) (v : Val)
    (hg : goodTop sch.top = true) (hr : Representable sch.top v = true)
    (hl : LayoutOk sch lay v = true) (hc : RemapConsistent sch lay v = true) :
    ∃ cells, unparseRow sch lay v = .ok cells ∧ parseRow sch cells = .ok v := by
  obtain ⟨fs, h2f, f2h, kvs, htop, rfl, hnames, hrf⟩ := representable_top hr
  simp only [htop, goodTop, Bool.and_eq_true, List.all_eq_true, decide_eq_true_eq] at hg
  obtain ⟨⟨hsimple, hnd⟩, hgf⟩ := hg
  obtain ⟨he, hlay⟩ := layoutOk_top htop hl
  simp only [RemapConsistent, htop] at hc
  cases hun : unparseRec lay (.model fs h2f f2h) (.model kvs) [] [] with
  | error e => simp [hun] at hc
  | ok cells0 =>
    simp only [hun, Bool.and_eq_true, decide_eq_true_eq, List.all_eq_true] at hc
    obtain ⟨H1, Hall⟩ := hc
    apply top_roundtrip sch lay he fs h2f f2h htop hsimple hnd hgf kvs hnames hrf hlay H1
    · intro p hp hpn
      exact (Hall p (List.mem_filter.mpr ⟨hp, hpn⟩)).1
    · intro cells hcells _ p hp hpn
      have hce : cells = cells0 := by
        unfold unparseRow at hcells
        rw [htop, hun] at hcells
        exact (Except.ok.inj hcells).symm
      subst hce
      have := (Hall p (List.mem_filter.mpr ⟨hp, hpn⟩)).2
      constructor
      · intro hrm
        have hrm' : remap f2h p.1.1 = p.1.1 := hrm
        simp only [hrm', if_true, Bool.and_eq_true, decide_eq_true_eq, List.all_eq_true,
          bne_iff_ne, ne_eq] at this
        exact ⟨this.1, fun k hk => ctxRemap_of_headSeg sch cells hk this.2⟩
      · intro hrm
        have hrm' : ¬ remap f2h p.1.1 = p.1.1 := hrm
        simp only [hrm', if_false] at this
        cases hcr : ctxRemap sch cells (remap f2h p.1.1) with
        | error e => simp [hcr] at this
        | ok pn =>
          simp only [hcr, Bool.and_eq_true, decide_eq_true_eq] at this
          exact ⟨pn, hcr, this.1, this.2⟩

/-- **C07 for row models without a context remap**: the static side conditions `goodTy`
(at every level, the root included: `header_name_to_field_name` undoes
`field_name_to_header_name`, names and headers distinct) are enough. -/
theorem parse_unparse_static (sch : Schema) (lay : Layout) (v : Val)
    (hb : sch.ctxBasic = []) (hm : sch.ctxMain = none)
    (hg : goodTy sch.top = true) (hr : Representable sch.top v = true)
    (hl : LayoutOk sch lay v = true) :
    ∃ cells, unparseRow sch lay v = .ok cells ∧ parseRow sch cells = .ok v := by
  obtain ⟨fs, h2f, f2h, kvs, htop, rfl, hnames, hrf⟩ := representable_top hr
  simp only [htop, goodTy, Bool.and_eq_true] at hg
  obtain ⟨hrm, hgf⟩ := hg
  obtain ⟨he, hlay⟩ := layoutOk_top htop hl
  obtain ⟨hnd, H1, H2⟩ := remapOk_facts hrm hnames
  apply top_roundtrip sch lay he fs h2f f2h htop (fun f hf => ((remapOk_iff.mp hrm).1 f hf).1) hnd hgf kvs hnames hrf hlay H1
    (fun p hp _ => (H2 p hp).1)
  intro cells _ _ p hp hpn
  constructor
  · intro hrm'
    have := (H2 p hp).2
    rw [hrm'] at this
    exact ⟨this, fun k _ => ctxRemap_plain sch hb hm cells k⟩
  · intro _
    exact ⟨hdr f2h p, ctxRemap_plain sch hb hm cells _, (H2 p hp).1, (H2 p hp).2⟩

end Rpft.Row
