/-
What the operations on the arenas (`add_exit` and everything below it, the edges of a row) may
change: they leave the scope — stack of open blocks, row ids, node names — alone, and every node
stays where it is, of the kind it was, without a router if it had none (`Ext`): the three updates of
`CompileExitSteps` respect it.  `Keeps` and `KeepsN` are its two halves.  The few operations that also
define a row id satisfy `RPostR`.
-/
import Rpft.Lemmas.CompileInsertTwin
namespace Rpft.Compile
open Rpft Function

/-- the operation leaves the scope alone and removes no node -/
structure Keeps {α} (m : M α) : Prop where
  k : ∀ s, wp m s (fun _ t => SEq s t ∧ s.nodes.size ≤ t.nodes.size)

/-- every node is still there, of the same kind, and without router if it had none -/
def NK (s t : St) : Prop := ∀ (i : Nat) (n : NodeM), s.nodes[i]? = some n → ∃ n', t.nodes[i]? = some n' ∧ KR n n'

theorem NK.refl (s : St) : NK s s := fun _ n h => ⟨n, h, KR.refl n⟩
theorem NK.trans {s t u : St} (h : NK s t) (h' : NK t u) : NK s u := by
  intro i n hn
  obtain ⟨n1, h1, k1⟩ := h i n hn
  obtain ⟨n2, h2, k2⟩ := h' i n1 h1
  exact ⟨n2, h2, k1.trans k2⟩
theorem NK.of_nodes {s t : St} (h : t.nodes = s.nodes) : NK s t := fun i n hn => ⟨n, by rw [h]; exact hn, KR.refl n⟩
theorem NK.push {s t : St} {m : NodeM} (h : t.nodes = s.nodes.push m) : NK s t :=
  fun i n hn => ⟨n, by rw [h]; exact getElem?_push_of_some hn, KR.refl n⟩
theorem NK.set {s t : St} {i : Nat} {n n' : NodeM} (hn : s.nodes[i]? = some n)
    (h : t.nodes = s.nodes.setIfInBounds i n') (hk : KR n n') : NK s t := by
  intro j m hm
  rw [h, Array.getElem?_setIfInBounds]
  by_cases hij : i = j
  · subst hij
    rw [hn] at hm; injection hm with hm; subst hm
    rw [if_pos rfl, if_pos (lt_size_of_getElem? hn)]
    exact ⟨n', rfl, hk⟩
  · rw [if_neg hij]; exact ⟨m, hm, KR.refl m⟩

theorem NK.size_le {s t : St} (h : NK s t) : s.nodes.size ≤ t.nodes.size := by
  rcases Nat.lt_or_ge t.nodes.size s.nodes.size with hlt | hge
  · obtain ⟨n', hn', _⟩ := h t.nodes.size _ (Array.getElem?_eq_getElem hlt)
    exact absurd (lt_size_of_getElem? hn') (Nat.lt_irrefl _)
  · exact hge

structure KeepsN {α} (m : M α) : Prop where
  k : ∀ s, wp m s (fun _ t => NK s t)

/-- what an operation on the arenas may do -/
def Ext (s t : St) : Prop := SEq s t ∧ NK s t

theorem Ext.pre : Pre Ext := ⟨fun s => ⟨SEq.refl s, NK.refl s⟩, fun h h' => ⟨h.1.trans h'.1, h.2.trans h'.2⟩⟩

theorem Ext.of_bump {s t : St} {k : Nat} (h : Bump s t k) : Ext s t := by
  rw [h]; exact ⟨⟨rfl, rfl, rfl⟩, NK.of_nodes rfl⟩

theorem Ext.set {s t : St} {i : Nat} {n n' : NodeM} (hn : s.nodes[i]? = some n) (hs : SEq s t)
    (h : t.nodes = s.nodes.setIfInBounds i n') (hk : KR n n') : Ext s t := ⟨hs, NK.set hn h hk⟩

theorem Frame.keeps {α} {m : M α} (h : Frame Ext m) : Keeps m :=
  ⟨fun s => wp_mono (h s) fun _ _ e => ⟨e.1, e.2.size_le⟩⟩

theorem Frame.keepn {α} {m : M α} (h : Frame Ext m) : KeepsN m := ⟨fun s => wp_mono (h s) fun _ _ e => e.2⟩

theorem ext_of_bump {α} {m : M α} (h : ∀ s, wp m s (fun _ t => ∃ k, Bump s t k)) : Frame Ext m :=
  fun s => wp_mono (h s) fun _ _ ⟨_, hk⟩ => Ext.of_bump hk

theorem ext_setGrp (i : Nat) (g : Grp) : Frame Ext (setGrp i g) :=
  fun s => (wp_setGrp i g s _).mpr ⟨⟨rfl, rfl, rfl⟩, NK.of_nodes rfl⟩
theorem ext_addNode (n : NodeM) : Frame Ext (addNode n) :=
  fun s => (wp_addNode n s _).mpr ⟨⟨rfl, rfl, rfl⟩, NK.push rfl⟩
theorem ext_addGrp (g : Grp) : Frame Ext (addGrp g) :=
  fun s => (wp_addGrp g s _).mpr ⟨⟨rfl, rfl, rfl⟩, NK.of_nodes rfl⟩
theorem ext_of_swUpd {d : Dest} {f : SwitchR → M SwitchR} (hf : SwUpd d f) (r : SwitchR) : Frame Ext (f r) :=
  ext_of_bump fun s => wp_mono (hf r s) fun _ _ h => h.drew.bump
theorem ext_rowAction (r : Row) : Frame Ext (rowAction r) :=
  ext_of_bump fun s => wp_mono (rowAction_spec r s) fun _ _ h => h.bump
theorem ext_rowNode (r : Row) (act : Option (Uid × Str)) : Frame Ext (rowNode r act) :=
  ext_of_bump fun s => wp_mono (rowNode_spec r act s) fun _ _ h => h.drew.bump

theorem ext_attachRowNode (g : Nat) (nodes : List Nat) (rowType : Str) (rn : NodeM) :
    Frame Ext (attachRowNode g nodes rowType rn) :=
  (ext_addNode rn).bind Ext.pre fun _ => (ext_setGrp _ _).bind Ext.pre fun _ => .pure Ext.pre

theorem Ext.gens : Gens fun _ => Ext where
  pre _ := Ext.pre
  set hn c := Ext.set hn ⟨rfl, rfl, rfl⟩ rfl c.kr
  att _ _ _ := ⟨⟨rfl, rfl, rfl⟩, NK.push rfl⟩
  par _ := ⟨⟨rfl, rfl, rfl⟩, NK.of_nodes rfl⟩
  via _ h := h

theorem ext_addRowEdge (d : Dest) (e : Edge) : Frame Ext (addRowEdge d e) := addRowEdge_chg Ext.gens e

theorem ext_noopEdge (g : Nat) (e : Edge) : Frame Ext (noopEdge g e) := noopEdge_chg Ext.gens e

theorem ext_parseGoto (r : Row) : Frame Ext (parseGoto r) := parseGoto_chg Ext.gens r

theorem keepn_addGrp (g : Grp) : KeepsN (addGrp g) := (ext_addGrp g).keepn

theorem keepn_setCatDestByName (r : SwitchR) (name : Str) (d : Dest) : KeepsN (setCatDestByName r name d) :=
  (ext_of_swUpd (swUpd_byName name d) r).keepn

theorem keepn_setDfltM (d : Dest) (r : SwitchR) : KeepsN (setDfltM d r) := (ext_of_swUpd (swUpd_setDflt d) r).keepn

theorem keepn_attachRowNode' (g : Nat) (nodes : List Nat) (rowType : Str) (rn : NodeM) :
    KeepsN (attachRowNode g nodes rowType rn) := (ext_attachRowNode g nodes rowType rn).keepn

theorem keepn_attachRowNode (g : Nat) (nodes : List Nat) (rowType : Str) (rn : NodeM) :
    KeepsN (attachRowNode g nodes rowType rn) := (ext_attachRowNode g nodes rowType rn).keepn

theorem keepn_noopEdge (g : Nat) (e : Edge) : KeepsN (noopEdge g e) := (ext_noopEdge g e).keepn

theorem keepn_parseGoto (r : Row) : KeepsN (parseGoto r) := (ext_parseGoto r).keepn

theorem keeps_rowAction (r : Row) : Keeps (rowAction r) := (ext_rowAction r).keeps

theorem keeps_rowNode (r : Row) (act : Option (Uid × Str)) : Keeps (rowNode r act) := (ext_rowNode r act).keeps

/-- what an operation that may define the row id `id` does: nothing else to the scope, and no node is removed -/
structure RPostR (id : Str) (s t : St) : Prop where
  stack : t.stack = s.stack
  names : t.names = s.names
  sz : s.nodes.size ≤ t.nodes.size
  ri : ∀ p ∈ t.rowIds, p ∈ s.rowIds ∨ (p.1 = id ∧ id ≠ [])

theorem RPostR.pre (id : Str) : Pre (RPostR id) :=
  ⟨fun s => ⟨rfl, rfl, Nat.le_refl _, fun _ hp => .inl hp⟩,
   fun h h' => ⟨h'.stack.trans h.stack, h'.names.trans h.names, Nat.le_trans h.sz h'.sz, fun p hp => by
    rcases h'.ri p hp with h1 | h1
    · exact h.ri p h1
    · exact .inr h1⟩⟩

theorem RPostR.of_ext {id : Str} {s t : St} (h : Ext s t) : RPostR id s t :=
  ⟨h.1.1, h.1.2.2, h.2.size_le, fun _ hp => .inl (h.1.2.1 ▸ hp)⟩

theorem Frame.rpost {id : Str} {α} {m : M α} (h : Frame Ext m) : Frame (RPostR id) m :=
  h.mono fun _ _ => RPostR.of_ext

theorem rpost_appendGroup (g : Nat) (id : Str) : Frame (RPostR id) (appendGroup g id) := by
  intro s
  rw [wp_appendGroup]
  intro b rest cs _ _
  refine ⟨rfl, rfl, Nat.le_refl _, fun p hp => ?_⟩
  unfold appended at hp
  dsimp only at hp
  split at hp
  · exact .inl hp
  · rename_i hne
    rcases List.mem_cons.mp hp with rfl | hp
    · exact .inr ⟨rfl, fun e => hne (by rw [e]; rfl)⟩
    · exact .inl hp

theorem rpost_parseNoop (edges : List Edge) (id : Str) : Frame (RPostR id) (parseNoop edges id) :=
  (ext_addGrp _).rpost.bind (RPostR.pre id) fun g =>
    (Frame.forM Ext.pre fun x _ => ext_noopEdge g x).rpost.bind (RPostR.pre id) fun _ => rpost_appendGroup g id

theorem rpost_mergeRow (r : Row) (ex : Nat) (act : Str) : Frame (RPostR r.rowId) (mergeRow r ex act) := fun s =>
  wp_mono (mergeRow_eff s) fun _ _ ⟨n, ids, hn, hids, e⟩ => by
    subst e
    refine ⟨rfl, rfl, by simp, fun p hp => ?_⟩
    rcases hids with rfl | ⟨g0, hne, rfl⟩
    · exact .inl hp
    · rcases List.mem_cons.mp hp with rfl | hp
      · exact .inr ⟨rfl, fun e => hne (by rw [e]; rfl)⟩
      · exact .inl hp

end Rpft.Compile
