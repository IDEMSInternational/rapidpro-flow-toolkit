/-
Helper lemmas for C17: the exporter model is equivariant under injective renamings.
-/
import Rpft.Export
import Rpft.Lemmas.Dict
set_option linter.unusedSectionVars false
namespace Rpft.Export
open Function

variable {U V : Type} [DecidableEq U] [DecidableEq V] {ρ : U → V}

theorem mem_map_inj (h : Injective ρ) {a : U} {l : List U} : ρ a ∈ l.map ρ ↔ a ∈ l := by
  constructor
  · intro hm
    obtain ⟨b, hb, e⟩ := List.mem_map.1 hm
    exact h e ▸ hb
  · intro ha
    exact List.mem_map.2 ⟨a, ha, rfl⟩

theorem TempId.map_injective (h : Injective ρ) : Injective (TempId.map (U := U) ρ) := by
  intro a b e
  obtain ⟨a1, a2⟩ := a
  obtain ⟨b1, b2⟩ := b
  simp only [TempId.map, Prod.mk.injEq] at e
  obtain ⟨e1, e2⟩ := e
  subst e2
  cases a1 <;> cases b1 <;> simp [Sum.map] at e1 ⊢
  · exact h e1
  · exact e1

theorem TempId.map_eq_iff (h : Injective ρ) {a b : TempId U} : TempId.map ρ a = TempId.map ρ b ↔ a = b :=
  ⟨fun e => TempId.map_injective h e, fun e => e ▸ rfl⟩

@[simp] theorem NodeX.map_uuid (n : NodeX U) : (NodeX.map ρ n).uuid = ρ n.uuid := rfl
@[simp] theorem NodeX.map_short (n : NodeX U) : (NodeX.map ρ n).short = n.short := rfl
@[simp] theorem NodeX.map_rows (n : NodeX U) : (NodeX.map ρ n).rows = n.rows.map (fun po => (po.1, po.2.map ρ)) := rfl
@[simp] theorem NodeX.map_edges (n : NodeX U) : (NodeX.map ρ n).edges = n.edges.map (fun le => (le.1, le.2.map ρ)) := rfl

theorem findNode_map (h : Injective ρ) (f : FlowX U) (u : U) :
    findNode (mapU ρ f) (ρ u) = (findNode f u).map (NodeX.map ρ) := by
  rw [findNode, mapU, List.find?_map]
  congr 2
  funext n
  exact decide_eq_decide.2 ⟨fun e => h e, congrArg ρ⟩

theorem rowId_map (n : NodeX U) (i : Nat) : rowId (NodeX.map ρ n) i = TempId.map ρ (rowId n i) := by
  simp [rowId, TempId.map, Sum.map]

theorem mkRowsFrom_map (n : NodeX U) (i : Nat) (pe : EdgeT U) (rs : List (Payload × Option U)) :
    mkRowsFrom (NodeX.map ρ n) i (EdgeT.map ρ pe) (rs.map (fun po => (po.1, po.2.map ρ)))
      = (mkRowsFrom n i pe rs).map (RowT.map ρ) := by
  induction rs generalizing i pe with
  | nil => rfl
  | cons r rs ih =>
    obtain ⟨p, o⟩ := r
    simp only [List.map_cons, mkRowsFrom]
    have := ih (i + 1) ⟨some (rowId n i), blankLabel⟩
    simp only [EdgeT.map, Option.map_some, ← rowId_map] at this
    rw [this]
    simp [RowT.map, rowId_map, EdgeT.map]

theorem mkRows_map (n : NodeX U) (pe : EdgeT U) :
    mkRows (NodeX.map ρ n) (EdgeT.map ρ pe) = (mkRows n pe).map (RowT.map ρ) := by
  simp [mkRows, mkRowsFrom_map]

theorem prependEdge_map (h : Injective ρ) (tid : TempId U) (e : EdgeT U) (rows : List (RowT U)) :
    prependEdge (TempId.map ρ tid) (EdgeT.map ρ e) (rows.map (RowT.map ρ))
      = (prependEdge tid e rows).map (RowT.map ρ) := by
  simp only [prependEdge, List.map_map]
  apply List.map_congr_left
  intro r _
  simp only [Function.comp]
  have : (RowT.map ρ r).id = TempId.map ρ r.id := rfl
  rw [this]
  by_cases hr : r.id = tid
  · simp [hr, RowT.map]
  · have : TempId.map ρ r.id ≠ TempId.map ρ tid := fun e => hr (TempId.map_injective h e)
    simp [hr, this]

theorem gotoRow_map (k : Nat) (child : NodeX U) (e : EdgeT U) :
    gotoRow k (NodeX.map ρ child) (EdgeT.map ρ e) = RowT.map ρ (gotoRow k child e) := by
  simp [gotoRow, RowT.map, rowId_map, TempId.map, Sum.map]

/-- `Except.map` spelled out (no monad lemmas needed) -/
def exMap {α β : Type} (g : α → β) : Except Err α → Except Err β
  | .ok a => .ok (g a)
  | .error e => .error e

theorem loop_map (h : Injective ρ) (f : FlowX U)
    (rc : NodeX U → EdgeT U → St U → Except Err (St U))
    (rc' : NodeX V → EdgeT V → St V → Except Err (St V))
    (hrc : ∀ n e s, rc' (NodeX.map ρ n) (EdgeT.map ρ e) (St.map ρ s) = exMap (St.map ρ) (rc n e s))
    (fromId : TempId U) (es : List (Label × Option U)) (st : St U) :
    loop (mapU ρ f) rc' (TempId.map ρ fromId) (es.map (fun le => (le.1, le.2.map ρ))) (St.map ρ st)
      = exMap (St.map ρ) (loop f rc fromId es st) := by
  induction es generalizing st with
  | nil => rfl
  | cons le es ih =>
    obtain ⟨lab, d⟩ := le
    cases d with
    | none => exact ih st
    | some d =>
      simp only [List.map_cons, Option.map_some, loop, findNode_map h]
      cases hfn : findNode f d with
      | none => simp [exMap]
      | some child =>
        simp only [Option.map_some, NodeX.map_uuid]
        have e1 : (⟨some (TempId.map ρ fromId), lab⟩ : EdgeT V) = EdgeT.map ρ ⟨some fromId, lab⟩ := rfl
        have hc : (St.map ρ st).completed = st.completed.map ρ := rfl
        have hv : (St.map ρ st).visited = st.visited.map ρ := rfl
        rw [hc, hv]
        simp only [mem_map_inj h]
        by_cases h1 : child.uuid ∈ st.completed
        · simp only [h1, if_true]
          rw [← ih, e1, rowId_map]
          congr 1
          simp only [St.map, prependEdge_map h]
        · simp only [h1, if_false]
          by_cases h2 : child.uuid ∈ st.visited
          · simp only [h2, if_true]
            rw [← ih, e1, gotoRow_map]
            congr 1
          · simp only [h2, if_false]
            rw [e1, hrc]
            cases rc child ⟨some fromId, lab⟩ st with
            | error e => simp [exMap]
            | ok st' => simpa [exMap] using ih st'

theorem dfs_map (h : Injective ρ) (f : FlowX U) (fuel : Nat) (n : NodeX U) (pe : EdgeT U) (st : St U) :
    dfs (mapU ρ f) fuel (NodeX.map ρ n) (EdgeT.map ρ pe) (St.map ρ st)
      = exMap (St.map ρ) (dfs f fuel n pe st) := by
  induction fuel generalizing n pe st with
  | zero => rfl
  | succ fuel ih =>
    simp only [dfs]
    by_cases hr : n.rows = []
    · simp [hr, exMap]
    · have hr' : ¬ (NodeX.map ρ n).rows = [] := by simpa using hr
      simp only [hr, hr', if_false]
      have hl := loop_map h f (dfs f fuel) (dfs (mapU ρ f) fuel) ih
        (rowId n (n.rows.length - 1)) n.edges.reverse { st with visited := n.uuid :: st.visited }
      have hst : St.map ρ { st with visited := n.uuid :: st.visited }
          = { St.map ρ st with visited := ρ n.uuid :: (St.map ρ st).visited } := by simp [St.map]
      rw [hst, ← rowId_map] at hl
      simp only [NodeX.map_rows, List.length_map, NodeX.map_edges, ← List.map_reverse, NodeX.map_uuid] at hl ⊢
      rw [hl]
      cases loop f (dfs f fuel) (rowId n (n.rows.length - 1)) n.edges.reverse { st with visited := n.uuid :: st.visited } with
      | error e => simp [exMap]
      | ok st2 => simp [exMap, St.map, mkRows_map]

theorem toRowsT_map (h : Injective ρ) (f : FlowX U) :
    toRowsT (mapU ρ f) = exMap (List.map (RowT.map ρ)) (toRowsT f) := by
  cases f with
  | nil => rfl
  | cons n0 f =>
    have := dfs_map h (n0 :: f) ((n0 :: f).length + 1) n0 ⟨none, blankLabel⟩ ⟨[], [], [], 0⟩
    simp only [toRowsT, mapU, List.map_cons, List.length_cons, List.length_map] at this ⊢
    have e0 : (⟨none, blankLabel⟩ : EdgeT V) = EdgeT.map ρ ⟨none, blankLabel⟩ := rfl
    have s0 : (⟨[], [], [], 0⟩ : St V) = St.map ρ ⟨[], [], [], 0⟩ := rfl
    rw [e0, s0, this]
    cases dfs (n0 :: f) (f.length + 1 + 1) n0 ⟨none, blankLabel⟩ ⟨[], [], [], 0⟩ with
    | error e => simp [exMap]
    | ok st => simp [exMap, St.map]

/-! ### the remapping never looks inside a temp id -/

def mapKeys (ρ : U → V) (d : Dict (TempId U) Str) : Dict (TempId V) Str := d.map (fun kv => (TempId.map ρ kv.1, kv.2))

theorem usedValues_map (d : Dict (TempId U) Str) : usedValues (mapKeys ρ d) = usedValues d := by
  simp [usedValues, mapKeys, List.map_map, Function.comp_def]

variable (h : Injective ρ)
include h

theorem dictSet_map (d : Dict (TempId U) Str) (k : TempId U) (v : Str) :
    Dict.set (mapKeys ρ d) (TempId.map ρ k) v = mapKeys ρ (Dict.set d k v) :=
  Dict.set_map_key (TempId.map_injective h) d k v

theorem dictGet_map (d : Dict (TempId U) Str) (k : TempId U) :
    Dict.get (mapKeys ρ d) (TempId.map ρ k) = Dict.get d k :=
  Dict.get_map_key (TempId.map_injective h) d k

theorem buildTable_map (numbered : Bool) (idx : Nat) (rows : List (RowT U)) (d : Dict (TempId U) Str) :
    buildTable numbered idx (rows.map (RowT.map ρ)) (mapKeys ρ d) = exMap (mapKeys ρ) (buildTable numbered idx rows d) := by
  induction rows generalizing idx d with
  | nil => rfl
  | cons r rows ih =>
    have hid : (RowT.map ρ r).id = TempId.map ρ r.id := rfl
    have hid2 : (TempId.map ρ r.id).2 = r.id.2 := rfl
    simp only [List.map_cons, buildTable, hid, hid2, usedValues_map]
    cases numbered with
    | true => simp only [if_true, dictSet_map h, ih]
    | false =>
      simp only [Bool.false_eq_true, if_false]
      cases pickName r.id.2 (usedValues d) with
      | error e => simp [exMap]
      | ok new => simp only [dictSet_map h, ih]

theorem look_map (d : Dict (TempId U) Str) (k : TempId U) :
    look (mapKeys ρ d) (TempId.map ρ k) = look d k := by
  simp [look, dictGet_map h]

theorem lookFrom_map (d : Dict (TempId U) Str) (k : Option (TempId U)) :
    lookFrom (mapKeys ρ d) (k.map (TempId.map ρ)) = lookFrom d k := by
  cases k with
  | none => rfl
  | some k => simp [lookFrom, look_map h]

theorem remapEdges_map (d : Dict (TempId U) Str) (es : List (EdgeT U)) :
    remapEdges (mapKeys ρ d) (es.map (EdgeT.map ρ)) = remapEdges d es := by
  induction es with
  | nil => rfl
  | cons e es ih =>
    simp only [List.map_cons, remapEdges, ih]
    have : (EdgeT.map ρ e).from_ = e.from_.map (TempId.map ρ) := rfl
    rw [this, lookFrom_map h]
    rfl

theorem remapIds_map (d : Dict (TempId U) Str) (ks : List (TempId U)) :
    remapIds (mapKeys ρ d) (ks.map (TempId.map ρ)) = remapIds d ks := by
  induction ks with
  | nil => rfl
  | cons k ks ih => simp only [List.map_cons, remapIds, ih, look_map h]

theorem remapRow_map (d : Dict (TempId U) Str) (r : RowT U) :
    remapRow (mapKeys ρ d) (RowT.map ρ r) = remapRow d r := by
  simp only [remapRow, RowT.map, look_map h, remapIds_map h, remapEdges_map h]

theorem remapRows_map (d : Dict (TempId U) Str) (rs : List (RowT U)) :
    remapRows (mapKeys ρ d) (rs.map (RowT.map ρ)) = remapRows d rs := by
  induction rs with
  | nil => rfl
  | cons r rs ih => simp only [List.map_cons, remapRows, ih, remapRow_map h]

theorem remap_map (numbered : Bool) (rows : List (RowT U)) :
    remap numbered (rows.map (RowT.map ρ)) = remap numbered rows := by
  have := buildTable_map h numbered 0 rows []
  simp only [mapKeys, List.map_nil] at this
  simp only [remap, this]
  cases buildTable numbered 0 rows [] with
  | error e => simp [exMap]
  | ok d => simpa [exMap] using remapRows_map h d rows

theorem strippedRows_map (numbered : Bool) (f : FlowX U) :
    strippedRows numbered (mapU ρ f) = strippedRows numbered f := by
  simp only [strippedRows, toRowsT_map h]
  cases toRowsT f with
  | error e => simp [exMap]
  | ok rows => simpa [exMap] using remap_map h numbered rows

end Rpft.Export
