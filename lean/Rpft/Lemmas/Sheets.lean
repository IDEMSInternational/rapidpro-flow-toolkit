/-
Lemmas for the sheet readers' post-processing (`Rpft/Sheets.lean`): tablib's row validation on rows of
the header count (`Uniform`), `dict(zip(headers, row))` on distinct headers (`odOfPairs` is `Dict.ofList`),
`omit_empty_rows`, and the row loop of `XLSXSheetReader._sanitize` in closed form (`sanitizeRows_eq`): it keeps
exactly the rows `omit_empty_rows` keeps (`keptRows`) and fails exactly when one of them is short.  From it,
what `_sanitize` delivers on any grid (`xlsxSanitize_ok`) and on a rectangular grid of texts (`xlsxSanitize_text`).
-/
import Rpft.Sheets
import Rpft.Lemmas.Csv
import Rpft.Lemmas.Dict
namespace Rpft.Sheets
open Rpft

def Uniform {α β : Type} (hs : List α) (rows : List (List β)) : Prop := ∀ r ∈ rows, r.length = hs.length

theorem width_of_uniform {α β : Type} {hs : List α} {acc : List (List β)}
    (hacc : Uniform hs acc) : width hs acc = hs.length := by
  cases acc with
  | nil => rfl
  | cons a t => exact hacc a (.head _)

theorem validRow_of_uniform {α β : Type} {hs : List α} {acc : List (List β)}
    (hacc : Uniform hs acc) {r : List β} (hr : r.length = hs.length) :
    validRow hs acc r = true := by
  unfold validRow
  rw [width_of_uniform hacc]
  split
  · simpa [Uniform] using hacc
  · simp [hr]

theorem appendAll_ok {α β : Type} (hs : List α) :
    ∀ (rows acc : List (List β)), Uniform hs rows → Uniform hs acc → appendAll hs rows acc = .ok (acc ++ rows) := by
  intro rows
  induction rows with
  | nil => intro acc _ _; simp [appendAll]
  | cons r rs ih =>
    intro acc hrows hacc
    have hr := hrows r (.head _)
    simp only [appendAll, validRow_of_uniform hacc hr, if_true]
    rw [ih (acc ++ [r]) (fun x hx => hrows x (.tail _ hx)) (forall_mem_snoc hacc hr)]
    simp

theorem csvRows_ok (hs : List Str) (hne : hs ≠ []) :
    ∀ (rs acc : List (List Str)), Uniform hs rs → Uniform hs acc → csvRows hs rs acc = .ok (acc ++ rs) := by
  have hpos : hs.length ≠ 0 := fun h0 => hne (List.eq_nil_of_length_eq_zero h0)
  intro rs
  induction rs with
  | nil => intro acc _ _; simp [csvRows]
  | cons r rs ih =>
    intro acc hrs hacc
    have hr : r.length = hs.length := hrs r (by simp)
    -- a record with at least one field is never "blank"
    have hre : r.isEmpty = false := by
      cases r with
      | nil => simp at hr; exact absurd hr.symm hpos
      | cons a t => rfl
    have hw := width_of_uniform hacc
    have hv := validRow_of_uniform hacc hr
    simp only [csvRows, hre, Bool.false_eq_true, if_false, hw, hr, Nat.lt_irrefl, hv, if_true]
    rw [ih (acc ++ [r]) (fun x hx => hrs x (by simp [hx])) (forall_mem_snoc hacc hr)]
    simp

theorem csvRows_error {hs : List Str} : ∀ {rs acc : List (List Str)} {e : SErr},
    csvRows hs rs acc = .error e → e = .invalidDimensions := by
  intro rs
  induction rs with
  | nil => intro acc e h; simp [csvRows] at h
  | cons r rs ih =>
    intro acc e h
    unfold csvRows at h
    split at h
    · exact ih h
    · simp only at h
      generalize (if r.length < width hs acc then padTo (width hs acc) r else r) = r' at h
      split at h
      · exact ih h
      · cases h; rfl

theorem readCsv_error {name : Str} {records : List (List Str)} {e : SErr}
    (h : readCsv name records = .error e) : e = .invalidDimensions := by
  unfold readCsv at h
  split at h
  · cases h
  · split at h
    · cases h
    · rename_i e'' he''
      cases h
      rw [csvRows_error he'']

theorem odInsert_eq (k v : Str) (d : List (Str × Str)) : odInsert k v d = Dict.set d k v := by
  induction d with
  | nil => rfl
  | cons p t ih => simp only [odInsert, Dict.set, ih]

theorem odOfPairs_eq (ps : List (Str × Str)) : odOfPairs ps = Dict.ofList ps := by
  simp only [odOfPairs, Dict.ofList, Dict.update, odInsert_eq]

theorem odOfPairs_nodup (ps : List (Str × Str)) (h : (ps.map Prod.fst).Nodup) :
    odOfPairs ps = ps :=
  (odOfPairs_eq ps).trans (Dict.ofList_of_nodup h)

theorem odOfPairs_zip {hs r : List Str} (hnd : hs.Nodup) (hlen : r.length = hs.length) :
    odOfPairs (hs.zip r) = hs.zip r :=
  odOfPairs_nodup _ (by rw [List.map_fst_zip (Nat.le_of_eq hlen.symm)]; exact hnd)

theorem omitEmptyRows_idem (rows : List (List Str)) :
    omitEmptyRows (omitEmptyRows rows) = omitEmptyRows rows := by
  simp [omitEmptyRows, List.filter_filter]

theorem omitEmptyRows_eq_self_iff (rows : List (List Str)) :
    omitEmptyRows rows = rows ↔ ∀ r ∈ rows, keepRow r = true := by
  unfold omitEmptyRows
  exact List.filter_eq_self

theorem omitEmptyRows_append (a b : List (List Str)) :
    omitEmptyRows (a ++ b) = omitEmptyRows a ++ omitEmptyRows b := by
  simp [omitEmptyRows]

theorem mem_omitEmptyRows {rows : List (List Str)} {r : List Str} :
    r ∈ omitEmptyRows rows ↔ r ∈ rows ∧ keepRow r = true := by
  simp [omitEmptyRows]

theorem cellStr_toXCell (c : Str) : cellStr (toXCell c) = c := by
  unfold toXCell
  cases c with
  | nil => simp [cellStr]
  | cons a t => simp [cellStr]

/-- the rows `_sanitize` keeps: stringified, cut to the header count, the all-empty ones gone -/
def keptRows (n : Nat) (xrows : List (List XVal)) : List (List Str) :=
  omitEmptyRows (xrows.map fun r => (r.map cellStr).take n)

theorem sanitizeRows_eq (hs : List (Option Str)) (hne : hs ≠ []) :
    ∀ (xrows : List (List XVal)) (acc : List (List Str)), Uniform hs acc →
      sanitizeRows hs xrows acc =
        if ∀ r ∈ keptRows hs.length xrows, r.length = hs.length then
          .ok (acc ++ keptRows hs.length xrows)
        else .error .invalidDimensions
  | [], acc, _ => by simp [sanitizeRows, keptRows, omitEmptyRows]
  | r :: rs, acc, hacc => by
    have hpos : hs.length ≠ 0 := fun h0 => hne (List.eq_nil_of_length_eq_zero h0)
    cases hk : keepRow ((r.map cellStr).take hs.length) with
    | false =>
      have hany : ((r.map cellStr).take hs.length).any (fun c => !c.isEmpty) = false := hk
      rw [sanitizeRows]
      simp only [hany, Bool.false_eq_true, if_false, sanitizeRows_eq hs hne rs acc hacc]
      simp [keptRows, omitEmptyRows, hk]
    | true =>
      have hany : ((r.map cellStr).take hs.length).any (fun c => !c.isEmpty) = true := hk
      -- a kept row is not empty, so tablib compares its length with the Dataset's width
      have hnil : ((r.map cellStr).take hs.length).isEmpty = false := by
        cases h : (r.map cellStr).take hs.length with
        | nil => rw [h] at hany; cases hany
        | cons a t => rfl
      have hkept : keptRows hs.length (r :: rs)
          = (r.map cellStr).take hs.length :: keptRows hs.length rs := by
        simp [keptRows, omitEmptyRows, hk]
      rw [sanitizeRows, hkept]
      simp only [hany, if_true, validRow, hnil, Bool.false_eq_true, if_false,
        width_of_uniform hacc, List.forall_mem_cons]
      by_cases hlen : ((r.map cellStr).take hs.length).length = hs.length
      · simp only [hlen, beq_self_eq_true, Bool.or_true, if_true, true_and,
          sanitizeRows_eq hs hne rs _ (forall_mem_snoc hacc hlen)]
        simp
      · rw [if_neg (c := _ ∧ _) (fun h => hlen h.1), if_neg]
        simp only [Bool.or_eq_true, beq_iff_eq]
        exact fun h => h.elim hpos hlen

theorem popTrailingNone_of_last_some {hs : List (Option Str)} {l : Option Str}
    (hl : hs.getLast? = some l) (hsome : l.isSome = true) : popTrailingNone hs = hs := by
  unfold popTrailingNone
  have : hs.reverse.head? = some l := by simpa [List.head?_reverse] using hl
  cases hr : hs.reverse with
  | nil => rw [hr] at this; simp at this
  | cons a t =>
    rw [hr] at this
    simp only [List.head?_cons, Option.some.injEq] at this
    subst this
    rw [List.dropWhile_cons_of_neg (by cases a <;> simp_all), ← hr, List.reverse_reverse]

theorem popTrailingNone_last {hs : List (Option Str)} {l : Option Str}
    (hl : (popTrailingNone hs).getLast? = some l) : l.isSome = true := by
  unfold popTrailingNone at hl
  rw [List.getLast?_reverse] at hl
  have := List.head?_dropWhile_not (fun h : Option Str => h.isNone) hs.reverse
  rw [hl] at this
  cases l with
  | none => simp at this
  | some x => rfl

/-- `g` is how a text arrives as a cell value (`toXCell`, `XVal.str`) -/
theorem xlsxSanitize_text {hs : List (Option Str)} {l : Option Str} (hl : hs.getLast? = some l)
    (hsome : l.isSome = true) {g : Str → XVal} (hg : ∀ c, cellStr (g c) = c) (rows : List (List Str))
    (hrows : Uniform hs rows) :
    xlsxSanitize ⟨some hs, rows.map fun r => r.map g⟩ = .ok ⟨hs, omitEmptyRows rows⟩ := by
  have hne : hs ≠ [] := fun e => by simp [e] at hl
  have hemp : hs.isEmpty = false := by simpa using hne
  have hk : keptRows hs.length (rows.map fun r => r.map g) = omitEmptyRows rows :=
    congrArg omitEmptyRows (map_map_eq_self fun r hr => by
      rw [map_map_eq_self fun c _ => hg c, ← hrows r hr, List.take_length])
  simp only [xlsxSanitize, popTrailingNone_of_last_some hl hsome, hemp, Bool.false_eq_true,
    if_false, sanitizeRows_eq hs hne _ [] nofun, hk, List.nil_append]
  rw [if_pos fun r hr => hrows r (mem_omitEmptyRows.mp hr).1]

theorem xlsxSanitize_ok {g : XGrid} {t : XTable} (h : xlsxSanitize g = .ok t) :
    (∃ l, t.headers.getLast? = some l ∧ l.isSome = true) ∧
      t.rows = keptRows t.headers.length g.rows ∧ Uniform t.headers t.rows := by
  unfold xlsxSanitize at h
  split at h
  · cases h
  · rename_i hs0 _
    simp only at h
    split at h
    · cases h
    · rename_i hemp
      have hne : popTrailingNone hs0 ≠ [] := fun e => hemp (congrArg List.isEmpty e)
      rw [sanitizeRows_eq _ hne _ [] nofun] at h
      split at h
      · rename_i rows hrows
        cases h
        split at hrows
        · rename_i hlen
          cases hrows
          refine ⟨?_, rfl, hlen⟩
          cases hl : (popTrailingNone hs0).getLast? with
          | none => exact absurd (List.getLast?_eq_none_iff.mp hl) hne
          | some l => exact ⟨l, rfl, popTrailingNone_last hl⟩
        · cases hrows
      · cases h

theorem loadCsv_encodeUtf8 (name text : Str) :
    loadCsv name (Csv.encodeUtf8 text) = loadCsvText name text := by
  rw [loadCsv, Csv.utf8_roundtrip]

end Rpft.Sheets
