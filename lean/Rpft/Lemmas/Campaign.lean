/-
Helper lemmas for C19: the generic row loop (`parseRows`, `validateAll`; its outputs are `accepted`) and the
shape both sheet parsers share (`parseSheet`).
-/
import Rpft.Campaign
namespace Rpft.Campaign
open Rpft

theorem validateAll_none_iff {ρ : Type} {v : ρ → Option Exc} {rows : List ρ} :
    validateAll v rows = none ↔ ∀ r ∈ rows, v r = none := by
  induction rows with
  | nil => simp [validateAll]
  | cons r rs ih =>
    unfold validateAll
    cases h : v r with
    | none => simp [ih, h]
    | some e => simp [h]

theorem ite_crit_eq_ok {α : Type} {c : Prop} [Decidable c] {k : Crit} {x : RowRes α} {v : α} :
    (if c then .crit k else x) = .ok v ↔ ¬ c ∧ x = .ok v := by
  split <;> simp [*]

def accepted {ρ α : Type} (f : ρ → RowRes α) (rows : List ρ) : List α :=
  rows.filterMap fun r => match f r with
    | .ok a => some a
    | _ => none

/-- what `parseCampaign` and `parseTriggers` both unfold to: row-model validation of the whole sheet, then the
row loop -/
def parseSheet {ρ α : Type} (v : ρ → Option Exc) (f : ρ → RowRes α) (rows : List ρ) :
    Except Exc (List α × List (Nat × Crit)) :=
  match validateAll v rows with
  | some e => .error e
  | none => parseRows f 0 rows

variable {ρ α : Type} {v : ρ → Option Exc} {f : ρ → RowRes α} {rows : List ρ}

theorem parseRows_ok {i : Nat} {out : List α} {cs : List (Nat × Crit)}
    (h : parseRows f i rows = .ok (out, cs)) :
    out = accepted f rows ∧
    (∀ p ∈ cs, ∃ k, p.1 = i + k ∧ ∃ (h : k < rows.length), f rows[k] = .crit p.2) ∧
    (cs = [] → ∀ r ∈ rows, ∃ a, f r = .ok a) := by
  fun_induction parseRows f i rows generalizing out cs with
  | case1 => cases h; simp [accepted]
  | case2 | case3 | case5 => cases h
  | case4 i r rs c hf o cs' hrec ih =>
    cases h
    obtain ⟨ho, hc, -⟩ := ih hrec
    refine ⟨by simp [accepted, hf, ho], fun p hp => ?_, fun e => by cases e⟩
    rcases List.mem_cons.1 hp with rfl | hp
    · exact ⟨0, rfl, Nat.succ_pos _, hf⟩
    · obtain ⟨k, hk, hlt, hfk⟩ := hc p hp
      exact ⟨k + 1, by omega, Nat.succ_lt_succ hlt, hfk⟩
  | case6 i r rs a hf o cs' hrec ih =>
    cases h
    obtain ⟨ho, hc, hall⟩ := ih hrec
    refine ⟨by simp [accepted, hf, ho], fun p hp => ?_, fun e x hx => ?_⟩
    · obtain ⟨k, hk, hlt, hfk⟩ := hc p hp
      exact ⟨k + 1, by omega, Nat.succ_lt_succ hlt, hfk⟩
    · rcases List.mem_cons.1 hx with rfl | hx
      · exact ⟨a, hf⟩
      · exact hall e x hx

theorem parseRows_of_ok (h : ∀ r ∈ rows, ∃ a, f r = .ok a) :
    ∀ i, parseRows f i rows = .ok (accepted f rows, []) := by
  induction rows with
  | nil => intro i; rfl
  | cons r rs ih =>
    intro i
    obtain ⟨a, ha⟩ := h r (List.mem_cons_self ..)
    simp [parseRows, accepted, ha, ih (fun x hx => h x (List.mem_cons_of_mem _ hx)) (i + 1)]

theorem accepted_of_ok (h : ∀ r ∈ rows, ∃ a, f r = .ok a) :
    (accepted f rows).length = rows.length ∧
    ∀ k (h : k < rows.length) (h' : k < (accepted f rows).length), f rows[k] = .ok (accepted f rows)[k] := by
  induction rows with
  | nil => simp [accepted]
  | cons r rs ih =>
    obtain ⟨a, ha⟩ := h r (List.mem_cons_self ..)
    have := ih (fun x hx => h x (List.mem_cons_of_mem _ hx))
    have e : accepted f (r :: rs) = a :: accepted f rs := by simp [accepted, ha]
    rw [e]
    refine ⟨by simp [this.1], fun k hk hk' => ?_⟩
    cases k with
    | zero => simpa using ha
    | succ k => simpa using this.2 k (by simpa using hk) (by simpa using hk')

theorem parseSheet_ok {res : List α × List (Nat × Crit)} (h : parseSheet v f rows = .ok res) :
    (∀ r ∈ rows, v r = none) ∧ parseRows f 0 rows = .ok res := by
  unfold parseSheet at h
  cases hv : validateAll v rows with
  | some e => simp [hv] at h
  | none => exact ⟨validateAll_none_iff.1 hv, by simpa [hv] using h⟩

theorem parseSheet_rowwise {out : List α} (h : parseSheet v f rows = .ok (out, [])) :
    out.length = rows.length ∧
      ∀ k (hk : k < rows.length) (hk' : k < out.length), f rows[k] = .ok out[k] := by
  obtain ⟨ho, -, hall⟩ := parseRows_ok (parseSheet_ok h).2
  subst ho
  exact accepted_of_ok (hall rfl)

/-- library mode (a critical does not stop the run) -/
theorem parseSheet_library {out : List α} {cs : List (Nat × Crit)} (h : parseSheet v f rows = .ok (out, cs)) :
    out = accepted f rows ∧ ∀ p ∈ cs, ∃ (hk : p.1 < rows.length), f rows[p.1] = .crit p.2 := by
  obtain ⟨ho, hc, -⟩ := parseRows_ok (parseSheet_ok h).2
  refine ⟨ho, fun p hp => ?_⟩
  obtain ⟨k, hk, h⟩ := hc p hp
  rw [Nat.zero_add] at hk
  subst hk
  exact h

theorem parseSheet_accepted_iff :
    (∃ out, parseSheet v f rows = .ok (out, [])) ↔ ∀ r ∈ rows, v r = none ∧ ∃ a, f r = .ok a := by
  constructor
  · rintro ⟨out, h⟩ r hr
    obtain ⟨hv, hp⟩ := parseSheet_ok h
    exact ⟨hv r hr, (parseRows_ok hp).2.2 rfl r hr⟩
  · intro h
    refine ⟨accepted f rows, ?_⟩
    unfold parseSheet
    rw [validateAll_none_iff.2 fun r hr => (h r hr).1]
    exact parseRows_of_ok (fun r hr => (h r hr).2) 0

end Rpft.Campaign
