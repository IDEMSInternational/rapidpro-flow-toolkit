/-
Through the block.  The two runs — the insert row with its nested parser, the twin's begin row, template
rows and end row — are followed phase by phase from the state `s₀` in which the row is read:
the entry row on both sides (`entry_rows`), the rest of the template (`steps_clean`), the return of
the nested parser (`leave_run`), the edges into the block applied on the insert side (`edges_sim`), the
final correspondence (`asimF_glue`) and the closing of the block (`close_sim`); `block_sim` puts them
together: after the insert row / the twin block the two parsers are in corresponding states.
-/
import Rpft.Lemmas.CompileInsertSwap
import Rpft.Lemmas.CompileInsertEvents
namespace Rpft.Compile
open Rpft Function

theorem okIdsL_append (a b : List Event) : okIdsL (a ++ b) = (okIdsL a && okIdsL b) := by
  induction a with
  | nil => simp [okIdsL]
  | cons e es ih => simp [okIdsL, ih, Bool.and_assoc]

theorem ainv_steps {s t : St} (a : AInv plainIds s) {es : List Event} (hid : okIdsL es = true)
    (hr : (steps es).run s = .ok ((), t)) : AInv plainIds t ∧ NExt s.nodes t.nodes :=
  wp_of_run (steps_spec plainIds es ⟨fun _ => hid, fun hf => hf.elim⟩ s a trivial) hr

theorem groupOfEdge_valid {na nt : List Str} {s₀ : St} (hg : Good na nt s₀) {e : Edge} {src : Nat} {s' : St}
    (h : (groupOfEdge e).run s₀ = .ok (some src, s')) : src < s₀.groups.size := by
  refine wp_of_run ((wp_groupOfEdge e s₀ (fun o _ => ∀ x, o = some x → x < s₀.groups.size)).mpr ?_) h src rfl
  split
  · intro x hx; cases hx
  · split
    · intro x hx
      obtain ⟨b, _, cs, hgb, hc⟩ := mostRecentIn_mem' hx
      exact (hg.wf b _ hgb).2 x hc
    · split
      · rename_i g hl
        intro x hx
        cases hx
        exact hg.rv _ (lookupIn_mem hl)
      · trivial

theorem psOf_valid {na nt : List Str} {s₀ : St} (hg : Good na nt s₀) {es : List Edge} {ps : List (Nat × Cond)}
    (h : psOf s₀ es = some ps) : ∀ p ∈ ps, p.1 < s₀.groups.size := by
  intro p hp
  induction es generalizing ps with
  | nil => simp only [psOf, Option.some.injEq] at h; subst h; simp at hp
  | cons e es ih =>
    rcases psOf_cons h with ⟨_, _, h⟩ | ⟨src, s', ps', hge, hps, rfl⟩
    · exact ih h hp
    · rcases List.mem_cons.mp hp with rfl | hp
      · exact groupOfEdge_valid hg hge
      · exact ih hps hp

theorem entryNode_block_row {s : St} {G c i : Nat} {cs l : List Nat} {t : Str}
    (h1 : s.groups[G]? = some (.block (c :: cs))) (h2 : s.groups[c]? = some (.row (i :: l) t)) (f : Nat) :
    wp (entryNode f G) s (fun j _ => j = i) := by
  cases f with
  | zero => exact wp_entryNode_zero ..
  | succ f =>
    simp only [wp_entryNode, h1, Option.some.injEq, forall_eq']
    cases f with
    | zero => exact wp_entryNode_zero ..
    | succ f => exact (wp_entryNode_row h2 f _).mpr rfl

/-- what is known of the state in which the insert row (the twin's begin row) is read -/
structure Start (na nt : List Str) (s₀ : St) : Prop where
  good : Good na nt s₀
  ainv : AInv plainIds s₀
  stk : s₀.stack ≠ []
  names : ∀ p ∈ s₀.names, p.2 < s₀.nodes.size

theorem start_of_run {na nt : List Str} {pre : List Event} {s₀ : St} (hid : okIdsL pre = true)
    (hp : (steps pre).run (initSt na nt) = .ok ((), s₀)) : Start na nt s₀ := by
  refine ⟨good_run hid hp, (ainv_steps (ainv_init plainIds na nt) hid hp).1, fun hst => ?_, names_valid_run hp⟩
  have := (final_binv hp).st.last
  rw [hst] at this
  cases this

section
variable {na nt : List Str} {s₀ : St} {ps : List (Nat × Cond)} {r r₁ : Row} {rest : List Event}

theorem entry_rows (st : Start na nt s₀) (he : EntryRow r₁)
    (hpsv : ∀ p ∈ ps, p.1 < s₀.groups.size) {a₁ a₂ : St}
    (hF₁ : (parseRow r₁).run (enterSt s₀) = .ok ((), a₁))
    (hF₂ : (parseRow (retargetRow r₁)).run (twO s₀ ps) = .ok ((), a₂)) :
    ∃ n kk e₂, a₁ = insA s₀ r₁ n kk ∧ a₂ = twA s₀ e₂ r₁ ∧ AtEntry na nt s₀ ps r₁ n kk e₂ := by
  have hg := st.good
  -- the same node, the same number of identifiers
  obtain ⟨n, kk, hM₁, rfl⟩ := entry_ins he hF₁
  obtain ⟨n', kk', e₂, hM₂, hdn, hE₂, hE2, ha₂⟩ := entry_twin he hg hpsv hF₂
  obtain ⟨en, rfl⟩ := (IdRel.bind (rowAction_rel (ρ := id) r₁) fun act =>
    rowNode_rel (ρ := id) r₁ rfl injective_id act).same hM₁ hM₂ ⟨rfl, rfl, fun _ => rfl⟩
  rw [rnNode_id] at en
  subst en
  -- the identifiers of the entry node; the row gives none (`EntryRow`)
  have hplain : ¬ Invented r₁.nodeUuid := he.nodeUuid_eq ▸ fun h => nomatch h
  have haA := (wp_of_run (parseRow_spec plainIds r₁ ⟨fun _ => hplain, fun hf => hf.elim⟩
    (enterSt s₀) st.ainv trivial) hF₁).1
  have hnids : ∀ x ∈ n'.allIds, IdOk (s₀.next + kk') x :=
    allIds_range haA (hg.dex.push rfl (Nat.le_add_right _ _) (.inl hdn)) s₀.nodes.size n'
      (Array.getElem?_push_size ..)
  exact ⟨n', kk', e₂, rfl, ha₂, hE2, hpsv, hE₂, hnids, haA⟩

theorem leave_run (st : Start na nt s₀) {n : NodeM} {kk : Nat} {e₂ b₁ b₂ z₁ : St}
    (hSR : Sim (PR na nt s₀ kk e₂ r₁ n) (XR s₀) b₁ b₂)
    (hk : HeadKeep (insA s₀ r₁ n kk) b₁) (hnx : NExt (insA s₀ r₁ n kk).nodes b₁.nodes)
    (hL₁ : (insertLeave s₀ s₀.groups.size r).run b₁ = .ok ((), z₁)) :
    b₁.stack = [s₀.groups.size] ∧ ∃ x₁,
      ((dropTrivial r.edges).forM (addRowEdge (.node n.uid))).run (restoreSt b₁ s₀) = .ok ((), x₁) ∧
      (appendGroup s₀.groups.size r.rowId).run x₁ = .ok ((), z₁) := by
  obtain ⟨hlen, i, nn, x₁, hEN, hnn1, hEd₁, hApp₁⟩ := insertLeave_run hL₁
  have hb1stk : b₁.stack = [s₀.groups.size] := by
    rcases hSR.2.tl with h' | ⟨_, h'⟩
    · exact absurd h' st.stk
    · exact eq_singleton_of_getLast? hlen h'
  -- the entry node of the block is the node of the entry row
  obtain ⟨csB, hBG⟩ := hk.2.1 _ _ _ insA_groups_G
  obtain ⟨lB, hBG1⟩ := hk.1 _ _ _ _ insA_groups_G1
  have hi : i = s₀.nodes.size := wp_of_run (entryNode_block_row (s := restoreSt b₁ s₀) hBG hBG1 _) hEN
  subst hi
  obtain ⟨n'', hn''1, hn''2⟩ := hnx s₀.nodes.size n (Array.getElem?_push_size ..)
  have hnn2 : nn.uid = n.uid := Option.some.inj (hn''1.symm.trans hnn1) ▸ hn''2
  rw [hnn2] at hEd₁
  exact ⟨hb1stk, x₁, hEd₁, hApp₁⟩

theorem edges_sim (st : Start na nt s₀) {n : NodeM} {kk : Nat} {e₂ b₁ x₁ : St} (en : AtEntry na nt s₀ ps r₁ n kk e₂)
    (hps : psOf s₀ (dropTrivial r.edges) = some ps) (hB1 : B1Facts na nt s₀ kk b₁)
    (hEd₁ : ((dropTrivial r.edges).forM (addRowEdge (.node n.uid))).run (restoreSt b₁ s₀) = .ok ((), x₁)) :
    ASim (PE na nt s₀ kk b₁ (twT s₀ ps n kk)) e₂ x₁ ∧ SEq (restoreSt b₁ s₀) x₁ := by
  have hg := st.good
  have hAE : ASim _ (twT s₀ ps n kk) (restoreSt b₁ s₀) :=
    (asimE_establish hg (allIds_range st.ainv hg.dex) en hB1).congr
  have hSL : ScopeLike s₀ (restoreSt b₁ s₀) :=
    ⟨rfl, mostRecentIn_congr s₀.stack (fun b hb => hB1.groups b (hg.sb.lt hb))⟩
  have hdE : rnDest (PE na nt s₀ kk b₁ (twT s₀ ps n kk)).ρ (.node n.uid) = .node n.uid := by
    show Dest.node (rhoOf _ n.uid) = _
    rw [rhoOf_idOk (B := s₀.next + kk) (fun k hk => shiftFrom_lt hk) (en.ids _ (List.mem_cons_self ..))]
  exact incoming_rel (PE_ok na nt s₀ kk b₁ _) hdE (fun h => Bool.noConfusion h)
    (fun src hsrc => ⟨shiftFrom_lt (Nat.lt_add_right 2 hsrc), .inl hsrc, Nat.ne_of_lt hsrc⟩)
    (fun e src s' h => groupOfEdge_valid hg h) hps hAE hSL () e₂ () x₁ en.run hEd₁

theorem twin_noop_kept {n : NodeM} {kk : Nat} {e₂ b₁ b₂ x₁ : St} (h : Parts na nt s₀ ps r₁ n kk e₂ b₁ b₂ x₁) :
    b₂.groups[s₀.groups.size + 1]? = some (.noop ps none) := by
  rw [twin_outer_groups h (Nat.succ_ne_self _) (Nat.lt_succ_self _)]
  exact h.entry.noop

theorem inert_kept {n : NodeM} {kk : Nat} {e₂ b₁ b₂ x₁ : St} (h : Parts na nt s₀ ps r₁ n kk e₂ b₁ b₂ x₁)
    (hin : Inert (s₀.groups.size + 1) (twA s₀ e₂ r₁)) : Inert (s₀.groups.size + 1) b₂ := by
  have hgsz := h.entry.gsz
  obtain ⟨ps', hgx', hps'⟩ := hin
  rw [rowAdded_groups_ne (Nat.succ_ne_self _) (hgsz ▸ Nat.lt_succ_self _), h.entry.noop] at hgx'
  cases hgx'
  refine ⟨ps, twin_noop_kept h, fun p hp => ?_⟩
  obtain ⟨nodes, t, hgp, hn⟩ := hps' p hp
  have hplt := h.entry.psv p hp
  rw [rowAdded_groups_ne (Nat.ne_of_lt hplt) (hgsz ▸ Nat.lt_add_right 2 hplt)] at hgp
  refine ⟨nodes, t, (twin_outer_groups h (Nat.ne_of_lt hplt) (Nat.lt_add_right 2 hplt)).trans hgp, fun i hi => ?_⟩
  obtain ⟨m, hn1, hn2⟩ := hn i hi
  exact ⟨m, (twin_outer_nodes h ((h.incoming.closed p.1 _ (.inl hplt) hgp).1 i hi)
    ((h.incoming.wf p.1 _ hgp).1 i hi)).trans hn1, hn2⟩

/-- the scopes after the template correspond — row ids of the template are hidden (`F`), the names are
those of `s₀` — so the block can be appended on both sides -/
theorem close_sim (md : Bool) (st : Start na nt s₀) {F : List Str} {n : NodeM} {kk : Nat} {e₂ b₁ b₂ x₁ z₁ z₂ : St}
    (hs : Sizes s₀ kk e₂ b₁ b₂ x₁) (hA : ASim (PFm md na nt s₀ kk e₂ b₁ x₁ b₂) x₁ b₂)
    (hsx : SEq (restoreSt b₁ s₀) x₁) (hSR : SSim (PR na nt s₀ kk e₂ r₁ n) (XR s₀) b₁ b₂)
    (hstkA : md = false → s₀.stack = [0]) (hFr : md = false → r.rowId ∈ F)
    (hFk : ∀ p ∈ b₁.rowIds, p.1 ∈ F)
    (hNm : ∀ x, x ≠ [] → lookupIn b₂.names x = lookupIn s₀.names x)
    (hApp₁ : (appendGroup s₀.groups.size r.rowId).run x₁ = .ok ((), z₁))
    (hApp₂ : (appendGroup s₀.groups.size r.rowId).run { b₂ with stack := s₀.stack } = .ok ((), z₂)) :
    Sim (PFm md na nt s₀ kk e₂ b₁ x₁ b₂) ⟨[], F, true, b₂.rowIds⟩ z₁ z₂ := by
  have hg := st.good
  have hx1stk : x₁.stack = s₀.stack := hsx.1
  have hxr : x₁.rowIds = s₀.rowIds := hsx.2.1
  have hxn : x₁.names = s₀.names := hsx.2.2
  -- the scope of `s₀` on both sides, below the block all maps are the identity; the template's row ids are hidden
  have hSS : SSim (PFm md na nt s₀ kk e₂ b₁ x₁ b₂) ⟨[], F, true, b₂.rowIds⟩ x₁
      { b₂ with stack := s₀.stack } := {
    stack := by
      show s₀.stack = x₁.stack.map (shiftFrom (s₀.groups.size + 1) 1) ++ []
      rw [hx1stk, List.append_nil, map_eq_self (fun b hb => shiftFrom_lt (Nat.lt_succ_of_lt (hg.sb.lt hb)))]
    stackDG := fun _ _ => trivial
    tl := .inl rfl
    bxs := fun _ _ => trivial
    ss := by
      rw [hx1stk]
      cases hmd : md with
      | false => rw [hstkA hmd]; exact List.pairwise_singleton _ _
      | true => exact hg.ss.imp fun _ ht => Bool.noConfusion (show true = false from ht.1)
    ri := fun id j hidF hl => by
      rw [hxr] at hl
      show lookupIn b₂.rowIds id = some (shiftFrom (s₀.groups.size + 1) 1 j)
      rw [shiftFrom_lt (Nat.lt_succ_of_lt (hg.rv _ (lookupIn_mem hl))),
        hSR.rk2 id (fun p hp e => hidF (e ▸ hFk p hp))]
      exact hl
    riDG := fun _ _ => trivial
    rl := fun p hp hT => by
      rw [hxr] at hp
      exact hT.2.elim (fun h => absurd h (Nat.ne_of_lt (hg.rv p hp))) fun h => absurd h (hg.r0 p hp)
    rk := hxr ▸ hg.rk
    rk2 := fun _ _ => rfl
    nm := fun _ x hx => by
      show lookupIn b₂.names x = (lookupIn x₁.names x).map (swapFrom (s₀.nodes.size + 1) b₁.nodes.size _)
      rw [hxn, hNm x hx]
      cases hl : lookupIn s₀.names x with
      | none => rfl
      | some i => exact congrArg some (swapFrom_lt (Nat.lt_succ_of_lt (st.names _ (lookupIn_mem hl)))).symm
    nmDN := fun _ _ => trivial }
  have hcl := appendGroup_rel (PFm_ok md na nt hs) (Sim.of_parts (t₁ := x₁) (t₂ := { b₂ with stack := s₀.stack }) hA hSS)
    (g := s₀.groups.size) r.rowId trivial (hs.x1groups ▸ hs.blk_lt)
    (fun ht => ⟨fun b hb => by
        rw [hx1stk, hstkA ht.1] at hb; injection hb with hb; subst hb; exact ⟨ht.1, .inr rfl⟩,
      fun _ => hFr ht.1⟩)
  have hγG : (PFm md na nt s₀ kk e₂ b₁ x₁ b₂).γ s₀.groups.size = s₀.groups.size :=
    shiftFrom_lt (Nat.lt_succ_self _)
  rw [hγG] at hcl
  exact (hcl () z₁ () z₂ hApp₁ hApp₂).1

theorem block_sim (md : Bool) (st : Start na nt s₀) (he : EntryRow r₁)
    (hid : okIdsL rest = true) (hnn : noNamesL rest = true) (hps : psOf s₀ (dropTrivial r.edges) = some ps)
    {F : List Str} {a₁ b₁ z₁ a₂ b₂ z₂ : St}
    (hF₁ : (parseRow r₁).run (enterSt s₀) = .ok ((), a₁)) (hR₁ : (steps rest).run a₁ = .ok ((), b₁))
    (hL₁ : (insertLeave s₀ s₀.groups.size r).run b₁ = .ok ((), z₁))
    (hF₂ : (parseRow (retargetRow r₁)).run (twO s₀ ps) = .ok ((), a₂)) (hR₂ : (steps rest).run a₂ = .ok ((), b₂))
    (hC₂ : (closeGroup r.rowId).run b₂ = .ok ((), z₂))
    (hz : ArenaOk z₁)
    (hstkA : md = false → s₀.stack = [0]) (hFr : md = false → r.rowId ∈ F)
    (hPL : md = true → Inert (s₀.groups.size + 1) a₂)
    (hFk : ∀ p ∈ b₁.rowIds, p.1 ∈ F)
    (hNm : ∀ x, x ≠ [] → lookupIn b₂.names x = lookupIn s₀.names x) :
    ∃ kk e₂ x₁, (PFm md na nt s₀ kk e₂ b₁ x₁ b₂).Ok ∧
      Sim (PFm md na nt s₀ kk e₂ b₁ x₁ b₂) ⟨[], F, true, b₂.rowIds⟩ z₁ z₂ ∧
      b₂.groups[s₀.groups.size + 1]? = some (.noop ps none) := by
  have hg := st.good
  obtain ⟨n, kk, e₂, rfl, rfl, en⟩ := entry_rows st he (psOf_valid hg hps) hF₁ hF₂
  -- the rest of the template, in the clean scope
  obtain ⟨hS0, hCL0, hSB0, hRV0⟩ := simR_establish hg en
  obtain ⟨hSR, hEff⟩ := steps_clean rest hid _ (XR s₀) _ _ (PR_ok na nt s₀ _ e₂ _ _) hS0 rfl (.inr hnn)
    hCL0 hSB0 hRV0 (fun h => Bool.noConfusion h) () b₁ () b₂ hR₁ hR₂
  have haB := ainv_steps en.ainv hid hR₁
  obtain ⟨hb1stk, x₁, hEd₁, hApp₁⟩ := leave_run st hSR hEff.hk haB.2 hL₁
  obtain ⟨hAE', hsx⟩ := edges_sim st en hps (.of_sim hSR.1) hEd₁
  have hP : Parts na nt s₀ ps r₁ n kk e₂ b₁ b₂ x₁ := ⟨en, hSR.1, hAE'⟩
  -- the twin's end_block
  have hb2stk : b₂.stack = s₀.groups.size :: s₀.stack := by
    have e := hSR.2.stack
    rw [hb1stk] at e
    exact e.trans (congrArg (· :: s₀.stack) (shiftFrom_lt (Nat.lt_succ_self _)))
  have hApp₂ := closeGroup_run hb2stk hC₂
  -- the final correspondence
  have hAFm := asimF_mode md (asimF_glue hP (allIds_range haB.1 hSR.1.dex) (hz.before_append hApp₁))
    (fun hmd => inert_kept hP (hPL hmd))
  exact ⟨kk, e₂, x₁, PFm_ok md na nt hP.sizes,
    close_sim md st hP.sizes hAFm hsx hSR.2 hstkA hFr hFk hNm hApp₁ hApp₂, twin_noop_kept hP⟩

end

end Rpft.Compile
