/-
The node constructors (`_get_row_node` and friends) are equivariant under a renaming synchronised
with the two counters (`rowNode_rel`); the exit identifier each of them stores in the node (used
only by router-less nodes) was drawn from the counter (`rowNode_dex`).
-/
import Rpft.Lemmas.CompileInsertCalc
import Rpft.Lemmas.CompileArenaNode
namespace Rpft.Compile
open Rpft Function

variable {ρ : Uid → Uid}

theorem nodeUid_rel {given : Str} (hg : ρ given = given) : IdRel ρ ρ (nodeUid given) (nodeUid given) := by
  unfold nodeUid
  refine IdRel.ite (fun _ => IdRel.fresh) (fun _ => IdRel.pure hg.symm)

theorem newBasic_rel (u : Uid) : IdRel ρ (rnNode ρ) (newBasic u) (newBasic (ρ u)) := by
  unfold newBasic
  exact IdRel.bind IdRel.fresh fun _ => IdRel.bind IdRel.fresh fun e2 => IdRel.pure rfl

theorem newRouterNode_rel {u : Uid} {kind : NodeKind} {r : RouterM} :
    IdRel ρ (rnNode ρ) (newRouterNode u kind r) (newRouterNode (ρ u) kind (rnRouter ρ r)) := by
  unfold newRouterNode
  exact IdRel.bind IdRel.fresh fun e => IdRel.pure rfl

theorem rowAction_rel (r : Row) : IdRel ρ (Option.map (rnAct ρ)) (rowAction r) (rowAction r) := by
  unfold rowAction
  cases r.action with
  | none => exact IdRel.pure rfl
  | some a => exact IdRel.bind IdRel.fresh fun au => IdRel.pure rfl

/-! The constructors by row type: the identifier a row gives its node is fixed by the renaming. -/

section
variable (r : Row) (hg : ρ r.nodeUuid = r.nodeUuid)
include hg

theorem basicNode_rel (act : Option (Uid × Str)) :
    IdRel ρ (rnNode ρ) (basicNode r act) (basicNode r (act.map (rnAct ρ))) := by
  unfold basicNode
  refine IdRel.bind (nodeUid_rel hg) fun u => IdRel.bind (newBasic_rel u) fun n => IdRel.pure ?_
  exact rnNode_withAct n act

theorem otherNode_rel (act : Option (Uid × Str)) :
    IdRel ρ (rnNode ρ) (otherNode r act) (otherNode r (act.map (rnAct ρ))) := by
  unfold otherNode
  refine IdRel.bind (nodeUid_rel hg) fun u => IdRel.bind IdRel.fresh fun e => IdRel.pure ?_
  exact rnNode_withAct (ρ := ρ)
    { uid := u, kind := .basic, actions := [], router := none, dexitUid := e, dexitDest := .none } act

theorem splitRandomNode_rel :
    IdRel ρ (rnNode ρ) (splitRandomNode r) (splitRandomNode r) := by
  unfold splitRandomNode
  exact IdRel.bind (nodeUid_rel hg) fun u => newRouterNode_rel

theorem splitGroupNode_rel :
    IdRel ρ (rnNode ρ) (splitGroupNode r) (splitGroupNode r) := by
  unfold splitGroupNode
  exact IdRel.bind (nodeUid_rel hg) fun u => IdRel.bind newSwitch_rel fun sw =>
    newRouterNode_rel

theorem splitValueNode_rel :
    IdRel ρ (rnNode ρ) (splitValueNode r) (splitValueNode r) := by
  unfold splitValueNode
  refine IdRel.bind (nodeUid_rel hg) fun u => ?_
  refine IdRel.ite (fun _ => IdRel.fail_left) fun _ => ?_
  exact IdRel.bind newSwitch_rel fun sw => newRouterNode_rel

theorem waitNode_rel :
    IdRel ρ (rnNode ρ) (waitNode r) (waitNode r) := by
  unfold waitNode
  refine IdRel.bind (nodeUid_rel hg) fun u => ?_
  dsimp only
  split
  · simp only [pure_bind]
    exact IdRel.bind newSwitch_rel fun sw => newRouterNode_rel
  · cases parseNat? r.noResponse with
    | none =>
      exact IdRel.bind (rnA := id) (IdRel.fail_left) fun w =>
        IdRel.bind newSwitch_rel fun sw => newRouterNode_rel
    | some n =>
      simp only [pure_bind]
      exact IdRel.bind newSwitch_rel fun sw => newRouterNode_rel

theorem enterNode_rel (h : Injective ρ) :
    IdRel ρ (rnNode ρ) (enterNode r) (enterNode r) := by
  unfold enterNode
  refine IdRel.bind (nodeUid_rel hg) fun u => IdRel.bind IdRel.fresh fun au =>
    IdRel.bind newSwitch_rel fun sw => ?_
  refine IdRel.bind (addChoice_rel h) fun sw1 => ?_
  refine IdRel.bind (addChoice_rel h) fun sw2 => ?_
  refine IdRel.bind newRouterNode_rel fun n => IdRel.pure ?_
  simp [rnNode, rnAct]

theorem hookNode_rel (h : Injective ρ) :
    IdRel ρ (rnNode ρ) (hookNode r) (hookNode r) := by
  unfold hookNode
  refine IdRel.bind (nodeUid_rel hg) fun u => ?_
  cases r.resultKey with
  | none => exact IdRel.fail_left
  | some key =>
    simp only []
    refine IdRel.bind newSwitch_rel fun sw => ?_
    refine IdRel.bind (addChoice_rel h) fun sw1 => ?_
    refine IdRel.bind newRouterNode_rel fun n => ?_
    refine IdRel.bind IdRel.fresh fun au => IdRel.pure ?_
    simp [rnNode, rnAct]

theorem rowNode_rel (h : Injective ρ) (act : Option (Uid × Str)) :
    IdRel ρ (rnNode ρ) (rowNode r act) (rowNode r (act.map (rnAct ρ))) := by
  unfold rowNode
  refine IdRel.ite (fun _ => ?_) (fun _ => IdRel.fail_left)
  refine IdRel.ite (fun _ => basicNode_rel r hg act) fun _ => ?_
  refine IdRel.ite (fun _ => enterNode_rel r hg h) fun _ => ?_
  refine IdRel.ite (fun _ => hookNode_rel r hg h) fun _ => ?_
  refine IdRel.ite (fun _ => waitNode_rel r hg) fun _ => ?_
  refine IdRel.ite (fun _ => splitValueNode_rel r hg) fun _ => ?_
  refine IdRel.ite (fun _ => splitGroupNode_rel r hg) fun _ => ?_
  refine IdRel.ite (fun _ => splitRandomNode_rel r hg) fun _ => ?_
  exact otherNode_rel r hg act

end

theorem rowNode_dex (r : Row) (act : Option (Uid × Str)) (s : St) :
    wp (rowNode r act) s fun n s' => Below s'.next n.dexitUid :=
  wp_mono (rowNode_spec r act s) fun _ _ h => h.dexitUid

end Rpft.Compile
