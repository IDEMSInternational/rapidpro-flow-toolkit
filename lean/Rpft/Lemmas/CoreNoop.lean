/-
Lock-step simulation, one edge, with `no_op` rows: an edge leaving an ordinary row takes effect at once
(`addExit_simN`); the first edge leaving a `no_op` row makes the remembered edges into it take effect — they lead
to the target of that edge if it is unconditional (`noop_elide_sim`: the row gets no node), to a new router node
if not (`noop_route_sim`), whose first case that edge is —; later edges are edges of that router node
(`nop_edge_sim`).  `noop_leave_sim`: any edge leaving a `no_op` row.
-/
import Rpft.Lemmas.CoreSched
namespace Rpft.CoreSheet
open Rpft Rpft.Compile Rpft.RefFlow

section
variable {rows : List CRow} {M : Maps} {pd : Bool} {kg : Nat} {d : Dest} {tgt : Target} {cond : Compile.Cond} {s : St} {st : P1} {j : Nat}
  {n : NodeM} {c : CRow}
variable (h : Rel rows M pd kg s st) (hj : EdgeFrom rows M kg s j n c) (hro : M.rOf j = none)
  (hk : kindOf c.row.type = .noOp) (hd : EdgeTo M pd kg s.nodes d tgt)
include h hj hro hk hd

/-- an unconditional edge leaving a `no_op` row with a router node: the default category -/
theorem nop_blank_sim {r : SwitchR} (hp : NopSim M s.nodes n c (outOf st j) r) (he : cond.blank = true) :
    wp (noopRouterExit (M.nOf j) d cond) s (EdgePost rows M pd kg tgt cond s st j) := by
  unfold noopRouterExit
  rw [blank_value he]
  simp only [List.isEmpty_nil, if_true]
  rw [wp_updSwitch_sw hj.node hp.router]
  unfold setDfltM
  wp_simp
  refine h.set_node cond hj hro hd { n with router := some (.sw (r.setDflt d)) } rfl 0 (fun hext => ?_)
  have hr := (hp.rsim.ext hext).blank (e := newEdge tgt cond j) he (hd.dest.ext hext)
  refine .nop (r.setDflt d) hk ⟨hp.kind, hp.acts, rfl, ⟨hp.operand.1, fun hne => ?_⟩, hp.rname, hp.wait, hp.noResp, hr.cases,
    hr.casecat, hr.catd, hr.dflt, hr.names.1, hp.names.2⟩
  rw [tests_blank .noOp _ (newEdge tgt cond j) he] at hne
  rw [implVar_append (K := .noOp) (by decide) _ _ hne]
  exact hp.operand.2 hne

/-- a conditional edge leaving a `no_op` row with a router node: a new case and a new category -/
theorem nop_test_sim {r : SwitchR} (hp : NopSim M s.nodes n c (outOf st j) r) (he : cond.blank = false)
    (hval : cond.value ≠ []) (hvne : cond.var ≠ [])
    (hnew : NewTest .noOp (timeoutOf c.row) (outOf st j) (newEdge tgt cond j)) :
    wp (noopRouterExit (M.nOf j) d cond) s (EdgePost rows M pd kg tgt cond s st j) := by
  unfold noopRouterExit
  have hvemp : cond.value.isEmpty = false := List.isEmpty_eq_false_iff.mpr hval
  simp only [hvemp, Bool.false_eq_true, if_false]
  rw [wp_updSwitch_sw hj.node hp.router]
  have hstored := stored_test_plain .noOp (by decide) cond
  rw [← h.args] at hstored
  refine addChoice_test hp.rsim he (.inr ⟨by decide, hp.noResp⟩) hstored (args_plain .noOp (by decide) cond) hnew ?_
  intro r' hop hdf hnr' hw hrn ht
  wp_simp [wp_setNode]
  have hvemp2 : cond.var.isEmpty = false := List.isEmpty_eq_false_iff.mpr hvne
  rw [hvemp2, if_neg Bool.false_ne_true] at hop
  refine h.set_node cond hj hro hd { n with router := some (.sw r') } rfl 3 (fun hext => ?_)
  have hr := ht _ hext (hd.dest.ext hext)
  exact .nop r' hk ⟨hp.kind, hp.acts, rfl, ⟨by rw [hop]; exact hvne, fun _ => by rw [hop]; exact hnew.var (.inr rfl)⟩,
    by rw [hrn]; exact hp.rname, by rw [hw]; exact hp.wait, by rw [hnr']; exact hp.noResp, hr.cases, hr.casecat,
    hr.catd, hr.dflt, hr.names.1, by rw [hdf]; exact hp.names.2⟩

end

theorem NodeSim.nop_of_kind {M : Maps} {ns : Array NodeM} {n : NodeM} {c : CRow} {post : List Str} {es : List OutEdge}
    (hk : kindOf c.row.type = .noOp) (hs : NodeSim M ns n c post es) : ∃ r, NopSim M ns n c es r := by
  cases hs with
  | plain hk' _ => rw [hk] at hk'; cases hk'
  | sw r hk' _ => rcases hk' with h | h | h <;> rw [hk] at h <;> cases h
  | fix r sc hk' _ => rcases hk' with h | h | h <;> rw [hk] at h <;> cases h
  | rnd r hk' _ => rw [hk] at hk'; cases hk'
  | nop r _ hp => exact ⟨r, hp⟩

theorem Rel.nop_node {rows : List CRow} {M : Maps} {pd : Bool} {kg : Nat} {s : St} {st : P1} (h : Rel rows M pd kg s st)
    {N : Nat} {cN : CRow} (hN : N < kg) (hcN : rows[N]? = some cN) (hnN : isNoop cN = true) (hel : M.el N = false) :
    ∃ n r, EdgeFrom rows M kg s N n cN ∧ NopSim M s.nodes n cN (outOf st N) r := by
  obtain ⟨n, hn, hsim⟩ := h.node N cN ⟨.inl hN, hcN, isNodeRow_of_noop hnN, hel⟩
  rw [h.rnoop N cN hcN hnN] at hsim
  generalize hro0 : (none : Option Nat) = ro0 at hsim
  cases hsim with
  | impl _ _ _ _ _ => cases hro0
  | one hsim =>
    obtain ⟨r, hp⟩ := hsim.nop_of_kind (kind_of_noop hnN)
    exact ⟨n, r, ⟨hN, hn, hcN, isNodeRow_of_noop hnN, hel⟩, hp⟩

theorem nop_edge_sim {rows : List CRow} {outF : List OutEdge} (g : Good rows outF) {M : Maps} {pd : Bool} {kg : Nat} {d : Dest}
    {tgt : Target} (cond : Compile.Cond) {s : St} {st : P1} {N : Nat} {cN : CRow} (h : Rel rows M pd kg s st) (hN : N < kg)
    (hcN : rows[N]? = some cN) (hnN : isNoop cN = true) (hel : M.el N = false) (ht : EdgeTo M pd kg s.nodes d tgt)
    (hpre : outOf st N ++ [newEdge tgt cond N] <+: outF.filter (·.src = N)) :
    wp (noopRouterExit (M.nOf N) d cond) s (EdgePost rows M pd kg tgt cond s st N) := by
  have hkN := kind_of_noop hnN
  obtain ⟨n, r, hj, hp⟩ := h.nop_node hN hcN hnN hel
  have hroN := h.rnoop N cN hcN hnN
  by_cases he : cond.blank = true
  · exact nop_blank_sim h hj hroN hkN ht hp he
  · have he' : cond.blank = false := by simpa using he
    have heb : (newEdge tgt cond N).cond.blank = false := by simpa [toRCond_blank] using he'
    obtain ⟨hvne, hval⟩ := g.noop_cond (tgt := tgt) hcN hnN (List.mem_filter.mp (hpre.subset (by simp))).1 he'
    exact nop_test_sim h hj hroN hkN ht hp he' hval hvne
      (g.newTest hcN hkN (.inr (.inr rfl)) hpre heb (tests_append (by decide) _ _ heb))

/-- the ghost map after the `no_op` row `N` has been left: its sources lead to arena node `x` -/
def unfreshM (M : Maps) (N x : Nat) : Maps :=
  { M with nOf := fun t => if t = N then x else M.nOf t, fr := fun t => if t = N then false else M.fr t }

theorem unfreshM_nOf (M : Maps) (N x t : Nat) (h : t ≠ N) : (unfreshM M N x).nOf t = M.nOf t := by
  simp [unfreshM, h]

theorem unfreshM_left (M : Maps) (N x : Nat) : LeftAt M (unfreshM M N x) N :=
  ⟨unfreshM_nOf M N x, fun _ _ => rfl, fun _ => rfl⟩

theorem unfreshM_mext (M : Maps) (N x : Nat) (hN : M.fr N = true) : MExt M (unfreshM M N x) :=
  (unfreshM_left M N x).mext hN

/-- the ghost entries of a `no_op` row `N` may change as long as it owns no node and no recorded edge leads to it -/
theorem Rel.ghost_noop {rows : List CRow} {M M' : Maps} {pd : Bool} {kg : Nat} {s : St} {st : P1}
    (h : Rel rows M pd kg s st) {N : Nat} (hN : NoopRow rows N)
    (hn : ∀ j, j ≠ N → M'.nOf j = M.nOf j) (hr : M'.rOf = M.rOf) (hel : ∀ j, j ≠ N → M'.el j = M.el j)
    (hfr : ∀ j, j ≠ N → M'.fr j = M.fr j) (helN : M'.el N = true) (hfrN : M'.fr N = true → N < kg)
    (htg : ∀ e ∈ st.out, ∀ t, e.tgt = Target.row t → t ≠ N) : Rel rows M' pd kg s st := by
  have hnn : ∀ j c, rows[j]? = some c → isNoop c = false → j ≠ N := fun j c hc hn' => ne_of_noop hc hn' hN
  -- `N` owns no node: the step is local to a row without a footprint
  have hval : ∀ j c, Valid rows M' pd kg j c → j ≠ N ∧ Valid rows M pd kg j c := fun j c hv => by
    have hj : j ≠ N := fun e => by have := hv.2.2.2; rw [e, helN] at this; cases this
    exact ⟨hj, hv.1, hv.2.1, hv.2.2.1, by rw [← hel j hj]; exact hv.2.2.2⟩
  obtain ⟨hnodes, hdisj⟩ := h.local (M' := M') (pd' := pd) (kg' := kg) N s.nodes st (fun j c hv _ => (hval j c hv).2) hn
    (fun _ _ => by rw [hr]) (NExt.refl _) (fun _ _ _ _ _ _ => rfl) (fun e he t ht => hn t (htg e he t ht)) (fun _ _ => rfl)
    (fun _ _ _ _ => rfl) (fun c hv => absurd rfl (hval N c hv).1) (fun c hv => absurd rfl (hval N c hv).1)
  refine ⟨h.gsize, h.root, ?_, ?_, ?_, ?_, ?_, h.stack, h.ids, h.idok, h.prev, h.srcok, h.tgtok, h.args, hnodes, hdisj,
    ?_, by rw [hr]; exact h.rnone, by rw [hr]; exact h.rnoop, h.rfresh,
    h.names.congr (fun i c _ hc _ hnn' => hn i (hnn i c hc hnn'))⟩
  · intro j c hj hc hn' hnn'
    rw [hn j (hnn j c hc hnn'), hr]
    exact h.grp j c hj hc hn' hnn'
  · intro j c hj hc hnn'
    obtain ⟨ps, ro, e1, e2⟩ := h.grpN j c hj hc hnn'
    refine ⟨ps, ro, e1, fun hej => ?_⟩
    have hjN : j ≠ N := fun e => by rw [e, helN] at hej; cases hej
    rw [hn j hjN]; exact e2 (by rw [← hel j hjN]; exact hej)
  · intro j c hc hnn'
    rw [hel j (hnn j c hc hnn')]; exact h.elno j c hc hnn'
  · intro j hj
    by_cases hjN : j = N
    · subst hjN; exact ⟨helN, hfrN hj, hN⟩
    · rw [hfr j hjN] at hj
      rw [hel j hjN]; exact h.frel j hj
  · intro e he t ht
    rw [hfr t (htg e he t ht)]; exact h.tgtfr e he t ht
  · intro j i' hi'
    rw [hr] at hi'
    have hjN : j ≠ N := fun e => by obtain ⟨cN, hcN, hnN⟩ := hN; rw [e, h.rnoop N cN hcN hnN] at hi'; cases hi'
    rw [hn j hjN]; exact h.rne j i' hi'

theorem Rel.unfresh {rows : List CRow} {M : Maps} {pd : Bool} {kg : Nat} {s : St} {st : P1}
    (h : Rel rows M pd kg s st) (N : Nat) (hN : M.fr N = true) (x : Nat) :
    Rel rows (unfreshM M N x) pd kg s st := by
  obtain ⟨hel, _, hNr⟩ := h.frel N hN
  exact h.ghost_noop hNr (unfreshM_nOf M N x) rfl (fun _ _ => rfl) (fun j hj => if_neg hj) hel
    (fun hf => by simp [unfreshM] at hf)
    (fun e he t ht e' => by have := h.tgtfr e he t ht; rw [e', hN] at this; cases this)

theorem newEdge_self (m : OutEdge) (N : Nat) (h : m.tgt = .row N) :
    newEdge (Target.row N) (fromRCond m.cond) m.src = m := by
  cases m with
  | mk src cond tgt =>
    simp only at h
    subst h
    rfl

/-- the remembered edges into a `no_op` row take effect, in the order they were remembered in -/
theorem parents_sim {rows : List CRow} {outF : List OutEdge} (g : Good rows outF) {pd : Bool} {kg : Nat} {d : Dest}
    {N : Nat} (hN : N < kg) (f : Nat) :
    ∀ (mine : List OutEdge) {M : Maps} {s : St} {st : P1},
      Rel rows M pd kg s st → DestIs M s.nodes d (some (.row N)) → M.fr N = false →
      (∀ m ∈ mine, m.tgt = .row N ∧ m.src < kg ∧
        ∃ c, rows[m.src]? = some c ∧ isNodeRow c = true ∧ isNoop c = false) →
      (∀ j, outOf st j ++ mine.filter (·.src = j) <+: outF.filter (·.src = j)) →
      wp ((mine.map (encP rows)).forM fun (p, pc) => addExit (f + 1) p d pc) s
        (fun _ s' => ∃ M' : Maps, (∀ t, M'.nOf t = M.nOf t) ∧ M'.el = M.el ∧ M'.fr = M.fr ∧
          Rel rows M' pd kg s' { st with out := mine.reverse ++ st.out } ∧ NExt s.nodes s'.nodes ∧
          (∀ g0, (∀ m ∈ mine, g0 ≠ gOf rows m.src) → s'.groups[g0]? = s.groups[g0]?)) := by
  intro mine
  induction mine with
  | nil =>
    intro M s st h _ _ _ _
    rw [List.map_nil, wp_forM_nil]
    exact ⟨M, fun _ => rfl, rfl, rfl, h, NExt.refl _, fun _ _ => rfl⟩
  | cons m rest ih =>
    intro M s st h hd hfr hm hpre
    rw [List.map_cons, wp_forM_cons]
    obtain ⟨hmt, hmk, hmc⟩ := hm m (by simp)
    have hself := newEdge_self m N hmt
    have hpre2 : ∀ j, outOf { st with out := m :: st.out } j ++ rest.filter (·.src = j) <+: outF.filter (·.src = j) := by
      intro j
      have := hpre j
      rw [List.filter_cons] at this
      rw [outOf_cons]
      by_cases hj : m.src = j <;> simpa [hj] using this
    have hpre1 : outOf st m.src ++ [m] <+: outF.filter (·.src = m.src) := by
      have := hpre2 m.src
      rw [outOf_cons, if_pos rfl] at this
      exact (List.prefix_append _ _).trans this
    have hstep := addExit_sim g (fromRCond m.cond) h hmk hmc
      ⟨hd, fun t ht => by injection ht with ht; subst ht; exact ⟨.inl hN, hfr⟩⟩ (hself.symm ▸ hpre1) f
    refine wp_mono hstep ?_
    rintro _ s1 ⟨M1, hM1, hM1el, hM1fr, r1, e1, hg1⟩
    rw [hself] at r1
    refine wp_mono (ih r1 ((hd.ext e1).congrN hM1) (by rw [hM1fr]; exact hfr) (fun m' hm' => hm m' (by simp [hm'])) hpre2) ?_
    rintro _ s2 ⟨M2, hM2, hM2el, hM2fr, r2, e2, hg2⟩
    refine ⟨M2, fun t => by rw [hM2, hM1], by rw [hM2el, hM1el], by rw [hM2fr, hM1fr], ?_, e1.trans e2, fun g0 hg0 => ?_⟩
    · rw [List.reverse_cons, List.append_assoc]; exact r2
    · rw [hg2 g0 (fun m' hm' => hg0 m' (by simp [hm'])), hg1 g0 (hg0 m (by simp))]

/-- the schedule records an edge that leaves a row without a node of its own -/
theorem Rel.record {rows : List CRow} {M : Maps} {pd : Bool} {kg : Nat} {s : St} {st : P1}
    (h : Rel rows M pd kg s st) (new : OutEdge) (hsrc : new.src < kg)
    (hc : ∃ c, rows[new.src]? = some c ∧ isNodeRow c = true) (hel : M.el new.src = true)
    (htg : ∀ t, new.tgt = Target.row t → (t < kg ∨ (pd = true ∧ t = kg)) ∧ M.fr t = false) :
    Rel rows M pd kg s { st with out := new :: st.out } := by
  refine { h with
    tgtfr := List.forall_mem_cons.mpr ⟨fun t ht => (htg t ht).2, h.tgtfr⟩
    srcok := List.forall_mem_cons.mpr ⟨⟨hsrc, hc⟩, h.srcok⟩
    tgtok := List.forall_mem_cons.mpr ⟨fun t ht => (htg t ht).1, h.tgtok⟩
    node := fun j c hv => ?_ }
  have hne : new.src ≠ j := by intro e; rw [e] at hel; rw [hv.2.2.2] at hel; cases hel
  rw [outOf_cons_other st new j hne]
  exact h.node j c hv

/-- the ghost map after the `no_op` row `N` got its router node at arena index `x` -/
def routeM (M : Maps) (N x : Nat) : Maps :=
  { M with nOf := fun t => if t = N then x else M.nOf t, el := fun t => if t = N then false else M.el t,
           fr := fun t => if t = N then false else M.fr t }

theorem routeM_nOf (M : Maps) (N x t : Nat) (h : t ≠ N) : (routeM M N x).nOf t = M.nOf t := by simp [routeM, h]
theorem routeM_el (M : Maps) (N x t : Nat) (h : t ≠ N) : (routeM M N x).el t = M.el t := by simp [routeM, h]
theorem routeM_fr (M : Maps) (N x t : Nat) : (routeM M N x).fr t = if t = N then false else M.fr t := rfl

theorem routeM_left (M : Maps) (N x : Nat) : LeftAt M (routeM M N x) N :=
  ⟨routeM_nOf M N x, routeM_el M N x, routeM_fr M N x⟩

/-- the router node of the `no_op` row `N` is pushed on the arena and entered in the row's group -/
theorem Rel.route {rows : List CRow} {M : Maps} {pd : Bool} {kg : Nat} {s : St} {st : P1}
    (h : Rel rows M pd kg s st) {N : Nat} {cN : CRow} (hcN : rows[N]? = some cN) (hnN : isNoop cN = true)
    (hfr : M.fr N = true) (hN : N < kg) (hout : outOf st N = [])
    (n : NodeM) (hnrnd : ∀ r, n.router ≠ some (RouterM.rnd r)) (hnsim : ∀ M ns post, NodeSim M ns n cN post [])
    (ps : List (Nat × Compile.Cond)) (nx : Nat) (hnx : s.next ≤ nx) :
    Rel rows (routeM M N s.nodes.size) pd kg
      { s with nodes := s.nodes.push n,
               groups := s.groups.setIfInBounds (gOf rows N) (.noop ps (some s.nodes.size)), next := nx } st := by
  have hL := routeM_left M N s.nodes.size
  have hMN : (routeM M N s.nodes.size).nOf N = s.nodes.size := if_pos rfl
  have hnodeN : isNodeRow cN = true := isNodeRow_of_noop hnN
  have hposN := gOf_pos rows N
  have hgne : ∀ j c, rows[j]? = some c → isNodeRow c = true → j ≠ N → gOf rows N ≠ gOf rows j :=
    fun j c hc hn hne e => hne (gOf_inj rows hcN hc hnodeN hn e).symm
  have hvalid : ∀ j c', Valid rows (routeM M N s.nodes.size) pd kg j c' → j ≠ N → Valid rows M pd kg j c' :=
    fun j c' hv hne => ⟨hv.1, hv.2.1, hv.2.2.1, by rw [← hL.el j hne]; exact hv.2.2.2⟩
  have htgN : ∀ e ∈ st.out, ∀ t, e.tgt = Target.row t → t ≠ N := by
    intro e he t ht e2
    have := h.tgtfr e he t ht
    rw [e2, hfr] at this; cases this
  have hjN : ∀ j c, rows[j]? = some c → isNoop c = false → j ≠ N := fun j c hc hnn => ne_of_noop hc hnn ⟨cN, hcN, hnN⟩
  obtain ⟨⟨hnodes, hdisj⟩, hrne, hrf⟩ := h.push_fields (M' := routeM M N s.nodes.size) (pd' := pd) N n nx hMN hL.nOf rfl
    (h.rnoop N cN hcN hnN) hvalid htgN (fun r hr => absurd hr (hnrnd r)) hnx (by
      intro c' hv
      have : c' = cN := by have := hv.2.1; rw [hcN] at this; injection this with this; exact this.symm
      subst this
      rw [hout]
      exact .one (hnsim _ _ _))
  refine ⟨by simpa using h.gsize, ?_, ?_, ?_, ?_, ?_, ?_, h.stack, h.ids, h.idok, h.prev, h.srcok, h.tgtok, h.args, hnodes,
    hdisj, hrne, h.rnone, h.rnoop, hrf,
    h.names.congr (fun i c _ hc _ hnn' => hL.nOf i (hjN i c hc hnn'))⟩
  · simp only [Array.getElem?_setIfInBounds]
    rw [if_neg (by omega)]; exact h.root
  · intro j c hj hc hn hnn
    simp only [Array.getElem?_setIfInBounds]
    rw [if_neg (hgne j c hc hn (hjN j c hc hnn)), hL.nOf j (hjN j c hc hnn)]
    exact h.grp j c hj hc hn hnn
  · intro j c hj hc hnn
    simp only [Array.getElem?_setIfInBounds]
    by_cases hjN' : j = N
    · subst hjN'
      have hlt : gOf rows j < s.groups.size := by
        have := h.gsize
        have := gOf_lt rows hN hcN hnodeN
        omega
      refine ⟨ps, some s.nodes.size, by simp [hlt], fun _ => by rw [hMN]⟩
    · rw [if_neg (hgne j c hc (isNodeRow_of_noop hnn) hjN'), hL.el j hjN', hL.nOf j hjN']
      exact h.grpN j c hj hc hnn
  · intro j c hc hnn
    rw [hL.el j (hjN j c hc hnn)]; exact h.elno j c hc hnn
  · intro j hj
    rw [hL.fr] at hj
    have hjN' : j ≠ N := by intro e; rw [if_pos e] at hj; cases hj
    rw [if_neg hjN'] at hj
    rw [hL.el j hjN']; exact h.frel j hj
  · intro e he t ht
    rw [hL.fr, if_neg (htgN e he t ht)]
    exact h.tgtfr e he t ht

/-- what `noopShape` says about the edges leaving one `no_op` row, on a prefix: an unconditional edge at the head is
the only edge, and leads into a row -/
theorem shape_prefix {rows : List CRow} {outF : List OutEdge} (hsh : noopShape rows outF = true) {N : Nat}
    (hN : NoopRow rows N) {b : OutEdge} {l : List OutEdge} (hl : b :: l <+: outF.filter (·.src = N))
    (hb : b.cond.blank = true) : l = [] ∧ ∃ T, b.tgt = .row T := by
  have hlen : N < rows.length := by
    obtain ⟨c, hc, _⟩ := hN; exact lt_length_of_getElem? hc
  simp only [noopShape, List.all_eq_true, List.mem_range] at hsh
  have h1 := hsh N hlen
  rw [noopAt_iff.mpr hN] at h1
  simp only [Bool.not_true, Bool.false_or, Bool.and_eq_true, List.all_eq_true, decide_eq_true_eq] at h1
  obtain ⟨hdw, himp⟩ := h1
  obtain ⟨t, ht⟩ := hl
  -- the list starts with an unconditional edge: every edge is unconditional, so there is one only
  have hL : outF.filter (·.src = N) = b :: (l ++ t) := by rw [← ht]; rfl
  rw [hL] at hdw himp
  have hall : ∀ x ∈ b :: (l ++ t), x.cond.blank = true := by
    have : (b :: (l ++ t)).dropWhile (fun e => !e.cond.blank) = b :: (l ++ t) := by
      simp [hb]
    rw [this] at hdw; exact hdw
  have hcn : ((b :: (l ++ t)).filter (fun e => !e.cond.blank)).isEmpty = true := by
    rw [List.isEmpty_iff, List.filter_eq_nil_iff]
    intro x hx; simp [hall x hx]
  have := himp hcn
  simp only [List.length_cons, List.length_append] at this
  refine ⟨List.eq_nil_of_length_eq_zero (by omega), ?_⟩
  have hb2 := this.2 b (by simp)
  cases hbt : b.tgt with
  | row T => exact ⟨T, rfl⟩
  | exit => rw [hbt] at hb2; cases hb2

/-- what the state must look like after an edge has been dealt with: related to some schedule of the
true state `stT'` -/
abbrev NPost (rows : List CRow) (M : Maps) (pd : Bool) (kg : Nat) (s : St) (stT' : P1) : PUnit → St → Prop :=
  fun _ s' => ∃ (M' : Maps) (st' : P1) (pnd' : List OutEdge), MExt M M' ∧ Rel rows M' pd kg s' st' ∧
    Sched rows M' kg s' stT' st' pnd' ∧ NExt s.nodes s'.nodes

/-- destination `d` of the edges being added means `tgt`: the end of the path, or a row that has its node already (or is
the row being parsed) and is not a `no_op` row -/
structure TgtIs (rows : List CRow) (M : Maps) (pd : Bool) (kg : Nat) (ns : Array NodeM) (d : Dest) (tgt : Target) : Prop
    extends EdgeTo M pd kg ns d tgt where
  row : ∀ t, tgt = Target.row t → ∃ c, rows[t]? = some c ∧ isNodeRow c = true
  nn : tgtNoop rows tgt = false

theorem TgtIs.step {rows : List CRow} {M M' : Maps} {pd : Bool} {kg : Nat} {ns ns' : Array NodeM} {d : Dest} {tgt : Target}
    (h : TgtIs rows M pd kg ns d tgt) (he : NExt ns ns') (hM : MExt M M') : TgtIs rows M' pd kg ns' d tgt :=
  ⟨⟨(h.dest.ext he).mext hM (fun t ht => (h.ok t ht).2), fun t ht => ⟨(h.ok t ht).1, (hM t (h.ok t ht).2).1⟩⟩, h.row, h.nn⟩

section
variable {rows : List CRow} {outF : List OutEdge} (g : Sheet rows outF) {M : Maps} {pd : Bool} {kg : Nat} {d : Dest}
  {tgt : Target} (cond : Compile.Cond) {s : St} {stT st : P1} {pnd : List OutEdge} {N : Nat}
  (h : Rel rows M pd kg s st) (hs : Sched rows M kg s stT st pnd) (hN : N < kg)
  (ht : TgtIs rows M pd kg s.nodes d tgt) (hTpre : (newEdge tgt cond N :: stT.out).reverse <+: outF) (f : Nat)
include g h hs hN ht hTpre

theorem addExit_simN (hNn : ∃ c, rows[N]? = some c ∧ isNodeRow c = true ∧ isNoop c = false) :
    wp (addExit (f + 1) (gOf rows N) d cond) s (NPost rows M pd kg s { stT with out := newEdge tgt cond N :: stT.out }) := by
  obtain ⟨c, hc, hnode, hnn⟩ := hNn
  have hsn : noopAt rows N = false := tgtNoop_row_false hc hnn
  obtain ⟨p', hp'⟩ := hs.next g hTpre
  obtain ⟨hpeq, hnop⟩ := schedStep_normal (e := newEdge tgt cond N) hsn ht.nn hp'
  rw [hpeq] at hp'
  -- the out-edges of row `N` in the schedule are those of the true state
  have hsplit := hs.split N
  rw [show pnd.filter (·.src = N) = [] from hnop, List.append_nil] at hsplit
  have hpre : outOf st N ++ [newEdge tgt cond N] <+: outF.filter (·.src = N) := by
    rw [← hsplit]; exact prefix_outOf hTpre
  refine wp_mono (addExit_sim g.toGood cond h hN ⟨c, hc, hnode, hnn⟩ ht.toEdgeTo hpre f) ?_
  rintro _ s' ⟨M', hMn, hMel, hMfr, hr, hext, hgrp⟩
  refine ⟨M', _, pnd, MExt.of_eq hMn hMfr, hr, ?_, hext⟩
  exact sched_append hs hp' hnop hMn hMel hMfr (h.fr_false hc hnn) (h.elno N c hc hnn)
    (fun _ hN2 => hgrp _ (gOf_ne_noop hc hnode hnn hN2))
    (fun c' hc' hn' => absurd rfl (ne_of_noop hc hnn ⟨c', hc', hn'⟩))

variable (hNr : NoopRow rows N)
include hNr

theorem noop_elide_sim (hfr : M.fr N = true) (he : cond.blank = true) :
    wp (addExit (f + 2) (gOf rows N) d cond) s (NPost rows M pd kg s { stT with out := newEdge tgt cond N :: stT.out }) := by
  obtain ⟨_, hoN, hgN⟩ := hs.fresh N hfr
  -- the edge is the only one leaving `N`, and leads into a row
  have hpreT := prefix_outOf hTpre
  rw [show outOf stT (newEdge tgt cond N).src = [] from hoN] at hpreT
  obtain ⟨_, T, hT⟩ := shape_prefix g.shape hNr hpreT (by simpa [toRCond_blank] using he)
  obtain rfl : tgt = .row T := hT
  obtain ⟨cT, hcT, hnT⟩ := ht.row T rfl
  have hnnT : isNoop cT = false := by
    have : noopAt rows T = false := ht.nn
    unfold noopAt at this; rw [hcT] at this; exact this
  have htg := ht.ok T rfl
  obtain ⟨p', hp'⟩ := hs.next g hTpre
  have htn : tgtNoop rows (newEdge (Target.row T) cond N).tgt = false := ht.nn
  obtain ⟨_, hold⟩ := schedStep_leave hNr htn hp' rfl
  have helN := (h.frel N hfr).1
  -- the ghost map: the sources of `N` lead where `T`'s node is
  have hL1 := unfreshM_left M N (M.nOf T)
  have hM1N : (unfreshM M N (M.nOf T)).nOf N = M.nOf T := if_pos rfl
  have hd1 : DestIs (unfreshM M N (M.nOf T)) s.nodes d (some (.row N)) := by
    obtain ⟨m, hm, e⟩ := ht.dest
    exact ⟨m, by rw [hM1N]; exact hm, e⟩
  -- the compiler
  unfold addExit
  wp_simp [wp_getGrp]
  intro grp hgrp
  rw [hgN] at hgrp; injection hgrp with hgrp; subst hgrp
  simp only [he, if_true]
  refine wp_mono (parents_sim g.toGood hN f _ (h.unfresh N hfr (M.nOf T)) hd1 (by rw [hL1.fr, if_pos rfl])
    (hs.mine N) (hs.mine_prefix hTpre N hold)) ?_
  rintro _ s2 ⟨M2, hM2, hM2el, hM2fr, r2, e2, hg2⟩
  have hL2 := hL1.congr hM2 hM2el hM2fr
  have hMext := hL2.mext hfr
  have helN2 : M2.el N = true := by rw [hM2el]; exact helN
  -- the schedule records the leaving edge
  have r3 := r2.record (newEdge (.row T) cond N) hN
    (by obtain ⟨cN, hcN, hnN⟩ := hNr; exact ⟨cN, hcN, isNodeRow_of_noop hnN⟩) helN2
    (fun t ht' => by injection ht' with ht'; subst ht'; exact ⟨htg.1, (hMext T htg.2).1⟩)
  refine ⟨M2, _, p', hMext, r3, ?_, e2⟩
  refine sched_leave hs hNr hfr rfl htn hp' hL2 (fun N2 hN2 _ => hg2 _ (hs.mine_grp N hN2)) (fun _ => ?_)
    (fun hel => by rw [helN2] at hel; cases hel)
    (fun _ => ⟨parentsOf rows pnd N, by rw [hg2 _ (hs.mine_grp N hNr)]; exact hgN⟩)
  exact ⟨T, cT, by simpa [toRCond_blank] using he, rfl,
    by rw [hM2, hM2, hM1N, hL1.nOf T (ne_of_noop hcT hnnT hNr)], hcT, hnT, hnnT⟩

theorem noop_route_sim (hfr : M.fr N = true) (he : cond.blank = false) :
    wp (addExit (f + 2) (gOf rows N) d cond) s (NPost rows M pd kg s { stT with out := newEdge tgt cond N :: stT.out }) := by
  have htn := ht.nn
  obtain ⟨p', hp'⟩ := hs.next g hTpre
  obtain ⟨_, hold⟩ := schedStep_leave hNr htn hp' rfl
  obtain ⟨_, hoN, hgN⟩ := hs.fresh N hfr
  have hstN : outOf st N = [] := by rw [← hs.out_noop hNr]; exact hoN
  have hnosrc := hs.nosrc hNr
  obtain ⟨cN, hcN, hnN⟩ := hNr
  obtain ⟨hvne, _⟩ := g.noop_cond (tgt := tgt) hcN hnN (hTpre.subset (by simp)) he
  -- the compiler: the router node
  unfold addExit
  wp_simp [wp_getGrp]
  intro grp hgrp
  rw [hgN] at hgrp; injection hgrp with hgrp; subst hgrp
  simp only [he, Bool.false_eq_true, if_false]
  have hvemp : cond.var.isEmpty = false := List.isEmpty_eq_false_iff.mpr hvne
  simp only [hvemp, Bool.false_eq_true, if_false]
  wp_simp [wp_fresh, wp_newSwitch, wp_newRouterNode, wp_attachNoopRouter]
  -- the arena with the router node
  obtain ⟨sw0, hsw0⟩ : ∃ sw0 : SwitchR, sw0 = SwitchR.mk cond.var [] []
      (Cat.mk (tid (s.next + 1)) "Other".toList (tid (s.next + 1 + 1)) .none) none none none := ⟨_, rfl⟩
  obtain ⟨rn, hrn⟩ : ∃ rn : NodeM, rn = NodeM.mk (tid s.next) .switch [] (some (.sw sw0))
      (tid (s.next + 1 + 2)) .none := ⟨_, rfl⟩
  have hnsim : ∀ M ns post, NodeSim M ns rn cN post [] := by
    intro M0 ns post
    refine .nop sw0 (kind_of_noop hnN) ⟨by rw [hrn], by rw [hrn], by rw [hrn], ⟨by rw [hsw0]; exact hvne, fun hh => absurd rfl hh⟩,
      by rw [hsw0], by rw [hsw0], by rw [hsw0], by rw [hsw0]; rfl, by rw [hsw0]; rfl, by rw [hsw0]; exact List.Forall₂.nil,
      by rw [hsw0]; rfl, ⟨by rw [hsw0]; rfl, by rw [hsw0]⟩⟩
  have r1 := h.route hcN hnN hfr hN hstN rn (by intro r hr; rw [hrn] at hr; cases hr) hnsim
    (parentsOf rows pnd N) (s.next + 1 + 2 + 1) (by omega)
  have hL1 := routeM_left M N s.nodes.size
  have hM1N : (routeM M N s.nodes.size).nOf N = s.nodes.size := if_pos rfl
  have hd1 : DestIs (routeM M N s.nodes.size) (s.nodes.push rn) (Dest.node (tid s.next)) (some (.row N)) :=
    ⟨rn, by rw [hM1N]; simp, by rw [hrn]⟩
  rw [hrn, hsw0] at r1 hd1
  -- the remembered edges now lead to the router node
  refine wp_mono (parents_sim g.toGood hN f _ r1 hd1 (by rw [hL1.fr, if_pos rfl])
    (hs.mine N) (hs.mine_prefix hTpre N hold)) ?_
  rintro _ s2 ⟨M2, hM2, hM2el, hM2fr, r2, e2, hg2⟩
  have hL2 := hL1.congr hM2 hM2el hM2fr
  have hMext := hL2.mext hfr
  have helN2 : M2.el N = false := by rw [hM2el]; simp [routeM]
  have hext12 : NExt s.nodes s2.nodes := (NExt.push s.nodes _).trans e2
  -- the first case of the router
  have hpreN : outOf { st with out := (pnd.filter fun pe => decide (pe.tgt = .row N)).reverse ++ st.out } N ++
      [newEdge tgt cond N] <+: outF.filter (·.src = N) := by
    have := prefix_outOf hTpre
    rw [show outOf stT (newEdge tgt cond N).src = [] from hoN] at this
    rw [outOf_append rfl, hstN, List.filter_eq_nil_iff.mpr fun pe hpe =>
      List.filter_eq_nil_iff.mp hnosrc pe (List.mem_filter.mp hpe).1]
    exact this
  have key := nop_edge_sim g.toGood cond r2 hN hcN hnN helN2 (ht.step hext12 hMext).toEdgeTo hpreN
  rw [show M2.nOf N = s.nodes.size from (hM2 N).trans hM1N] at key
  refine wp_mono key ?_
  rintro _ s3 ⟨r3, e3, hg3⟩
  refine ⟨M2, _, p', hMext, r3, ?_, hext12.trans e3⟩
  refine sched_leave hs ⟨cN, hcN, hnN⟩ hfr rfl htn hp' hL2 (fun N2 hN2 hne => ?_)
    (fun hel => by rw [helN2] at hel; cases hel) (fun _ => ?_) (fun hel => by rw [helN2] at hel; cases hel)
  · rw [hg3, hg2 _ (hs.mine_grp N hN2)]
    simp only [Array.getElem?_setIfInBounds]
    obtain ⟨c2, hc2, hn2'⟩ := hN2
    rw [if_neg (fun e => hne (gOf_inj rows hcN hc2 (isNodeRow_of_noop hnN) (isNodeRow_of_noop hn2') e).symm)]
  · rw [tests_noop_eq]
    simp [toRCond_blank, he]

/-- any edge leaving a `no_op` row: the three cases above; after an unconditional edge there is no further one
(`noopShape`) -/
theorem noop_leave_sim :
    wp (addExit (f + 2) (gOf rows N) d cond) s (NPost rows M pd kg s { stT with out := newEdge tgt cond N :: stT.out }) := by
  have htn := ht.nn
  have hpreT : outOf stT N ++ [newEdge tgt cond N] <+: outF.filter (·.src = N) := prefix_outOf hTpre
  by_cases hfr : M.fr N = true
  · -- first time
    by_cases he : cond.blank = true
    · exact noop_elide_sim g cond h hs hN ht hTpre f hNr hfr he
    · exact noop_route_sim g cond h hs hN ht hTpre f hNr hfr (by simpa using he)
  · have hfr' : M.fr N = false := by simpa using hfr
    by_cases hel : M.el N = true
    · -- left unconditionally before: no further edge leaves it
      exfalso
      obtain ⟨_, b, T, cT, h1, h2, _⟩ := hs.elided N hel hfr' hN
      rw [h1] at hpreT
      exact absurd (shape_prefix g.shape hNr hpreT h2).1 (by simp)
    · -- it has its router node
      have hel' : M.el N = false := by simpa using hel
      obtain ⟨cN, hcN, hnN⟩ := hNr
      obtain ⟨ps, ro, hgN, hro⟩ := h.grpN N cN hN hcN hnN
      have hro' := hro hel'
      subst hro'
      -- the schedule step
      obtain ⟨p', hp'⟩ := hs.next g hTpre
      obtain ⟨hpeq, _⟩ := schedStep_leave ⟨cN, hcN, hnN⟩ htn hp' rfl
      have hnone : pnd.filter (fun pe => !decide (pe.tgt = .row N)) = pnd :=
        List.filter_eq_self.mpr fun pe hpe => by simpa using hs.not_into hfr' pe hpe
      rw [hnone] at hpeq
      rw [hpeq] at hp'
      have hpre : outOf st N ++ [newEdge tgt cond N] <+: outF.filter (·.src = N) := by
        rw [← hs.out_noop ⟨cN, hcN, hnN⟩]; exact hpreT
      have hrouted := hs.routed N cN hN hcN hnN hel'
      -- the compiler
      unfold addExit
      wp_simp [wp_getGrp]
      intro grp hgrp
      rw [hgN] at hgrp; injection hgrp with hgrp; subst hgrp
      simp only
      refine wp_mono (nop_edge_sim g.toGood cond h hN hcN hnN hel' ht.toEdgeTo hpre) ?_
      rintro _ s' ⟨r', e', hg'⟩
      refine ⟨M, _, pnd, MExt.refl M, r', ?_, e'⟩
      refine sched_append hs hp' (hs.nosrc ⟨cN, hcN, hnN⟩) (fun _ => rfl) rfl rfl hfr' hel'
        (fun _ _ => by rw [hg']) ?_
      intro c hc _
      rw [tests_noop_eq, List.filter_append]
      rw [tests_noop_eq] at hrouted
      intro hnil
      exact hrouted (List.append_eq_nil_iff.mp hnil).1

end

end Rpft.CoreSheet
