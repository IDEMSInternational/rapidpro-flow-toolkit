/-
The end of a sheet of the fragment (`AtEnd`): where the nodes of each row stand in the reference flow and in
the compiled flow (both are laid out row by row: `Layout`, `rowIdx`), that corresponding destinations resolve to
corresponding positions (through the empty reference node of a `no_op` row that has no compiled node), and where
the two flows start.
-/
import Rpft.Lemmas.CoreNodeAbs
import Rpft.Lemmas.FlowFuse
import Rpft.Lemmas.RefFlowClosed
namespace Rpft.CoreSheet
open Rpft Rpft.Compile Rpft.RefFlow Rpft.Flow

theorem zipIdx_filterMap {α β} (F : α → Nat → Option β) : ∀ (l : List α) (k : Nat),
    (l.zipIdx k).filterMap (fun p => F p.1 p.2) =
      (List.range' k l.length).filterMap (fun j => (l[j - k]?).bind (fun x => F x j)) := by
  intro l
  induction l with
  | nil => intro k; simp
  | cons a l ih =>
    intro k
    simp only [List.zipIdx_cons, List.filterMap_cons, List.length_cons, List.range'_succ, Nat.sub_self,
      List.getElem?_cons_zero, Option.bind_some]
    rw [ih (k + 1)]
    have : (List.range' (k + 1) l.length).filterMap (fun j => ((a :: l)[j - k]?).bind (fun x => F x j)) =
        (List.range' (k + 1) l.length).filterMap (fun j => (l[j - (k + 1)]?).bind (fun x => F x j)) := by
      apply List.filterMap_congr
      intro j hj
      have hjk : k + 1 ≤ j := (List.mem_range'_1.mp hj).1
      have : j - k = (j - (k + 1)) + 1 := by omega
      rw [this, List.getElem?_cons_succ]
    rw [this]

theorem flatMap_pos {α β} (f : α → List β) (L : List α) (t : Nat) (x : α) (hx : L[t]? = some x) (i : Nat)
    (hi : i < (f x).length) : (L.flatMap f)[((L.take t).flatMap f).length + i]? = (f x)[i]? := by
  have hL : L = L.take t ++ x :: L.drop (t + 1) := by
    have := List.getElem?_eq_some_iff.mp hx
    rw [← this.2]
    simp
  have : L.flatMap f = (L.take t).flatMap f ++ (f x ++ (L.drop (t + 1)).flatMap f) := by
    conv => lhs; rw [hL]
    rw [List.flatMap_append, List.flatMap_cons]
  rw [this, List.getElem?_append_right (Nat.le_add_right _ _), Nat.add_sub_cancel_left,
    List.getElem?_append_left hi]

theorem flatMap_last {α β} (f : α → List β) (L : List α) (i : Nat) (x : α) (hx : L[i]? = some x) (hi : L.length = i + 1) :
    (L.flatMap f).length = ((L.take i).flatMap f).length + (f x).length := by
  have : L = L.take i ++ [x] := by
    have := List.take_add_one (l := L) (i := i)
    rw [hx, ← hi, List.take_length] at this
    exact this
  conv => lhs; rw [this]
  simp

theorem lt_of_mem_take_range {n j x : Nat} (h : x ∈ (List.range n).take j) : x < j := by
  rw [List.take_range] at h
  exact Nat.lt_of_lt_of_le (List.mem_range.mp h) (Nat.min_le_left _ _)

/-- the nodes of `f` are those of the rows `0 … n − 1`, row by row (`L j`: the nodes of row `j`), under distinct identifiers;
the reference flow and the compiled flow of a sheet are both laid out so -/
structure Layout (f : Flow) (n : Nat) (L : Nat → List Node) : Prop where
  nodes : f.nodes = (List.range n).flatMap L
  uids : (f.nodes.map (·.uuid)).Nodup

/-- where the first node of row `j` stands -/
def rowIdx (n : Nat) (L : Nat → List Node) (j : Nat) : Nat := (((List.range n).take j).flatMap L).length

theorem rowIdx_zero {n : Nat} {L : Nat → List Node} {j : Nat} (h0 : ∀ x, x < j → L x = []) : rowIdx n L j = 0 := by
  rw [rowIdx, List.flatMap_eq_nil_iff.mpr fun x hx => h0 x (lt_of_mem_take_range hx)]; rfl

namespace Layout
variable {f : Flow} {n : Nat} {L : Nat → List Node} (h : Layout f n L)
include h

theorem node {j i : Nat} {x : Node} (hj : j < n) (hx : (L j)[i]? = some x) : f.nodes[rowIdx n L j + i]? = some x := by
  rw [h.nodes, rowIdx, flatMap_pos L _ j j (by simp [hj]) i (lt_length_of_getElem? hx), hx]

theorem dest {k : Nat} {x : Node} (hk : f.nodes[k]? = some x) : destIdx f (some x.uuid) = some (some k) := by
  simp [destIdx, findNode_unique hk h.uids]

theorem abs_nil (lvl : ObsLevel) (h0 : ∀ j, L j = []) : absFlow lvl f = [] := by
  rw [absFlow, h.nodes, List.flatMap_eq_nil_iff.mpr fun x _ => h0 x]; rfl

end Layout

theorem absFlow_ne_nil (lvl : ObsLevel) {f : Flow} {k : Nat} {x : Node} (hk : f.nodes[k]? = some x) : absFlow lvl f ≠ [] :=
  fun h0 => by
    have := absFlow_getElem? lvl f k
    rw [h0, hk] at this; cases this

theorem map_resrc_self (l : List OutEdge) (R : Nat) :
    (l.filter (·.src = R)).map (fun e => ({ e with src := R } : OutEdge)) = l.filter (·.src = R) := by
  refine map_eq_self fun e he => ?_
  have : e.src = R := by simpa using (List.mem_filter.mp he).2
  cases e; simp only at this; subst this; rfl

theorem chains_of_ok {rows : List CRow} {outE outF : List OutEdge} (h : chainsOk rows outE outF = true) :
    (∀ e ∈ outF, ∀ t, e.tgt = Target.row t → ∃ ct, rows[t]? = some ct ∧ isNodeRow ct = true) ∧
    (∀ R cR, rows[R]? = some cR → isNodeRow cR = true →
      (∀ p ∈ (membersOf rows R).zip (membersOf rows R).tail, ∃ e, outE.filter (·.src = p.1) = [e] ∧
          e.tgt = Target.row p.2 ∧ e.cond.blank = true) ∧
      outF.filter (·.src = R) =
        (outE.filter (·.src = (membersOf rows R).getLastD R)).map (fun e => { e with src := R })) := by
  unfold chainsOk at h
  simp only [Bool.and_eq_true, List.all_eq_true, List.mem_range] at h
  obtain ⟨h1, h2⟩ := h
  refine ⟨fun e he t ht => ?_, fun R cR hcR hn => ?_⟩
  · have := h1 e he
    rw [ht] at this
    unfold tgtOwns at this
    simp only at this
    cases hct : rows[t]? with
    | none => rw [hct] at this; cases this
    | some ct => rw [hct] at this; exact ⟨ct, rfl, this⟩
  · have hR : R < rows.length := lt_length_of_getElem? hcR
    have := h2 R hR
    rw [hcR] at this
    have hown : ownsNode cR = true := hn
    simp only [hown, Bool.not_true, Bool.false_or, Bool.and_eq_true, List.all_eq_true, decide_eq_true_eq] at this
    refine ⟨fun p hp => ?_, this.2⟩
    have := this.1 p hp
    split at this
    · rename_i e he
      simp only [Bool.and_eq_true, decide_eq_true_eq] at this
      exact ⟨e, he, this.1, this.2⟩
    · cases this

theorem first_node_row_unmerged {rows : List CRow} (ha : Annot rows) {j0 : Nat} {c : CRow} (hcj : rows[j0]? = some c)
    (hmin : ∀ i c', i < j0 → rows[i]? = some c' → (kindOf c'.row.type).isNode = false) :
    (c.merged && isNamedAct c) = false := by
  cases hmm : c.merged && isNamedAct c with
  | false => rfl
  | true =>
    simp only [Bool.and_eq_true] at hmm
    obtain ⟨i, ci, hlt, hci, hnai, _⟩ := (ha.merged_iff hcj hmm.2).mp hmm.1
    have := hmin i ci hlt hci
    rw [kindOf_of_named hnai] at this
    cases this

/-- the reference nodes of row `j`: one or none -/
def refNodesAt (rows : List CRow) (outE : List OutEdge) (j : Nat) : List Node :=
  ((rows[j]?).bind (fun c =>
    if (kindOf c.row.type).isNode then some (mkNode j (toRRow c) (outE.filter (·.src = j))) else none)).toList

/-- the compiled nodes of row `j`, in the order of the compiled flow -/
def cmpNodes (rows : List CRow) (M : Maps) (ns : Array NodeM) (j : Nat) : List Node :=
  ((nodeIdxs rows M j).filterMap (fun i => ns[i]?)).map renderNode

/-- where the reference node of row `j` stands in the reference flow -/
def refIdx (rows : List CRow) (outE : List OutEdge) (j : Nat) : Nat := rowIdx rows.length (refNodesAt rows outE) j

/-- where the first compiled node of row `j` stands in the compiled flow -/
def cmpIdx (rows : List CRow) (M : Maps) (ns : Array NodeM) (j : Nat) : Nat := rowIdx rows.length (cmpNodes rows M ns) j

theorem refNodes_rows (rows : List CRow) (outE : List OutEdge) :
    refNodes (rows.map toRRow) outE = (List.range rows.length).flatMap (refNodesAt rows outE) := by
  unfold refNodes
  have := zipIdx_filterMap (fun (rr : RRow) (k : Nat) =>
    if rr.kind.isNode then some (mkNode k rr (outE.filter (·.src = k))) else none) (rows.map toRRow) 0
  simp only [List.length_map, Nat.sub_zero] at this
  rw [← List.range_eq_range'] at this
  unfold refNodesAt
  rw [this, ← List.filterMap_eq_flatMap_toList]
  apply List.filterMap_congr
  intro j _
  simp only [List.getElem?_map]
  cases rows[j]? <;> rfl

theorem no_nodes {rows : List CRow} (outE : List OutEdge) (M : Maps) (ns : Array NodeM) {j : Nat}
    (h : ∀ c, rows[j]? = some c → (kindOf c.row.type).isNode = false) :
    refNodesAt rows outE j = [] ∧ cmpNodes rows M ns j = [] := by
  unfold refNodesAt cmpNodes nodeIdxs
  cases hcj : rows[j]? with
  | none => exact ⟨rfl, rfl⟩
  | some c =>
    have hk0 := h c hcj
    have : isNodeRow c = false := by unfold isNodeRow; rw [hk0]; rfl
    simp [this, hk0]

/-- row `j` of the sheet is `c` and has a compiled node of its own (`Valid`, all rows parsed) -/
structure HasNode (rows : List CRow) (M : Maps) (j : Nat) (c : CRow) : Prop where
  row : rows[j]? = some c
  node : isNodeRow c = true
  el : M.el j = false

/-- row `p.1` has a compiled node and `p.2` is a position in its chain -/
def Live (rows : List CRow) (M : Maps) (p : Nat × Nat) : Prop :=
  ∃ c, HasNode rows M p.1 c ∧ p.2 < (membersOf rows p.1).length

theorem live_zero {rows : List CRow} {M : Maps} {t : Nat} {ct : CRow} (ht : HasNode rows M t ct) : Live rows M (t, 0) :=
  ⟨ct, ht, lt_length_of_getElem? (membersOf_head rows t)⟩

/-- where position `(R, i)` stands in the reference flow: at the node of the `i`-th row of the chain of `R` -/
def posA (rows : List CRow) (outE : List OutEdge) (p : Nat × Nat) : Nat :=
  refIdx rows outE (((membersOf rows p.1)[p.2]?).getD p.1)

/-- where it stands in the compiled flow: at the node of `R` -/
def posB (rows : List CRow) (M : Maps) (ns : Array NodeM) (p : Nat × Nat) : Nat := cmpIdx rows M ns p.1

/-- its offset into the actions of the compiled node: the actions of the rows before it in the chain -/
def offA (rows : List CRow) (p : Nat × Nat) : Nat := (((membersOf rows p.1).take p.2).flatMap (actsOf rows)).length

theorem offA_zero (rows : List CRow) (R : Nat) : offA rows (R, 0) = 0 := rfl

theorem offA_succ {rows : List CRow} {R i t : Nat} (ht : (membersOf rows R)[i]? = some t) :
    offA rows (R, i + 1) = offA rows (R, i) + (actsOf rows t).length := by
  simp only [offA, List.take_add_one, ht, Option.toList, List.flatMap_append, List.flatMap_cons, List.flatMap_nil,
    List.append_nil, List.length_append]

/-- the router node the compiler puts behind the node of `R`, if it does -/
def posR (rows : List CRow) (M : Maps) (ns : Array NodeM) (p : Nat × Nat) : Option Nat :=
  (M.rOf p.1).map (fun _ => cmpIdx rows M ns p.1 + 1)

theorem posA_zero (rows : List CRow) (outE : List OutEdge) (t : Nat) : posA rows outE (t, 0) = refIdx rows outE t := by
  simp [posA, membersOf_head]

theorem posA_of {rows : List CRow} (outE : List OutEdge) {R i t : Nat} (ht : (membersOf rows R)[i]? = some t) :
    posA rows outE (R, i) = refIdx rows outE t := by
  simp [posA, ht]

/-- corresponding destinations of the two flows (`Flow.DRelO` at these positions) -/
abbrev DRelE (rnf : Bool) (rows : List CRow) (outE : List OutEdge) (M : Maps) (ns : Array NodeM) (r : Flow) :=
  DRelO (absFlow ⟨false, rnf⟩ r) (Live rows M) (posA rows outE) (posB rows M ns) (offA rows)

/-- the clauses of `inFragment` as facts about `rows`, the rows with the merged ones marked, and `outE` / `outF`, the
out-edges of the reference reading and of the fused reading -/
structure Frag (rows : List CRow) (outE outF : List OutEdge) : Prop extends Good rows outF where
  rowsOk : ∀ c ∈ rows, rowOk c = true
  shape : noopShape rows outF = true
  /-- every remembered edge takes effect -/
  done : outF.foldlM (schedStep rows) [] = some []
  first : firstOk rows = true
  chains : chainsOk rows outE outF = true

theorem Frag.sheet {rows : List CRow} {outE outF : List OutEdge} (h : Frag rows outE outF) : Sheet rows outF :=
  ⟨h.toGood, h.shape, _, h.done⟩

theorem Frag.rowOk {rows : List CRow} {outE outF : List OutEdge} (h : Frag rows outE outF) {j : Nat} {c : CRow}
    (hc : rows[j]? = some c) : rowOk c = true :=
  h.rowsOk c (List.mem_of_getElem? hc)

/-- what holds at the end of a sheet of the fragment: `s` the state of the compiler machine, `stT` that of the fused
pass 1, `st` the schedule of its edges, `r` / `F` the reference flow and the compiled flow -/
structure AtEnd (rows : List CRow) (outE outF : List OutEdge) (M : Maps) (s : Compile.St) (stT st : P1)
    (r F : Flow) : Prop extends Frag rows outE outF where
  rel : Rel rows M false rows.length s st
  sched : Sched rows M rows.length s stT st []
  outF_eq : outF = stT.out.reverse
  fids : ∀ (i : Nat) (n : NodeM), s.nodes[i]? = some n → n.fids.Nodup
  rlay : Layout r rows.length (refNodesAt rows outE)
  clay : Layout F rows.length (cmpNodes rows M s.nodes)

section
variable {rows : List CRow} {outE outF : List OutEdge} {M : Maps} {s : Compile.St} {stT st : P1} {r F : Flow}
  (h : AtEnd rows outE outF M s stT st r F) (rnf : Bool)
include h

/-- nothing is waiting: per source, the schedule has the edges of the fused reading -/
theorem AtEnd.split (j : Nat) : outOf stT j = outOf st j := by
  have := h.sched.split j
  rwa [List.filter_nil, List.append_nil] at this

theorem AtEnd.out (j : Nat) : outF.filter (·.src = j) = outOf st j := by
  rw [← h.split, h.outF_eq]; rfl

theorem AtEnd.mem_out {j : Nat} {e : OutEdge} (he : e ∈ outOf st j) : e ∈ outF ∧ e ∈ st.out :=
  ⟨(List.mem_filter.mp (h.out j ▸ he)).1, List.mem_reverse.mp (List.mem_filter.mp he).1⟩

/-- a row that carries no node name is the only row of its chain: the two readings give it the same out-edges -/
theorem AtEnd.out_unnamed {R : Nat} {cR : CRow} (hcR : rows[R]? = some cR) (hnR : isNodeRow cR = true)
    (hna : isNamedAct cR = false) : outOf st R = outE.filter (·.src = R) := by
  have := ((chains_of_ok h.chains).2 R cR hcR hnR).2
  rw [membersOf_single hcR hna] at this
  simp only [List.getLastD_cons, List.getLastD_nil] at this
  rw [map_resrc_self, h.out] at this
  exact this

theorem AtEnd.refAt {j : Nat} {c : CRow} (hcj : rows[j]? = some c) (hn : (kindOf c.row.type).isNode = true) :
    r.nodes[refIdx rows outE j]? = some (mkNode j (toRRow c) (outE.filter (·.src = j))) :=
  h.rlay.node (i := 0) (lt_length_of_getElem? hcj) (by simp [refNodesAt, hcj, hn])

theorem AtEnd.cmpAt {j : Nat} {c : CRow} (hj : HasNode rows M j c) :
    ∃ n, s.nodes[M.nOf j]? = some n ∧
      RowSim M s.nodes n c (postUpTo rows rows.length j) (outOf st j) (M.rOf j) ∧
      F.nodes[cmpIdx rows M s.nodes j]? = some (renderNode n) ∧
      ∀ i' n', M.rOf j = some i' → s.nodes[i']? = some n' →
        F.nodes[cmpIdx rows M s.nodes j + 1]? = some (renderNode n') := by
  have hlt : j < rows.length := lt_length_of_getElem? hj.row
  obtain ⟨n, hn', hsim⟩ := h.rel.node j c ⟨.inl hlt, hj.row, hj.node, hj.el⟩
  have hg : cmpNodes rows M s.nodes j = renderNode n :: ((M.rOf j).toList.filterMap (fun i => s.nodes[i]?)).map renderNode := by
    simp [cmpNodes, nodeIdxs, hj.row, hj.node, hj.el, idxs, hn']
  refine ⟨n, hn', hsim, h.clay.node (i := 0) hlt (by rw [hg]; rfl), fun i' n' hro hn'' => h.clay.node (i := 1) hlt ?_⟩
  rw [hg, hro]
  simp only [Option.toList, List.filterMap_cons, hn'', List.filterMap_nil, List.map_cons, List.map_nil, List.getElem?_cons_succ,
    List.getElem?_cons_zero]

theorem AtEnd.refDest {t : Nat} {ct : CRow} (hct : rows[t]? = some ct) (hnt : (kindOf ct.row.type).isNode = true) :
    destIdx r ((some (Target.row t)).bind tgtDest) = some (some (refIdx rows outE t)) := by
  have := h.rlay.dest (h.refAt hct hnt)
  rwa [(mkNode_good _ _ _).uuid] at this

theorem AtEnd.drel_row {t : Nat} {ct : CRow} {m : NodeM} (ht : HasNode rows M t ct) (hm : s.nodes[M.nOf t]? = some m) :
    DRelE rnf rows outE M s.nodes r (destIdx r ((some (Target.row t)).bind tgtDest))
      (destIdx F (renderDest (.node m.uid))) := by
  obtain ⟨n, hn', _, hposC, _⟩ := h.cmpAt ht
  rw [hm] at hn'; injection hn' with hn'; subst hn'
  rw [h.refDest ht.row (isNodeRow_kind ht.node), ← posA_zero rows outE t, renderDest, show m.uid = (renderNode m).uuid from rfl,
    h.clay.dest hposC]
  exact DRelO.node (t, 0) (live_zero ht) rfl

theorem AtEnd.drel {R : Nat} {x y : Option (Option Nat)} (hd : DR F r M s.nodes (outOf st R) x y) :
    DRelE rnf rows outE M s.nodes r x y := by
  obtain ⟨d, t, hd, hv, rfl, rfl⟩ := hd
  cases t with
  | none => simp only [DestIs] at hd; subst hd; exact .none
  | some t =>
    cases t with
    | exit =>
      simp only [DestIs] at hd
      rcases hd with hd | hd <;> subst hd <;> exact .none
    | row t =>
      obtain ⟨m, hm, rfl⟩ := hd
      obtain ⟨e, he, het⟩ := hv t rfl
      obtain ⟨ct, hct, hnt⟩ := (chains_of_ok h.chains).1 e (h.mem_out he).1 t het
      cases hel : M.el t with
      | false => exact h.drel_row rnf ⟨hct, hnt, hel⟩ hm
      | true =>
        -- a `no_op` row that has disappeared: the reference flow passes through its empty node
        have hfrt : M.fr t = false := h.rel.tgtfr e (h.mem_out he).2 t het
        obtain ⟨⟨ct', hct', hnoop⟩, b, T, cT, hout, hbb, hbt, hnOf, hcT, hnT, hnnT⟩ :=
          h.sched.elided t hel hfrt (lt_length_of_getElem? hct)
        rw [hct] at hct'; injection hct' with hct'; subst hct'
        rw [hnOf] at hm
        have hnna : isNamedAct ct = false := not_named_of_kind (by rw [kind_of_noop hnoop]; decide)
        have hlast := h.out_unnamed hct hnt hnna
        rw [← h.split, hout] at hlast
        have hA : (absFlow ⟨false, rnf⟩ r)[refIdx rows outE t]? = some
            { acts := [], ask := none, dests := [destIdx r ((some (Target.row T)).bind tgtDest)] } := by
          rw [absFlow_getElem?, h.refAt hct (isNodeRow_kind hnt), ← hlast, Option.map_some,
            absNode_plain_ref _ r t (toRRow ct) [b] (.inr (kind_of_noop hnoop)) (List.forall_mem_singleton.mpr hbb),
            show (toRRow ct).act = none from refAct_of_noop (h.rowOk hct) hnoop]
          simp only [Option.toList, List.getLast?_singleton, Option.bind_some, hbt]
        rw [h.refDest hct (isNodeRow_kind hnt)]
        exact .skip (refIdx rows outE t) _ _ hA rfl rfl (h.drel_row rnf ⟨hcT, hnT, h.rel.elno T cT hcT hnnT⟩ hm)

theorem AtEnd.start :
    (absFlow ⟨false, rnf⟩ r = [] ∧ absFlow ⟨false, rnf⟩ F = []) ∨
    (absFlow ⟨false, rnf⟩ r ≠ [] ∧ absFlow ⟨false, rnf⟩ F ≠ [] ∧
      ∃ j0, Live rows M j0 ∧ offA rows j0 = 0 ∧ posA rows outE j0 = 0 ∧ posB rows M s.nodes j0 = 0) := by
  cases hf : rows.find? (fun c => (kindOf c.row.type).isNode) with
  | none =>
    have hnone : ∀ j, refNodesAt rows outE j = [] ∧ cmpNodes rows M s.nodes j = [] := fun j =>
      no_nodes outE M s.nodes (fun c hc =>
        Bool.eq_false_iff.mpr (List.find?_eq_none.mp hf c (List.mem_of_getElem? hc)))
    exact .inl ⟨h.rlay.abs_nil _ fun j => (hnone j).1, h.clay.abs_nil _ fun j => (hnone j).2⟩
  | some c =>
    -- the first row with a node: no node before it; it is not a `no_op` row, and it is not merged
    obtain ⟨hn, j0, hj0, hc, hmin⟩ := List.find?_eq_some_iff_getElem.mp hf
    have hcj : rows[j0]? = some c := by rw [List.getElem?_eq_getElem hj0, hc]
    have hmin' : ∀ i y, i < j0 → rows[i]? = some y → (kindOf y.row.type).isNode = false := by
      intro i y hi hy
      obtain ⟨_, rfl⟩ := List.getElem?_eq_some_iff.mp hy
      simpa using hmin i hi
    have hnone : ∀ x, x < j0 → refNodesAt rows outE x = [] ∧ cmpNodes rows M s.nodes x = [] :=
      fun x hx => no_nodes outE M s.nodes fun y => hmin' x y hx
    have hno : isNoop c = false := by
      have hfirst := h.first
      unfold firstOk at hfirst
      rw [hf] at hfirst
      simpa using hfirst
    have hnr : isNodeRow c = true := by
      unfold isNodeRow
      rw [hn, first_node_row_unmerged h.annot hcj hmin']
      rfl
    have hj : HasNode rows M j0 c := ⟨hcj, hnr, h.rel.elno j0 c hcj hno⟩
    obtain ⟨n, _, _, hposC, _⟩ := h.cmpAt hj
    exact .inr ⟨absFlow_ne_nil _ (h.refAt hcj hn), absFlow_ne_nil _ hposC, (j0, 0), live_zero hj, rfl,
      (posA_zero rows outE j0).trans (rowIdx_zero fun x hx => (hnone x hx).1), rowIdx_zero fun x hx => (hnone x hx).2⟩

end

end Rpft.CoreSheet
