/-
Rows merged into one node (C02 fragment), the static side: the mark `annotate` sets is what `mergeAt`
says; the chain of rows of a node (`membersOf`) and the actions merged into the node (`postUpTo`); the
reference node of an action row depends on its row and on the sources of its out-edges through the
identifiers and the actions only.
-/
import Rpft.Lemmas.CoreCondExitAbs
namespace Rpft.CoreSheet
open Rpft Rpft.Compile Rpft.RefFlow Rpft.Flow

theorem annotate_getElem? (rows : List CRow) (j : Nat) :
    (annotate rows)[j]? = (rows[j]?).map (fun c => { c with merged := mergeAt rows j }) := by
  unfold annotate
  rw [List.getElem?_map, List.getElem?_zipIdx]
  cases rows[j]? <;> simp

theorem annotate_length (rows : List CRow) : (annotate rows).length = rows.length := by
  unfold annotate; simp

theorem annotate_map {β} (f : CRow → β) (hf : ∀ c m, f { c with merged := m } = f c) (rows : List CRow) :
    (annotate rows).map f = rows.map f := by
  unfold annotate
  rw [List.map_map]
  have : (f ∘ fun (p : CRow × Nat) => ({ p.1 with merged := mergeAt rows p.2 } : CRow)) = f ∘ Prod.fst := by
    funext p; exact hf p.1 _
  rw [this, ← List.map_map, List.zipIdx_map_fst]

theorem mergeAt_annotate (rows : List CRow) (j : Nat) : mergeAt (annotate rows) j = mergeAt rows j := by
  -- the rows before row `j` count through their node names, which the marks do not touch
  have hany : ∀ p : CRow → Bool, (∀ c m, p { c with merged := m } = p c) →
      ((annotate rows).take j).any p = (rows.take j).any p := by
    intro p hp
    have e : rows.take j = (rows.zipIdx.take j).map Prod.fst := by rw [List.map_take, List.zipIdx_map_fst]
    unfold annotate
    rw [← List.map_take, List.any_map, e, List.any_map]
    exact congrArg _ (funext fun (x : CRow × Nat) => hp x.1 _)
  unfold mergeAt
  rw [annotate_getElem?]
  cases rows[j]? with
  | none => rfl
  | some c =>
    exact congrArg (isNamedAct c && ·) (hany (fun c' => isNamedAct c' && decide (c'.row.nodeName = c.row.nodeName))
      (fun _ _ => rfl))

theorem annot_annotate (rows : List CRow) : Annot (annotate rows) := by
  intro j c hc
  rw [annotate_getElem?] at hc
  cases hj : rows[j]? with
  | none => rw [hj] at hc; cases hc
  | some c0 =>
    rw [hj] at hc
    simp only [Option.map_some, Option.some.injEq] at hc
    rw [mergeAt_annotate, ← hc]

theorem membersOf_head (rows : List CRow) (R : Nat) : (membersOf rows R)[0]? = some R := by
  unfold membersOf
  cases rows[R]? <;> rfl

def actsOf (rows : List CRow) (t : Nat) : List Str := ((rows[t]?).bind (fun c => c.row.action)).toList

section
variable {rows : List CRow} {R : Nat} {cR : CRow} (hc : rows[R]? = some cR)
include hc

theorem membersOf_single (hn : isNamedAct cR = false) : membersOf rows R = [R] := by
  unfold membersOf
  rw [hc]; simp [hn]

theorem membersOf_tail (hn : isNamedAct cR = true) :
    (membersOf rows R).tail =
      (List.range rows.length).filter (fun i => decide (R < i) && mergedNamed rows cR.row.nodeName i) := by
  unfold membersOf
  rw [hc]; simp [hn]

theorem membersOf_mem_tail {t : Nat} (ht : t ∈ (membersOf rows R).tail) :
    ∃ ct, rows[t]? = some ct ∧ isNamedAct ct = true := by
  cases hn : isNamedAct cR with
  | false => rw [membersOf_single hc hn] at ht; cases ht
  | true =>
    rw [membersOf_tail hc hn] at ht
    simp only [List.mem_filter, List.mem_range, Bool.and_eq_true, decide_eq_true_eq] at ht
    obtain ⟨_, _, hm⟩ := ht
    unfold mergedNamed at hm
    cases hct : rows[t]? with
    | none => rw [hct] at hm; cases hm
    | some ct =>
      rw [hct] at hm
      simp only [Bool.and_eq_true, decide_eq_true_eq] at hm
      exact ⟨ct, rfl, hm.1.2⟩

theorem postUpTo_members (hn : isNamedAct cR = true) :
    postUpTo rows rows.length R =
      (membersOf rows R).tail.filterMap (fun i => (rows[i]?).bind (fun c => c.row.action)) := by
  rw [membersOf_tail hc hn]
  have key : ∀ kg, kg ≤ rows.length → postUpTo rows kg R =
      ((List.range kg).filter (fun i => decide (R < i) && mergedNamed rows cR.row.nodeName i)).filterMap
        (fun i => (rows[i]?).bind (fun c => c.row.action)) := by
    intro kg
    induction kg with
    | zero => intro _; rw [postUpTo_le rows (Nat.zero_le _)]; rfl
    | succ k ih =>
      intro hk
      have hkl : k < rows.length := hk
      obtain ⟨c, hck⟩ : ∃ c, rows[k]? = some c := ⟨rows[k], by simp [hkl]⟩
      rw [List.range_succ, List.filter_append, List.filterMap_append, ← ih (by omega)]
      by_cases hRk : R < k
      · by_cases hm : mergedNamed rows cR.row.nodeName k = true
        · have hm' := hm
          unfold mergedNamed at hm'
          rw [hck] at hm'
          simp only [Bool.and_eq_true, decide_eq_true_eq] at hm'
          rw [postUpTo_merge rows k R c cR hck hc hRk hm'.1.1 hm'.1.2 hn hm'.2]
          simp only [hRk, hm, decide_true, Bool.and_self, List.filter_cons, if_true, List.filter_nil,
            List.filterMap_cons, List.filterMap_nil, hck, Option.bind_some]
          cases c.row.action <;> rfl
        · have hm0 : mergedNamed rows cR.row.nodeName k = false := by simpa using hm
          rw [postUpTo_skip rows k R cR hc hm0]
          simp [hRk, hm0]
      · have h1 : postUpTo rows (k + 1) R = [] := postUpTo_le rows (by omega)
        have h2 : postUpTo rows k R = [] := postUpTo_le rows (by omega)
        rw [h1, h2]
        simp [hRk]
  exact key rows.length (Nat.le_refl _)

theorem postUpTo_unnamed (hn : isNamedAct cR = false) (kg : Nat) : postUpTo rows kg R = [] := by
  unfold postUpTo; rw [hc]; simp [hn]

theorem chain_acts : actsOf rows R ++ postUpTo rows rows.length R = (membersOf rows R).flatMap (actsOf rows) := by
  cases hna : isNamedAct cR with
  | false => rw [membersOf_single hc hna, List.flatMap_singleton, postUpTo_unnamed hc hna, List.append_nil]
  | true =>
    have hm : membersOf rows R = R :: (membersOf rows R).tail := by unfold membersOf; simp only [hc, List.tail_cons]
    rw [postUpTo_members hc hna, hm, List.flatMap_cons, List.tail_cons]
    congr 1
    generalize (membersOf rows R).tail = l
    induction l with
    | nil => rfl
    | cons x l ih => simp only [List.filterMap_cons, List.flatMap_cons, ← ih, actsOf]; cases (rows[x]?).bind _ <;> rfl

end

theorem mkNode_action_resrc {rr : RRow} (hk : rr.kind = .action) (k : Nat) (es : List OutEdge) (R : Nat) :
    mkNode k rr (es.map (fun e => { e with src := R })) = mkNode k rr es := by
  have hf : ∀ (p : OutEdge → Bool), (∀ e : OutEdge, p { e with src := R } = p e) →
      (es.map (fun e => ({ e with src := R } : OutEdge))).filter p =
        (es.filter p).map (fun e => { e with src := R }) := by
    intro p hp
    rw [List.filter_map]
    congr 1
    apply List.filter_congr
    intro e _
    exact hp e
  unfold mkNode
  simp only [hk]
  rw [hf (fun e => e.cond.blank) (fun _ => rfl), hf (fun e => !e.cond.blank) (fun _ => rfl)]
  have h1 : lastTgt ((es.filter (fun e => e.cond.blank)).map (fun e => ({ e with src := R } : OutEdge))) (fun _ => true) =
      lastTgt (es.filter (fun e => e.cond.blank)) (fun _ => true) := by
    unfold lastTgt
    simp only [List.filter_true, List.getLast?_map]
    cases (es.filter (fun e => e.cond.blank)).getLast? <;> rfl
  have h2 : condVar ((es.filter (fun e => !e.cond.blank)).map (fun e => ({ e with src := R } : OutEdge))) =
      condVar (es.filter (fun e => !e.cond.blank)) := by
    unfold condVar
    rw [List.find?_map]
    simp only [Function.comp_def, Option.map_map]
  rw [h1, h2]
  simp only [List.isEmpty_map, List.map_map, Function.comp_def]

theorem mkNode_action_acts (lvl : ObsLevel) (r : Flow) (k : Nat) (rr : RRow) (es : List OutEdge)
    (hk : rr.kind = .action) : (absNode lvl r (mkNode k rr es)).acts = rr.act.toList := by
  have : (mkNode k rr es).actions = refActs k rr.act := by
    unfold mkNode refActs
    simp only [hk]
    split
    · rfl
    · split <;> rfl
  unfold absNode
  simp only [this]
  exact refActs_obs k rr.act

theorem absNode_action_congr (rnf : Bool) (r : Flow) (k k' : Nat) (rr rr' : RRow) (es : List OutEdge)
    (hk : rr.kind = .action) (hk' : rr'.kind = .action) (hv : SameVar es) :
    (absNode ⟨false, rnf⟩ r (mkNode k rr es)).ask = (absNode ⟨false, rnf⟩ r (mkNode k' rr' es)).ask ∧
    (absNode ⟨false, rnf⟩ r (mkNode k rr es)).dests = (absNode ⟨false, rnf⟩ r (mkNode k' rr' es)).dests := by
  by_cases hne : es.filter (fun e => !e.cond.blank) = []
  · have hb : ∀ e ∈ es, e.cond.blank = true := fun e he => by
      simpa using List.filter_eq_nil_iff.mp hne e he
    rw [absNode_plain_ref _ r k rr es (.inl hk) hb, absNode_plain_ref _ r k' rr' es (.inl hk') hb]
    exact ⟨rfl, rfl⟩
  · rw [absNode_cond _ r k rr (.inl hk) hne hv, absNode_cond _ r k' rr' (.inl hk') hne hv, hk, hk', absNode_mkSwitch,
      absNode_mkSwitch]
    exact ⟨rfl, rfl⟩

end Rpft.CoreSheet
