/-
Lemmas on the `*` columns of `parse_row` (asterisk length, broadcast, the entries of the expanded
row) and on the context remap of headers (`parseRow_header_swap`: a header may be exchanged for one that
the remap sends to the same header) — C09.  They hold for every schema.
-/
import Rpft.Lemmas.Row
namespace Rpft.Row
open Rpft

theorem starLen_pos (pfx : Str) (cols : List (Str × ColVal)) : 1 ≤ starLen pfx cols := by
  fun_induction starLen pfx cols with
  | case1 => exact Nat.le_refl 1
  | case2 _ _ _ _ ih => exact Nat.le_trans ih (Nat.le_max_left ..)
  | case3 _ _ _ _ ih => exact ih
  | case4 _ _ _ ih => exact ih

theorem starLen_append (pfx : Str) (a b : List (Str × ColVal)) :
    starLen pfx (a ++ b) = max (starLen pfx a) (starLen pfx b) := by
  fun_induction starLen pfx a with
  | case1 => exact (Nat.max_eq_right (starLen_pos pfx b)).symm
  | case2 k xs rest h ih =>
    simp only [List.cons_append, starLen, h, ih, and_self, if_true]
    exact Nat.max_right_comm ..
  | case3 k xs rest h ih => simp only [List.cons_append, starLen, h, ih, if_false]
  | case4 head rest h ih => rw [List.cons_append, starLen.eq_3 _ _ _ h, ih]

theorem starLen_broadcast (pre post : List (Str × ColVal)) (k : Str) (s : Str) (pfx : Str) :
    starLen pfx (pre ++ [(k, Sum.inr (.list (List.replicate
        (starLen (starPrefix k) (pre ++ [(k, Sum.inr (.atom s))] ++ post)) (.atom s))))] ++ post) =
    starLen pfx (pre ++ [(k, Sum.inr (.atom s))] ++ post) := by
  simp only [starLen_append, starLen, List.length_replicate]
  split
  · rename_i h
    -- the new length `max (max a 1) b` is at least `1`, `a` and `b`
    rw [← h.2, Nat.max_eq_right (Nat.le_trans (Nat.le_max_right _ 1) (Nat.le_max_left _ _)),
      Nat.max_eq_right (Nat.le_trans (Nat.le_max_left _ 1) (Nat.le_max_left _ _)),
      Nat.max_eq_left (Nat.le_max_right _ _)]
  · rfl

theorem expandCol_congr {all all' : List (Str × ColVal)}
    (h : ∀ pfx, starLen pfx all = starLen pfx all') (col : Str × ColVal) :
    expandCol all col = expandCol all' col := by
  obtain ⟨k, cv⟩ := col
  cases cv with
  | inl s => rfl
  | inr pv => cases pv <;> simp [expandCol, h]

theorem preParse_spec {d1 : List (Str × Str)} {cols : List (Str × ColVal)}
    (h : preParse d1 = .ok cols) {c : Str × ColVal} (hc : c ∈ cols) :
    (∃ s, c.2 = Sum.inl s ∧ hasStar c.1 = false ∧ (c.1, s) ∈ d1) ∨
    (∃ pv, c.2 = Sum.inr pv ∧ hasStar c.1 = true) := by
  obtain ⟨kv, hkv, hf⟩ := mem_of_mapE_ok _ d1 cols h c hc
  cases hs : hasStar kv.1 with
  | true =>
    simp only [hs, if_true] at hf
    cases hp : cellParse kv.2 with
    | error e => simp [hp] at hf
    | ok pv =>
      simp only [hp, Except.ok.injEq] at hf
      subst hf
      exact Or.inr ⟨pv, rfl, hs⟩
  | false =>
    simp only [hs, Bool.false_eq_true, if_false, Except.ok.injEq] at hf
    subst hf
    exact Or.inl ⟨kv.2, rfl, hs, hkv⟩

theorem enumFrom1_mem {α : Type} : ∀ (xs : List α) (i : Nat) (p : Nat × α),
    p ∈ enumFrom1 i xs → p.2 ∈ xs
  | [], _, p, h => by simp [enumFrom1] at h
  | x :: xs, i, p, h => by
    simp only [enumFrom1, List.mem_cons] at h
    rcases h with rfl | h
    · simp
    · exact List.mem_cons_of_mem _ (enumFrom1_mem xs (i + 1) p h)

theorem expandAll_mem {cols : List (Str × ColVal)} {e : Str × ColVal} (h : e ∈ expandAll cols) :
    (e ∈ cols ∧ ∃ s, e.2 = Sum.inl s) ∨
    (∃ k pv i x, (k, Sum.inr pv) ∈ cols ∧ e = (replace1 '*' (printNat i) k, Sum.inr x) ∧
      ((∃ a, pv = .atom a ∧ x = .atom a) ∨ ∃ xs, pv = .list xs ∧ x ∈ xs)) := by
  unfold expandAll at h
  obtain ⟨c, hc, hec⟩ := List.mem_flatMap.mp h
  obtain ⟨k, cv⟩ := c
  cases cv with
  | inl s =>
    simp only [expandCol, List.mem_singleton] at hec
    subst hec
    exact Or.inl ⟨hc, s, rfl⟩
  | inr pv =>
    right
    simp only [expandCol, List.mem_map] at hec
    obtain ⟨p, hp, rfl⟩ := hec
    have hx := enumFrom1_mem _ _ p hp
    refine ⟨k, pv, p.1, p.2, hc, rfl, ?_⟩
    cases pv with
    | atom a => exact Or.inl ⟨a, rfl, List.eq_of_mem_replicate hx⟩
    | list xs => exact Or.inr ⟨xs, rfl, hx⟩

theorem ctxRemap_ctx_congr (sch : Schema) (d₁ d₂ : List (Str × Str))
    (h : ∀ hd tcol tb, sch.ctxMain = some (hd, tcol, tb) → alookup tcol d₁ = alookup tcol d₂)
    (k : Str) : ctxRemap sch d₁ k = ctxRemap sch d₂ k := by
  unfold ctxRemap
  cases alookup k sch.ctxBasic with
  | some k' => rfl
  | none =>
    cases hm : sch.ctxMain with
    | none => rfl
    | some m =>
      obtain ⟨hd, tcol, tb⟩ := m
      simp only [h hd tcol tb hm]

theorem ctxRemap_ok {sch : Schema} {d : List (Str × Str)} {k0 k : Str} (h : ctxRemap sch d k0 = .ok k) :
    alookup k0 sch.ctxBasic = some k ∨
    (∃ tc tb t, sch.ctxMain = some (k0, tc, tb) ∧ alookup t tb = some k) ∨
    (k = k0 ∧ alookup k0 sch.ctxBasic = none ∧ ∀ hd tc tb, sch.ctxMain = some (hd, tc, tb) → k0 ≠ hd) := by
  revert h
  fun_cases ctxRemap sch d k0 <;> intro h <;> cases h
  case case1 hb => exact .inl hb
  case case2 hb hm => exact .inr (.inr ⟨rfl, hb, fun _ _ _ h => nomatch hm.symm.trans h⟩)
  case case5 tc tb t _ hm ha => exact .inr (.inl ⟨tc, tb, _, hm, ha⟩)
  case case6 hb hd tc tb hm hne =>
    exact .inr (.inr ⟨rfl, hb, fun _ _ _ h => by cases hm.symm.trans h; exact hne⟩)

theorem rekey_keys (sch : Schema) (ctx : List (Str × Str)) :
    ∀ (data acc d1 : List (Str × Str)), foldE (rekeyStep sch ctx) acc data = .ok d1 →
      ∀ kv ∈ d1, kv ∈ acc ∨ ∃ k0, ctxRemap sch ctx k0 = .ok kv.1
  | [], acc, d1, h, kv, hkv => by
    simp only [foldE] at h; cases h; exact Or.inl hkv
  | x :: rest, acc, d1, h, kv, hkv => by
    simp only [foldE, rekeyStep] at h
    cases hc : ctxRemap sch ctx x.1 with
    | error e => simp [hc] at h
    | ok k =>
      simp only [hc] at h
      rcases rekey_keys sch ctx rest _ d1 h kv hkv with h' | h'
      · rcases Dict.mem_set (aset_eq k x.2 acc ▸ h') with h'' | h''
        · exact Or.inl h''
        · exact Or.inr ⟨x.1, by rw [h'']; exact hc⟩
      · exact Or.inr h'

theorem parseRow_header_swap (sch : Schema) (pre post : List (Str × Str)) (h l c : Str)
    (ht : ∀ hd tcol tb, sch.ctxMain = some (hd, tcol, tb) → h ≠ tcol ∧ l ≠ tcol)
    (H : ctxRemap sch (pre ++ [(l, c)] ++ post) h = ctxRemap sch (pre ++ [(l, c)] ++ post) l) :
    parseRow sch (pre ++ [(h, c)] ++ post) = parseRow sch (pre ++ [(l, c)] ++ post) := by
  -- the remap reads the same type cell in both rows, so the two folds of `rekey` take the same steps
  have hctx := ctxRemap_ctx_congr sch (pre ++ [(h, c)] ++ post) (pre ++ [(l, c)] ++ post)
    fun hd tcol tb hm => by simp [alookup_append, alookup, ht hd tcol tb hm]
  unfold parseRow rowEntries rekey
  rw [foldE_congr (g := rekeyStep sch (pre ++ [(l, c)] ++ post))
    (by intro acc kv; simp only [rekeyStep, hctx])]
  simp only [foldE_append]
  cases foldE (rekeyStep sch (pre ++ [(l, c)] ++ post)) [] pre with
  | error e => rfl
  | ok acc => simp only [foldE, rekeyStep, H]

end Rpft.Row
