/-
The simulation relation between two states of the compiler machine: equal up to a renaming `ρ` of
identifiers, a re-indexing `ν` of the node arena and `γ` of the group arena, on a domain
(`DN`, `DG`) of the left state; outside the domain the left state did not change w.r.t. a base
state, outside the image of the domain the right state did not change w.r.t. its base state.
One block `bx` of the left state may have, on the right, an extra first child `gx` (the `no_op`
group a begin row leaves inside its block).  `T` are the groups that are never traversed.
`ASim` is this relation on the arenas; it reads of a state only what `AEq` lists (`ASim.congr`) and is kept by
the updates `ASim.setNode`, `addNode`, `setGrp`, `setNoop`, `addGrp`.  In open mode the extra child must be
`Inert`: nothing a walk reaches through it has a loose exit (`NoLoose`, `RowTight`); `ASim.block_image` is what
a walk sees of the image of a block.
-/
import Rpft.Lemmas.CompileInsertNodes
import Rpft.Lemmas.CompileArena
namespace Rpft.Compile
open Rpft Function

structure Params where
  ρ : Uid → Uid
  ν : Nat → Nat
  γ : Nat → Nat
  DN : Nat → Prop
  DG : Nat → Prop
  T : Nat → Prop
  bx : Nat
  gx : Nat
  base₁ : St
  base₂ : St
  /-- the special block is known to have a child already -/
  hb : Prop
  /-- there is a special block at all -/
  sp : Bool
  /-- the test tables of both runs -/
  na : List Str
  nt : List Str
  /-- open mode: the special block is an ordinary (untainted) group; the extra first child it has on
  the right (a `no_op` group without router node whose parents are row groups without loose exit)
  is then inert -/
  op : Bool := false

structure Params.Ok (P : Params) : Prop where
  hρ : Injective P.ρ
  hν : Injective P.ν
  hγ : Injective P.γ
  hT : P.sp = true → P.op = false → P.T P.bx
  hfix : ∀ x, ¬ Invented x → P.ρ x = x
  hgx : P.op = true → P.sp = true ∧ ∀ j, P.γ j ≠ P.gx

/-- group `j` belongs to the domain and is traversed: what every walk over the groups asks of the group it starts from -/
def Params.Live (P : Params) (j : Nat) : Prop := P.DG j ∧ ¬ P.T j

/-- the nodes a group refers to -/
def gnodes : Grp → List Nat
  | .row ns _ => ns
  | .noop _ (some j) => [j]
  | .noop _ none => []
  | .block _ => []

/-- the groups a group refers to (children of a block, parents of a `no_op` group) -/
def grefs : Grp → List Nat
  | .row _ _ => []
  | .noop ps _ => ps.map (·.1)
  | .block cs => cs

/-- every group refers to nodes and groups that exist -/
def RefsOk (s : St) : Prop :=
  ∀ (j : Nat) (g : Grp), s.groups[j]? = some g →
    (∀ i ∈ gnodes g, i < s.nodes.size) ∧ (∀ x ∈ grefs g, x < s.groups.size)

def IdOk (b : Nat) (x : Uid) : Prop := Below b x ∨ ¬ Invented x

theorem IdOk.mono {b b' : Nat} {x : Uid} (h : IdOk b x) (hb : b ≤ b') : IdOk b' x := by
  rcases h with h | h
  · exact .inl (h.mono hb)
  · exact .inr h

theorem IdOk.lt_of_tid {B k : Nat} (h : IdOk B (tid k)) : k < B := by
  rcases h with ⟨k', hk', e⟩ | hp
  · exact tid_inj.mp e ▸ hk'
  · exact absurd (invented_tid k) hp

/-- the exit identifier every node carries was drawn from the counter or given in the sheet -/
def DexOk (s : St) : Prop := ∀ (i : Nat) (n : NodeM), s.nodes[i]? = some n → IdOk s.next n.dexitUid

theorem RefsOk.push_push {s₀ t : St} {n : NodeM} {x y : Grp} (hwf : RefsOk s₀)
    (hn : t.nodes = s₀.nodes.push n) (hgs : t.groups = (s₀.groups.push x).push y)
    (hx : (∀ i ∈ gnodes x, i ≤ s₀.nodes.size) ∧ ∀ r ∈ grefs x, r < s₀.groups.size + 2)
    (hy : (∀ i ∈ gnodes y, i ≤ s₀.nodes.size) ∧ ∀ r ∈ grefs y, r < s₀.groups.size + 2) : RefsOk t := by
  intro j g hgj
  rw [hn, hgs, Array.size_push, Array.size_push, Array.size_push]
  rw [hgs] at hgj
  rcases getElem?_push_push_cases hgj with ⟨_, h1⟩ | ⟨_, rfl⟩ | ⟨_, rfl⟩
  · have := hwf j g h1
    exact ⟨fun i hi => Nat.lt_succ_of_lt (this.1 i hi), fun r hr => Nat.lt_add_right 2 (this.2 r hr)⟩
  · exact ⟨fun i hi => Nat.lt_succ_of_le (hx.1 i hi), hx.2⟩
  · exact ⟨fun i hi => Nat.lt_succ_of_le (hy.1 i hi), hy.2⟩

theorem DexOk.push {s₀ t : St} {n : NodeM} (hdex : DexOk s₀) (hn : t.nodes = s₀.nodes.push n)
    (hnx : s₀.next ≤ t.next) (hd : IdOk t.next n.dexitUid) : DexOk t := by
  intro i m hm
  rw [hn] at hm
  rcases getElem?_push_some hm with ⟨_, rfl⟩ | ⟨_, h1⟩
  · exact hd
  · exact (hdex i m h1).mono hnx

variable (P : Params)

def mapGrp : Grp → Grp
  | .row nodes t => .row (nodes.map P.ν) t
  | .noop ps r => .noop (ps.map fun p => (P.γ p.1, p.2)) (r.map P.ν)
  | .block cs => .block (cs.map P.γ)

/-- the image of group `j`: the special block gets the extra first child -/
def mapGrpAt (j : Nat) : Grp → Grp
  | .block cs => if j = P.bx ∧ P.sp = true then .block (P.gx :: cs.map P.γ) else .block (cs.map P.γ)
  | g => mapGrp P g

theorem mapGrpAt_row (j : Nat) (nodes : List Nat) (t : Str) :
    mapGrpAt P j (.row nodes t) = .row (nodes.map P.ν) t := rfl

theorem mapGrpAt_noop (j : Nat) (ps : List (Nat × Cond)) (r : Option Nat) :
    mapGrpAt P j (.noop ps r) = .noop (ps.map fun p => (P.γ p.1, p.2)) (r.map P.ν) := rfl

theorem mapGrpAt_block_ne {j : Nat} (h : j ≠ P.bx ∨ P.sp = false) (cs : List Nat) :
    mapGrpAt P j (.block cs) = .block (cs.map P.γ) := by
  rcases h with h | h <;> simp [mapGrpAt, h]

theorem mapGrpAt_block_bx (hsp : P.sp = true) (cs : List Nat) :
    mapGrpAt P P.bx (.block cs) = .block (P.gx :: cs.map P.γ) := by
  simp [mapGrpAt, hsp]

theorem mapGrpAt_block (j : Nat) (cs : List Nat) :
    mapGrpAt P j (.block cs) = .block ((if j = P.bx ∧ P.sp = true then [P.gx] else []) ++ cs.map P.γ) := by
  show (if j = P.bx ∧ P.sp = true then _ else _) = _
  split <;> rfl

theorem mapGrpAt_block_append (j : Nat) (cs : List Nat) (g : Nat) :
    ∃ cs2, mapGrpAt P j (.block cs) = .block cs2 ∧
      mapGrpAt P j (.block (cs ++ [g])) = .block (cs2 ++ [P.γ g]) :=
  ⟨_, mapGrpAt_block P j cs, by rw [mapGrpAt_block, List.map_append, List.append_assoc]; rfl⟩

theorem mapGrpAt_fix {P : Params} {j : Nat} {g : Grp} (hb : j ≠ P.bx ∨ P.sp = false)
    (hν : ∀ i ∈ gnodes g, P.ν i = i) (hγ : ∀ x ∈ grefs g, P.γ x = x) : mapGrpAt P j g = g := by
  cases g with
  | block cs => rw [mapGrpAt_block_ne _ hb, map_eq_self (l := cs) hγ]
  | row ns t => rw [mapGrpAt_row, map_eq_self (l := ns) hν]
  | noop ps r =>
    rw [mapGrpAt_noop, map_eq_self (fun p hp => by rw [hγ p.1 (List.mem_map.mpr ⟨p, hp, rfl⟩)])]
    cases r with
    | none => rfl
    | some i => rw [Option.map_some, hν i (by simp [gnodes])]

theorem mapGrpAt_congr {P P' : Params} {j : Nat} {g : Grp} (hν : ∀ i ∈ gnodes g, P.ν i = P'.ν i)
    (hγ : ∀ x ∈ grefs g, P.γ x = P'.γ x) (hb : P.bx = P'.bx) (hs : P.sp = P'.sp) (hx : P.gx = P'.gx) :
    mapGrpAt P j g = mapGrpAt P' j g := by
  cases g with
  | block cs =>
    unfold mapGrpAt
    simp only []
    rw [hb, hs, hx, List.map_congr_left (l := cs) hγ]
  | row ns t => exact congrArg (Grp.row · t) (List.map_congr_left (l := ns) hν)
  | noop ps r =>
    rw [mapGrpAt_noop, mapGrpAt_noop,
      List.map_congr_left (fun p hp => by rw [hγ p.1 (List.mem_map.mpr ⟨p, hp, rfl⟩)])]
    cases r with
    | none => rfl
    | some i => rw [Option.map_some, Option.map_some, hν i (by simp [gnodes])]

theorem mapGrpAt_inv {P P' : Params} {j : Nat} {g : Grp} (hb : j ≠ P.bx ∨ P.sp = false) (hb' : j ≠ P'.bx ∨ P'.sp = false)
    (hν : ∀ i ∈ gnodes g, P'.ν (P.ν i) = i) (hγ : ∀ x ∈ grefs g, P'.γ (P.γ x) = x) :
    mapGrpAt P' j (mapGrpAt P j g) = g := by
  cases g with
  | block cs => rw [mapGrpAt_block_ne _ hb, mapGrpAt_block_ne _ hb', List.map_map, map_eq_self (l := cs) (f := P'.γ ∘ P.γ) hγ]
  | row ns t => rw [mapGrpAt_row, mapGrpAt_row, List.map_map, map_eq_self (l := ns) (f := P'.ν ∘ P.ν) hν]
  | noop ps r =>
    rw [mapGrpAt_noop, mapGrpAt_noop, List.map_map,
      map_eq_self (fun p hp => by
        show (P'.γ (P.γ p.1), p.2) = p
        rw [hγ p.1 (List.mem_map.mpr ⟨p, hp, rfl⟩)])]
    cases r with
    | none => rfl
    | some i => rw [Option.map_some, Option.map_some, hν i (by simp [gnodes])]

theorem grefs_mapGrpAt_ne (P : Params) {j : Nat} (h : j ≠ P.bx ∨ P.sp = false) (g : Grp) :
    grefs (mapGrpAt P j g) = (grefs g).map P.γ := by
  cases g with
  | row ns t => rfl
  | noop ps r => simp [mapGrpAt, mapGrp, grefs, List.map_map, Function.comp_def]
  | block cs => rw [mapGrpAt_block_ne P h]; rfl

/-- a node without loose exit that stays so when a router is put behind it -/
def NoLoose (n : NodeM) : Prop := n.hasLoose = false ∧ (n.kind = .basic → n.dexitDest ≠ Dest.none)

theorem noLoose_rn {ρ : Uid → Uid} {n : NodeM} (h : NoLoose n) : NoLoose (rnNode ρ n) := by
  refine ⟨by rw [rnNode_hasLoose]; exact h.1, fun hk => ?_⟩
  have := h.2 hk
  show rnDest ρ n.dexitDest ≠ Dest.none
  cases hd : n.dexitDest with
  | none => exact absurd hd this
  | hard => intro e; cases e
  | node u => intro e; cases e

theorem noLoose_of_rn {ρ : Uid → Uid} {n : NodeM} (h : NoLoose (rnNode ρ n)) : NoLoose n := by
  refine ⟨by have := h.1; rw [rnNode_hasLoose] at this; exact this, fun hk => ?_⟩
  have := h.2 hk
  intro e
  apply this
  show rnDest ρ n.dexitDest = Dest.none
  rw [e]; rfl

/-- the extra child of the special block, in open mode: a `no_op` group without router node whose
parents are row groups all of whose nodes exist and have no loose exit -/
def Inert (gx : Nat) (s : St) : Prop :=
  ∃ ps, s.groups[gx]? = some (.noop ps none) ∧ ∀ p ∈ ps, ∃ nodes t, s.groups[p.1]? = some (.row nodes t) ∧
    ∀ i ∈ nodes, ∃ n, s.nodes[i]? = some n ∧ NoLoose n

/-- a row group all of whose nodes exist and have no loose exit: what `Inert` asks of every parent of the extra child -/
def RowTight (s : St) (j : Nat) : Prop :=
  ∃ nodes t, s.groups[j]? = some (.row nodes t) ∧ ∀ i ∈ nodes, ∃ n, s.nodes[i]? = some n ∧ NoLoose n

theorem RowTight.mono {j : Nat} {s s' : St} (h : RowTight s j)
    (hg : ∀ g, s.groups[j]? = some g → s'.groups[j]? = some g)
    (hn : ∀ (i : Nat) (n : NodeM), s.nodes[i]? = some n → NoLoose n → ∃ n', s'.nodes[i]? = some n' ∧ NoLoose n') :
    RowTight s' j := by
  obtain ⟨nodes, t, hgj, hnj⟩ := h
  exact ⟨nodes, t, hg _ hgj, fun k hk => (hnj k hk).elim fun m hm => hn k m hm.1 hm.2⟩

theorem Inert.mono {gx : Nat} {s s' : St} (hi : Inert gx s)
    (hg : ∀ g, s.groups[gx]? = some g → s'.groups[gx]? = some g) (hrow : ∀ j, RowTight s j → RowTight s' j) :
    Inert gx s' := by
  obtain ⟨ps, hgx, hps⟩ := hi
  exact ⟨ps, hg _ hgx, fun p hp => hrow p.1 (hps p hp)⟩

/-- arena part of the simulation -/
structure ASim (s₁ s₂ : St) : Prop where
  na₁ : s₁.noArgs = P.na
  na₂ : s₂.noArgs = P.na
  nt₁ : s₁.testTypes = P.nt
  nt₂ : s₂.testTypes = P.nt
  /-- nothing shrinks w.r.t. the base states -/
  mono₁ : P.base₁.next ≤ s₁.next ∧ P.base₁.nodes.size ≤ s₁.nodes.size ∧ P.base₁.groups.size ≤ s₁.groups.size
  mono₂ : P.base₂.next ≤ s₂.next ∧ P.base₂.nodes.size ≤ s₂.nodes.size ∧ P.base₂.groups.size ≤ s₂.groups.size
  idsync : ∀ k, P.ρ (tid (s₁.next + k)) = tid (s₂.next + k)
  nsync : ∀ k, P.ν (s₁.nodes.size + k) = s₂.nodes.size + k
  gsync : ∀ k, P.γ (s₁.groups.size + k) = s₂.groups.size + k
  ndom : ∀ i, s₁.nodes.size ≤ i → P.DN i
  gdom : ∀ j, s₁.groups.size ≤ j → P.DG j ∧ ¬ P.T j
  bxlt : P.bx < s₁.groups.size
  bne : P.hb → ∃ c cs, s₁.groups[P.bx]? = some (.block (c :: cs))
  wf : ∀ (j : Nat) (g : Grp), s₁.groups[j]? = some g →
    (∀ i ∈ gnodes g, i < s₁.nodes.size) ∧ (∀ x ∈ grefs g, x < s₁.groups.size)
  /-- the exit identifier a router node carries without using it was drawn from the counter too -/
  dex : ∀ (i : Nat) (n : NodeM), s₁.nodes[i]? = some n → Below s₁.next n.dexitUid ∨ ¬ Invented n.dexitUid
  nodes : ∀ i n, P.DN i → s₁.nodes[i]? = some n → s₂.nodes[P.ν i]? = some (rnNode P.ρ n)
  groups : ∀ j g, P.DG j → s₁.groups[j]? = some g → s₂.groups[P.γ j]? = some (mapGrpAt P j g)
  closed : ∀ j g, P.DG j → s₁.groups[j]? = some g → (∀ i ∈ gnodes g, P.DN i) ∧ (∀ x ∈ grefs g, P.DG x)
  ra : ∀ j g, P.DG j → ¬ P.T j → s₁.groups[j]? = some g → ∀ x ∈ grefs g, ¬ P.T x
  fr1n : ∀ i, ¬ P.DN i → s₁.nodes[i]? = P.base₁.nodes[i]?
  fr1g : ∀ j, ¬ P.DG j → s₁.groups[j]? = P.base₁.groups[j]?
  fr2n : ∀ i', (∀ i, P.DN i → P.ν i ≠ i') → s₂.nodes[i']? = P.base₂.nodes[i']?
  fr2g : ∀ j', (∀ j, P.DG j → P.γ j ≠ j') → s₂.groups[j']? = P.base₂.groups[j']?
  /-- open mode: the extra child on the right is inert -/
  pl : P.op = true → Inert P.gx s₂

/-- `t` has the arenas, the counter and the test tables of `s`: all that `ASim` reads of a state -/
def AEq (s t : St) : Prop :=
  t.nodes = s.nodes ∧ t.groups = s.groups ∧ t.next = s.next ∧ t.noArgs = s.noArgs ∧ t.testTypes = s.testTypes

theorem ASim.congr {P : Params} {s₁ s₂ t₁ t₂ : St} (h : ASim P s₁ s₂) (e : AEq s₁ t₁ := by exact ⟨rfl, rfl, rfl, rfl, rfl⟩)
    (f : AEq s₂ t₂ := by exact ⟨rfl, rfl, rfl, rfl, rfl⟩) : ASim P t₁ t₂ := by
  -- `ASim` mentions no other field: after taking the states apart the two statements are the same
  cases s₁; cases s₂; cases t₁; cases t₂
  dsimp only [AEq] at e f
  obtain ⟨rfl, rfl, rfl, rfl, rfl⟩ := e
  obtain ⟨rfl, rfl, rfl, rfl, rfl⟩ := f
  exact { h with }

variable {P} {s₁ s₂ : St} (h : ASim P s₁ s₂)
include h

theorem ASim.idSync : IdSync P.ρ s₁ s₂ :=
  ⟨by rw [h.na₂, h.na₁], by rw [h.nt₂, h.nt₁], h.idsync⟩

theorem ASim.bumps {t₁ t₂ : St} (hb : Bumps s₁ t₁ s₂ t₂) : ASim P t₁ t₂ := by
  obtain ⟨k, rfl, rfl⟩ := hb
  refine { h with idsync := ?_, dex := ?_, mono₁ := ?_, mono₂ := ?_ }
  · exact ⟨Nat.le_trans h.mono₁.1 (Nat.le_add_right _ _), h.mono₁.2⟩
  · exact ⟨Nat.le_trans h.mono₂.1 (Nat.le_add_right _ _), h.mono₂.2⟩
  · intro j
    have := h.idsync (k + j)
    simpa [Nat.add_assoc] using this
  · exact fun i n hn => IdOk.mono (h.dex i n hn) (Nat.le_add_right _ _)

theorem ASim.bump (k : Nat) : ASim P { s₁ with next := s₁.next + k } { s₂ with next := s₂.next + k } :=
  h.bumps ⟨k, rfl, rfl⟩

theorem ASim.node_lt {i : Nat} {n : NodeM} (hd : P.DN i)
    (hn : s₁.nodes[i]? = some n) : P.ν i < s₂.nodes.size :=
  lt_size_of_getElem? (h.nodes i n hd hn)

theorem ASim.grp_lt {j : Nat} {g : Grp} (hd : P.DG j)
    (hg : s₁.groups[j]? = some g) : P.γ j < s₂.groups.size :=
  lt_size_of_getElem? (h.groups j g hd hg)

/-! What `closed` and `ra` say for each shape of group. -/

theorem ASim.row_nodes {j : Nat} {ns : List Nat} {t : Str} (hd : P.DG j)
    (hg : s₁.groups[j]? = some (.row ns t)) : ∀ i ∈ ns, P.DN i :=
  (h.closed j _ hd hg).1

theorem ASim.noop_router {j i : Nat} {ps : List (Nat × Cond)} (hd : P.DG j)
    (hg : s₁.groups[j]? = some (.noop ps (some i))) : P.DN i :=
  (h.closed j _ hd hg).1 i (List.mem_singleton.mpr rfl)

theorem ASim.live_refs {j : Nat} {g : Grp} (lv : P.Live j) (hg : s₁.groups[j]? = some g) : ∀ x ∈ grefs g, P.Live x :=
  fun x hx => ⟨(h.closed j g lv.1 hg).2 x hx, h.ra j g lv.1 lv.2 hg x hx⟩

theorem ASim.noop_parents {j : Nat} {ps : List (Nat × Cond)} {r : Option Nat} (lv : P.Live j)
    (hg : s₁.groups[j]? = some (.noop ps r)) : ∀ p ∈ ps, P.Live p.1 :=
  fun p hp => h.live_refs lv hg p.1 (List.mem_map_of_mem hp (f := (·.1)))

theorem ASim.tight_left {j : Nat} {nodes : List Nat} {t : Str} (hd : P.DG j)
    (hg : s₁.groups[j]? = some (.row nodes t)) (ht : RowTight s₂ (P.γ j)) :
    ∀ i ∈ nodes, ∀ n, s₁.nodes[i]? = some n → NoLoose n := by
  obtain ⟨nodes₂, t₂, e, hn2⟩ := ht
  cases (h.groups j _ hd hg).symm.trans e
  intro i hi n hni
  obtain ⟨m, hm, hml⟩ := hn2 (P.ν i) (List.mem_map_of_mem hi)
  cases (h.nodes i n (h.row_nodes hd hg i hi) hni).symm.trans hm
  exact noLoose_of_rn hml

theorem ASim.block_image (ok : P.Ok) {j : Nat} (ht : ¬ P.T j) (cs : List Nat) :
    mapGrpAt P j (.block cs) = .block (cs.map P.γ) ∨
      (j = P.bx ∧ mapGrpAt P j (.block cs) = .block (P.gx :: cs.map P.γ) ∧ Inert P.gx s₂) := by
  cases hop : P.op with
  | false =>
    -- outside open mode the special block is tainted
    refine .inl (mapGrpAt_block_ne P ?_ cs)
    cases hsp : P.sp with
    | false => exact .inr rfl
    | true => exact .inl fun e => ht (e ▸ ok.hT hsp hop)
  | true =>
    by_cases hjb : j = P.bx
    · exact .inr ⟨hjb, hjb ▸ mapGrpAt_block_bx P (ok.hgx hop).1 cs, h.pl hop⟩
    · exact .inl (mapGrpAt_block_ne P (.inl hjb) cs)

theorem ASim.setNode (ok : P.Ok) {i : Nat} {old n' : NodeM}
    (hd : P.DN i) (ho : s₁.nodes[i]? = some old)
    (hdx : n'.dexitUid = old.dexitUid ∨ Below s₁.next n'.dexitUid)
    (hpl : P.op = true → NoLoose old → NoLoose n') :
    ASim P { s₁ with nodes := s₁.nodes.setIfInBounds i n' }
      { s₂ with nodes := s₂.nodes.setIfInBounds (P.ν i) (rnNode P.ρ n') } := by
  have hlt2 := h.node_lt hd ho
  -- the arenas keep their sizes: five fields see nothing else of the node arenas
  refine { h with
    mono₁ := by simpa only [Array.size_setIfInBounds] using h.mono₁
    mono₂ := by simpa only [Array.size_setIfInBounds] using h.mono₂
    nsync := by simpa only [Array.size_setIfInBounds] using h.nsync
    ndom := by simpa only [Array.size_setIfInBounds] using h.ndom
    wf := by simpa only [Array.size_setIfInBounds] using h.wf
    dex := ?_, nodes := ?_, fr1n := ?_, fr2n := ?_, pl := ?_ }
  · intro j m hj
    rcases getElem?_set_some hj with ⟨rfl, rfl⟩ | ⟨_, hj⟩
    · exact hdx.elim (fun hh => hh ▸ h.dex j old ho) .inl
    · exact h.dex j m hj
  · intro j m hdj hj
    rcases getElem?_set_some hj with ⟨rfl, rfl⟩ | ⟨hne, hj⟩
    · exact Array.getElem?_setIfInBounds_self_of_lt hlt2
    · exact (Array.getElem?_setIfInBounds_ne fun e => hne (ok.hν e).symm).trans (h.nodes j m hdj hj)
  · exact fun j hj => (Array.getElem?_setIfInBounds_ne fun (e : i = j) => hj (e ▸ hd)).trans (h.fr1n j hj)
  · exact fun j' hj' => (Array.getElem?_setIfInBounds_ne (hj' i hd)).trans (h.fr2n j' hj')
  · intro hop
    refine (h.pl hop).mono (fun _ hg => hg) fun x hx => hx.mono (fun _ hg => hg) fun k m hm hml => ?_
    by_cases hik : P.ν i = k
    · subst hik
      cases (h.nodes i old hd ho).symm.trans hm
      exact ⟨_, Array.getElem?_setIfInBounds_self_of_lt hlt2, noLoose_rn (hpl hop (noLoose_of_rn hml))⟩
    · exact ⟨m, (Array.getElem?_setIfInBounds_ne hik).trans hm, hml⟩

theorem ASim.addNode (n : NodeM) (hdx : IdOk s₁.next n.dexitUid) :
    ASim P { s₁ with nodes := s₁.nodes.push n } { s₂ with nodes := s₂.nodes.push (rnNode P.ρ n) } := by
  have h0 : P.ν s₁.nodes.size = s₂.nodes.size := by simpa using h.nsync 0
  refine { h with nsync := ?_, ndom := ?_, wf := ?_, dex := ?_, nodes := ?_, fr1n := ?_, fr2n := ?_, mono₁ := ?_, mono₂ := ?_, pl := ?_ }
  · exact ⟨h.mono₁.1, by have := h.mono₁.2.1; simp; omega, h.mono₁.2.2⟩
  · exact ⟨h.mono₂.1, by have := h.mono₂.2.1; simp; omega, h.mono₂.2.2⟩
  · intro k
    have := h.nsync (1 + k)
    simpa [Nat.add_assoc] using this
  · intro j hj; exact h.ndom j (by simp at hj; omega)
  · intro j g hg
    have := h.wf j g hg
    exact ⟨fun i hi => by have := this.1 i hi; simp; omega, this.2⟩
  · intro j m hj
    rcases getElem?_push_some hj with ⟨_, rfl⟩ | ⟨_, hj⟩
    · exact hdx
    · exact h.dex j m hj
  · intro j m hdj hj
    rcases getElem?_push_some hj with ⟨rfl, rfl⟩ | ⟨_, hj⟩
    · exact h0 ▸ Array.getElem?_push_size
    · exact (getElem?_push_ne _ (Nat.ne_of_lt (h.node_lt hdj hj))).trans (h.nodes j m hdj hj)
  · exact fun j hj => (getElem?_push_ne _ fun e => hj (h.ndom j (Nat.le_of_eq e.symm))).trans (h.fr1n j hj)
  · exact fun j' hj' => (getElem?_push_ne _ fun e =>
      hj' s₁.nodes.size (h.ndom _ (Nat.le_refl _)) (h0.trans e.symm)).trans (h.fr2n j' hj')
  · exact fun hop => (h.pl hop).mono (fun _ hg => hg) fun x hx =>
      hx.mono (fun _ hg => hg) fun k m hm hml => ⟨m, getElem?_push_of_some hm, hml⟩

/-- a group is replaced by one that refers to what it referred to before and to further members of the domain;
in open mode the image, if it was a tight row group, must remain one -/
theorem ASim.setGrp (ok : P.Ok) {j : Nat} {old g' : Grp}
    (hd : P.DG j) (ho : s₁.groups[j]? = some old)
    (hn : ∀ i ∈ gnodes g', i ∈ gnodes old ∨ (P.DN i ∧ i < s₁.nodes.size))
    (hr : ∀ x ∈ grefs g', x ∈ grefs old ∨ (P.DG x ∧ (¬ P.T j → ¬ P.T x) ∧ x < s₁.groups.size))
    (hbn : ∀ c cs, old = .block (c :: cs) → ∃ c' cs', g' = .block (c' :: cs'))
    (hpl : P.op = true → RowTight s₂ (P.γ j) →
      RowTight { s₂ with groups := s₂.groups.setIfInBounds (P.γ j) (mapGrpAt P j g') } (P.γ j)) :
    ASim P { s₁ with groups := s₁.groups.setIfInBounds j g' }
      { s₂ with groups := s₂.groups.setIfInBounds (P.γ j) (mapGrpAt P j g') } := by
  have hlt : j < s₁.groups.size := lt_size_of_getElem? ho
  have hlt2 := h.grp_lt hd ho
  have hcl := h.closed j _ hd ho
  have hwf := h.wf j _ ho
  have hn' : ∀ i ∈ gnodes g', P.DN i ∧ i < s₁.nodes.size := fun i hi =>
    (hn i hi).elim (fun hi => ⟨hcl.1 i hi, hwf.1 i hi⟩) id
  have hr' : ∀ x ∈ grefs g', P.DG x ∧ (¬ P.T j → ¬ P.T x) ∧ x < s₁.groups.size := fun x hx =>
    (hr x hx).elim (fun hx => ⟨hcl.2 x hx, fun ht => h.ra j _ hd ht ho x hx, hwf.2 x hx⟩) id
  have get1 := fun x g => getElem?_set_some (a := s₁.groups) (j := j) (x := x) (v := g') (g := g)
  refine { h with
    mono₁ := by simpa only [Array.size_setIfInBounds] using h.mono₁
    mono₂ := by simpa only [Array.size_setIfInBounds] using h.mono₂
    gsync := by simpa only [Array.size_setIfInBounds] using h.gsync
    gdom := by simpa only [Array.size_setIfInBounds] using h.gdom
    bxlt := by simpa only [Array.size_setIfInBounds] using h.bxlt
    bne := ?_, wf := ?_, groups := ?_, closed := ?_, ra := ?_, fr1g := ?_, fr2g := ?_, pl := ?_ }
  · intro hhb
    obtain ⟨c, cs, e⟩ := h.bne hhb
    by_cases hjb : j = P.bx
    · subst hjb
      rw [ho] at e
      obtain ⟨c', cs', e'⟩ := hbn c cs (Option.some.inj e)
      exact ⟨c', cs', by simp [hlt, e']⟩
    · exact ⟨c, cs, (Array.getElem?_setIfInBounds_ne hjb).trans e⟩
  · intro x g hx
    rcases get1 x g hx with ⟨rfl, rfl⟩ | ⟨hne, hx'⟩
    · exact ⟨fun i hi => (hn' i hi).2, fun y hy => by simpa only [Array.size_setIfInBounds] using (hr' y hy).2.2⟩
    · simpa only [Array.size_setIfInBounds] using h.wf x g hx'
  · intro x g hdx hx
    rcases get1 x g hx with ⟨rfl, rfl⟩ | ⟨hne, hx'⟩
    · exact Array.getElem?_setIfInBounds_self_of_lt hlt2
    · exact (Array.getElem?_setIfInBounds_ne fun e => hne (ok.hγ e).symm).trans (h.groups x g hdx hx')
  · intro x g hdx hx
    rcases get1 x g hx with ⟨rfl, rfl⟩ | ⟨hne, hx'⟩
    · exact ⟨fun i hi => (hn' i hi).1, fun y hy => (hr' y hy).1⟩
    · exact h.closed x g hdx hx'
  · intro x g hdx htx hx
    rcases get1 x g hx with ⟨rfl, rfl⟩ | ⟨hne, hx'⟩
    · exact fun y hy => (hr' y hy).2.1 htx
    · exact h.ra x g hdx htx hx'
  · exact fun x hx => (Array.getElem?_setIfInBounds_ne fun (e : j = x) => hx (e ▸ hd)).trans (h.fr1g x hx)
  · exact fun x' hx' => (Array.getElem?_setIfInBounds_ne (hx' j hd)).trans (h.fr2g x' hx')
  · intro hop
    -- the extra child is no image (`hgx`), and of its parents only the image of `j` has changed
    refine (h.pl hop).mono (fun g hg => (Array.getElem?_setIfInBounds_ne ((ok.hgx hop).2 j)).trans hg) fun x hx => ?_
    by_cases hjx : P.γ j = x
    · exact hjx ▸ hpl hop (hjx ▸ hx)
    · exact hx.mono (fun g hg => (Array.getElem?_setIfInBounds_ne hjx).trans hg) fun k m hm hml => ⟨m, hm, hml⟩

theorem ASim.setNoop (ok : P.Ok) {j : Nat} {ps ps' : List (Nat × Cond)}
    {r r' : Option Nat} (hd : P.DG j) (ho : s₁.groups[j]? = some (.noop ps r))
    (hps : ∀ p ∈ ps', p ∈ ps ∨ (P.DG p.1 ∧ (¬ P.T j → ¬ P.T p.1) ∧ p.1 < s₁.groups.size))
    (hr : ∀ i, r' = some i → r = some i ∨ (P.DN i ∧ i < s₁.nodes.size)) :
    ASim P { s₁ with groups := s₁.groups.setIfInBounds j (.noop ps' r') }
      { s₂ with groups :=
          s₂.groups.setIfInBounds (P.γ j) (.noop (ps'.map fun p => (P.γ p.1, p.2)) (r'.map P.ν)) } := by
  refine h.setGrp ok hd ho (g' := .noop ps' r') (fun i hi => ?_) (fun x hx => ?_) (fun _ _ e => nomatch e)
    fun _ ⟨_, _, e, _⟩ => nomatch (h.groups j _ hd ho).symm.trans e
  · cases r' with
    | none => cases hi
    | some i' =>
      cases List.mem_singleton.mp hi
      exact (hr i rfl).imp (fun e => by subst e; exact List.mem_singleton.mpr rfl) id
  · obtain ⟨p, hp, rfl⟩ := List.mem_map.mp hx
    exact (hps p hp).imp (fun hp => List.mem_map_of_mem hp) id

theorem ASim.addGrp (g : Grp) (hg : grefs g = [])
    (hn : ∀ i ∈ gnodes g, P.DN i ∧ i < s₁.nodes.size) :
    ASim P { s₁ with groups := s₁.groups.push g } { s₂ with groups := s₂.groups.push (mapGrp P g) } := by
  have h0 : P.γ s₁.groups.size = s₂.groups.size := by simpa using h.gsync 0
  have hne : s₁.groups.size ≠ P.bx := Nat.ne_of_gt h.bxlt
  have hm : mapGrpAt P s₁.groups.size g = mapGrp P g := by
    cases g <;> simp [mapGrpAt, mapGrp, hne]
  have hno : ∀ {Q : Nat → Prop}, ∀ x ∈ grefs g, Q x := fun x hx => by rw [hg] at hx; cases hx
  have get1 := fun x g0 => getElem?_push_some (a := s₁.groups) (x := x) (v := g) (g := g0)
  refine { h with gsync := ?_, gdom := ?_, bxlt := ?_, bne := ?_, wf := ?_, groups := ?_, closed := ?_, ra := ?_, fr1g := ?_, fr2g := ?_, mono₁ := ?_, mono₂ := ?_, pl := ?_ }
  · exact ⟨h.mono₁.1, h.mono₁.2.1, by have := h.mono₁.2.2; simp; omega⟩
  · exact ⟨h.mono₂.1, h.mono₂.2.1, by have := h.mono₂.2.2; simp; omega⟩
  · intro k
    have := h.gsync (1 + k)
    simpa [Nat.add_assoc] using this
  · intro x hx; exact h.gdom x (by simp at hx; omega)
  · have := h.bxlt; simp; omega
  · intro hhb
    obtain ⟨c, cs, e⟩ := h.bne hhb
    exact ⟨c, cs, getElem?_push_of_some e⟩
  · intro x g0 hx
    rcases get1 x g0 hx with ⟨rfl, rfl⟩ | ⟨hne', hx'⟩
    · exact ⟨fun i hi => (hn i hi).2, hno⟩
    · have := h.wf x g0 hx'
      exact ⟨this.1, fun y hy => by have := this.2 y hy; simp; omega⟩
  · intro x g0 hdx hx
    rcases get1 x g0 hx with ⟨rfl, rfl⟩ | ⟨hne', hx'⟩
    · simp [h0, hm]
    · exact (getElem?_push_ne _ (Nat.ne_of_lt (h.grp_lt hdx hx'))).trans (h.groups x g0 hdx hx')
  · intro x g0 hdx hx
    rcases get1 x g0 hx with ⟨rfl, rfl⟩ | ⟨hne', hx'⟩
    · exact ⟨fun i hi => (hn i hi).1, hno⟩
    · exact h.closed x g0 hdx hx'
  · intro x g0 hdx htx hx
    rcases get1 x g0 hx with ⟨rfl, rfl⟩ | ⟨hne', hx'⟩
    · exact hno
    · exact h.ra x g0 hdx htx hx'
  · exact fun x hx => (getElem?_push_ne _ fun e => hx (h.gdom x (Nat.le_of_eq e.symm)).1).trans (h.fr1g x hx)
  · exact fun x' hx' => (getElem?_push_ne _ fun e =>
      hx' s₁.groups.size (h.gdom _ (Nat.le_refl _)).1 (h0.trans e.symm)).trans (h.fr2g x' hx')
  · exact fun hop => (h.pl hop).mono (fun _ hg => getElem?_push_of_some hg) fun x hx =>
      hx.mono (fun _ hg => getElem?_push_of_some hg) fun k m hm hml => ⟨m, hm, hml⟩

end Rpft.Compile
