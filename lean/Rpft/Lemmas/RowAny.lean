/-
Untyped lists (`list`): their entries — strings and lists of strings — as a two-level cell
value, and the spreadable case of plain strings only (an untyped list holding lists cannot be
spread: finding F-C04-d).
-/
import Rpft.Lemmas.RowRecord
namespace Rpft.Row
open Rpft Rpft.Cell

mutual
theorem toPV_ofPV : ∀ (x : PV), Tree.toPV (Tree.ofPV x) = some x
  | .atom s => by simp [Tree.ofPV, Tree.toPV]
  | .list xs => by simp [Tree.ofPV, Tree.toPV, toPVs_ofPVs xs]
theorem toPVs_ofPVs : ∀ (xs : List PV), Tree.toPVs (Tree.ofPVs xs) = some xs
  | [] => by simp [Tree.ofPVs, Tree.toPVs]
  | x :: xs => by simp [Tree.ofPVs, Tree.toPVs, toPV_ofPV x, toPVs_ofPVs xs]
end

theorem toPVs_of_strs : ∀ (trs : List Tree) (ss : List Str),
    mapE (validate .str) trs = .ok (ss.map Val.str) → Tree.toPVs trs = some (ss.map PV.atom)
  | [], [], _ => rfl
  | [], _ :: _, h => by simp [mapE] at h
  | tr :: trs, ss, h => by
    simp only [mapE] at h
    cases tr <;> simp only [validate] at h <;> try cases h
    cases hm : mapE (validate .str) trs with
    | error e => simp [hm] at h
    | ok vs =>
      cases ss with
      | nil => simp [hm] at h
      | cons s ss =>
        simp only [hm, List.map_cons, Except.ok.injEq, List.cons.injEq, Val.str.injEq] at h
        obtain ⟨rfl, rfl⟩ := h
        simp [Tree.toPVs, Tree.toPV, toPVs_of_strs trs ss hm]

/-! ### as a cell value -/

def atomStr : PV → Str
  | .atom s => s
  | .list _ => []

def pvToElem : PV → Elem
  | .atom s => .atom s
  | .list ys => .list (ys.map atomStr)

theorem atoms_of_inner {ys : List PV} (h : (ys.all fun
      | .atom s => strOk s && !s.isEmpty
      | .list _ => false) = true) :
    ∃ ss : List Str, ys = ss.map PV.atom ∧ ∀ s ∈ ss, strOk s = true ∧ s ≠ [] :=
  exists_map_of_forall fun y hy => by
    have := List.all_eq_true.mp h y hy
    cases y with
    | list _ => cases this
    | atom s => exact ⟨s, rfl, by simpa using this⟩

theorem nestedOfPVs_atoms : ∀ ss : List Str, nestedOfPVs (ss.map PV.atom) = ss.map Nested.str
  | [] => rfl
  | s :: ss => by simp [nestedOfPVs, nestedOfPV, nestedOfPVs_atoms ss]

theorem pv_elem_facts {x : PV} (h : pvOk x = true) :
    nestedOfPV x = elemToNested (pvToElem x) ∧ PV.ofElem (pvToElem x) = x ∧
    Props.C08.WFElem (pvToElem x) ∧ ElemAll (fun s => strOk s = true) (pvToElem x) ∧
    pvToElem x ≠ .atom [] := by
  cases x with
  | atom s =>
    simp only [pvOk, Bool.and_eq_true, Bool.not_eq_true', List.isEmpty_eq_false_iff] at h
    refine ⟨by simp [nestedOfPV, pvToElem, elemToNested], by simp [pvToElem, PV.ofElem],
      trivial, h.1, ?_⟩
    simp only [pvToElem, ne_eq, Elem.atom.injEq]
    exact h.2
  | list ys =>
    simp only [pvOk, Bool.and_eq_true, Bool.not_eq_true', List.isEmpty_eq_false_iff] at h
    obtain ⟨ss, rfl, hs⟩ := atoms_of_inner h.2
    have hmap : (ss.map PV.atom).map atomStr = ss := map_map_eq_self fun _ _ => rfl
    simp only [pvToElem, hmap]
    exact ⟨by simp [nestedOfPV, elemToNested, nestedOfPVs_atoms], by simp [PV.ofElem],
      ⟨by simpa using h.1, fun _ => by simpa using getLast?_map_ne (f := id) fun s hs' => (hs s hs').2⟩,
      fun s hs' => (hs s hs').1, by simp⟩

theorem nestedOfPVs_map : ∀ (xs : List PV), (∀ x ∈ xs, pvOk x = true) →
    nestedOfPVs xs = (xs.map pvToElem).map elemToNested ∧ (xs.map pvToElem).map PV.ofElem = xs
  | [], _ => by simp [nestedOfPVs]
  | x :: xs, h => by
    obtain ⟨h1, h2⟩ := nestedOfPVs_map xs (fun y hy => h y (List.mem_cons_of_mem _ hy))
    obtain ⟨f1, f2, _⟩ := pv_elem_facts (h x (by simp))
    simp [nestedOfPVs, f1, h1, f2, h2]

/-! ### plain strings -/

theorem ofPVs_atoms : ∀ (ss : List Str), Tree.ofPVs (ss.map PV.atom) = ss.map Tree.str
  | [] => rfl
  | s :: ss => by simp [Tree.ofPVs, Tree.ofPV, ofPVs_atoms ss]

theorem atoms_of_all {xs : List PV} (h1 : xs.all isAtom = true) (h2 : ∀ x ∈ xs, pvOk x = true) :
    ∃ ss : List Str, xs = ss.map PV.atom ∧ ∀ s ∈ ss, strOk s = true :=
  exists_map_of_forall fun x hx => by
    cases x with
    | atom s => exact ⟨s, rfl, by have := h2 _ hx; simp only [pvOk, Bool.and_eq_true] at this; exact this.1⟩
    | list _ => exact absurd (List.all_eq_true.mp h1 _ hx) (by simp [isAtom])

end Rpft.Row
