/-
Lemmas about the content index model (`Rpft/Index.lean`) for C10.  `processTable` unfolds row by
row and is monotone in its nesting budget.  A history without nested indexes (`runFlat`) is read
component by component (`runFlat_effect`): each registry sees a list of `set` / `pop` operations,
of which the last one concerning a name decides what the name holds (`get_applyOps`); the stored
flow rows are a fold whose closed form is `foldl_flowStep`; the data sheets follow the C11 chain.
Last, a cell read with surrounding whitespace is the cell (`Padded`).
-/
import Rpft.Index
import Rpft.Lemmas.Dict
import Rpft.Lemmas.DataOps
import Rpft.Lemmas.Cell
import Rpft.Lemmas.Except
import Rpft.Lemmas.ListFacts
namespace Rpft.Index
open Rpft

theorem foldlM_nil' {σ α ε : Type} (f : σ → α → Except ε σ) (s : σ) :
    List.foldlM f s [] = .ok s := rfl

theorem firstName_eq_ok {r : IndexRow} {n : Str} :
    firstName r = .ok n ↔ ∃ tl, r.sheetNames = n :: tl := by
  unfold firstName
  cases r.sheetNames <;> simp [Except.pure_eq_ok, Except.throw_eq_ok]

theorem resolveOrDie_eq_ok {res : Resolve} {n : Str} {sh : Sheet} :
    resolveOrDie res n = .ok sh ↔ res n = some sh := by
  unfold resolveOrDie
  cases res n <;> simp [Except.pure_eq_ok, Except.throw_eq_ok]

/-- what a nested `content_index` row calls at nesting budget `fuel` -/
def recur (res : Resolve) (pats : Dict Int (List Str)) : Nat → St → List IndexRow → Except Err St
  | 0 => fun _ _ => throw .recursion
  | fuel + 1 => processTable res pats fuel

theorem processTable_eq (res : Resolve) (pats : Dict Int (List Str)) (fuel : Nat) (st : St)
    (rows : List IndexRow) :
    processTable res pats fuel st rows = rows.foldlM (rowStep res pats (recur res pats fuel)) st := by
  cases fuel <;> rfl

theorem processTable_nil (res : Resolve) (pats) (fuel : Nat) (st : St) :
    processTable res pats fuel st [] = .ok st := by
  rw [processTable_eq]; rfl

theorem processTable_cons (res : Resolve) (pats) (fuel : Nat) (st : St) (r : IndexRow)
    (rows : List IndexRow) :
    processTable res pats fuel st (r :: rows) =
      (rowStep res pats (recur res pats fuel) st r).bind
        (fun st' => processTable res pats fuel st' rows) := by
  rw [processTable_eq, foldlM_cons']
  congr 1
  funext st'
  rw [processTable_eq]

theorem processTable_append (res : Resolve) (pats) (fuel : Nat) (st : St) (a b : List IndexRow) :
    processTable res pats fuel st (a ++ b) =
      (processTable res pats fuel st a).bind (fun st' => processTable res pats fuel st' b) := by
  rw [processTable_eq, foldlM_append', ← processTable_eq]
  congr 1
  funext st'
  rw [processTable_eq]

theorem rowStep_inert {res : Resolve} {pats} {rec} {st : St} {r : IndexRow}
    (h : inert pats r = true) : rowStep res pats rec st r = .ok st := by
  simp [rowStep, h, pure, Except.pure]

theorem rowStep_mono (res : Resolve) (pats) {rec₁ rec₂ : St → List IndexRow → Except Err St}
    (h : ∀ st rows out, rec₁ st rows = .ok out → rec₂ st rows = .ok out)
    (st : St) (r : IndexRow) (out : St)
    (hs : rowStep res pats rec₁ st r = .ok out) : rowStep res pats rec₂ st r = .ok out := by
  unfold rowStep at hs ⊢
  by_cases hi : inert pats r = true
  · rwa [if_pos hi] at hs ⊢
  · rw [if_neg hi] at hs ⊢
    by_cases hty : kindOf r.ty = .contentIndex
    · simp only [if_pos hty, Except.bind_eq_ok] at hs ⊢
      obtain ⟨n, hn, sh, hr, hs⟩ := hs
      exact ⟨n, hn, sh, hr, h _ _ _ hs⟩
    · rwa [if_neg hty] at hs ⊢

theorem processTable_fuel_mono {res : Resolve} {pats} {fuel : Nat} {st out : St}
    {rows : List IndexRow} (h : processTable res pats fuel st rows = .ok out) :
    processTable res pats (fuel + 1) st rows = .ok out := by
  rw [processTable_eq] at h ⊢
  induction fuel generalizing st rows out with
  | zero =>
    refine foldlM_mono _ _ (rowStep_mono res pats ?_) rows st out h
    intro st rows out h
    simp [recur, throw, throwThe, MonadExceptOf.throw] at h
  | succ fuel ih =>
    refine foldlM_mono _ _ (rowStep_mono res pats fun st rows out h => ?_) rows st out h
    rw [recur, processTable_eq] at h ⊢
    exact ih h

/-- an operation on a registry (a Python dict keyed by name) -/
inductive RegOp (β : Type)
  | set (k : Str) (v : β)
  | pop (k : Str)
  | nop

def applyOp {β : Type} : RegOp β → Dict Str β → Dict Str β
  | .set k v, d => d.set k v
  | .pop k, d => d.pop k
  | .nop, d => d

def touches {β : Type} (k : Str) : RegOp β → Bool
  | .set k' _ => k' = k
  | .pop k' => k' = k
  | .nop => false

/-- what a name holds right after an operation that concerns it -/
def RegOp.result {β : Type} : RegOp β → Option β
  | .set _ v => some v
  | _ => none

def applyOps {β : Type} (ops : List (RegOp β)) (d : Dict Str β) : Dict Str β :=
  ops.foldl (fun d o => applyOp o d) d

theorem applyOps_snoc {β : Type} (ops : List (RegOp β)) (o : RegOp β) (d : Dict Str β) :
    applyOps (ops ++ [o]) d = applyOp o (applyOps ops d) := by
  simp [applyOps, List.foldl_append]

theorem nodup_applyOp {β : Type} (o : RegOp β) {d : Dict Str β} (h : (Dict.keys d).Nodup) :
    (Dict.keys (applyOp o d)).Nodup := by
  cases o with
  | set k v => exact Dict.nodup_set h k v
  | pop k => exact Dict.nodup_pop h k
  | nop => exact h

theorem nodup_applyOps {β : Type} (ops : List (RegOp β)) {d : Dict Str β}
    (h : (Dict.keys d).Nodup) : (Dict.keys (applyOps ops d)).Nodup := by
  induction ops using rev_ind with
  | h0 => exact h
  | h1 l a ih => rw [applyOps_snoc]; exact nodup_applyOp a ih

/-- what the LAST operation concerning `k` left (`dflt` if no operation concerns `k`) -/
def lastOpResult {β : Type} (ops : List (RegOp β)) (k : Str) (dflt : Option β) : Option β :=
  match ops.reverse.find? (touches k) with
  | some o => o.result
  | none => dflt

theorem get_applyOps {β : Type} {ops : List (RegOp β)} {d : Dict Str β}
    (hd : (Dict.keys d).Nodup) (k : Str) :
    (applyOps ops d).get k = lastOpResult ops k (d.get k) := by
  unfold lastOpResult
  induction ops using rev_ind with
  | h0 => rfl
  | h1 l a ih =>
    rw [applyOps_snoc, List.reverse_append, List.reverse_cons, List.reverse_nil, List.nil_append,
      List.singleton_append, List.find?_cons]
    cases a with
    | set k' v =>
      by_cases hk : k' = k
      · subst hk; simp [touches, applyOp, RegOp.result, Dict.get_set_self]
      · have : k ≠ k' := fun e => hk e.symm
        simp only [touches, hk, decide_false, applyOp]
        rw [Dict.get_set_ne _ _ this, ih]
    | pop k' =>
      by_cases hk : k' = k
      · subst hk
        simp [touches, applyOp, RegOp.result, Dict.get_pop_self (nodup_applyOps l hd)]
      · have : k ≠ k' := fun e => hk e.symm
        simp only [touches, hk, decide_false, applyOp]
        rw [Dict.get_pop_ne _ this, ih]
    | nop => simp only [touches, applyOp]; exact ih

def campName (r : IndexRow) (n : Str) : Str := if r.newName ≠ [] then r.newName else n

/-- the effect of a row on the campaign registry -/
def campOp (res : Resolve) (r : IndexRow) : RegOp Campaign :=
  match kindOf r.ty, r.sheetNames with
  | .createCampaign, n :: _ =>
    match res n with
    | some sh => .set (campName r n) { group := r.group, prov := sh.prov }
    | none => .nop
  | .ignoreRow, n :: _ => .pop n
  | _, _ => .nop

/-- the effect of a row on the trigger registry -/
def trigOp (res : Resolve) (r : IndexRow) : RegOp Nat :=
  match kindOf r.ty, r.sheetNames with
  | .createTriggers, n :: _ =>
    match res n with
    | some sh => .set n sh.prov
    | none => .nop
  | .ignoreRow, n :: _ => .pop n
  | _, _ => .nop

/-- the effect of a row on the template registry: only `template_definition` rows touch it -/
def tplOp (res : Resolve) (r : IndexRow) : RegOp Template :=
  match kindOf r.ty, r.sheetNames with
  | .templateDefinition, n :: _ =>
    match res n with
    | some sh => .set n { prov := sh.prov, args := r.tplArgs }
    | none => .nop
  | _, _ => .nop

/-- `row.new_name or row.sheet_name[0]`, total version -/
def keyOf (r : IndexRow) : Str := if r.newName ≠ [] then r.newName else r.sheetNames.headD []

theorem flowKey_ok {r : IndexRow} {k : Str} (h : flowKey r = .ok k) : k = keyOf r := by
  unfold flowKey at h
  unfold keyOf
  split at h
  · rw [if_pos ‹_›]; exact (Except.pure_eq_ok.1 h).symm
  · obtain ⟨tl, hs⟩ := firstName_eq_ok.1 h
    rw [if_neg ‹_›, hs]; rfl

theorem dropFlowRows_ok {n : Str} : ∀ {l keep : List IndexRow}, dropFlowRows n l = .ok keep →
    keep = l.filter (fun r => decide (keyOf r ≠ n))
  | [], _, h => (Except.pure_eq_ok.1 h).symm
  | r :: rs, _, h => by
    simp only [dropFlowRows, Except.bind_eq_ok, Except.pure_eq_ok] at h
    obtain ⟨k, hk, rest, hr, rfl⟩ := h
    rw [dropFlowRows_ok hr, flowKey_ok hk, List.filter_cons]
    split <;> simp [*]

/-- the data operation a `data_sheet` row of the index stands for (no `operation` column here) -/
def dataOpOf (r : IndexRow) : DataOps.Op :=
  { sources := r.sheetNames, newName := r.newName, kind := .none }

/-- the C11 chain contained in a history: its `data_sheet` rows, in order -/
def dataOpsOf (rows : List IndexRow) : List DataOps.Op :=
  (rows.filter (fun r => kindOf r.ty = .dataSheet)).map dataOpOf

/-- the effect of a row on the stored flow rows -/
def flowStep (l : List IndexRow) (r : IndexRow) : List IndexRow :=
  match kindOf r.ty, r.sheetNames with
  | .createFlow, _ => l ++ [r]
  | .ignoreRow, n :: _ => l.filter (fun x => decide (keyOf x ≠ n))
  | _, _ => l

/-- what the rows `rows` made of `st`, component by component -/
structure Effect (res : Resolve) (rows : List IndexRow) (st out : St) : Prop where
  campaigns : out.campaigns = applyOps (rows.map (campOp res)) st.campaigns
  triggers : out.triggers = applyOps (rows.map (trigOp res)) st.triggers
  templates : out.templates = applyOps (rows.map (tplOp res)) st.templates
  flowRows : out.flowRows = rows.foldl flowStep st.flowRows
  data : DataOps.runOps (dataEnv res) st.data (dataOpsOf rows) = .ok out.data

theorem step_effect {res : Resolve} {st st' : St} {r : IndexRow} (h : step res st r = .ok st') :
    Effect res [r] st st' := by
  unfold step at h
  cases hk : kindOf r.ty <;>
    simp only [hk, addTemplate, ignoreRow, Except.bind_eq_ok, Except.pure_eq_ok,
      firstName_eq_ok, resolveOrDie_eq_ok, Bool.not_true, Bool.and_false, Bool.false_eq_true,
      if_false] at h
  case dataSheet =>
    split at h
    · rename_i d hd
      obtain rfl := Except.pure_eq_ok.1 h
      constructor <;>
        simp [applyOps, campOp, trigOp, tplOp, flowStep, dataOpsOf, dataOpOf, DataOps.runOps, hk,
          applyOp, hd]
    · exact (Except.throw_eq_ok.1 h).elim
  case templateDefinition | createCampaign | createTriggers =>
    -- the three rows that resolve their first sheet name and set one registry entry
    obtain ⟨n, ⟨tl, hs⟩, sh, hr, rfl⟩ := h
    constructor <;>
      simp [applyOps, campOp, trigOp, tplOp, flowStep, dataOpsOf, DataOps.runOps, hk, hs, hr,
        applyOp, campName, Except.pure_eq_ok]
  case ignoreRow =>
    obtain ⟨n, ⟨tl, hs⟩, keep, hd, rfl⟩ := h
    constructor <;>
      simp [applyOps, campOp, trigOp, tplOp, flowStep, dataOpsOf, DataOps.runOps, hk, hs, applyOp,
        dropFlowRows_ok hd, Except.pure_eq_ok]
  case createFlow | contentIndex | invalid =>
    subst h
    constructor <;>
      simp [applyOps, campOp, trigOp, tplOp, flowStep, dataOpsOf, DataOps.runOps, hk, applyOp,
        Except.pure_eq_ok]

/-- a flat history: active rows that are not `content_index` rows, top to bottom -/
def runFlat (res : Resolve) (st : St) (rows : List IndexRow) : Except Err St :=
  rows.foldlM (step res) st

theorem runFlat_cons (res : Resolve) (st : St) (r : IndexRow) (rows : List IndexRow) :
    runFlat res st (r :: rows) = (step res st r).bind (fun st' => runFlat res st' rows) :=
  foldlM_cons' _ _ _ _

theorem runFlat_effect {res : Resolve} :
    ∀ (rows : List IndexRow) {st out : St}, runFlat res st rows = .ok out → Effect res rows st out
  | [], st, out, h => by cases h; exact ⟨rfl, rfl, rfl, rfl, rfl⟩
  | r :: rows, st, out, h => by
    rw [runFlat_cons] at h
    obtain ⟨st1, hs, h⟩ := Except.bind_eq_ok.1 h
    have e := step_effect hs
    have t := runFlat_effect rows h
    refine ⟨by rw [t.campaigns, e.campaigns]; rfl, by rw [t.triggers, e.triggers]; rfl,
      by rw [t.templates, e.templates]; rfl, by rw [t.flowRows, e.flowRows]; rfl, ?_⟩
    show DataOps.runOps _ _ (dataOpsOf ([r] ++ rows)) = _
    rw [show dataOpsOf ([r] ++ rows) = dataOpsOf [r] ++ dataOpsOf rows by
        simp only [dataOpsOf, List.filter_append, List.map_append],
      DataOps.runOps_append, e.data]
    exact t.data

def ignoresName (r : IndexRow) (n : Str) : Bool :=
  kindOf r.ty = .ignoreRow && r.sheetNames.head? = some n

/-- some row of `later` is an `ignore_row` for the (new) name of `r` -/
def ignoredBy (later : List IndexRow) (r : IndexRow) : Bool :=
  later.any (fun x => ignoresName x (keyOf r))

/-- the `create_flow` rows of a history that no LATER `ignore_row` names -/
def survivors : List IndexRow → List IndexRow
  | [] => []
  | r :: rs =>
    if kindOf r.ty = .createFlow && !ignoredBy rs r then r :: survivors rs else survivors rs

theorem foldl_flowStep : ∀ (rows l : List IndexRow),
    rows.foldl flowStep l = l.filter (fun x => !ignoredBy rows x) ++ survivors rows
  | [], l => by
    simp only [List.foldl_nil, ignoredBy, survivors, List.any_nil, Bool.not_false, List.append_nil]
    exact (List.filter_eq_self.mpr fun _ _ => rfl).symm
  | r :: rows, l => by
    rw [List.foldl_cons, foldl_flowStep rows]
    unfold flowStep
    split
    · next hk =>
      simp only [survivors, hk, List.filter_append, List.append_assoc]
      congr 1
      · exact List.filter_congr fun x _ => by simp [ignoredBy, ignoresName, hk]
      · simp [List.filter_cons, List.filter_nil]
        split <;> simp
    · next n tl hk hsn =>
      simp only [survivors, hk, List.filter_filter]
      congr 1
      refine List.filter_congr fun x _ => ?_
      simp only [ignoredBy, ignoresName, hk, hsn, List.any_cons, List.head?_cons,
        Option.some.injEq, decide_true, Bool.true_and]
      by_cases hx : keyOf x = n
      · simp [hx]
      · have : ¬ n = keyOf x := fun e => hx e.symm
        simp [hx, this]
    · next h1 h2 =>
      have hc : (kindOf r.ty = .createFlow) = False := eq_false h1
      have hi : ∀ n, ignoresName r n = false := fun n => by
        cases hn : r.sheetNames with
        | nil => simp [ignoresName, hn]
        | cons m tl => simp [ignoresName, show kindOf r.ty ≠ .ignoreRow from fun e => h2 _ _ e hn]
      simp only [survivors, hc, decide_false, Bool.false_and, Bool.false_eq_true, if_false]
      congr 1
      exact List.filter_congr fun x _ => by simp [ignoredBy, hi]

/-- `s'` is the cell `s` with surrounding whitespace: any characters `str.strip()` removes
(ASCII and Unicode, `pyWs`), before and / or after -/
def Padded (s s' : Str) : Prop :=
  ∃ l r : Str, (∀ c ∈ l, pyWs c = true) ∧ (∀ c ∈ r, pyWs c = true) ∧ s' = l ++ s ++ r

theorem cellText_padded {s s' : Str} (h : Padded s s') : cellText s' = cellText s := by
  obtain ⟨l, r, hl, hr, rfl⟩ := h
  exact strip_padded hl hr s

theorem cellNames_padded {s s' : Str} (h : Padded s s') : cellNames s' = cellNames s := by
  obtain ⟨l, r, hl, hr, rfl⟩ := h
  unfold cellNames
  rw [strip_padded hl hr s]

inductive Pointwise {α : Type} (R : α → α → Prop) : List α → List α → Prop
  | nil : Pointwise R [] []
  | cons {a b : α} {as bs : List α} : R a b → Pointwise R as bs → Pointwise R (a :: as) (b :: bs)

theorem Pointwise.map_eq {α β : Type} {R : α → α → Prop} {f : α → β} {l l' : List α}
    (h : Pointwise R l l') (hf : ∀ a b, R a b → f b = f a) : l'.map f = l.map f := by
  induction h with
  | nil => rfl
  | cons hr _ ih => rw [List.map_cons, List.map_cons, hf _ _ hr, ih]

end Rpft.Index
