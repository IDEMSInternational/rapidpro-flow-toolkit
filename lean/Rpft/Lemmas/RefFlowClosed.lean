import Rpft.Lemmas.RefFlowNode
/-! The reference interpretation of every sheet is a closed flow (`refFlow_closed`). -/
namespace Rpft.RefFlow
open Rpft Rpft.Flow

theorem keysOf_nodup {k na me mc nk : Nat} : (keysOf k na me mc nk).Nodup := by
  have hinj : ∀ t, Function.Injective (Key.sub k t) := fun t a b h => by injection h
  have hn : ∀ t m, ((List.range m).map (Key.sub k t)).Nodup := fun t m => List.nodup_range.map (hinj t)
  simp [keysOf, List.nodup_cons, List.nodup_append, hn]
  constructor
  · rintro a _ b (⟨c, _, rfl⟩ | ⟨c, _, rfl⟩) h <;> simp at h
  · rintro a _ b (⟨c, _, rfl⟩ | ⟨c, _, rfl⟩ | ⟨c, _, rfl⟩) h <;> simp at h

theorem keysOf_ok {k na me mc nk : Nat} {key : Key} (hk : key ∈ keysOf k na me mc nk) : key.idx = k ∧ key.ok := by
  simp only [keysOf, List.mem_cons, List.mem_append, List.mem_map, List.mem_range] at hk
  rcases hk with rfl | (⟨_, _, rfl⟩ | ⟨_, _, rfl⟩) | (⟨_, _, rfl⟩ | ⟨_, _, rfl⟩) <;> simp [Key.idx, Key.ok]

theorem nodeGood_ids_nodup {k : Nat} {out : List OutEdge} {n : Node} (h : NodeGood k out n) : n.ids.Nodup := by
  obtain ⟨na, me, mc, nk, hids⟩ := h.ids
  rw [hids]
  refine List.Nodup.map_on ?_ keysOf_nodup
  intro a ha b hb hab
  exact enc_injective (keysOf_ok ha).2 (keysOf_ok hb).2 hab

theorem nodeGood_ids_disjoint {k k' : Nat} {out out' : List OutEdge} {n n' : Node}
    (h : NodeGood k out n) (h' : NodeGood k' out' n') (hne : k ≠ k') :
    ∀ x ∈ n.ids, ∀ y ∈ n'.ids, x ≠ y := by
  obtain ⟨na, me, mc, nk, hids⟩ := h.ids
  obtain ⟨na', me', mc', nk', hids'⟩ := h'.ids
  intro x hx y hy hxy
  rw [hids] at hx
  rw [hids'] at hy
  simp only [List.mem_map] at hx hy
  obtain ⟨a, ha, rfl⟩ := hx
  obtain ⟨b, hb, rfl⟩ := hy
  have := enc_injective (keysOf_ok ha).2 (keysOf_ok hb).2 hxy
  have h1 := (keysOf_ok ha).1
  have h2 := (keysOf_ok hb).1
  rw [this] at h1
  omega

/-- the nodes of the reference flow, as a function of pass 1's result -/
def refNodes (rows : List RRow) (out : List OutEdge) : List Node :=
  rows.zipIdx.filterMap fun (p : RRow × Nat) =>
    if p.1.kind.isNode then some (mkNode p.2 p.1 (out.filter (·.src = p.2))) else none

theorem refFlow_nodes (rows : List RRow) (f : Flow) (h : refFlow rows = .ok f) :
    ∃ out, pass1 rows = .ok out ∧ f.nodes = refNodes rows out := by
  simp only [refFlow, Except.bind_eq_ok, Except.pure_eq_ok] at h
  obtain ⟨out, hout, rfl⟩ := h
  exact ⟨out, hout, rfl⟩

theorem mem_refNodes {rows : List RRow} {out : List OutEdge} {n : Node} (h : n ∈ refNodes rows out) :
    ∃ r k, (r, k) ∈ rows.zipIdx ∧ r.kind.isNode = true ∧ n = mkNode k r (out.filter (·.src = k)) := by
  simp only [refNodes, List.mem_filterMap] at h
  obtain ⟨p, hp, hn⟩ := h
  obtain ⟨r, k⟩ := p
  by_cases hk : r.kind.isNode = true
  · simp only [hk, if_true, Option.some.injEq] at hn
    exact ⟨r, k, hp, hk, hn.symm⟩
  · simp [hk] at hn

theorem refNodes_pairwise (rows : List RRow) (out : List OutEdge) :
    (refNodes rows out).Pairwise (fun a b => ∃ k k' oa ob, k ≠ k' ∧ NodeGood k oa a ∧ NodeGood k' ob b) := by
  unfold refNodes
  rw [List.pairwise_filterMap]
  refine (zipIdx_pairwise rows).imp ?_
  intro p q hpq a ha b hb
  by_cases h1 : p.1.kind.isNode = true
  · by_cases h2 : q.1.kind.isNode = true
    · simp only [h1, h2, if_true, Option.some.injEq] at ha hb
      subst ha; subst hb
      exact ⟨p.2, q.2, _, _, by omega, mkNode_good _ _ _, mkNode_good _ _ _⟩
    · simp [h2] at hb
  · simp [h1] at ha

/-- **The reference interpretation is well formed for every sheet**: whatever the rows are, if the
reference flow exists (every `from` / `go_to` names an earlier row) it is a closed flow definition —
node identifiers unique, every exit leads nowhere or to a node of the flow, routers closed, all
identifiers pairwise distinct. -/
theorem refFlow_closed (rows : List RRow) (f : Flow) (h : refFlow rows = .ok f) : Closed f := by
  obtain ⟨out, hout, hnodes⟩ := refFlow_nodes rows f h
  have htg := pass1_targets rows out hout
  have hpw := refNodes_pairwise rows out
  refine ⟨?_, ?_, ?_⟩
  · rw [hnodes, List.nodup_iff_pairwise_ne, List.pairwise_map]
    refine hpw.imp ?_
    rintro a b ⟨k, k', oa, ob, hne, ha, hb⟩ hab
    rw [ha.uuid, hb.uuid] at hab
    exact hne (natStr_injective hab)
  · intro n hn
    rw [hnodes] at hn
    obtain ⟨r, k, hrk, hnode, rfl⟩ := mem_refNodes hn
    have hg := mkNode_good k r (out.filter (·.src = k))
    refine ⟨?_, ?_, hg.plain⟩
    · intro e he d hd
      simp only [Option.mem_toList] at hd
      obtain ⟨o, ho, hod⟩ := hg.dests e he d hd
      have hok := htg o (List.mem_filter.mp ho).1
      cases ht : o.tgt with
      | exit => simp [ht, tgtDest] at hod
      | row t =>
        rw [ht] at hok
        simp only [ht, tgtDest, Option.some.injEq] at hod
        obtain ⟨r', hr', hn'⟩ := hok
        have hmem : (r', t) ∈ rows.zipIdx := by
          rw [List.mem_zipIdx_iff_getElem?]
          simpa using hr'
        rw [hnodes, ← hod]
        simp only [List.mem_map]
        refine ⟨mkNode t r' (out.filter (·.src = t)), ?_, (mkNode_good _ _ _).uuid⟩
        simp only [refNodes, List.mem_filterMap]
        exact ⟨(r', t), hmem, by simp [hn']⟩
    · intro rt hrt
      exact hg.closed rt (by simpa using hrt)
  · unfold Flow.ids
    rw [List.nodup_flatMap]
    refine ⟨?_, ?_⟩
    · intro n hn
      rw [hnodes] at hn
      obtain ⟨r, k, _, _, rfl⟩ := mem_refNodes hn
      exact nodeGood_ids_nodup (mkNode_good _ _ _)
    · rw [hnodes]
      refine hpw.imp ?_
      rintro a b ⟨k, k', oa, ob, hne, ha, hb⟩
      simp only [Function.onFun, List.disjoint_left]
      intro x hx hy
      exact nodeGood_ids_disjoint ha hb hne x hx x hy rfl

end Rpft.RefFlow
