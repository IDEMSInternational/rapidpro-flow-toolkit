/-
Row models without header remaps, on the static schema family `family` of
`Props.C07.parse_unparse_partial`.  What `Props/C07.lean` uses are the bridges to the general theorem: the
family lies in `goodTy` (`goodTy_of_famTy`, `goodTy_plainTop`), and on it the static layout condition
`admTy` implies `layOk` (`layOk_of_adm`; for the whole row `layoutOk_of_admissible`).  The other statements
stand for themselves and speak of one piece of a row: one top-level field `n` (`FieldRT`; `fieldRT_fam`
is `posAll` at the position `[n]`, through `fieldRT_of_posRT`), one list element written as one cell
(`ElemOk`), one list element at its index (`ElemRT`, read through the focus lemmas `focus_model`,
`focus_list`).
-/
import Rpft.Lemmas.RowGenMain
namespace Rpft.Row
open Rpft Rpft.Cell

/-- family 2: every field is of a basic type, a list of basic values, a sub-record (without
header remaps) of basic-typed fields with distinct simple names, or a list of such
sub-records, or an untyped list -/
def famTy : Ty → Bool
  | .anyList => true
  | .list (.model sfs [] []) => subFamily sfs
  | .list t => isBasicTy t
  | .model sfs [] [] => subFamily sfs
  | t => isBasicTy t

def family (fs : List Field) : Bool := fs.all fun f => famTy f.2.1

abbrev inl (cols : List (Str × Str)) : List (Str × ColVal) := cols.map fun kv => (kv.1, Sum.inl kv.2)

/-- Round trip of ONE top-level field `n : ty` holding the non-default value `v`:
`unparse` appends columns `cols` whose headers all start with the segment `n`; parsing them
into a tree that has no entry `n` yet adds exactly one entry `n ↦ tr`; `tr` validates to `v`. -/
def FieldRT (lay : Layout) (fs : List Field) (n : Str) (ty : Ty) (v : Val) : Prop :=
  ∃ (cols : List (Str × Str)) (tr : Tree),
    (∀ out : Out, (∀ kv ∈ out, headSeg kv.1 ≠ n) →
      unparseRec lay ty v ('.' :: n) out = .ok (out ++ cols)) ∧
    (∀ kv ∈ cols, headSeg kv.1 = n ∧ ∀ c ∈ kv.1, keyChar c = true) ∧
    (cols.map Prod.fst).Nodup ∧
    (∀ kvs, alookup n kvs = none →
      foldE (parseEntry (plainTop fs)) (.dict kvs) (inl cols) = .ok (.dict (kvs ++ [(n, tr)]))) ∧
    validate ty tr = .ok v ∧ tr.isNone = false

theorem fieldRT_of_posRT {lay : Layout} {fs : List Field} {n : Str} {ty : Ty} {d : Option Val}
    {v : Val} (hn : simpleName n = true) (hf : fieldLookup n fs = some (n, ty, d))
    (h : PosRT lay ty v [n]) : FieldRT lay fs n ty v := by
  obtain ⟨cols, tr, hne, hS, hN, hU, hP, hV, _⟩ := h
  have hseg : ∀ c ∈ cols, ∀ x ∈ n :: c.1, SegOk x := fun c hc x hx =>
    (List.mem_cons.mp hx).elim (fun e => e ▸ segOk_simple hn) (hS c hc x)
  refine ⟨absCols [n] cols, tr, ?_, ?_, ?_, ?_, hV, validate_not_none hV⟩
  · intro out hout
    have := hU out (fun kv hkv r e => hout kv hkv (by rw [e]; exact headSeg_keyOf hn r))
    simpa [pathStr] using this
  · intro kv hkv
    obtain ⟨c, hc, rfl⟩ := List.mem_map.mp hkv
    exact ⟨headSeg_keyOf hn c.1, keyOf_keyChar _ (hseg c hc)⟩
  · exact absCols_nodup (by simpa using segOk_simple hn) (fun c hc => ⟨by simp, hS c hc⟩) hN
  · intro kvs hk
    have h1 : inl (absCols [n] cols) =
        (prep n (inlCols cols)).map fun c => (id (keyOf c.1), c.2) := by
      simp [inl, absCols, prep, inlCols, List.map_map, Function.comp]
    rw [h1, parse_fold_congr fs [] [] [] id (prep n (inlCols cols)) kvs (by
      intro c hc
      obtain ⟨c0, hc0, rfl⟩ := List.mem_map.mp hc
      obtain ⟨c1, hc1, rfl⟩ := List.mem_map.mp hc0
      exact ⟨n, n, c1.1, rfl, rfl, segOk_simple hn, hS c1 hc1, rfl⟩)]
    have := (focus_model [] (remap_nil n) hf hk).under_append (cols' := []) hne hP
    rw [List.append_nil, inlCols_under] at this
    simpa [pfold, foldE, inlCols, st] using this

/-! ### the static family is in the general one -/

theorem goodTy_basic {t : Ty} (h : isBasicTy t = true) : goodTy t = true := by
  cases t <;> simp_all [isBasicTy, goodTy]

/-- without header remaps `remapOk` only asks for distinct header segments as field names -/
theorem goodTy_plainTop {fs : List Field} (hs : ∀ f ∈ fs, simpleName f.1 = true)
    (hnd : (fs.map (·.1)).Nodup) (hg : ∀ f ∈ fs, goodTy f.2.1 = true) :
    goodTy (plainTop fs) = true := by
  simp only [goodTy, Bool.and_eq_true, remapOk_iff, remap_nil]
  exact ⟨⟨fun f hf => ⟨hs f hf, hs f hf, trivial⟩, hnd, hnd⟩, goodFields_iff.mpr hg⟩

theorem goodTy_sub {sfs : List Field} (h : subFamily sfs = true) : goodTy (plainTop sfs) = true := by
  obtain ⟨hb, hnd⟩ := subFamily_iff.mp h
  exact goodTy_plainTop (fun f hf => (hb f hf).1) hnd fun f hf => goodTy_basic (hb f hf).2

theorem goodTy_of_famTy {ty : Ty} (h : famTy ty = true) : goodTy ty = true := by
  revert h
  fun_cases famTy ty
  · exact fun _ => rfl
  · exact goodTy_sub
  · exact goodTy_basic
  · exact goodTy_sub
  · exact goodTy_basic

theorem layOk_basic {lay : Layout} {t : Ty} (h : isBasicTy t = true) (x : Val) (pfx : Str) :
    layOk lay t x pfx = true := by
  unfold layOk; simp [h]

theorem allIdx_true {f : Val → Str → Bool} (h : ∀ x p, f x p = true) {pfx : Str} :
    ∀ {xs : List Val} {i : Nat}, allIdx f pfx i xs = true
  | [], _ => rfl
  | x :: xs, i => by simp [allIdx, h, allIdx_true h (xs := xs)]

theorem packTy_basic {t : Ty} (h : isBasicTy t = true) : packTy t = true := by
  cases t <;> first | rfl | cases h

theorem layOkFields_basic (lay : Layout) (f2h : List (Str × Str)) (pfx : Str)
    (kvs : List (Str × Val)) (fs : List Field) (h : ∀ f ∈ fs, isBasicTy f.2.1 = true) :
    layOkFields lay f2h pfx kvs fs = true :=
  layOkFields_iff.mpr fun f hf x _ =>
    Or.inr (by rw [layOk_basic (h f hf), packTy_basic (h f hf), ite_self])

theorem layOk_sub {lay : Layout} {sfs : List Field} (h : subFamily sfs = true) (v : Val)
    (pfx : Str) : layOk lay (plainTop sfs) v pfx = true := by
  replace h := (subFamily_iff.mp h).1
  unfold layOk
  simp only [isBasicTy, Bool.false_eq_true, if_false]
  split
  · simp only [packTy, remap_nil, List.all_eq_true, Bool.and_eq_true, decide_eq_true_eq]
    exact fun f hf => ⟨(h f hf).2, trivial⟩
  · cases v <;> simp [layOkFields_basic _ _ _ _ sfs fun f hf => (h f hf).2]

theorem packDepth_list_model {sfs : List Field} {h2f f2h : List (Str × Str)} :
    ¬ packDepth (.list (.model sfs h2f f2h)) ≤ 2 := by
  simp [packDepth]; omega

/-- on the static family the static layout condition (index 1 for every index) is enough:
a list element is basic or a record of basic fields, and fits one cell anyway -/
theorem layOk_of_adm {lay : Layout} {ty : Ty} {v : Val} {pfx : Str} (hfam : famTy ty = true)
    (hadm : admTy lay.targets ty pfx = true)
    (hany : ∀ xs, ty = .anyList → v = .any xs →
      matchesHeaders pfx lay.targets = false → xs.all isAtom = true) :
    layOk lay ty v pfx = true := by
  revert hfam
  fun_cases famTy ty <;> intro hfam
  case case4 => exact layOk_sub hfam v pfx
  case case5 => exact layOk_basic hfam v pfx
  -- the three kinds of list, each packed or spread
  all_goals
    unfold layOk
    simp only [isBasicTy, Bool.false_eq_true, if_false]
    split
  -- untyped
  · rfl
  · rename_i hm
    cases v <;> simp
    exact List.all_eq_true.mp (hany _ rfl rfl (by simpa using hm))
  -- of records: too deep for one cell
  · rename_i hm
    unfold admTy at hadm
    simp only [isBasicTy, Bool.false_eq_true, if_false, hm, if_true, decide_eq_true_eq] at hadm
    exact absurd hadm packDepth_list_model
  · cases v <;> try rfl
    exact allIdx_true (layOk_sub hfam)
  -- of basic values
  · rename_i t _ _
    cases t <;> first | rfl | cases hfam
  · cases v <;> try rfl
    exact allIdx_true (layOk_basic hfam)

theorem layOkFields_of_adm {lay : Layout} {pfx : Str} {kvs : List (Str × Val)} {fs : List Field}
    (hfam : family fs = true) (hadm : admFields lay.targets [] pfx fs = true)
    (hany : anyDeepFields lay [] pfx kvs fs = true) : layOkFields lay [] pfx kvs fs = true := by
  refine layOkFields_iff.mpr fun f hf x hx => ?_
  have ha := admFields_iff.mp hadm f hf
  simp only [remap_nil, if_true] at ha ⊢
  refine (anyDeepFields_iff.mp hany f hf x hx (remap_nil _)).imp_right fun h =>
    layOk_of_adm (List.all_eq_true.mp hfam f hf) ha fun xs ht hv hm => ?_
  rw [ht, hv] at h
  unfold anyDeep at h
  simpa [hm] using h

theorem layoutOk_of_admissible {fs : List Field} {lay : Layout} {v : Val} (hfam : family fs = true)
    (ha : Admissible { top := plainTop fs } lay = true)
    (hany : AnySpreadOk { top := plainTop fs } lay v = true) :
    LayoutOk { top := plainTop fs } lay v = true := by
  simp only [Admissible, Bool.and_eq_true] at ha
  unfold admTy at ha
  unfold AnySpreadOk anyDeep at hany
  unfold LayoutOk layOk
  simp only [isBasicTy, matchesHeaders, List.isEmpty_nil, Bool.not_true, Bool.false_and,
    Bool.false_eq_true, if_false, ha.1, Bool.true_and] at ha hany ⊢
  cases v <;> try rfl
  exact layOkFields_of_adm hfam ha.2 hany

theorem fieldRT_fam {lay : Layout} {fs : List Field} {n : Str} {ty : Ty} {d : Option Val} {v : Val}
    (hn : simpleName n = true) (hf : fieldLookup n fs = some (n, ty, d)) (he : lay.excluded = [])
    (hfam : famTy ty = true) (hfo : fieldOk false ty v = true) (hr : reprOk false ty v = true)
    (hadm : admTy lay.targets ty ('.' :: n) = true)
    (hany : ∀ xs, ty = .anyList → v = .any xs →
      matchesHeaders ('.' :: n) lay.targets = false → xs.all isAtom = true) :
    FieldRT lay fs n ty v :=
  fieldRT_of_posRT hn hf (posAll he ty v [n] false (goodTy_of_famTy hfam)
    (by simpa using segOk_simple hn) hr hfo
    (by simpa [pathStr] using layOk_of_adm hfam hadm hany))

/-! ### lists of strings -/

theorem list_str_repr : ∀ (xs : List Val), xs.all (reprOk true .str) = true →
    ∃ ss : List Str, xs = ss.map Val.str ∧ ∀ s ∈ ss, strOk s = true ∧ s ≠ [] :=
  fun xs h => exists_map_of_forall fun x hx => by
    have := List.all_eq_true.mp h x hx
    cases x <;> first | cases this | exact ⟨_, rfl, by simpa [reprOk] using this⟩

theorem fieldRT_listStr_packed {lay : Layout} {fs : List Field} {n : Str} {d : Option Val}
    (hn : simpleName n = true) (hf : fieldLookup n fs = some (n, .list .str, d))
    (he : lay.excluded = []) (hm : matchesHeaders ('.' :: n) lay.targets = true)
    (ss : List Str) (hne : ss ≠ []) (hss : ∀ s ∈ ss, strOk s = true ∧ s ≠ []) :
    FieldRT lay fs n (.list .str) (.list (ss.map Val.str)) := by
  refine fieldRT_fam hn hf he rfl (by simpa [fieldOk] using hne) ?_ ?_ (fun _ h => nomatch h)
  · simpa [reprOk] using hss
  · unfold admTy; simp [isBasicTy, hm, packDepth]

theorem fieldRT_listStr_spread {lay : Layout} {fs : List Field} {n : Str} {d : Option Val}
    (hn : simpleName n = true) (hf : fieldLookup n fs = some (n, .list .str, d))
    (he : lay.excluded = []) (hm : matchesHeaders ('.' :: n) lay.targets = false)
    (ss : List Str) (hne : ss ≠ []) (hss : ∀ s ∈ ss, strOk s = true ∧ s ≠ []) :
    FieldRT lay fs n (.list .str) (.list (ss.map Val.str)) := by
  refine fieldRT_fam hn hf he rfl (by simpa [fieldOk] using hne) ?_ ?_ (fun _ h => nomatch h)
  · simpa [reprOk] using hss
  · unfold admTy; simp only [isBasicTy, hm]; unfold admTy; simp [isBasicTy]

/-! ### list elements written as one cell each -/

/-- one list element: value, the text of its cell, the tree it is read back as -/
abbrev ElemD := Val × Str × Tree

/-- at every index the element `e.1` is written as the one cell `e.2.1`, which is read back as the tree
`e.2.2`, and that validates to the element -/
def ElemOk (lay : Layout) (n : Str) (ety : Ty) (e : ElemD) : Prop :=
  (∀ i out, unparseRec lay ety e.1 (idxPrefix ('.' :: n) i) out =
      writeOut (idxPrefix ('.' :: n) i) e.2.1 out) ∧
  leafFn (Sum.inl e.2.1) ety = .ok (some e.2.2) ∧
  validate ety e.2.2 = .ok e.1

/-- element data of a sub-record value -/
def elemOfSub (sfs : List Field) : Val → ElemD
  | .model skvs => (.model skvs, subText sfs skvs, subTree sfs skvs)
  | v => (v, [], Tree.none)

theorem elemOfSub_fst (sfs : List Field) (v : Val) : (elemOfSub sfs v).1 = v := by
  cases v <;> rfl

theorem elemOk_sub {lay : Layout} (he : lay.excluded = []) (n : Str) {sfs : List Field}
    (hfam : subFamily sfs = true) {v : Val} (hr : reprOk true (plainTop sfs) v = true)
    (hm : ∀ i, matchesHeaders (idxPrefix ('.' :: n) i) lay.targets = true) :
    ElemOk lay n (plainTop sfs) (elemOfSub sfs v) := by
  cases v <;> simp [reprOk] at hr
  case model skvs =>
    have hr' : reprOk false (plainTop sfs) (.model skvs) = true := by
      simp [reprOk, hr.1.1, hr.2]
    have hfo : fieldOk false (plainTop sfs) (.model skvs) = true := by
      simp [fieldOk, hr.1.2]
    obtain ⟨h1, h2, h3⟩ := sub_cell hfam (fun _ _ => remap_nil _) hr' hfo
    exact ⟨fun i out => by rw [unparseRec_packed he (hm i)]; exact h1 _ out, h2, h3⟩

theorem matchPat_prefix : ∀ (a p t : Str), (∀ c ∈ a, c ≠ '*') → matchPat (a ++ p) (a ++ t) = matchPat p t
  | [], _, _, _ => rfl
  | c :: a, p, t, h => by
    have hc : c ≠ '*' := h c (by simp)
    simp [matchPat, hc, matchPat_prefix a p t (fun x hx => h x (List.mem_cons_of_mem _ hx))]

/-- the target header `n.*` matches the prefix of every element `n.i` -/
theorem matches_star_index {n : Str} (hn : simpleName n = true) (targets : List Str)
    (ht : (n ++ ".*".toList) ∈ targets) (i : Nat) :
    matchesHeaders (idxPrefix ('.' :: n) i) targets = true := by
  simp only [matchesHeaders, idxPrefix, List.cons_append, List.isEmpty_cons, Bool.not_false,
    Bool.true_and, trimPrefix, List.any_eq_true]
  refine ⟨_, ht, ?_⟩
  rw [matchPat_prefix n _ _ fun c hc => (okChar_iff.mp (segOk_simple hn c hc)).2.2.2.1]
  obtain ⟨h1, h2, _⟩ := printNat_spec i
  cases hp : printNat i with
  | nil => exact absurd hp h2
  | cons c rest =>
    have hc : c ≠ '.' := printNat_no_dot i c (by rw [hp]; simp)
    simp [matchPat, starAux, hc]

/-! ### one list element at its index -/

/-- header of element `k` of list field `n`, or of one of its sub-fields -/
def ElemKey (n : Str) (k : Nat) (key : Str) : Prop :=
  key = n ++ '.' :: printNat k ∨ ∃ a, simpleName a = true ∧ key = n ++ '.' :: (printNat k ++ '.' :: a)

/-- columns written so far may only collide with element `i` through earlier elements -/
def OutOk (n : Str) (i : Nat) (out : Out) : Prop :=
  ∀ kv ∈ out, headSeg kv.1 ≠ n ∨ ∃ k, k < i ∧ ElemKey n k kv.1

/-- round trip of ONE list element at index `i` -/
def ElemRT (lay : Layout) (fs : List Field) (n : Str) (ety : Ty) (i : Nat) (x : Val)
    (cols : List (Str × Str)) (tr : Tree) : Prop :=
  (∀ out, OutOk n i out → unparseRec lay ety x (idxPrefix ('.' :: n) i) out = .ok (out ++ cols)) ∧
  (∀ kv ∈ cols, ElemKey n i kv.1) ∧ (cols.map Prod.fst).Nodup ∧
  (∀ kvs, alookup n kvs = none → ∀ ts cur, (cur = none ∧ ts = [] ∨ cur = some (.list ts)) →
    ts.length + 1 = i →
    foldE (parseEntry (plainTop fs)) (.dict (st kvs n cur)) (inl cols) =
      .ok (.dict (st kvs n (some (.list (ts ++ [tr])))))) ∧
  validate ety tr = .ok x

/-- element data with its columns -/
abbrev ElemC := Val × List (Str × Str) × Tree

def elemCOfBasic (n : Str) (i : Nat) (v : Val) : ElemC :=
  (v, [(n ++ '.' :: printNat i, printBasic v)], leafTree v)

theorem elemRT_basic {lay : Layout} {fs : List Field} {n : Str} {d : Option Val} {t : Ty}
    (hn : simpleName n = true) (hf : fieldLookup n fs = some (n, .list t, d))
    (he : lay.excluded = []) (hb : isBasicTy t = true) (i : Nat) {v : Val}
    (hr : reprOk true t v = true) :
    ElemRT lay fs n t i (elemCOfBasic n i v).1 (elemCOfBasic n i v).2.1 (elemCOfBasic n i v).2.2 := by
  have L := basic_leaf hb (reprOk_basic_weaken hb hr).1
  refine ⟨?_, fun kv hkv => ?_, by simp [elemCOfBasic], ?_, L.validate⟩
  · intro out hout
    have hkey : alookup (n ++ '.' :: printNat i) out = none := by
      rw [alookup_none_iff]
      intro hm
      obtain ⟨kv, hkv, e⟩ := List.mem_map.mp hm
      rcases hout kv hkv with h | ⟨k, hk, h | ⟨a, _, h⟩⟩
      · rw [e, headSeg_dotted hn] at h; exact h rfl
      · rw [e] at h
        have := printNat_inj (List.cons.inj (List.append_cancel_left h)).2
        omega
      · rw [e] at h
        have h' := (List.cons.inj (List.append_cancel_left h)).2
        exact printNat_no_dot i '.' (by rw [h']; simp) rfl
    simp only [elemCOfBasic]
    rw [unparseRec_basicVal he L.basicVal]
    simp [writeValue, L.basicVal, writeOut, idxPrefix, trimPrefix, hkey]
  · simp only [elemCOfBasic, List.mem_singleton] at hkv
    subst hkv
    exact Or.inl rfl
  · -- the column `n.i` is the path `[n, i]`: through the record, then a new list element
    intro kvs hk ts cur hcur hi
    subst hi
    have h1 : inl [(n ++ '.' :: printNat (ts.length + 1), printBasic v)] =
        [([n, printNat (ts.length + 1)], (Sum.inl (printBasic v) : ColVal))].map
          fun c => (id (keyOf c.1), c.2) := by
      simp [inl, keyOf_cons, pathStr]
    have hl : pstep t .none ([], Sum.inl (printBasic v)) = .ok (leafTree v) := by
      simp [pstep, leafFn, leafValue_basic hb L.strOk, L.assign]
    have hinner : pstep (.list t) (cur.getD .none)
        ([printNat (ts.length + 1)], Sum.inl (printBasic v)) = .ok (.list (ts ++ [leafTree v])) := by
      rcases hcur with ⟨rfl, rfl⟩ | rfl
      · rw [Option.getD_none, pstep_none _ (by simp)]
        simpa [initChild, isListTy, listChild, hl, Except.map] using
          focus_list (lty := .list t) rfl [] none ([], Sum.inl (printBasic v))
      · simpa [listChild, hl, Except.map] using
          focus_list (lty := .list t) rfl ts none ([], Sum.inl (printBasic v))
    have hm := focus_model [] (remap_nil n) hf hk cur
      ([printNat (ts.length + 1)], Sum.inl (printBasic v))
    dsimp only at hm
    simp only [elemCOfBasic]
    rw [h1, parse_fold_congr fs [] [] [] id _ _ (by
      intro c hc
      simp only [List.mem_singleton] at hc
      subst hc
      exact ⟨n, n, [_], rfl, rfl, segOk_simple hn, by simpa using segOk_printNat _, rfl⟩)]
    simp only [pfold, foldE, hm, hinner, Except.map]

end Rpft.Row
