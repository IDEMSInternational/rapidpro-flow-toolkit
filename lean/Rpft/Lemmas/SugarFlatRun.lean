/-
The flat machine on the rows of well-kinded items.  One turn of the `while` loop of `_parse_block` is one
equation for both modes (`parseBlock_turn`: the row is read, `readRow`; unless it ends the block the turn goes
on with `turnRest`), from which one lemma per kind of row follows (`turn_*`).  A nested call is described by
what it performs (`Performs`: it stops with the error of a reading, or returns before the rest of the sheet
with the events appended, bookmarks and context as they were).  Then, by induction on the fuel, the items are
read one turn each: with `omit_content` they are scanned (`omit_items`), otherwise the events of `evFs` are
performed (`run_items`; the loop through `beginFor_spec`, the context after it through `endLoopCtx_iter`).
-/
import Rpft.Lemmas.SugarFlat
namespace Rpft.SugarFlat
open Rpft Rpft.Sugar
open Rpft.Cli (RowType BlockType Fault isEndOfBlock blockEndMap)

variable {Raw Inst Ctx Val Hdr Err S : Type}

/-! ## one turn of the `while` loop -/

theorem parseBlock_zero (I : FIface Raw Inst Ctx Val Hdr Err S) (d : Nat) (bt : BlockType) (om : Bool)
    (s : St Raw Inst Ctx Hdr) : parseBlock I 0 d bt om s = .error .fuel := rfl

theorem parseBlock_run (I : FIface Raw Inst Ctx Val Hdr Err S) (F d : Nat) (bt : BlockType)
    (r : Raw) (rest : List Raw) (m : List (Nat × List Raw)) (c : Ctx) (ev : List (Ev Inst Hdr)) :
    parseBlock I (F + 1) d bt false ⟨r :: rest, m, c, ev⟩ =
      (match I.inst c r with
       | .error e => .error (.err e)
       | .ok i =>
         match isEndOfBlock bt (some (I.kindI i)) with
         | .error f => .error (.fault f)
         | .ok true => .ok ⟨rest, m, c, ev⟩
         | .ok false =>
           match (if I.includeIf i then
               (match I.kindI i with
                | .beginFor =>
                  beginFor I d i (parseBlock I F (d + 1) .for_ false)
                    (parseBlock I F (d + 1) .for_ true) ⟨rest, m, c, ev⟩
                | .beginBlock =>
                  match parseBlock I F (d + 1) .block false ⟨rest, m, c, ev ++ [.open_ (I.hdr i)]⟩ with
                  | .error e => .error e
                  | .ok s2 => .ok { s2 with evs := s2.evs ++ [.close (I.hdr i)] }
                | _ => .ok ⟨rest, m, c, ev ++ [.row i]⟩)
             else
               skipTurn (I.kindI i) (parseBlock I F (d + 1) .for_ true)
                 (parseBlock I F (d + 1) .block true) ⟨rest, m, c, ev⟩) with
           | .error e => .error e
           | .ok s2 => parseBlock I F d bt false s2) := rfl

/-- `parse_next_row(omit_templating = om)` as far as a turn looks at it: the type of the row read, and the
instantiated row when the row is to be evaluated (`none`: content omitted, or `include_if` false) -/
def readRow (I : FIface Raw Inst Ctx Val Hdr Err S) (om : Bool) (c : Ctx) (r : Raw) :
    Except Err (RowKind × Option Inst) :=
  if om then (match I.scanFail r with | some e => .error e | none => .ok (I.kind r, none))
  else match I.inst c r with
    | .error e => .error e
    | .ok i => .ok (I.kindI i, if I.includeIf i then some i else none)

/-- what a turn does with a row that does not end the block -/
def turnRest (I : FIface Raw Inst Ctx Val Hdr Err S) (F d : Nat) (k : RowKind) (oi : Option Inst)
    (s1 : St Raw Inst Ctx Hdr) : Res Err (St Raw Inst Ctx Hdr) :=
  match oi with
  | none => skipTurn k (parseBlock I F (d + 1) .for_ true) (parseBlock I F (d + 1) .block true) s1
  | some i =>
    match k with
    | .beginFor => beginFor I d i (parseBlock I F (d + 1) .for_ false) (parseBlock I F (d + 1) .for_ true) s1
    | .beginBlock =>
      match parseBlock I F (d + 1) .block false { s1 with evs := s1.evs ++ [.open_ (I.hdr i)] } with
      | .error e => .error e
      | .ok s2 => .ok { s2 with evs := s2.evs ++ [.close (I.hdr i)] }
    | _ => .ok { s1 with evs := s1.evs ++ [.row i] }

section turns
variable {I : FIface Raw Inst Ctx Val Hdr Err S} {om : Bool} {r : Raw} {c : Ctx} {F d : Nat} {bt : BlockType}
  {rest : List Raw} {m : List (Nat × List Raw)} {ev : List (Ev Inst Hdr)} {k : RowKind} {oi : Option Inst}
  {i : Inst} {x : Err}

theorem parseBlock_eof :
    parseBlock I (F + 1) d bt om ⟨[], m, c, ev⟩ =
      (match isEndOfBlock bt none with
       | .error f => .error (.fault f)
       | .ok _ => .ok ⟨[], m, c, ev⟩) := rfl

theorem parseBlock_turn :
    parseBlock I (F + 1) d bt om ⟨r :: rest, m, c, ev⟩ =
      (match readRow I om c r with
       | .error e => .error (.err e)
       | .ok p =>
         match isEndOfBlock bt (some p.1) with
         | .error f => .error (.fault f)
         | .ok true => .ok ⟨rest, m, c, ev⟩
         | .ok false =>
           match turnRest I F d p.1 p.2 ⟨rest, m, c, ev⟩ with
           | .error e => .error e
           | .ok s2 => parseBlock I F d bt om s2) := by
  rw [parseBlock]
  unfold readRow
  cases om with
  | true => dsimp only [if_true]; cases I.scanFail r <;> rfl
  | false =>
    dsimp only [Bool.false_eq_true, if_false]
    cases I.inst c r with
    | error e => rfl
    | ok i =>
      dsimp only [turnRest]
      cases I.includeIf i <;> rfl

/-! ## what the row read is, by mode -/

theorem readRow_omit_err (hs : I.scanFail r = some x) : readRow I true c r = .error x := by
  simp only [readRow, hs, if_true]

theorem readRow_omit (hs : I.scanFail r = none) (hk : I.kind r = k) : readRow I true c r = .ok (k, none) := by
  simp only [readRow, hs, hk, if_true]

theorem readRow_run_err (hi : I.inst c r = .error x) : readRow I false c r = .error x := by
  simp only [readRow, hi, Bool.false_eq_true, if_false]

/-- with `FlatLaws.kind_inst` the raw kind decides, also for instantiated rows -/
theorem readRow_run (L : FlatLaws I) (hi : I.inst c r = .ok i) (hk : I.kind r = k) :
    readRow I false c r = .ok (k, if I.includeIf i then some i else none) := by
  simp only [readRow, hi, L.kind_inst c r i hi, hk, Bool.false_eq_true, if_false]

theorem readRow_excluded (L : FlatLaws I) (hi : I.inst c r = .ok i) (hk : I.kind r = k)
    (hinc : I.includeIf i = false) : readRow I false c r = .ok (k, none) := by
  rw [readRow_run L hi hk, hinc]
  rfl

theorem readRow_included (L : FlatLaws I) (hi : I.inst c r = .ok i) (hk : I.kind r = k)
    (hinc : I.includeIf i = true) : readRow I false c r = .ok (k, some i) := by
  rw [readRow_run L hi hk, hinc]
  rfl

/-! ## one turn, by the kind of the row read

`parseBlock_turn` with the case analysis of `_parse_block` done: what one turn of the `while` loop does on a
plain row, on the end row of the block, on a begin row (evaluated or skipped). -/

/-- the event of a plain row -/
def rowEv : Option Inst → List (Ev Inst Hdr)
  | some i => [.row i]
  | none => []

theorem rowEv_ite (b : Bool) (i : Inst) :
    (rowEv (if b then some i else none) : List (Ev Inst Hdr)) = if b then [.row i] else [] := by
  cases b <;> rfl

theorem turn_err (hr : readRow I om c r = .error x) :
    parseBlock I (F + 1) d bt om ⟨r :: rest, m, c, ev⟩ = .error (.err x) := by
  rw [parseBlock_turn, hr]

theorem turn_end (hr : readRow I om c r = .ok (k, oi)) (hE : isEndOfBlock bt (some k) = .ok true) :
    parseBlock I (F + 1) d bt om ⟨r :: rest, m, c, ev⟩ = .ok ⟨rest, m, c, ev⟩ := by
  rw [parseBlock_turn, hr]
  simp only [hE]

theorem turn_fault {f : Fault} (hr : readRow I om c r = .ok (k, oi)) (hE : isEndOfBlock bt (some k) = .error f) :
    parseBlock I (F + 1) d bt om ⟨r :: rest, m, c, ev⟩ = .error (.fault f) := by
  rw [parseBlock_turn, hr]
  simp only [hE]

theorem turn_row (hr : readRow I om c r = .ok (.other, oi)) :
    parseBlock I (F + 1) d bt om ⟨r :: rest, m, c, ev⟩ = parseBlock I F d bt om ⟨rest, m, c, ev ++ rowEv oi⟩ := by
  rw [parseBlock_turn, hr]
  cases oi <;> simp only [isEnd_other, turnRest, skipTurn, rowEv, List.append_nil]

theorem turn_skip (isFor : Bool) (hr : readRow I om c r = .ok (if isFor then .beginFor else .beginBlock, none)) :
    parseBlock I (F + 1) d bt om ⟨r :: rest, m, c, ev⟩ =
      (match parseBlock I F (d + 1) (if isFor then .for_ else .block) true ⟨rest, m, c, ev⟩ with
       | .error e => .error e
       | .ok s2 => parseBlock I F d bt om s2) := by
  rw [parseBlock_turn, hr]
  cases isFor <;> simp [turnRest, skipTurn]

theorem turn_block (hr : readRow I om c r = .ok (.beginBlock, some i)) :
    parseBlock I (F + 1) d bt om ⟨r :: rest, m, c, ev⟩ =
      (match parseBlock I F (d + 1) .block false ⟨rest, m, c, ev ++ [.open_ (I.hdr i)]⟩ with
       | .error e => .error e
       | .ok s2 => parseBlock I F d bt om { s2 with evs := s2.evs ++ [.close (I.hdr i)] }) := by
  rw [parseBlock_turn, hr]
  simp only [isEnd_beginBlock, turnRest]
  cases parseBlock I F (d + 1) .block false ⟨rest, m, c, ev ++ [.open_ (I.hdr i)]⟩ <;> rfl

theorem turn_for (hr : readRow I om c r = .ok (.beginFor, some i)) :
    parseBlock I (F + 1) d bt om ⟨r :: rest, m, c, ev⟩ =
      (match beginFor I d i (parseBlock I F (d + 1) .for_ false) (parseBlock I F (d + 1) .for_ true)
          ⟨rest, m, c, ev⟩ with
       | .error e => .error e
       | .ok s2 => parseBlock I F d bt om s2) := by
  rw [parseBlock_turn, hr]
  simp only [isEnd_beginFor, turnRest]

end turns

/-! ## what a call performs -/

/-- the call `f`, started before the rows `P` with bookmarks `m` and context `c`, performs the reading `rd`: it
stops with the error of the reading, or returns before `tail` with the events of the reading appended, bookmarks
and context as they were -/
structure Performs (f : St Raw Inst Ctx Hdr → Res Err (St Raw Inst Ctx Hdr)) (P tail : List Raw)
    (m : List (Nat × List Raw)) (c : Ctx) (ev : List (Ev Inst Hdr)) (rd : Except Err (List (Ev Inst Hdr))) : Prop where
  run : f ⟨P, m, c, ev⟩ =
    (match rd with
     | .error x => .error (.err x)
     | .ok es => .ok ⟨tail, m, c, ev ++ es⟩)

/-- `body`, then the end row `e`, is a block of type `bt` that fuel `F` suffices to read -/
structure BlockAt (I : FIface Raw Inst Ctx Val Hdr Err S) (F : Nat) (bt : BlockType) (body : List (FItem Raw))
    (e : Raw) : Prop where
  wk : WkFL I.kind body
  isEnd : isEndOfBlock bt (some (I.kind e)) = .ok true
  fuel : (flattenFL body).length < F

/-! ## content that is omitted -/

theorem firstFail_append (I : FIface Raw Inst Ctx Val Hdr Err S) (a b : List Raw) :
    firstFail I (a ++ b) = (match firstFail I a with | some x => some x | none => firstFail I b) := by
  induction a with
  | nil => simp [firstFail]
  | cons r a ih =>
    simp only [List.cons_append, firstFail]
    cases I.scanFail r <;> simp [ih]

theorem firstFail_cons (I : FIface Raw Inst Ctx Val Hdr Err S) (r : Raw) (b : List Raw) :
    firstFail I (r :: b) = (match I.scanFail r with | some x => some x | none => firstFail I b) := rfl

/-- with fuel `F`, well-kinded items read with `omit_content=True` are scanned one turn each; when `k` more
rows follow them, more than `k` units of fuel are left -/
def OmitAt (I : FIface Raw Inst Ctx Val Hdr Err S) (F : Nat) : Prop :=
  ∀ (its : List (FItem Raw)), WkFL I.kind its → ∀ (k d : Nat) (bt : BlockType) (tail : List Raw)
    (m : List (Nat × List Raw)) (c : Ctx) (ev : List (Ev Inst Hdr)), (flattenFL its).length + k < F →
    ∃ n, k ≤ n ∧ parseBlock I F d bt true ⟨flattenFL its ++ tail, m, c, ev⟩ =
      (match firstFail I (flattenFL its) with
       | some x => .error (.err x)
       | none => parseBlock I (n + 1) d bt true ⟨tail, m, c, ev⟩)

section
variable {I : FIface Raw Inst Ctx Val Hdr Err S} {F d : Nat} {bt : BlockType} {tail : List Raw}
  {m : List (Nat × List Raw)} {c : Ctx} {ev : List (Ev Inst Hdr)}

theorem omit_body (IH : OmitAt I F) {body : List (FItem Raw)} {e : Raw} (h : BlockAt I F bt body e) :
    Performs (parseBlock I F d bt true) (flattenFL body ++ e :: tail) tail m c ev
      (skipRows I (flattenFL body ++ [e]) []) := by
  constructor
  obtain ⟨n, -, hn⟩ := IH body h.wk 0 d bt (e :: tail) m c ev h.fuel
  rw [hn, skipRows, firstFail_append]
  cases firstFail I (flattenFL body) with
  | some x => rfl
  | none =>
    dsimp only
    rw [firstFail_cons]
    cases hs : I.scanFail e with
    | some x => exact turn_err (readRow_omit_err hs)
    | none => exact (turn_end (readRow_omit hs rfl) h.isEnd).trans (by simp [firstFail])

theorem omit_nested (IH : OmitAt I F) (isFor : Bool) {b e : Raw} {body : List (FItem Raw)}
    (hb : I.kind b = if isFor then .beginFor else .beginBlock)
    (h : BlockAt I F (if isFor then .for_ else .block) body e) :
    parseBlock I (F + 1) d bt true ⟨b :: (flattenFL body ++ e :: tail), m, c, ev⟩ =
      (match firstFail I (b :: (flattenFL body ++ [e])) with
       | some x => .error (.err x)
       | none => parseBlock I F d bt true ⟨tail, m, c, ev⟩) := by
  rw [firstFail_cons]
  cases hs : I.scanFail b with
  | some x => exact turn_err (readRow_omit_err hs)
  | none =>
    rw [turn_skip isFor (readRow_omit hs hb), (omit_body IH h).run, skipRows]
    cases firstFail I (flattenFL body ++ [e]) <;> simp

theorem omit_item_of (IH : OmitAt I F) {it : FItem Raw} (hw : WkF I.kind it) (hF : (flattenF it).length ≤ F) :
    parseBlock I (F + 1) d bt true ⟨flattenF it ++ tail, m, c, ev⟩ =
      (match firstFail I (flattenF it) with
       | some x => .error (.err x)
       | none => parseBlock I F d bt true ⟨tail, m, c, ev⟩) := by
  cases it with
  | row r =>
    simp only [WkF] at hw
    simp only [flattenF, List.cons_append, List.nil_append, firstFail_cons, firstFail]
    cases hs : I.scanFail r with
    | some x => exact turn_err (readRow_omit_err hs)
    | none => rw [turn_row (readRow_omit hs hw), rowEv, List.append_nil]
  | block b body e =>
    obtain ⟨hb, hbody, he⟩ := hw
    simp only [flattenF, List.cons_append, List.append_assoc, List.nil_append]
    exact omit_nested IH false hb ⟨hbody, he ▸ isEnd_block_endBlock, fuel_body hF⟩
  | forLoop b body e =>
    obtain ⟨hb, hbody, he⟩ := hw
    simp only [flattenF, List.cons_append, List.append_assoc, List.nil_append]
    exact omit_nested IH true hb ⟨hbody, he ▸ isEnd_for_endFor, fuel_body hF⟩

end

/-- induction on the fuel: the nested call of a turn and the turns after it run on one unit less -/
theorem omit_items (I : FIface Raw Inst Ctx Val Hdr Err S) : ∀ F, OmitAt I F := by
  intro F
  induction F with
  | zero => intro its _ k d bt tail m c ev hF; exact absurd hF (Nat.not_lt_zero _)
  | succ F ih =>
    intro its hw k d bt tail m c ev hF
    cases its with
    | nil => exact ⟨F, Nat.le_of_lt_succ (by simpa [flattenFL] using hF), by simp [flattenFL, firstFail]⟩
    | cons it its =>
      obtain ⟨h1, h2⟩ := fuel_cons it its hF
      obtain ⟨n, hn, h⟩ := ih its hw.2 k d bt tail m c ev h2
      refine ⟨n, hn, ?_⟩
      simp only [flattenFL, List.append_assoc, firstFail_append]
      rw [omit_item_of ih hw.1 h1]
      cases firstFail I (flattenF it) with
      | some x => rfl
      | none => exact h

theorem omit_item (I : FIface Raw Inst Ctx Val Hdr Err S) :
    ∀ (it : FItem Raw), WkF I.kind it → ∀ (F d : Nat) (bt : BlockType) (tail : List Raw)
      (m : List (Nat × List Raw)) (c : Ctx) (ev : List (Ev Inst Hdr)), (flattenF it).length ≤ F →
      parseBlock I (F + 1) d bt true ⟨flattenF it ++ tail, m, c, ev⟩ =
        (match firstFail I (flattenF it) with
         | some x => .error (.err x)
         | none => parseBlock I F d bt true ⟨tail, m, c, ev⟩) :=
  fun _ hw F _ _ _ _ _ _ => omit_item_of (omit_items I F) hw

/-! ## bookmarks -/

theorem getMark_setMark (d : Nat) (p : List Raw) (m : List (Nat × List Raw)) :
    getMark d (setMark d p m) = some p := by simp [setMark, getMark]

theorem getMark_delMark_ne (d k : Nat) (m : List (Nat × List Raw)) (h : k ≠ d) :
    getMark k (delMark d m) = getMark k m := by
  induction m with
  | nil => rfl
  | cons q m ih =>
    obtain ⟨a, p⟩ := q
    by_cases ha : a = d
    · subst ha
      have : ¬ a = k := fun e => h e.symm
      simp [delMark, getMark, ih, this]
    · by_cases hk : a = k
      · subst hk; simp [delMark, getMark, ha]
      · simp [delMark, getMark, ih, ha, hk]

theorem getMark_setMark_ne (d k : Nat) (p : List Raw) (m : List (Nat × List Raw)) (h : k ≠ d) :
    getMark k (setMark d p m) = getMark k m := by
  have : ¬ d = k := fun e => h e.symm
  simp [setMark, getMark, this, getMark_delMark_ne d k m h]

/-- every bookmark is that of an enclosing loop (depth below `d`) -/
def MarksBelow (d : Nat) (m : List (Nat × List Raw)) : Prop := ∀ q ∈ m, q.1 < d

theorem delMark_below (d : Nat) (m : List (Nat × List Raw)) (h : MarksBelow d m) : delMark d m = m := by
  induction m with
  | nil => rfl
  | cons q m ih =>
    obtain ⟨k, p⟩ := q
    have hk : k < d := h (k, p) (by simp)
    have hne : k ≠ d := by omega
    simp only [delMark, hne, if_false]
    rw [ih (fun q hq => h q (by simp [hq]))]

theorem MarksBelow_setMark (d : Nat) (p : List Raw) (m : List (Nat × List Raw)) (h : MarksBelow d m) :
    MarksBelow (d + 1) (setMark d p m) := by
  intro q hq
  simp only [setMark, delMark_below d m h, List.mem_cons] at hq
  rcases hq with rfl | hq
  · simp
  · have := h q hq; omega

theorem delMark_setMark (d : Nat) (p : List Raw) (m : List (Nat × List Raw)) (h : MarksBelow d m) :
    delMark d (setMark d p m) = m := by
  simp [setMark, delMark, delMark_below d m h]

theorem MarksBelow_succ (d : Nat) (m : List (Nat × List Raw)) (h : MarksBelow d m) : MarksBelow (d + 1) m :=
  fun q hq => by have := h q hq; omega

/-! ## the context around a loop -/

section
variable (I : FIface Raw Inst Ctx Val Hdr Err S) (L : FlatLaws I)
include L

theorem bindVars_ctx (c : Ctx) (v : Str)
    (idx : Option Str) (x : Val) (k : Nat) :
    bindVars I c v idx x k = iterCtx I.toIface c v idx x k := by
  cases idx <;> simp [bindVars, iterCtx, L.bind_eq, L.bindIdx_eq]

theorem bindVars_iter (c : Ctx) (v : Str)
    (idx : Option Str) (hne : ∀ i, idx = some i → v ≠ i) (x x' : Val) (k k' : Nat) :
    bindVars I (iterCtx I.toIface c v idx x k) v idx x' k' = iterCtx I.toIface c v idx x' k' := by
  cases idx with
  | none => simp [bindVars, iterCtx, L.bind_eq, L.put_put]
  | some i =>
    have h := hne i rfl
    simp only [bindVars, iterCtx, L.bind_eq, L.bindIdx_eq]
    rw [L.put_comm c v i _ _ h, L.put_put, L.put_comm _ i v _ _ (Ne.symm h), L.put_put]

theorem restoreVar_del (c : Ctx) (v : Str) :
    restoreVar I c v (I.del c v) = c := by
  unfold restoreVar
  cases h : I.get c v with
  | none => simp [L.del_absent c v h]
  | some a => simp [L.put_del c v a h]

/-- after the last iteration: loop variables removed, what they shadowed put back — the context
is the one before `begin_for` -/
theorem endLoopCtx_iter (c : Ctx) (v : Str)
    (idx : Option Str) (hne : ∀ i, idx = some i → v ≠ i) (x : Val) (k : Nat) :
    endLoopCtx I c v idx (iterCtx I.toIface c v idx x k) = .ok c := by
  cases idx with
  | none =>
    simp only [endLoopCtx, popCtx, iterCtx, L.bind_eq, L.get_put, L.del_put]
    rw [restoreVar_del I L]
  | some i =>
    have h := hne i rfl
    simp only [endLoopCtx, popCtx, iterCtx, L.bind_eq, L.bindIdx_eq]
    rw [L.get_put_ne _ i v _ (Ne.symm h), L.get_put]
    simp only []
    rw [L.del_put_ne _ i v _ (Ne.symm h), L.del_put, L.get_put]
    simp only []
    rw [L.del_put]
    -- put back: restoreVar i (restoreVar v (del (del c v) i))
    have e1 : restoreVar I c v (I.del (I.del c v) i) = I.del c i := by
      unfold restoreVar
      cases hv : I.get c v with
      | none => simp [L.del_absent c v hv]
      | some a =>
        simp only []
        rw [← L.del_put_ne (I.del c v) v i a h, L.put_del c v a hv]
    rw [e1, restoreVar_del I L]

end

/-! ## content that is evaluated -/

theorem iterate_spec {I : FIface Raw Inst Ctx Val Hdr Err S} (L : FlatLaws I) {d : Nat} {v : Str}
    {idx : Option Str} (hne : ∀ i, idx = some i → v ≠ i) {c0 : Ctx}
    {bodyFn : St Raw Inst Ctx Hdr → Res Err (St Raw Inst Ctx Hdr)}
    {iter : Ctx → Except Err (List (Ev Inst Hdr))} {P tail : List Raw} {m : List (Nat × List Raw)}
    (hm : getMark d m = some P) (Hbody : ∀ c' ev', Performs bodyFn P tail m c' ev' (iter c')) :
    ∀ (xs : List (Val × Nat)) (p : List Raw) (c' : Ctx) (ev' : List (Ev Inst Hdr)),
      (∀ x k, bindVars I c' v idx x k = iterCtx I.toIface c0 v idx x k) →
      iterate I d v idx bodyFn xs ⟨p, m, c', ev'⟩ =
        (match sequence (xs.map fun (x, k) => iter (iterCtx I.toIface c0 v idx x k)) with
         | .error x => .error (.err x)
         | .ok ess => .ok ⟨if xs.isEmpty then p else tail, m,
             xs.getLast?.elim c' fun q => iterCtx I.toIface c0 v idx q.1 q.2, ev' ++ ess.flatten⟩) := by
  intro xs
  induction xs with
  | nil => intro p c' ev' _; simp [iterate, sequence]
  | cons q xs ih =>
    intro p c' ev' habs
    obtain ⟨x, k⟩ := q
    simp only [iterate, hm, habs, (Hbody _ _).run, List.map_cons, sequence]
    cases hi : iter (iterCtx I.toIface c0 v idx x k) with
    | error e => simp
    | ok es =>
      simp only []
      rw [ih tail _ _ (fun x' k' => bindVars_iter I L c0 v idx hne x x' k k')]
      cases sequence (xs.map fun (x, k) => iter (iterCtx I.toIface c0 v idx x k)) with
      | error e => simp
      | ok ess =>
        -- the context left is that of the last iteration
        simp only [List.getLast?_cons, List.append_assoc, List.flatten_cons, List.isEmpty_cons]
        cases xs.getLast? <;> simp

/-- the `begin_for` branch, given what the two recursive calls do on the loop body -/
theorem beginFor_spec {I : FIface Raw Inst Ctx Val Hdr Err S} (L : FlatLaws I) {d : Nat} {i : Inst}
    {bodyFn skipFn : St Raw Inst Ctx Hdr → Res Err (St Raw Inst Ctx Hdr)}
    {iter : Ctx → Except Err (List (Ev Inst Hdr))} {skipped P tail : List Raw}
    {m : List (Nat × List Raw)} (hm : MarksBelow d m)
    (Hbody : ∀ c' ev', Performs bodyFn P tail (setMark d P m) c' ev' (iter c'))
    (Hskip : ∀ c' ev', Performs skipFn P tail (setMark d P m) c' ev' (skipRows I skipped []))
    {c : Ctx} {ev : List (Ev Inst Hdr)} :
    Performs (beginFor I d i bodyFn skipFn) P tail m c ev (evLoop I c i skipped iter) := by
  constructor
  unfold beginFor evLoop
  cases hv : I.loopVars i with
  | none => simp
  | some vi =>
    obtain ⟨v, idx⟩ := vi
    have hne : ∀ j, idx = some j → v ≠ j := fun j hj => L.vars_ne i v j (by rw [hv, hj])
    simp only []
    rw [iterate_spec L hne (getMark_setMark d P m) Hbody _ P c _ (fun x k => bindVars_ctx I L c v idx x k)]
    cases I.iterList i with
    | nil =>
      simp only [List.zipIdx_nil, List.map_nil, sequence, List.isEmpty_nil, if_true, List.getLast?_nil, Option.elim_none,
        (Hskip _ _).run, skipRows]
      cases firstFail I skipped with
      | some x => simp
      | none =>
        simp [getMark_setMark, delMark_setMark d P m hm, List.append_assoc]
    | cons a as =>
      simp only [List.zipIdx_cons, List.isEmpty_cons]
      cases hs : sequence (((a, 0) :: as.zipIdx (0 + 1)).map fun (x, k) => iter (iterCtx I.toIface c v idx x k)) with
      | error e => simp
      | ok ess =>
        simp only [List.getLast?_cons, Option.elim_some, Bool.false_eq_true, if_false]
        rw [endLoopCtx_iter I L c v idx hne]
        simp [getMark_setMark, delMark_setMark d P m hm, List.append_assoc]

theorem evF_nested (I : FIface Raw Inst Ctx Val Hdr Err S) (c : Ctx) (isFor : Bool) (b e : Raw)
    (body : List (FItem Raw)) :
    evF I c (if isFor then .forLoop b body e else .block b body e) =
      (match I.inst c b with
       | .error x => .error x
       | .ok i =>
         if I.includeIf i then
           if isFor then evLoop I c i (flattenFL body ++ [e]) (fun c => thenEnd I c e (evFs I c body))
           else
             match thenEnd I c e (evFs I c body) with
             | .error x => .error x
             | .ok es => .ok ([.open_ (I.hdr i)] ++ es ++ [.close (I.hdr i)])
         else skipRows I (flattenFL body ++ [e]) []) := by
  cases isFor <;>
  · simp only [evF, Bool.false_eq_true, if_false, if_true]
    cases I.inst c b with
    | error x => rfl
    | ok i => rfl

/-- with fuel `F`, on well-kinded items whose content is evaluated the flat machine performs the events `evFs`
reads off them, one turn each, and leaves bookmarks and context as they were; when `k` more rows follow them,
more than `k` units of fuel are left -/
def RunAt (I : FIface Raw Inst Ctx Val Hdr Err S) (F : Nat) : Prop :=
  ∀ (its : List (FItem Raw)), WkFL I.kind its → ∀ (k d : Nat) (bt : BlockType) (tail : List Raw)
    (m : List (Nat × List Raw)) (c : Ctx) (ev : List (Ev Inst Hdr)), (flattenFL its).length + k < F →
    MarksBelow d m →
    ∃ n, k ≤ n ∧ parseBlock I F d bt false ⟨flattenFL its ++ tail, m, c, ev⟩ =
      (match evFs I c its with
       | .error x => .error (.err x)
       | .ok es => parseBlock I (n + 1) d bt false ⟨tail, m, c, ev ++ es⟩)

section
variable {I : FIface Raw Inst Ctx Val Hdr Err S} {F d : Nat} {bt : BlockType} {tail : List Raw}
  {m : List (Nat × List Raw)} {c : Ctx} {ev : List (Ev Inst Hdr)}

theorem run_body (L : FlatLaws I) (IH : RunAt I F) {body : List (FItem Raw)} {e : Raw} (h : BlockAt I F bt body e)
    (hm : MarksBelow d m) :
    Performs (parseBlock I F d bt false) (flattenFL body ++ e :: tail) tail m c ev
      (thenEnd I c e (evFs I c body)) := by
  constructor
  obtain ⟨n, -, hn⟩ := IH body h.wk 0 d bt (e :: tail) m c ev h.fuel hm
  rw [hn]
  cases evFs I c body with
  | error x => rfl
  | ok es =>
    dsimp only [thenEnd]
    cases hi : I.inst c e with
    | error x => exact turn_err (readRow_run_err hi)
    | ok ie => exact turn_end (readRow_run L hi rfl) h.isEnd

theorem run_nested (L : FlatLaws I) (IH : RunAt I F) (isFor : Bool) {b e : Raw} {body : List (FItem Raw)}
    (hb : I.kind b = if isFor then .beginFor else .beginBlock)
    (h : BlockAt I F (if isFor then .for_ else .block) body e) (hm : MarksBelow d m) :
    parseBlock I (F + 1) d bt false ⟨b :: (flattenFL body ++ e :: tail), m, c, ev⟩ =
      (match evF I c (if isFor then .forLoop b body e else .block b body e) with
       | .error x => .error (.err x)
       | .ok es => parseBlock I F d bt false ⟨tail, m, c, ev ++ es⟩) := by
  rw [evF_nested]
  cases hi : I.inst c b with
  | error x => exact turn_err (readRow_run_err hi)
  | ok i =>
    dsimp only
    cases hinc : I.includeIf i with
    | false =>
      rw [turn_skip isFor (readRow_excluded L hi hb hinc), (omit_body (omit_items I F) h).run]
      simp only [Bool.false_eq_true, if_false]
      cases skipRows I (flattenFL body ++ [e]) [] <;> rfl
    | true =>
      cases isFor with
      | false =>
        rw [turn_block (readRow_included L hi hb hinc), (run_body L IH (bt := .block) h (MarksBelow_succ d m hm)).run]
        simp only [Bool.false_eq_true, if_false, if_true]
        cases thenEnd I c e (evFs I c body) with
        | error x => rfl
        | ok es => simp [List.append_assoc]
      | true =>
        -- every iteration runs the body and its end row from the bookmark; an empty list skips them
        rw [turn_for (readRow_included L hi hb hinc),
          (beginFor_spec L hm (fun c' ev' => run_body L IH (bt := .for_) h (MarksBelow_setMark d _ m hm))
            (fun c' ev' => omit_body (omit_items I F) (bt := .for_) h)).run]
        simp only [if_true]
        cases evLoop I c i (flattenFL body ++ [e]) (fun c => thenEnd I c e (evFs I c body)) <;> rfl

theorem run_item_of (L : FlatLaws I) (IH : RunAt I F) {it : FItem Raw} (hw : WkF I.kind it)
    (hF : (flattenF it).length ≤ F) (hm : MarksBelow d m) :
    parseBlock I (F + 1) d bt false ⟨flattenF it ++ tail, m, c, ev⟩ =
      (match evF I c it with
       | .error x => .error (.err x)
       | .ok es => parseBlock I F d bt false ⟨tail, m, c, ev ++ es⟩) := by
  cases it with
  | row r =>
    simp only [WkF] at hw
    simp only [flattenF, List.cons_append, List.nil_append, evF]
    cases hi : I.inst c r with
    | error x => exact turn_err (readRow_run_err hi)
    | ok i => rw [turn_row (readRow_run L hi hw), rowEv_ite]
  | block b body e =>
    obtain ⟨hb, hbody, he⟩ := hw
    simp only [flattenF, List.cons_append, List.append_assoc, List.nil_append]
    exact run_nested L IH false hb ⟨hbody, he ▸ isEnd_block_endBlock, fuel_body hF⟩ hm
  | forLoop b body e =>
    obtain ⟨hb, hbody, he⟩ := hw
    simp only [flattenF, List.cons_append, List.append_assoc, List.nil_append]
    exact run_nested L IH true hb ⟨hbody, he ▸ isEnd_for_endFor, fuel_body hF⟩ hm

end

theorem run_items (I : FIface Raw Inst Ctx Val Hdr Err S) (L : FlatLaws I) : ∀ F, RunAt I F := by
  intro F
  induction F with
  | zero => intro its _ k d bt tail m c ev hF; exact absurd hF (Nat.not_lt_zero _)
  | succ F ih =>
    intro its hw k d bt tail m c ev hF hm
    cases its with
    | nil => exact ⟨F, Nat.le_of_lt_succ (by simpa [flattenFL] using hF), by simp [flattenFL, evFs]⟩
    | cons it its =>
      obtain ⟨h1, h2⟩ := fuel_cons it its hF
      simp only [flattenFL, List.append_assoc, evFs]
      rw [run_item_of L ih hw.1 h1 hm]
      cases evF I c it with
      | error x => exact ⟨k, Nat.le_refl k, rfl⟩
      | ok a =>
        obtain ⟨n, hn, h⟩ := ih its hw.2 k d bt tail m c (ev ++ a) h2 hm
        refine ⟨n, hn, ?_⟩
        dsimp only
        rw [h]
        cases evFs I c its with
        | error x => rfl
        | ok b => simp [List.append_assoc]

theorem run_item (I : FIface Raw Inst Ctx Val Hdr Err S) (L : FlatLaws I) :
    ∀ (it : FItem Raw), WkF I.kind it → ∀ (F d : Nat) (bt : BlockType) (tail : List Raw)
      (m : List (Nat × List Raw)) (c : Ctx) (ev : List (Ev Inst Hdr)), (flattenF it).length ≤ F →
      MarksBelow d m →
      parseBlock I (F + 1) d bt false ⟨flattenF it ++ tail, m, c, ev⟩ =
        (match evF I c it with
         | .error x => .error (.err x)
         | .ok es => parseBlock I F d bt false ⟨tail, m, c, ev ++ es⟩) :=
  fun _ hw F _ _ _ _ _ _ => run_item_of L (run_items I L F) hw

end Rpft.SugarFlat
