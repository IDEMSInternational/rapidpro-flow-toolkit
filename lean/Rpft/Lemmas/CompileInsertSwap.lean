/-
The final correspondence (`PF`): a block swap on identifiers and on node indices — what the nested
parser made moves up, what the edges into the block made moves down — and the shift by the begin row's
`no_op` group on group indices.  It is glued from the correspondence inside the block and the one
for the edges into the block (`Parts`, `asimF_glue`; `ArenaOk` is what the gluing asks of the insert
side).  `PFm` is `PF` in the two modes the rows after the block are read in.
-/
import Rpft.Lemmas.CompileInsertIncoming
namespace Rpft.Compile
open Rpft Function

/-- `[A, B)` moves up by `m`, `[B, B + m)` moves down to `[A, A + m)`, everything else stays -/
def swapFrom (A B m : Nat) (x : Nat) : Nat :=
  if x < A then x else if x < B then x + m else if x < B + m then x - (B - A) else x

theorem swapFrom_lt {A B m x : Nat} (h : x < A) : swapFrom A B m x = x := by simp [swapFrom, h]
theorem swapFrom_mid {A B m x : Nat} (h1 : A ≤ x) (h2 : x < B) : swapFrom A B m x = x + m := by
  simp [swapFrom, Nat.not_lt.mpr h1, h2]
theorem swapFrom_hi {A B m x : Nat} (h0 : A ≤ B) (h1 : B ≤ x) (h2 : x < B + m) : swapFrom A B m x = x - (B - A) := by
  simp [swapFrom, Nat.not_lt.mpr (Nat.le_trans h0 h1), Nat.not_lt.mpr h1, h2]
theorem swapFrom_ge {A B m x : Nat} (h0 : A ≤ B) (h1 : B + m ≤ x) : swapFrom A B m x = x := by
  have b : B ≤ x := Nat.le_trans (Nat.le_add_right B m) h1
  simp [swapFrom, Nat.not_lt.mpr (Nat.le_trans h0 b), Nat.not_lt.mpr b, Nat.not_lt.mpr h1]

theorem swapFrom_inv {A B m : Nat} (h : A ≤ B) (x : Nat) : swapFrom A (A + m) (B - A) (swapFrom A B m x) = x := by
  rcases Nat.lt_or_ge x A with h1 | h1
  · rw [swapFrom_lt h1, swapFrom_lt h1]
  · rcases Nat.lt_or_ge x B with h2 | h2
    · rw [swapFrom_mid h1 h2, swapFrom_hi (Nat.le_add_right A m) (Nat.add_le_add_right h1 m) (by omega)]; omega
    · rcases Nat.lt_or_ge x (B + m) with h3 | h3
      · rw [swapFrom_hi h h2 h3, swapFrom_mid (by omega) (by omega)]; omega
      · rw [swapFrom_ge h h3, swapFrom_ge (Nat.le_add_right A m) (by omega)]

theorem swapFrom_injective {A B m : Nat} (h : A ≤ B) : Injective (swapFrom A B m) :=
  fun x y e => by rw [← swapFrom_inv (m := m) h x, e, swapFrom_inv h y]

theorem swapFrom_eq_shift {A B m i : Nat} (h : i < B) : swapFrom A B m i = shiftFrom A m i := by
  rcases Nat.lt_or_ge i A with h1 | h1
  · rw [swapFrom_lt h1, shiftFrom_lt h1]
  · rw [swapFrom_mid h1 h, shiftFrom_ge h1]

theorem swapFrom_shift {A B m i : Nat} (h : A ≤ B) (hi : i < A + m) : swapFrom A B m (shiftFrom A (B - A) i) = i := by
  rcases Nat.lt_or_ge i A with h1 | h1
  · rw [shiftFrom_lt h1, swapFrom_lt h1]
  · rw [shiftFrom_ge h1, swapFrom_hi h (by omega) (by omega)]; omega

theorem shift_swapFrom {A B m i : Nat} (h : A ≤ B) (ho : i < A ∨ B ≤ i) (hi : i < B + m) :
    swapFrom A B m i < A + m ∧ shiftFrom A (B - A) (swapFrom A B m i) = i ∧ swapFrom A B m i = unshiftFrom A (B - A) i := by
  rcases ho with h1 | h1
  · rw [swapFrom_lt h1, shiftFrom_lt h1]
    exact ⟨Nat.lt_add_right m h1, rfl, by simp [unshiftFrom, h1]⟩
  · rw [swapFrom_hi h h1 hi, shiftFrom_ge (by omega)]
    exact ⟨by omega, by omega, by simp [unshiftFrom, Nat.not_lt.mpr (Nat.le_trans h h1)]⟩

noncomputable def PF (na nt : List Str) (s₀ : St) (kk : Nat) (e₂ b₁ x₁ b₂ : St) : Params :=
  { ρ := rhoOf (swapFrom (s₀.next + kk) b₁.next (e₂.next - (s₀.next + kk))),
    ν := swapFrom (s₀.nodes.size + 1) b₁.nodes.size (e₂.nodes.size - (s₀.nodes.size + 1)),
    γ := shiftFrom (s₀.groups.size + 1) 1,
    DN := fun _ => True,
    DG := fun _ => True,
    T := fun j => j = s₀.groups.size ∨ j = 0, bx := s₀.groups.size, gx := s₀.groups.size + 1,
    base₁ := x₁, base₂ := b₂, hb := True, sp := true, na := na, nt := nt }

/-- counters and sizes after both phases -/
structure Sizes (s₀ : St) (kk : Nat) (e₂ b₁ b₂ x₁ : St) : Prop where
  b1next : s₀.next + kk ≤ b₁.next
  b1nodes : s₀.nodes.size + 1 ≤ b₁.nodes.size
  b1groups : s₀.groups.size + 2 ≤ b₁.groups.size
  b2next : b₂.next = b₁.next + (e₂.next - (s₀.next + kk))
  b2nodes : b₂.nodes.size = b₁.nodes.size + (e₂.nodes.size - (s₀.nodes.size + 1))
  b2groups : b₂.groups.size = b₁.groups.size + 1
  x1next : x₁.next = b₁.next + (e₂.next - (s₀.next + kk))
  x1nodes : x₁.nodes.size = b₁.nodes.size + (e₂.nodes.size - (s₀.nodes.size + 1))
  x1groups : x₁.groups.size = b₁.groups.size

section
variable {na nt : List Str} {s₀ : St} {ps : List (Nat × Cond)} {kk : Nat} {e₂ b₁ b₂ x₁ : St} {r₁ : Row} {n : NodeM}

theorem Sizes.blk_lt (hs : Sizes s₀ kk e₂ b₁ b₂ x₁) : s₀.groups.size < b₁.groups.size :=
  Nat.lt_of_lt_of_le (Nat.lt_add_of_pos_right (by decide)) hs.b1groups

theorem ASim.shift_sizes {P : Params} {s₁ s₂ : St} (h : ASim P s₁ s₂) {a a' a'' c c' c'' : Nat}
    (hρ : P.ρ = rhoOf (shiftFrom a c)) (hν : P.ν = shiftFrom a' c') (hγ : P.γ = shiftFrom a'' c'')
    (h1 : a ≤ s₁.next) (h2 : a' ≤ s₁.nodes.size) (h3 : a'' ≤ s₁.groups.size) :
    s₂.next = s₁.next + c ∧ s₂.nodes.size = s₁.nodes.size + c' ∧ s₂.groups.size = s₁.groups.size + c'' := by
  have e1 := h.idsync 0
  have e2 := h.nsync 0
  have e3 := h.gsync 0
  rw [Nat.add_zero, Nat.add_zero] at e1 e2 e3
  rw [hρ, rhoOf_tid, shiftFrom_ge h1] at e1
  rw [hν, shiftFrom_ge h2] at e2
  rw [hγ, shiftFrom_ge h3] at e3
  exact ⟨(tid_inj.mp e1).symm, e2.symm, e3.symm⟩

/-- the two correspondences the final one is glued from, with the entry facts they were established from: inside the
block (nested parser `b₁`, twin `b₂`) and for the edges into it (twin `e₂`, insert row `x₁`) -/
structure Parts (na nt : List Str) (s₀ : St) (ps : List (Nat × Cond)) (r₁ : Row) (n : NodeM) (kk : Nat) (e₂ b₁ b₂ x₁ : St) :
    Prop where
  entry : AtEntry na nt s₀ ps r₁ n kk e₂
  inside : ASim (PR na nt s₀ kk e₂ r₁ n) b₁ b₂
  incoming : ASim (PE na nt s₀ kk b₁ (twT s₀ ps n kk)) e₂ x₁

theorem Parts.sizes (h : Parts na nt s₀ ps r₁ n kk e₂ b₁ b₂ x₁) : Sizes s₀ kk e₂ b₁ b₂ x₁ := by
  have hB := B1Facts.of_sim h.inside
  have hF := h.entry
  obtain ⟨r1, r2, r3⟩ := h.inside.shift_sizes rfl rfl rfl hB.next hB.nsz (Nat.le_of_succ_le hB.gsz)
  obtain ⟨e1, e2, e3⟩ := h.incoming.shift_sizes rfl rfl rfl hF.next hF.nsz (Nat.le_of_eq hF.gsz.symm)
  have sw : ∀ {a b e : Nat}, a ≤ b → a ≤ e → e + (b - a) = b + (e - a) := fun {a b e} hab hae => by
    rw [← Nat.add_sub_assoc hab, ← Nat.add_sub_assoc hae, Nat.add_comm]
  exact ⟨hB.next, hB.nsz, hB.gsz, r1, r2, r3, e1.trans (sw hB.next hF.next),
    e2.trans (sw hB.nsz hF.nsz), by rw [e3, hF.gsz, Nat.add_sub_cancel' hB.gsz]⟩

/-- what the final correspondence asks of the arenas on the insert side -/
structure ArenaOk (s : St) : Prop where
  ids : IdsOk s
  wf : RefsOk s
  dex : DexOk s
  /-- nobody refers to the root block -/
  ra0 : ∀ (j : Nat) (g : Grp), j ≠ 0 → s.groups[j]? = some g → ∀ x ∈ grefs g, x ≠ 0

theorem ArenaOk.of_good {na nt : List Str} {s : St} (hg : Good na nt s) (ha : AInv plainIds s) : ArenaOk s :=
  ⟨allIds_range ha hg.dex, hg.wf, hg.dex, hg.ra⟩

/-- `append_node_group` adds a child to the open block and nothing else to the arenas: what holds of
them afterwards held before -/
theorem ArenaOk.before_append {g : Nat} {id : Str} {x z : St} (h : (appendGroup g id).run x = .ok ((), z))
    (hz : ArenaOk z) : ArenaOk x := by
  obtain ⟨b, rest, cs, _, hxg, rfl⟩ := appendGroup_run h
  -- every group of `x` is in `z`, with the same nodes and at least its references
  have key : ∀ j gr, x.groups[j]? = some gr → ∃ gr', (x.groups.setIfInBounds b (.block (cs ++ [g])))[j]? = some gr' ∧
      gnodes gr' = gnodes gr ∧ ∀ r ∈ grefs gr, r ∈ grefs gr' := fun j gr hj => by
    by_cases jb : j = b
    · subst jb
      rw [hxg] at hj
      cases hj
      exact ⟨_, getElem?_set_self_of_some _ hxg, rfl,
        fun r hr => List.mem_append_left _ hr⟩
    · exact ⟨gr, (Array.getElem?_setIfInBounds_ne (Ne.symm jb)).trans hj, rfl, fun _ hr => hr⟩
  refine ⟨hz.ids, fun j gr hj => ?_, hz.dex, fun j gr hj0 hj r hr => ?_⟩
  · obtain ⟨gr', hj', e1, e2⟩ := key j gr hj
    have := hz.wf j gr' hj'
    exact ⟨e1 ▸ this.1, fun r hr => Array.size_setIfInBounds (xs := x.groups) ▸ this.2 r (e2 r hr)⟩
  · obtain ⟨gr', hj', -, e2⟩ := key j gr hj
    exact hz.ra0 j gr' hj0 hj' r (e2 r hr)

/-! Where the two correspondences are silent, nothing was touched: the nodes and groups made inside the
block are on the insert side what the nested parser left, and the twin's nodes and groups outside the
block are what applying the edges into it left. -/

theorem ins_body_nodes (h : Parts na nt s₀ ps r₁ n kk e₂ b₁ b₂ x₁) {i : Nat}
    (h1 : s₀.nodes.size ≤ i) (h2 : i < b₁.nodes.size) : x₁.nodes[i]? = b₁.nodes[i]? := by
  refine h.incoming.fr2n i fun i₀ hd e => ?_
  obtain ⟨hlt, rfl⟩ := shiftFrom_gap_sub e h2
  exact hd (Nat.le_antisymm (Nat.le_of_lt_succ hlt) h1)

theorem ins_body_groups (h : Parts na nt s₀ ps r₁ n kk e₂ b₁ b₂ x₁) {j : Nat}
    (h1 : s₀.groups.size ≤ j) (h2 : j < b₁.groups.size) : x₁.groups[j]? = b₁.groups[j]? := by
  refine h.incoming.fr2g j fun j₀ hd e => ?_
  obtain ⟨hlt, rfl⟩ := shiftFrom_gap_sub e h2
  exact hd.elim (Nat.not_lt_of_le h1) (Nat.not_le_of_lt hlt)

theorem twin_outer_nodes (h : Parts na nt s₀ ps r₁ n kk e₂ b₁ b₂ x₁) {i : Nat} (h1 : i ≠ s₀.nodes.size)
    (h2 : i < e₂.nodes.size) : b₂.nodes[i]? = e₂.nodes[i]? := by
  refine h.inside.fr2n i fun i₀ hd e => ?_
  obtain ⟨hlt, rfl⟩ := shiftFrom_gap_sub e h2
  exact h1 (Nat.le_antisymm (Nat.le_of_lt_succ hlt) hd)

theorem twin_outer_groups (h : Parts na nt s₀ ps r₁ n kk e₂ b₁ b₂ x₁) {j : Nat} (h1 : j ≠ s₀.groups.size)
    (h2 : j < s₀.groups.size + 2) : b₂.groups[j]? = e₂.groups[j]? := by
  refine (h.inside.fr2g j fun j₀ hd e => ?_).trans (rowAdded_groups_ne h1 (h.entry.gsz ▸ h2))
  obtain ⟨hlt, rfl⟩ := shiftFrom_gap e h2
  exact h1 (Nat.le_antisymm (Nat.le_of_lt_succ hlt) hd)

theorem ins_outer_group (h : Parts na nt s₀ ps r₁ n kk e₂ b₁ b₂ x₁) {j : Nat} {g : Grp} (hj : j < s₀.groups.size)
    (hgj : x₁.groups[j]? = some g) :
    ∃ g₀, e₂.groups[j]? = some g₀ ∧ g = mapGrpAt (PE na nt s₀ kk b₁ (twT s₀ ps n kk)) j g₀ ∧
      (∀ i ∈ gnodes g₀, i < e₂.nodes.size) ∧ ∀ x ∈ grefs g₀, x < s₀.groups.size := by
  have hE := h.incoming
  have hjE : j < e₂.groups.size := h.entry.gsz ▸ Nat.lt_add_right 2 hj
  obtain ⟨g₀, hg₀⟩ : ∃ g₀, e₂.groups[j]? = some g₀ := ⟨_, Array.getElem?_eq_getElem hjE⟩
  have hrel := hE.groups j g₀ (.inl hj) hg₀
  have eγ : (PE na nt s₀ kk b₁ (twT s₀ ps n kk)).γ j = j := shiftFrom_lt (Nat.lt_add_right 2 hj)
  rw [eγ, hgj] at hrel
  exact ⟨g₀, hg₀, Option.some.inj hrel, (hE.wf j g₀ hg₀).1, fun x hx =>
    ((hE.closed j g₀ (.inl hj) hg₀).2 x hx).resolve_right
      (Nat.not_le_of_lt (h.entry.gsz ▸ (hE.wf j g₀ hg₀).2 x hx))⟩

/-- a node made inside the block is related by the correspondence inside the block, which agrees with
the swap there; any other is the image, under the correspondence for the edges into the block, of the
twin's node the swap points back to (`asimF_groups` goes the same way) -/
theorem asimF_nodes (h : Parts na nt s₀ ps r₁ n kk e₂ b₁ b₂ x₁)
    (hidb : IdsOk b₁) (hidx : IdsOk x₁)
    {i : Nat} {m : NodeM} (hm : x₁.nodes[i]? = some m) :
    b₂.nodes[swapFrom (s₀.nodes.size + 1) b₁.nodes.size (e₂.nodes.size - (s₀.nodes.size + 1)) i]? =
      some (rnNode (rhoOf (swapFrom (s₀.next + kk) b₁.next (e₂.next - (s₀.next + kk)))) m) := by
  have hil : i < x₁.nodes.size := lt_size_of_getElem? hm
  rw [h.sizes.x1nodes] at hil
  by_cases hbody : s₀.nodes.size ≤ i ∧ i < b₁.nodes.size
  · obtain ⟨h1, h2⟩ := hbody
    rw [ins_body_nodes h h1 h2] at hm
    have hrn : b₂.nodes[shiftFrom _ _ i]? = _ := h.inside.nodes i m h1 hm
    rw [swapFrom_eq_shift h2, hrn]
    exact congrArg some (rnNode_congr fun x hx => rhoOf_congr fun k hk =>
      (swapFrom_eq_shift (IdOk.lt_of_tid (hk ▸ hidb i m hm x hx))).symm)
  · -- its index on the twin's side
    have hq : s₀.nodes.size + 1 + (e₂.nodes.size - (s₀.nodes.size + 1)) = e₂.nodes.size :=
      Nat.add_sub_cancel' h.entry.nsz
    obtain ⟨hi₀, hi₁, hi₂⟩ := shift_swapFrom h.sizes.b1nodes (show i < s₀.nodes.size + 1 ∨ _ by omega) hil
    rw [hq] at hi₀
    generalize swapFrom (s₀.nodes.size + 1) b₁.nodes.size (e₂.nodes.size - (s₀.nodes.size + 1)) i = i₀ at hi₀ hi₁ hi₂ ⊢
    have hne : i₀ ≠ s₀.nodes.size := by
      rintro rfl
      rw [shiftFrom_lt (Nat.lt_succ_self _)] at hi₁
      exact hbody ⟨Nat.le_of_eq hi₁, hi₁ ▸ h.sizes.b1nodes⟩
    obtain ⟨m₀, hm₀⟩ : ∃ m₀, e₂.nodes[i₀]? = some m₀ := ⟨_, Array.getElem?_eq_getElem hi₀⟩
    have hrel : x₁.nodes[shiftFrom _ _ i₀]? = _ := h.incoming.nodes i₀ m₀ hne hm₀
    rw [hi₁, hm] at hrel
    have hrel := Option.some.inj hrel
    rw [twin_outer_nodes h hne hi₀, hm₀]
    refine congrArg some ?_
    -- `m₀` is `m` renamed back
    have hinv : rnNode (rhoOf (unshiftFrom (s₀.next + kk) (b₁.next - (s₀.next + kk)))) m = m₀ := by
      rw [hrel]
      exact rnNode_inv (fun x => rhoOf_leftInv (unshift_shift _ _) x) m₀
    rw [← hinv]
    refine rnNode_congr fun x hx => rhoOf_congr fun k hk => ?_
    -- an identifier of `m` is the image under the shift of one of `m₀`, and below the counter
    obtain ⟨x₀, _, hx₀⟩ : ∃ x₀ ∈ m₀.allIds, x = (PE na nt s₀ kk b₁ (twT s₀ ps n kk)).ρ x₀ := by
      rw [hrel] at hx; exact allIds_rnNode m₀ x hx
    have hbelow : k < x₁.next := IdOk.lt_of_tid (hk ▸ hidx i m hm x hx)
    rw [h.sizes.x1next] at hbelow
    have hrange : k < s₀.next + kk ∨ b₁.next ≤ k := by
      obtain ⟨k₀, _, rfl⟩ := rhoOf_tid_inv (hx₀.symm.trans hk)
      exact (Nat.lt_or_ge _ b₁.next).imp_left fun h => (shiftFrom_gap_sub rfl h).1
    exact (shift_swapFrom h.sizes.b1next hrange hbelow).2.2.symm

theorem asimF_groups (h : Parts na nt s₀ ps r₁ n kk e₂ b₁ b₂ x₁) {j : Nat} {g : Grp} (hgj : x₁.groups[j]? = some g) :
    b₂.groups[shiftFrom (s₀.groups.size + 1) 1 j]? = some (mapGrpAt (PF na nt s₀ kk e₂ b₁ x₁ b₂) j g) := by
  have hjl : j < x₁.groups.size := lt_size_of_getElem? hgj
  rw [h.sizes.x1groups] at hjl
  by_cases hbody : s₀.groups.size ≤ j
  · rw [ins_body_groups h hbody hjl] at hgj
    have hrg : b₂.groups[shiftFrom (s₀.groups.size + 1) 1 j]? = _ := h.inside.groups j g hbody hgj
    rw [hrg]
    have hwf := h.inside.wf j g hgj
    exact congrArg some (mapGrpAt_congr (fun i hi => (swapFrom_eq_shift (hwf.1 i hi)).symm) (fun _ _ => rfl) rfl rfl rfl)
  · have hj : j < s₀.groups.size := Nat.lt_of_not_le hbody
    obtain ⟨g₀, hg₀, hrel, hwfn, hrefs⟩ := ins_outer_group h hj hgj
    rw [shiftFrom_lt (Nat.lt_succ_of_lt hj),
      twin_outer_groups h (Nat.ne_of_lt hj) (Nat.lt_add_right 2 hj), hg₀, hrel]
    refine congrArg some (mapGrpAt_inv (.inl (Nat.ne_of_lt hj)) (.inl (Nat.ne_of_lt hj))
      (fun i hi => swapFrom_shift h.sizes.b1nodes
        (Nat.lt_of_lt_of_le (hwfn i hi) (Nat.le_of_eq (Nat.add_sub_cancel' h.entry.nsz).symm)))
      (fun x hx => ?_)).symm
    show shiftFrom _ _ (shiftFrom _ _ x) = x
    have := hrefs x hx
    rw [shiftFrom_lt (a := s₀.groups.size + 2) (Nat.lt_add_right 2 this), shiftFrom_lt (Nat.lt_succ_of_lt this)]

theorem asimF_glue (h : Parts na nt s₀ ps r₁ n kk e₂ b₁ b₂ x₁) (hidb : IdsOk b₁) (hx₁ : ArenaOk x₁) :
    ASim (PF na nt s₀ kk e₂ b₁ x₁ b₂) x₁ b₂ where
  na₁ := h.incoming.na₂
  na₂ := h.inside.na₂
  nt₁ := h.incoming.nt₂
  nt₂ := h.inside.nt₂
  mono₁ := ⟨Nat.le_refl _, Nat.le_refl _, Nat.le_refl _⟩
  mono₂ := ⟨Nat.le_refl _, Nat.le_refl _, Nat.le_refl _⟩
  -- beyond both phases the swap is the identity
  idsync k := by
    show rhoOf _ (tid (x₁.next + k)) = tid (b₂.next + k)
    rw [rhoOf_tid, h.sizes.b2next, h.sizes.x1next, swapFrom_ge h.sizes.b1next (Nat.le_add_right _ _)]
  nsync k := by
    show swapFrom _ _ _ (x₁.nodes.size + k) = b₂.nodes.size + k
    rw [h.sizes.b2nodes, h.sizes.x1nodes, swapFrom_ge h.sizes.b1nodes (Nat.le_add_right _ _)]
  gsync k := by
    show shiftFrom _ _ (x₁.groups.size + k) = b₂.groups.size + k
    rw [h.sizes.b2groups, h.sizes.x1groups]
    exact shiftFrom_sync (Nat.le_of_succ_le h.sizes.b1groups) rfl k
  ndom _ _ := trivial
  gdom j hj := by
    rw [h.sizes.x1groups] at hj
    have := h.sizes.b1groups
    exact ⟨trivial, by show ¬ (j = s₀.groups.size ∨ j = 0); omega⟩
  bxlt := h.sizes.x1groups ▸ h.sizes.blk_lt
  bne _ := by
    obtain ⟨c, cs, hc⟩ := h.inside.bne trivial
    exact ⟨c, cs, (ins_body_groups h (Nat.le_refl _) h.sizes.blk_lt).trans hc⟩
  wf := hx₁.wf
  dex := hx₁.dex
  nodes i m _ hm := asimF_nodes h hidb hx₁.ids hm
  groups j g _ hgj := asimF_groups h hgj
  closed _ _ _ _ := ⟨fun _ _ => trivial, fun _ _ => trivial⟩
  -- untainted groups refer neither to the block nor to the root
  ra j g _ htj hgj x hx := by
    have hjl : j < x₁.groups.size := lt_size_of_getElem? hgj
    rw [h.sizes.x1groups] at hjl
    have h0 := hx₁.ra0 j g (fun e => htj (.inr e)) hgj x hx
    have hG : x ≠ s₀.groups.size := by
      by_cases hbody : s₀.groups.size ≤ j
      · rw [ins_body_groups h hbody hjl] at hgj
        exact h.inside.ra j g hbody (fun e => htj (.inl e)) hgj x hx
      · obtain ⟨g₀, hg₀, hrel, _, hrefs⟩ := ins_outer_group h (Nat.lt_of_not_le hbody) hgj
        rw [hrel, grefs_mapGrpAt_ne _ (.inl (Nat.ne_of_lt (Nat.lt_of_not_le hbody)))] at hx
        obtain ⟨x₀, hx₀, rfl⟩ := List.mem_map.mp hx
        have h2 := hrefs x₀ hx₀
        show shiftFrom _ _ x₀ ≠ _
        rw [shiftFrom_lt (Nat.lt_add_right 2 h2)]
        exact Nat.ne_of_lt h2
    exact fun h => h.elim hG h0
  fr1n i h := absurd trivial h
  fr1g j h := absurd trivial h
  fr2n _ _ := rfl
  fr2g _ _ := rfl
  pl h := Bool.noConfusion h

end

/-- the final correspondence in mode `m`: `false` — the inserted block and the root are tainted (the
rows after the block avoid it); `true` — open mode: nothing is tainted (the rows after the block may
continue from it; its extra child is inert) -/
noncomputable def PFm (m : Bool) (na nt : List Str) (s₀ : St) (kk : Nat) (e₂ b₁ x₁ b₂ : St) : Params :=
  { PF na nt s₀ kk e₂ b₁ x₁ b₂ with T := fun j => m = false ∧ (j = s₀.groups.size ∨ j = 0), op := m }

theorem PFm_ok (m : Bool) (na nt : List Str) {s₀ : St} {kk : Nat} {e₂ b₁ b₂ x₁ : St} (hs : Sizes s₀ kk e₂ b₁ b₂ x₁) :
    (PFm m na nt s₀ kk e₂ b₁ x₁ b₂).Ok :=
  ⟨rhoOf_injective (swapFrom_injective hs.b1next), swapFrom_injective hs.b1nodes, shiftFrom_injective _ _,
    fun _ hm => ⟨hm, .inl rfl⟩, fun _ hx => rhoOf_plain _ hx, fun _ => ⟨rfl, fun _ => shiftFrom_one_ne⟩⟩

theorem asimF_mode (m : Bool) {na nt : List Str} {s₀ : St} {kk : Nat} {e₂ b₁ x₁ b₂ : St}
    (h : ASim (PF na nt s₀ kk e₂ b₁ x₁ b₂) x₁ b₂)
    (hin : m = true → Inert (s₀.groups.size + 1) b₂) : ASim (PFm m na nt s₀ kk e₂ b₁ x₁ b₂) x₁ b₂ := by
  refine { h with gdom := fun j hj => ⟨(h.gdom j hj).1, fun ht => (h.gdom j hj).2 ht.2⟩, ra := ?_, pl := hin }
  intro j g hd ht hg x hx hx'
  exact h.ra j g hd (fun h' => ht ⟨hx'.1, h'⟩) hg x hx hx'.2

end Rpft.Compile
