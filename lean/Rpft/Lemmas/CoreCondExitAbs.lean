/-
An action row with conditional out-edges: the reference has ONE node (the action, then a switch),
the compiler TWO (the action node, and a router node behind it).  Their abstractions: same actions,
same decision, corresponding destinations (`impl_abs`).  A `no_op` row with conditional out-edges has
the same switch without the action, one node on either side (`nop_abs`).
-/
import Rpft.Lemmas.CoreOutcomeAbs
namespace Rpft.CoreSheet
open Rpft Rpft.Compile Rpft.RefFlow Rpft.Flow

theorem condVar_same (conds : List OutEdge) (v : Str) (hne : conds ≠ []) (h : ∀ e ∈ conds, e.cond.var = v) :
    condVar conds = if v.isEmpty then none else some v := by
  unfold condVar
  by_cases hv : v.isEmpty = true
  · rw [if_pos hv]
    have : conds.find? (fun e => !e.cond.var.isEmpty) = none := by
      rw [List.find?_eq_none]
      intro e he
      rw [h e he]; simp [hv]
    rw [this]; rfl
  · rw [if_neg hv]
    cases conds with
    | nil => exact absurd rfl hne
    | cons a l =>
      have ha := h a (by simp)
      simp only [List.find?_cons, ha]
      have : (!v.isEmpty) = true := by simpa using hv
      rw [this]
      simp [ha]

/-- the operand of the switch that the conditional edges leaving an action row (the reply, or the variable they
name) or a `no_op` row (the variable) make -/
def condOperand (K : Kind) (es : List OutEdge) : Str := if K = .action then implOperand es else implVar es

/-- it waits for a reply iff it stands behind an action and the edges name no variable -/
def condWait (K : Kind) (es : List OutEdge) : Option (Option (Nat × Option Id)) :=
  if K = .action ∧ (implVar es).isEmpty then some none else none

/-- the conditional edges among `es` name one variable (what `sameVars` asks of the out-edges of a row) -/
def SameVar (es : List OutEdge) : Prop := ∀ e ∈ es.filter (fun e => !e.cond.blank), e.cond.var = implVar es

theorem absNode_cond (lvl : ObsLevel) (f : Flow) (k : Nat) (r : RRow) {es : List OutEdge}
    (hk : r.kind = .action ∨ r.kind = .noOp) (hne : es.filter (fun e => !e.cond.blank) ≠ []) (hv : SameVar es) :
    absNode lvl f (mkNode k r es) =
      { absNode lvl f (swNode k (mkSwitch k (condOperand r.kind es) (refTests r.kind es)
          (lastTgt (es.filter (·.cond.blank)) (fun _ => true)) (condWait r.kind es) none)) with
        acts := (refActs k r.act).map (·.obs) } := by
  have hcv := condVar_same _ _ hne hv
  have hemp : (es.filter (fun e => !e.cond.blank)).isEmpty = false := by
    cases hf : es.filter (fun e => !e.cond.blank) with
    | nil => exact absurd hf hne
    | cons _ _ => rfl
  unfold mkNode
  rcases hk with hk | hk <;>
  · simp only [hk, hemp, Bool.false_eq_true, if_false, hcv]
    rw [refTests_cond _ (by decide) (by decide)]
    unfold condOperand condWait implOperand swNode refActs
    by_cases h : (implVar es).isEmpty = true
    · simp only [if_true, reduceCtorEq, if_false, false_and, List.isEmpty_iff.mp h]
      cases r.act <;> rfl
    · simp only [h, Bool.false_eq_true, if_false, if_true, and_false, reduceCtorEq, Option.getD_some]
      cases r.act <;> rfl

/-- `n`: the compiled action node (`post`: the actions merged into it), `n'`: the router node behind it -/
theorem impl_abs (rnf : Bool) (F r : Flow) {M : Maps} {ns : Array NodeM} (j : Nat) {n : NodeM} {c : CRow}
    {post : List Str} {es : List OutEdge} {i' : Nat} {n' : NodeM} {rr : SwitchR}
    (hk : kindOf c.row.type = .action) (hp : ImplSim M ns n c post es i' n' rr)
    (hact : (toRRow c).act = c.row.action) (hv : SameVar es) (hfn' : n'.fids.Nodup) :
    (absNode ⟨false, rnf⟩ r (mkNode j (toRRow c) es)).ask.isSome = true ∧
    absNode ⟨false, rnf⟩ F (renderNode n) =
      { acts := (absNode ⟨false, rnf⟩ r (mkNode j (toRRow c) es)).acts ++ post, ask := none,
        dests := [destIdx F (some n'.uid)] } ∧
    AbsRel (DR F r M ns es) [] { absNode ⟨false, rnf⟩ r (mkNode j (toRRow c) es) with acts := [] }
      (absNode ⟨false, rnf⟩ F (renderNode n')) := by
  have hne : es.filter (fun e => !e.cond.blank) ≠ [] := by
    have := hp.some
    rw [tests_action_eq] at this
    exact this
  rw [absNode_cond _ r j (toRRow c) (.inl hk) hne hv, absNode_cmp_noRouter _ F hp.router, hp.acts,
    show (toRRow c).kind = .action from hk]
  have hw : WaitSim F r M ns es rr (condWait .action es) := by
    unfold condWait
    by_cases h : (implVar es).isEmpty = true
    · rw [if_pos ⟨rfl, h⟩]; exact .reply (hp.wait.trans (if_pos h)) hp.noResp
    · rw [if_neg (fun x => h x.2)]; exact .none (hp.wait.trans (if_neg h)) hp.noResp
  have hacts : (refActs j (toRRow c).act).map (·.obs) = c.row.action.toList := by
    rw [hact]; exact refActs_obs j c.row.action
  refine ⟨by rw [absNode_mkSwitch]; rfl, ?_,
    switch_abs_rel rnf j hp.router' hp.acts' hfn' hp.rsim (hp.operand.trans (if_pos rfl).symm) hp.rname hw⟩
  simp only [hacts, hp.link, renderDest]

theorem nop_abs (rnf : Bool) (F r : Flow) {M : Maps} {ns : Array NodeM} (j : Nat) {n : NodeM} {c : CRow}
    {es : List OutEdge} {rr : SwitchR} (hk : kindOf c.row.type = .noOp) (hp : NopSim M ns n c es rr)
    (hact : (toRRow c).act = none) (hrt : testsOf .noOp es ≠ []) (hv : SameVar es) (hfn0 : n.fids.Nodup) :
    AbsRel (DR F r M ns es) [] (absNode ⟨false, rnf⟩ r (mkNode j (toRRow c) es))
      (absNode ⟨false, rnf⟩ F (renderNode n)) := by
  have hne : es.filter (fun e => !e.cond.blank) ≠ [] := by rw [← tests_noop_eq]; exact hrt
  rw [absNode_cond _ r j (toRRow c) (.inr hk) hne hv, hact, show (toRRow c).kind = .noOp from hk,
    show condOperand .noOp es = implVar es from if_neg (by decide),
    show condWait .noOp es = none from if_neg (fun h => by cases h.1)]
  exact switch_abs_rel rnf j hp.router hp.acts hfn0 hp.rsim (hp.operand.2 hrt) hp.rname (.none hp.wait hp.noResp)

end Rpft.CoreSheet
