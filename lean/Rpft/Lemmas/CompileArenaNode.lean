/-
Arena invariant, node constructors (`_get_row_node`): a new node has no destinations yet, its cases
name its categories, and its identifiers — the node's own apart when the sheet gives it — are
freshly drawn, each used once: the list is assembled from what each step of the constructor drew
(`Drew.append`, `Drew.trans`).  The default exit identifier, which a router node stores
without using it (so `fids` does not list it), was drawn from the counter in every case.
-/
import Rpft.Lemmas.CompileArenaRouter
namespace Rpft.Compile
open Rpft

/-- what a node constructor run from `s` to `s'` builds.  `pre`: identifiers drawn before the constructor ran that
end up in the node.  An identifier given in the sheet counts as the node's own before and after (`uidPart given`
on both sides), so the clause about identifiers needs no hypothesis on how the given one looks. -/
structure NewNode (s : St) (given : Str) (pre : List Uid) (n : NodeM) (s' : St) : Prop where
  drew : Drew s s' (uidPart given ++ pre) n.fids
  loose : ∀ d ∈ n.exitDests, d = Dest.none
  dexit : n.dexitDest = Dest.none
  cases : ∀ r, n.router = some (.sw r) → CaseCatsOk r
  inv : given = [] → Invented n.uid
  dexitUid : Below s'.next n.dexitUid

variable {r : Row} {act : Option (Uid × Str)} {pre : List Uid} {s s1 s' : St} {given : Str} {u e : Uid}

theorem wp_nodeUid (given : Str) (s : St) (Q : Uid → St → Prop) :
    wp (nodeUid given) s Q ↔
      (given = [] → Q (tid s.next) { s with next := s.next + 1 }) ∧ (given ≠ [] → Q given s) := by
  unfold nodeUid
  wp_simp [wp_fresh, List.isEmpty_iff]

theorem nodeUid_spec :
    wp (nodeUid given) s (fun u s' => Drew s s' (uidPart given) (uidPart u) ∧ (given = [] → Invented u)) := by
  rw [wp_nodeUid]
  constructor
  · rintro rfl
    exact ⟨uidPart_tid _ ▸ .fresh s, fun _ => invented_tid _⟩
  · intro h
    exact ⟨.refl, fun h' => absurd h' h⟩

theorem exitDests_withAct (n : NodeM) (act : Option (Uid × Str)) : (n.withAct act).exitDests = n.exitDests := by
  cases act <;> rfl

/-- assembling a router-less node: its identifier, the row's action and the exit `e` drawn after the identifier -/
theorem newNode_plain (act : Option (Uid × Str)) (hu : Drew s s1 (uidPart given) (uidPart u))
    (hi : given = [] → Invented u) (he : Drew s1 s' [] [e]) (hb : Below s'.next e) :
    NewNode s given (act.toList.map (·.1))
      (NodeM.withAct { uid := u, kind := .basic, actions := [], router := none, dexitUid := e, dexitDest := .none } act)
      s' := by
  refine ⟨?_, ?_, ?_, ?_, fun hg => by cases act <;> exact hi hg, by cases act <;> exact hb⟩
  · have := (hu.ctx [] (act.toList.map (·.1))).append he
    cases act <;> simpa [NodeM.withAct, NodeM.fids, NodeM.innerIds, NodeM.tailIds] using this
  · cases act <;> simp [NodeM.withAct, NodeM.exitDests]
  · cases act <;> rfl
  · cases act <;> simp [NodeM.withAct]

theorem basicNode_spec :
    wp (basicNode r act) s (NewNode s r.nodeUuid (act.toList.map (·.1))) := by
  unfold basicNode
  wp_simp [wp_newBasic]
  refine wp_mono nodeUid_spec ?_
  rintro u s1 ⟨hu, hi⟩
  exact newNode_plain act hu hi ((Drew.skip 1).trans (.fresh _)) ⟨_, Nat.lt_succ_self _, rfl⟩

theorem otherNode_spec :
    wp (otherNode r act) s (NewNode s r.nodeUuid (act.toList.map (·.1))) := by
  unfold otherNode
  wp_simp [wp_fresh]
  refine wp_mono nodeUid_spec ?_
  rintro u s1 ⟨hu, hi⟩
  exact newNode_plain act hu hi (.fresh s1) ⟨_, Nat.lt_succ_self _, rfl⟩

theorem fids_swNode (u : Uid) (kind : NodeKind) (acts : List (Uid × Str)) (sw : SwitchR) (e : Uid) (d : Dest) :
    (NodeM.fids { uid := u, kind := kind, actions := acts, router := some (.sw sw), dexitUid := e, dexitDest := d })
      = uidPart u ++ (acts.map (·.1) ++ sw.ids) := rfl

/-- assembling a node around a switch router without destinations -/
theorem newNode_sw {kind : NodeKind} {acts : List (Uid × Str)} {sw : SwitchR}
    (hd : SwD (· = Dest.none) sw) (hc : CaseCatsOk sw)
    (hg : Drew s s' (uidPart given) (uidPart u ++ (acts.map (·.1) ++ sw.ids)))
    (hi : given = [] → Invented u) (he : Below s'.next e) :
    NewNode s given pre
      ({ uid := u, kind := kind, actions := acts, router := some (.sw sw), dexitUid := e,
         dexitDest := .none } : NodeM) s' := by
  refine ⟨hg.mono_left (List.sublist_append_left _ _), fun d hdd => ?_, rfl, fun r hr => ?_, hi, he⟩
  · obtain ⟨c, hc1, rfl⟩ := List.mem_map.mp hdd
    exact hd c hc1
  · cases hr; exact hc

/-- a node identifier, then a new switch router, then the node around it -/
theorem newSwitchNode_spec {operand : Str} {rn : Option Str} {wait : Option Nat}
    (hu : Drew s s1 (uidPart given) (uidPart u)) (hi : given = [] → Invented u) :
    wp (newSwitch operand rn wait) s1 (fun sw s2 =>
      wp (newRouterNode u .switch (.sw sw)) s2 (NewNode s given pre)) := by
  refine wp_mono newSwitch_spec ?_
  rintro sw s2 ⟨hg, hd, hc⟩
  rw [wp_newRouterNode]
  exact newNode_sw hd hc ((hu.append hg).trans (.skip 1)) hi ⟨_, Nat.lt_succ_self _, rfl⟩

theorem splitGroupNode_spec :
    wp (splitGroupNode r) s (NewNode s r.nodeUuid pre) := by
  unfold splitGroupNode
  wp_simp
  refine wp_mono nodeUid_spec ?_
  rintro u s1 ⟨hu, hi⟩
  exact newSwitchNode_spec hu hi

theorem splitValueNode_spec :
    wp (splitValueNode r) s (NewNode s r.nodeUuid pre) := by
  unfold splitValueNode
  wp_simp
  refine wp_mono nodeUid_spec ?_
  rintro u s1 ⟨hu, hi⟩
  exact ⟨fun _ => trivial, fun _ => newSwitchNode_spec hu hi⟩

theorem waitNode_spec :
    wp (waitNode r) s (NewNode s r.nodeUuid pre) := by
  unfold waitNode
  wp_simp
  refine wp_mono nodeUid_spec ?_
  rintro u s1 ⟨hu, hi⟩
  refine ⟨fun _ => newSwitchNode_spec hu hi, fun _ => ?_⟩
  split
  · wp_simp
    exact newSwitchNode_spec hu hi
  · wp_simp

theorem splitRandomNode_spec :
    wp (splitRandomNode r) s (NewNode s r.nodeUuid pre) := by
  unfold splitRandomNode
  wp_simp [wp_newRouterNode]
  refine wp_mono nodeUid_spec ?_
  rintro u s1 ⟨hu, hi⟩
  refine ⟨?_, by simp [NodeM.exitDests], rfl, fun r hr => by simp at hr, hi, ⟨_, Nat.lt_succ_self _, rfl⟩⟩
  have := (hu.trans (.skip 1)).mono_left (List.sublist_append_left _ pre)
  simpa [NodeM.fids, NodeM.innerIds, NodeM.tailIds, RandomR.ids] using this

theorem enterNode_spec :
    wp (enterNode r) s (NewNode s r.nodeUuid pre) := by
  unfold enterNode
  -- the texts play no role; left as literals, the unifier evaluates them at every `wp_mono` step below
  generalize "@child.run.status".toList = op
  generalize "has_only_text".toList = test
  generalize "completed".toList = v1
  generalize "Complete".toList = c1
  generalize "expired".toList = v2
  generalize "Expired".toList = c2
  wp_simp [wp_newRouterNode, wp_fresh]
  refine wp_mono nodeUid_spec ?_
  rintro u s1 ⟨hu, hi⟩
  refine wp_mono newSwitch_spec ?_
  rintro sw s2 ⟨hg, hd, hc⟩
  refine wp_mono addChoice_spec ?_
  rintro sw2 s3 e2
  refine wp_mono addChoice_spec ?_
  rintro sw3 s4 e3
  have e := ((SwEdit.rename sw c2).trans e2).trans e3
  -- identifier, action, router, in the order they were drawn; the exit drawn last is not among the node's identifiers
  exact newNode_sw (e.dests _ rfl hd) (e.cases hc)
    ((hu.append ((Drew.fresh s1).append (hg.trans e.drew))).trans (.skip 1)) hi ⟨_, Nat.lt_succ_self _, rfl⟩

theorem hookNode_spec :
    wp (hookNode r) s (NewNode s r.nodeUuid pre) := by
  unfold hookNode
  wp_simp
  refine wp_mono nodeUid_spec ?_
  rintro u s1 ⟨hu, hi⟩
  split
  · wp_simp
  · rename_i key hkey
    generalize "@results.".toList ++ key ++ _ = op
    generalize (if r.type = "call_webhook".toList then "has_only_text".toList else "has_category".toList) = test
    generalize (if r.type = "call_webhook".toList then NodeKind.webhook else NodeKind.airtime) = kind
    generalize "Success".toList = c1
    generalize "Failure".toList = c2
    wp_simp [wp_newRouterNode, wp_fresh]
    refine wp_mono newSwitch_spec ?_
    rintro sw s2 ⟨hg, hd, hc⟩
    refine wp_mono addChoice_spec ?_
    rintro sw2 s3 e2
    have e := (SwEdit.rename sw c2).trans e2
    -- the action's identifier is drawn after the router's (and after the unused exit), but stands before them
    refine newNode_sw (e.dests _ rfl hd) (e.cases hc)
      ((hu.append (((hg.trans e.drew).trans (.skip 1)).append (.fresh _))).perm_right ?_) hi
      ⟨_, Nat.lt_succ_of_lt (Nat.lt_succ_self _), rfl⟩
    exact List.Perm.append_left _ List.perm_append_comm

theorem rowNode_spec (r : Row) (act : Option (Uid × Str)) (s : St) :
    wp (rowNode r act) s (NewNode s r.nodeUuid (act.toList.map (·.1))) := by
  unfold rowNode
  wp_simp
  refine ⟨fun _ => ⟨fun _ => basicNode_spec, fun _ => ⟨fun _ => enterNode_spec, fun _ =>
    ⟨fun _ => hookNode_spec, fun _ => ⟨fun _ => waitNode_spec, fun _ =>
    ⟨fun _ => splitValueNode_spec, fun _ => ⟨fun _ => splitGroupNode_spec, fun _ =>
    ⟨fun _ => splitRandomNode_spec, fun _ => otherNode_spec⟩⟩⟩⟩⟩⟩⟩, fun _ => trivial⟩

end Rpft.Compile
