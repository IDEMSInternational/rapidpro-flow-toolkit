/-
The flat machine on the rows of a scan tree (`PTree`: the sheet up to its first structural fault) returns
what the reading `evP` of the tree returns (`run_P`; `skip_P` when content is omitted; `run_sheet` for a whole
sheet, with any fuel above the number of rows), and what that reading can return (`evP_outcome`).
-/
import Rpft.Lemmas.SugarFlatRun
namespace Rpft.SugarFlat
open Rpft Rpft.Sugar
open Rpft.Cli (RowType BlockType Fault isEndOfBlock blockEndMap)

variable {Raw Inst Ctx Val Hdr Err S : Type} (I : FIface Raw Inst Ctx Val Hdr Err S)

/-! ## ill-nested remainders -/

theorem skip_P :
    ∀ {t : PTree Raw} (bt : BlockType), WkP I.kind bt t → bt ≠ .root → ∀ {F d : Nat}
      {m : List (Nat × List Raw)} {c : Ctx} {ev : List (Ev Inst Hdr)}, (flattenP t).length < F →
      parseBlock I F d bt true ⟨flattenP t, m, c, ev⟩ = .error (skipP I t) := by
  intro t
  induction t with
  | done its => intro bt h hbt; exact absurd h.1 hbt
  | fault its f rest =>
    intro bt h hbt F d m c ev hF
    obtain ⟨hits, hf⟩ := h
    simp only [flattenP, List.length_append] at hF ⊢
    obtain ⟨n, -, hn⟩ := omit_items I F its hits _ d bt rest m c ev hF
    rw [hn]
    simp only [skipP, firstFail_append]
    cases firstFail I (flattenFL its) with
    | some x => rfl
    | none =>
      dsimp only
      cases rest with
      | nil => rw [parseBlock_eof, hf]; rfl
      | cons r rs =>
        simp only [List.take_succ_cons, List.take_zero, firstFail]
        cases hs : I.scanFail r with
        | some x => exact turn_err (readRow_omit_err hs)
        | none => exact turn_fault (readRow_omit hs rfl) hf
  | open_ its isFor b inner ih =>
    intro bt h hbt F d m c ev hF
    obtain ⟨hits, hb, hin⟩ := h
    simp only [flattenP, List.length_append, List.length_cons] at hF ⊢
    obtain ⟨n, hin', hn⟩ := omit_items I F its hits _ d bt (b :: flattenP inner) m c ev hF
    rw [hn]
    simp only [skipP, firstFail_append, firstFail]
    cases firstFail I (flattenFL its) with
    | some x => rfl
    | none =>
      dsimp only
      cases hs : I.scanFail b with
      | some x => exact turn_err (readRow_omit_err hs)
      | none =>
        -- the nested call never returns: the block is not closed
        rw [turn_skip isFor (readRow_omit hs hb), ih _ hin (btOf_ne_root isFor) hin']

/-! ## what the tree reading can return -/

theorem skipP_shape :
    ∀ (t : PTree Raw) (bt : BlockType), WkP I.kind bt t → bt ≠ .root →
      (∃ f, t.fault? = some f ∧ skipP I t = .fault f) ∨ ∃ e, skipP I t = .err e := by
  intro t
  induction t with
  | done its => intro bt h hbt; exact absurd h.1 hbt
  | fault its f rest =>
    intro bt h hbt
    simp only [skipP, PTree.fault?]
    cases firstFail I (flattenFL its ++ List.take 1 rest) with
    | some x => exact Or.inr ⟨x, rfl⟩
    | none => exact Or.inl ⟨f, rfl, rfl⟩
  | open_ its isFor b inner ih =>
    intro bt h hbt
    obtain ⟨hits, hb, hin⟩ := h
    simp only [skipP, PTree.fault?]
    cases firstFail I (flattenFL its ++ [b]) with
    | some x => exact Or.inr ⟨x, rfl⟩
    | none => exact ih _ hin (btOf_ne_root isFor)

/-- what `evP` can return on a scan tree inside a block of type `bt`: events only for a well-nested
sheet; otherwise the error of a row, or the structural fault the scan recorded (never anything else) -/
def EvPOk (bt : BlockType) (t : PTree Raw) : Res Err (List (Ev Inst Hdr)) → Prop
  | .ok _ => bt = .root ∧ t.fault? = none
  | .error x => (∃ e, x = .err e) ∨ ∃ f, t.fault? = some f ∧ x = .fault f

theorem evP_outcome :
    ∀ (t : PTree Raw) (bt : BlockType), WkP I.kind bt t → ∀ (c : Ctx), EvPOk bt t (evP I c t) := by
  intro t
  induction t with
  | done its =>
    intro bt h c
    simp only [evP]
    cases evFs I c its with
    | error x => exact .inl ⟨x, rfl⟩
    | ok es => exact ⟨h.1, rfl⟩
  | fault its f rest =>
    intro bt h c
    simp only [evP]
    cases evFs I c its with
    | error x => exact .inl ⟨x, rfl⟩
    | ok es =>
      cases rest with
      | nil => exact .inr ⟨f, rfl, rfl⟩
      | cons r rs =>
        simp only []
        cases I.inst c r with
        | error x => exact .inl ⟨x, rfl⟩
        | ok i => exact .inr ⟨f, rfl, rfl⟩
  | open_ its isFor b inner ih =>
    intro bt h c
    obtain ⟨hits, hb, hin⟩ := h
    -- the block is never closed: whatever is read of `inner`, skipped or evaluated, ends in an error
    have hskip : EvPOk bt (.open_ its isFor b inner) (.error (skipP I inner) : Res Err (List (Ev Inst Hdr))) := by
      rcases skipP_shape I inner _ hin (btOf_ne_root isFor) with ⟨f, h1, h2⟩ | ⟨e, h2⟩
      · exact .inr ⟨f, h1, h2⟩
      · exact .inl ⟨e, h2⟩
    have hrec : ∀ c', EvPOk bt (.open_ its isFor b inner) (evP I c' inner) := by
      intro c'
      have := ih _ hin c'
      cases hE : evP I c' inner with
      | ok es => rw [hE] at this; exact absurd this.1 (btOf_ne_root isFor)
      | error x => rw [hE] at this; exact this
    simp only [evP]
    cases evFs I c its with
    | error x => exact .inl ⟨x, rfl⟩
    | ok es =>
      simp only []
      cases I.inst c b with
      | error x => exact .inl ⟨x, rfl⟩
      | ok i =>
        simp only []
        cases I.includeIf i with
        | false => exact hskip
        | true =>
          simp only [if_true]
          cases isFor with
          | false => exact hrec c
          | true =>
            simp only [if_true]
            cases I.loopVars i with
            | none => exact .inl ⟨_, rfl⟩
            | some vi =>
              cases I.iterList i with
              | nil => exact hskip
              | cons x xs => exact hrec _

theorem evP_error (t : PTree Raw) (bt : BlockType)
    (h : WkP I.kind bt t) (hbt : bt ≠ .root) (c : Ctx) : ∃ x, evP I c t = .error x := by
  have := evP_outcome I t bt h c
  cases hE : evP I c t with
  | ok es => rw [hE] at this; exact absurd this.1 hbt
  | error x => exact ⟨x, rfl⟩

/-! ## the flat machine on a scan tree -/

theorem run_P (L : FlatLaws I) :
    ∀ {t : PTree Raw} (bt : BlockType), WkP I.kind bt t → ∀ {F d : Nat}
      {m : List (Nat × List Raw)} {c : Ctx} {ev : List (Ev Inst Hdr)}, (flattenP t).length < F →
      MarksBelow d m →
      parseBlock I F d bt false ⟨flattenP t, m, c, ev⟩ =
        (match evP I c t with
         | .error x => .error x
         | .ok es => .ok ⟨[], m, c, ev ++ es⟩) := by
  intro t
  induction t with
  | done its =>
    intro bt h F d m c ev hF hm
    obtain ⟨hbt, hits⟩ := h
    subst hbt
    simp only [flattenP] at hF ⊢
    obtain ⟨n, -, hn⟩ := run_items I L F its hits 0 d .root [] m c ev hF hm
    rw [List.append_nil] at hn
    rw [hn]
    simp only [evP]
    cases evFs I c its with
    | error x => rfl
    | ok es =>
      dsimp only
      rw [parseBlock_eof]
      rfl
  | fault its f rest =>
    intro bt h F d m c ev hF hm
    obtain ⟨hits, hf⟩ := h
    simp only [flattenP, List.length_append] at hF ⊢
    obtain ⟨n, -, hn⟩ := run_items I L F its hits _ d bt rest m c ev hF hm
    rw [hn]
    simp only [evP]
    cases evFs I c its with
    | error x => rfl
    | ok es =>
      dsimp only
      cases rest with
      | nil => rw [parseBlock_eof, hf]
      | cons r rs =>
        dsimp only
        cases hi : I.inst c r with
        | error x => exact turn_err (readRow_run_err hi)
        | ok i => exact turn_fault (readRow_run L hi rfl) hf
  | open_ its isFor b inner ih =>
    intro bt h F d m c ev hF hm
    obtain ⟨hits, hb, hin⟩ := h
    simp only [flattenP, List.length_append, List.length_cons] at hF ⊢
    obtain ⟨n, hin', hn⟩ := run_items I L F its hits _ d bt (b :: flattenP inner) m c ev hF hm
    rw [hn]
    simp only [evP]
    cases evFs I c its with
    | error x => rfl
    | ok es =>
      dsimp only
      cases hi : I.inst c b with
      | error x => exact turn_err (readRow_run_err hi)
      | ok i =>
        dsimp only
        cases hinc : I.includeIf i with
        | false =>
          rw [turn_skip isFor (readRow_excluded L hi hb hinc),
            skip_P I _ hin (btOf_ne_root isFor) hin']
          rfl
        | true =>
          -- the nested call never returns (`evP_error`): its error is the outcome
          cases isFor with
          | false =>
            rw [turn_block (readRow_included L hi hb hinc), ih .block hin hin' (MarksBelow_succ d m hm)]
            obtain ⟨x, hx⟩ := evP_error I inner .block hin (by simp) c
            simp [hx]
          | true =>
            rw [turn_for (readRow_included L hi hb hinc)]
            simp only [if_true, beginFor]
            cases hv : I.loopVars i with
            | none => rfl
            | some vi =>
              obtain ⟨v, idx⟩ := vi
              simp only []
              cases hl : I.iterList i with
              | nil =>
                simp only [List.zipIdx_nil, iterate, List.isEmpty_nil, if_true]
                rw [skip_P I .for_ hin (by simp) hin']
              | cons x xs =>
                simp only [List.zipIdx_cons, iterate, getMark_setMark]
                rw [bindVars_ctx I L, ih .for_ hin hin' (MarksBelow_setMark d _ m hm)]
                obtain ⟨y, hy⟩ := evP_error I inner .for_ hin (by simp) (iterCtx I.toIface c v idx x 0)
                simp [hy]

theorem run_sheet (L : FlatLaws I) (ctx : Ctx) (rows : List Raw)
    (F : Nat) (hF : rows.length < F) :
    parseBlock I F 0 .root false ⟨rows, [], ctx, []⟩ =
      (match evP I ctx (parseAll I.kind rows) with
       | .error x => .error x
       | .ok es => .ok ⟨[], [], ctx, es⟩) := by
  have h := run_P I L .root (WkP_parseAll I.kind rows) (d := 0) (m := []) (c := ctx) (ev := [])
    (by rw [flattenP_parseAll]; exact hF) (fun q hq => nomatch hq)
  rwa [flattenP_parseAll] at h

end Rpft.SugarFlat
