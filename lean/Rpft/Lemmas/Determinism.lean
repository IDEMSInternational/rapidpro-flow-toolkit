/-
Lemmas for C13 (model `Rpft/Determinism.lean`; the property theorems are in `Rpft/Props/C13.lean`).

Every run of the id-consuming program is the counter run from 0 with its ids respelt (`fillWith_eq`).  So two runs are
two maps of one tree (`treeRel_map`), and the first-occurrence canonical form, which does not see an injective
respelling (`canon_map`), is that of the counter run, which is canonical already (`canon_fill`).  The Python dict of
the UUIDDict model is `Rpft.Dict` with an absent key read as `None` (`get_eq`, `set_eq`), and an accepted
`_record_uuid` is `Dict.Recorded` (`recordUuid_ok`).
-/
import Rpft.Determinism
import Rpft.Lemmas.Record
import Rpft.Lemmas.ListFacts
namespace Rpft.Det
open Rpft

theorem fillWith_counter {I : Type} (f : Nat → I) (s : Shape) (c : Nat) :
    (fillWith f s c).2 = c + s.holes := by
  induction s generalizing c with
  | given g => simp [fillWith, Shape.holes]
  | hole => simp [fillWith, Shape.holes]
  | node lb l r ihl ihr => simp [fillWith, Shape.holes, ihl, ihr, Nat.add_assoc]

theorem fillWith_map {I : Type} (f : Nat → I) (s : Shape) (c : Nat) :
    fillWith f s c = ((fill s c).1.map f, (fill s c).2) := by
  induction s generalizing c with
  | given g => simp [fill, fillWith, Tree.map]
  | hole => simp [fill, fillWith, Tree.map]
  | node lb l r ihl ihr =>
    simp only [fill] at ihl ihr ⊢
    simp [fillWith, Tree.map, ihl, ihr]

theorem fillWith_shift {I : Type} (f : Nat → I) (s : Shape) (a b : Nat) :
    (fillWith f s (a + b)).1 = (fillWith (fun k => f (a + k)) s b).1 := by
  induction s generalizing b with
  | given g => simp [fillWith]
  | hole => simp [fillWith]
  | node lb l r ihl ihr =>
    simp only [fillWith, fillWith_counter]
    rw [ihl b, ← ihr (b + l.holes), Nat.add_assoc]

theorem fillWith_eq {I : Type} (f : Nat → I) (s : Shape) (c : Nat) :
    (fillWith f s c).1 = (fill s 0).1.map (fun k => f (c + k)) := by
  have := fillWith_shift f s c 0
  rw [Nat.add_zero] at this
  rw [this, fillWith_map]

theorem fill_invented (s : Shape) (c : Nat) :
    (fill s c).1.invented = List.range' c s.holes := by
  induction s generalizing c with
  | given g => simp [fill, fillWith, Tree.invented, Shape.holes]
  | hole => simp [fill, fillWith, Tree.invented, Shape.holes]
  | node lb l r ihl ihr =>
    simp only [fill] at ihl ihr ⊢
    simp [fillWith, Tree.invented, Shape.holes, ihl, ihr, fillWith_counter, List.range'_append_1]

theorem map_invented {I J : Type} (h : I → J) (t : Tree I) :
    (t.map h).invented = t.invented.map h := by
  induction t with
  | given g => simp [Tree.map, Tree.invented]
  | inv i => simp [Tree.map, Tree.invented]
  | node lb l r ihl ihr => simp [Tree.map, Tree.invented, ihl, ihr]

/-- all ids handed out along a sequence of runs sharing the counter, in order -/
def inventedAll {I : Type} (ts : List (Tree I)) : List I := ts.flatMap Tree.invented

def holesAll (ss : List Shape) : Nat := (ss.map Shape.holes).sum

theorem fillAll_invented {I : Type} (f : Nat → I) (ss : List Shape) (c : Nat) :
    inventedAll (fillAll f ss c).1 = (List.range' c (holesAll ss)).map f := by
  induction ss generalizing c with
  | nil => simp [fillAll, inventedAll, holesAll]
  | cons s ss ih =>
    have ih' := ih (c + s.holes)
    simp only [inventedAll] at ih' ⊢
    simp [fillAll, holesAll, fillWith_counter, ih']
    rw [fillWith_map, map_invented, fill_invented]
    simp [← List.range'_append_1]

def Injective {A B : Type} (f : A → B) : Prop := ∀ a b, f a = f b → a = b

theorem fillWith_erase {I : Type} (f : Nat → I) (s : Shape) (c : Nat) :
    (fillWith f s c).1.erase = s := by
  induction s generalizing c with
  | given g => simp [fillWith, Tree.erase]
  | hole => simp [fillWith, Tree.erase]
  | node lb l r ihl ihr => simp [fillWith, Tree.erase, ihl, ihr]

theorem erase_givens {I : Type} (t : Tree I) : t.erase.givens = t.givens := by
  induction t with
  | given g => simp [Tree.erase, Shape.givens, Tree.givens]
  | inv i => simp [Tree.erase, Shape.givens, Tree.givens]
  | node lb l r ihl ihr => simp [Tree.erase, Shape.givens, Tree.givens, ihl, ihr]

/-- the correspondence induced by two id streams: "the k-th id of run 1 ↔ the k-th id of run 2" -/
def Induced {I J : Type} (f : Nat → I) (g : Nat → J) (a : I) (b : J) : Prop := ∃ k, a = f k ∧ b = g k

theorem treeRel_map {I J : Type} (f : Nat → I) (g : Nat → J) (t : Tree Nat) :
    TreeRel (Induced f g) (t.map f) (t.map g) := by
  induction t with
  | given x => exact .given x
  | inv k => exact .inv ⟨k, rfl, rfl⟩
  | node lb l r ihl ihr => exact .node lb ihl ihr

/-- so that `Props.C13.induced_bijective` applies to the shifted streams of `Props.C13.renaming_class` -/
theorem shift_injective {I : Type} (f : Nat → I) (hf : Injective f) (c : Nat) :
    Injective (fun k => f (c + k)) := by
  intro a b h
  have := hf _ _ h
  omega

theorem canonAux_fill (s : Shape) (c : Nat) :
    canonAux (fill s c).1 (List.range c) = ((fill s c).1, List.range (c + s.holes)) := by
  induction s generalizing c with
  | given g => simp [fill, fillWith, canonAux, Shape.holes]
  | hole =>
    simp [fill, fillWith, canonAux, Shape.holes, List.range_succ]
  | node lb l r ihl ihr =>
    simp only [fill] at ihl ihr ⊢
    simp [fillWith, canonAux, Shape.holes, ihl, ihr, fillWith_counter, Nat.add_assoc]

theorem canon_fill (s : Shape) : canon (fill s 0).1 = (fill s 0).1 := by
  have := canonAux_fill s 0
  simp [canon] at this ⊢
  rw [this]

section
variable {I J : Type} [DecidableEq I] [DecidableEq J] (f : I → J) (hf : Injective f)
include hf

theorem contains_map_inj (tbl : List I) (i : I) : (tbl.map f).contains (f i) = tbl.contains i := by
  induction tbl with
  | nil => simp
  | cons a tbl ih =>
    simp only [List.map_cons, List.contains_cons, ih]
    by_cases h : i = a
    · subst h; simp
    · have : f i ≠ f a := fun e => h (hf _ _ e)
      have h1 : (f i == f a) = false := by simpa using this
      have h2 : (i == a) = false := by simpa using h
      rw [h1, h2]

theorem idxOf_map_inj (tbl : List I) (i : I) : (tbl.map f).idxOf (f i) = tbl.idxOf i := by
  induction tbl with
  | nil => simp
  | cons a tbl ih =>
    simp only [List.map_cons, List.idxOf_cons, ih]
    by_cases h : a = i
    · subst h; simp
    · have : f a ≠ f i := fun e => h (hf _ _ e)
      have h1 : (f a == f i) = false := by simpa using this
      have h2 : (a == i) = false := by simpa using h
      simp [h1, h2]

theorem canonAux_map (t : Tree I) (tbl : List I) :
    canonAux (t.map f) (tbl.map f) = ((canonAux t tbl).1, (canonAux t tbl).2.map f) := by
  induction t generalizing tbl with
  | given g => simp [Tree.map, canonAux]
  | inv i =>
    simp only [Tree.map, canonAux, contains_map_inj f hf, idxOf_map_inj f hf]
    split <;> simp
  | node lb l r ihl ihr =>
    simp only [Tree.map, canonAux, ihl, ihr]

theorem canon_map (t : Tree I) : canon (t.map f) = canon t := by
  have := canonAux_map f hf t []
  simp [canon] at this ⊢
  rw [this]

end

/-! ### the Python dict: `set` is `Dict.set`, `get` is `Dict.get` with an absent key read as `None` -/

def keys (d : PyDict) : List Str := d.map (·.1)

theorem get_cons (k0 : Str) (v0 : Option Str) (d : PyDict) (k : Str) :
    PyDict.get ((k0, v0) :: d) k = if k0 = k then v0 else d.get k := by
  by_cases h : k0 = k <;> simp [PyDict.get, List.find?, h]

theorem get_eq (d : PyDict) (k : Str) : d.get k = (Dict.get d k).join := by
  rw [Dict.get_eq_find?, PyDict.get]; cases d.find? _ <;> rfl

theorem set_eq (d : PyDict) (k : Str) (v : Option Str) : d.set k v = Dict.set d k v := by
  induction d with
  | nil => rfl
  | cons p t ih => simp only [PyDict.set, Dict.set, ih]; split <;> simp [*]

theorem get_set (d : PyDict) (k k' : Str) (v : Option Str) :
    (d.set k v).get k' = if k = k' then v else d.get k' := by
  simp only [get_eq, set_eq, Dict.get_set, eq_comm (a := k)]; split <;> rfl

theorem get_of_truthy {d : PyDict} {k : Str} (h : truthy (d.get k) = true) : Dict.get d k = some (d.get k) := by
  rw [get_eq] at h ⊢
  cases hg : Dict.get d k with
  | none => rw [hg] at h; cases h
  | some r => rfl

theorem truthy_get_of_mem (d : PyDict) (k : Str) (ht : allTruthy d = true) (hk : k ∈ keys d) :
    truthy (d.get k) = true := by
  obtain ⟨v, hv⟩ := Option.isSome_iff_exists.1 (Dict.get_isSome_iff.2 hk)
  rw [get_eq, hv]
  exact List.all_eq_true.1 ht _ (Dict.mem_of_get hv)

theorem truthy_invented (c : Nat) : truthy (some (inventedName c)) = true := by
  simp [truthy, inventedName]

theorem generateMissing_allTruthy (d : PyDict) (c : Nat) : allTruthy (generateMissing d c).1 = true := by
  induction d generalizing c with
  | nil => rfl
  | cons e d ih =>
    rcases e with ⟨k, v⟩
    simp only [generateMissing]
    split
    · next h => simpa [allTruthy, h] using ih c
    · simpa [allTruthy, truthy_invented] using ih (c + 1)

theorem generateMissing_of_allTruthy (d : PyDict) (c : Nat) (h : allTruthy d = true) :
    generateMissing d c = (d, c) := by
  induction d generalizing c with
  | nil => rfl
  | cons e d ih =>
    rcases e with ⟨k, v⟩
    simp only [allTruthy, List.all_cons, Bool.and_eq_true] at h
    simp [generateMissing, h.1, ih c h.2]

theorem generateMissing_keys (d : PyDict) (c : Nat) : keys (generateMissing d c).1 = keys d := by
  induction d generalizing c with
  | nil => rfl
  | cons e d ih =>
    rcases e with ⟨k, v⟩
    simp only [generateMissing]
    split
    · exact congrArg (k :: ·) (ih c)
    · exact congrArg (k :: ·) (ih (c + 1))

theorem generateMissing_keeps (d : PyDict) (c : Nat) (k : Str) (hk : truthy (d.get k) = true) :
    (generateMissing d c).1.get k = d.get k := by
  induction d generalizing c with
  | nil => rfl
  | cons e d ih =>
    rcases e with ⟨k0, v0⟩
    rw [get_cons] at hk ⊢
    simp only [generateMissing]
    by_cases h0 : k0 = k
    · rw [if_pos h0] at hk ⊢; simp [hk, get_cons, h0]
    · rw [if_neg h0] at hk ⊢; split <;> simp [get_cons, h0, ih _ hk]

theorem recordUuid_ok {d d' : PyDict} {n : Str} {u : Option Str} (h : recordUuid d n u = .ok d') :
    Dict.Recorded truthy d n u d' := by
  unfold recordUuid at h
  simp only [] at h
  split at h
  · next ht =>
    split at h
    · cases h
    · next hc =>
      cases h
      exact Or.inl ⟨_, get_of_truthy ht, ht, fun hu => by simpa [hu] using hc, rfl⟩
  · next hf =>
    cases h
    exact Or.inr ⟨fun r hr => by rw [get_eq, hr] at hf; simpa using hf, set_eq d n u⟩

theorem recordAll_cons_ok {d d' : PyDict} {r : Str × Option Str} {rs : List (Str × Option Str)}
    (h : recordAll d (r :: rs) = .ok d') : ∃ d1, recordUuid d r.1 r.2 = .ok d1 ∧ recordAll d1 rs = .ok d' := by
  simp only [recordAll] at h
  split at h
  · next d1 h1 => exact ⟨d1, h1, h⟩
  · cases h

theorem recordAll_truthy_iff {d d' : PyDict} {refs : List (Str × Option Str)} (h : recordAll d refs = .ok d')
    {k : Str} {u : Option Str} (hu : truthy u = true) :
    Dict.get d' k = some u ↔ Dict.get d k = some u ∨ (k, u) ∈ refs := by
  induction refs generalizing d with
  | nil => simp [recordAll] at h; subst h; simp
  | cons r rs ih =>
    obtain ⟨d1, h1, h2⟩ := recordAll_cons_ok h
    rw [ih h2, (recordUuid_ok h1).truthy_iff hu, List.mem_cons, or_assoc, Prod.ext_iff, eq_comm (a := u)]

theorem recordAll_mem_keys_iff {d d' : PyDict} {refs : List (Str × Option Str)} (h : recordAll d refs = .ok d')
    {k : Str} : k ∈ keys d' ↔ k ∈ keys d ∨ k ∈ refs.map (·.1) := by
  induction refs generalizing d with
  | nil => simp [recordAll] at h; subst h; simp
  | cons r rs ih =>
    obtain ⟨d1, h1, h2⟩ := recordAll_cons_ok h
    rw [ih h2, show k ∈ keys d1 ↔ _ from (recordUuid_ok h1).mem_keys_iff, List.map_cons, List.mem_cons, or_assoc]
    exact Iff.rfl

theorem assign_idem (d : PyDict) (refs : List (Str × Option Str)) :
    assign d (assign d refs) = assign d refs := by
  simp [assign, List.map_map, Function.comp_def]

end Rpft.Det
