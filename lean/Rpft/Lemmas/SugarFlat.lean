/-
What `Rpft/SugarFlat.lean` says of a sheet before any row is instantiated: `_is_end_of_block` by kind of row;
trees and scan trees whose rows sit where their kinds say (`WkF`, `WkP`); the rows of a tree and the fuel to
read them; the scan `build` undoes `flattenF` on such trees (`build_flattenF`), keeps the rows of every sheet
and yields a well-kinded scan tree (`flattenP_parseAll`, `WkP_parseAll`), and the fault it finds is that of
`Cli.runBlocks` (`fault?_build`).
-/
import Rpft.SugarFlat
namespace Rpft.SugarFlat
open Rpft Rpft.Sugar
open Rpft.Cli (RowType BlockType Fault isEndOfBlock blockEndMap)

variable {Raw Inst Ctx Val Hdr Err S : Type}

/-- `Sugar.Item.induct` for trees with end rows -/
theorem FItem.induct {P : FItem Raw → Prop} (row : ∀ r, P (.row r))
    (forLoop : ∀ b body e, (∀ it ∈ body, P it) → P (.forLoop b body e))
    (block : ∀ b body e, (∀ it ∈ body, P it) → P (.block b body e)) : ∀ it, P it :=
  fun it => FItem.rec (motive_1 := P) (motive_2 := fun its => ∀ it ∈ its, P it) row forLoop block
    (fun _ h => nomatch h)
    (fun _ _ h1 h2 x hx => by
      rcases List.mem_cons.1 hx with rfl | hx
      · exact h1
      · exact h2 x hx) it

/-! ## `_is_end_of_block` on the five kinds -/

@[simp] theorem isEnd_other (bt : BlockType) : isEndOfBlock bt (some .other) = .ok false := by
  simp [isEndOfBlock, blockEndMap]
@[simp] theorem isEnd_beginFor (bt : BlockType) : isEndOfBlock bt (some .beginFor) = .ok false := by
  simp [isEndOfBlock, blockEndMap]
@[simp] theorem isEnd_beginBlock (bt : BlockType) : isEndOfBlock bt (some .beginBlock) = .ok false := by
  simp [isEndOfBlock, blockEndMap]
@[simp] theorem isEnd_for_endFor : isEndOfBlock .for_ (some .endFor) = .ok true := by
  simp [isEndOfBlock, blockEndMap]
@[simp] theorem isEnd_block_endBlock : isEndOfBlock .block (some .endBlock) = .ok true := by
  simp [isEndOfBlock, blockEndMap]
@[simp] theorem isEnd_root_none : isEndOfBlock .root none = .ok true := by
  simp [isEndOfBlock]

theorem isEnd_root_ne_true (k : RowType) : isEndOfBlock .root (some k) ≠ .ok true := by
  cases k <;> decide

theorem isEnd_true_iff (bt : BlockType) (k : RowType) :
    isEndOfBlock bt (some k) = .ok true ↔ (bt = .for_ ∧ k = .endFor) ∨ (bt = .block ∧ k = .endBlock) := by
  cases bt <;> cases k <;> decide

theorem isEnd_false_iff (bt : BlockType) (k : RowType) :
    isEndOfBlock bt (some k) = .ok false ↔ (k = .other ∨ k = .beginFor ∨ k = .beginBlock) := by
  cases bt <;> cases k <;> decide

/-! ## well-kinded trees -/

mutual
/-- every row of the tree sits where its kind says -/
def WkF (kind : Raw → RowKind) : FItem Raw → Prop
  | .row r => kind r = .other
  | .forLoop b body e => kind b = .beginFor ∧ WkFL kind body ∧ kind e = .endFor
  | .block b body e => kind b = .beginBlock ∧ WkFL kind body ∧ kind e = .endBlock
def WkFL (kind : Raw → RowKind) : List (FItem Raw) → Prop
  | [] => True
  | it :: its => WkF kind it ∧ WkFL kind its
end

theorem WkFL_append (kind : Raw → RowKind) (a b : List (FItem Raw)) :
    WkFL kind (a ++ b) ↔ WkFL kind a ∧ WkFL kind b := by
  induction a with
  | nil => simp [WkFL]
  | cons x a ih => simp [WkFL, ih, and_assoc]

theorem WkFL_reverse (kind : Raw → RowKind) (a : List (FItem Raw)) :
    WkFL kind a.reverse ↔ WkFL kind a := by
  induction a with
  | nil => simp
  | cons x a ih => simp [WkFL_append, WkFL, ih, and_comm]

/-- the fault recorded in a scan tree is the one `_is_end_of_block` reports at that place, begin
rows are begin rows, the items are well kinded; `bt` = type of the enclosing block -/
def WkP (kind : Raw → RowKind) : BlockType → PTree Raw → Prop
  | bt, .done its => bt = .root ∧ WkFL kind its
  | bt, .fault its f rest =>
    WkFL kind its ∧
      (match rest with
       | [] => isEndOfBlock bt none = .error f
       | r :: _ => isEndOfBlock bt (some (kind r)) = .error f)
  | _, .open_ its isFor b inner =>
    WkFL kind its ∧ kind b = (if isFor then .beginFor else .beginBlock) ∧
      WkP kind (if isFor then .for_ else .block) inner

theorem WkFL_mem {kind : Raw → RowKind} {its : List (FItem Raw)} (h : WkFL kind its) {it : FItem Raw}
    (hit : it ∈ its) : WkF kind it := by
  induction its with
  | nil => nomatch hit
  | cons x its ih =>
    rcases List.mem_cons.1 hit with rfl | hit
    · exact h.1
    · exact ih h.2 hit

/-! ## the rows of a tree, and the fuel to read them -/

theorem flattenFL_append (a b : List (FItem Raw)) :
    flattenFL (a ++ b) = flattenFL a ++ flattenFL b := by
  induction a with
  | nil => simp [flattenFL]
  | cons x a ih => simp [flattenFL, ih]

theorem flattenFL_singleton (x : FItem Raw) : flattenFL [x] = flattenF x := by
  simp [flattenFL]

theorem one_le_length_flattenF (it : FItem Raw) : 1 ≤ (flattenF it).length := by
  cases it <;> simp [flattenF]

/-- the fuel of a turn on the first of several items, `k` more rows following: one unit for the turn, the rest
suffices for the item, and for the items after it with the `k` rows -/
theorem fuel_cons (it : FItem Raw) (its : List (FItem Raw)) {F k : Nat}
    (hF : (flattenFL (it :: its)).length + k < F + 1) :
    (flattenF it).length ≤ F ∧ (flattenFL its).length + k < F := by
  have h1 := one_le_length_flattenF it
  simp only [flattenFL, List.length_append] at hF
  omega

/-- the fuel that suffices for a block suffices for its body (and one more turn) -/
theorem fuel_body {b e : Raw} {l : List Raw} {F : Nat} (h : (b :: (l ++ [e])).length ≤ F) : l.length < F := by
  simp only [List.length_cons, List.length_append, List.length_nil] at h
  omega

/-! ## the structural parser: round trips -/

theorem build_cons (kind : Raw → RowKind) (st : List (Frame Raw)) (cur : List (FItem Raw)) (r : Raw) (rs : List Raw) :
    build kind st cur (r :: rs) =
      (match isEndOfBlock (frameBt st) (some (kind r)) with
       | .error f => wrap st (.fault cur.reverse f (r :: rs))
       | .ok true =>
         match st with
         | fr :: st' =>
           build kind st'
             ((if fr.isFor then FItem.forLoop fr.b cur.reverse r else FItem.block fr.b cur.reverse r)
               :: fr.before) rs
         | [] => .done []
       | .ok false =>
         match kind r with
         | .beginFor => build kind (⟨true, r, cur⟩ :: st) [] rs
         | .beginBlock => build kind (⟨false, r, cur⟩ :: st) [] rs
         | _ => build kind st (.row r :: cur) rs) := by
  rw [build.eq_def]
  rfl

mutual
theorem build_flattenF (kind : Raw → RowKind) :
    ∀ (it : FItem Raw), WkF kind it → ∀ (st : List (Frame Raw)) (cur : List (FItem Raw)) (rest : List Raw),
      build kind st cur (flattenF it ++ rest) = build kind st (it :: cur) rest
  | .row r, h, st, cur, rest => by
    simp only [WkF] at h
    simp [flattenF, build, h]
  | .forLoop b body e, h, st, cur, rest => by
    obtain ⟨hb, hbody, he⟩ := h
    have ih := build_flattenFL kind body hbody (⟨true, b, cur⟩ :: st) [] (e :: rest)
    simp only [flattenF, List.cons_append, List.append_assoc, List.nil_append]
    rw [build_cons]
    simp only [hb, isEnd_beginFor]
    rw [ih]
    rw [build_cons]
    simp [frameBt, he]
  | .block b body e, h, st, cur, rest => by
    obtain ⟨hb, hbody, he⟩ := h
    have ih := build_flattenFL kind body hbody (⟨false, b, cur⟩ :: st) [] (e :: rest)
    simp only [flattenF, List.cons_append, List.append_assoc, List.nil_append]
    rw [build_cons]
    simp only [hb, isEnd_beginBlock]
    rw [ih]
    rw [build_cons]
    simp [frameBt, he]
theorem build_flattenFL (kind : Raw → RowKind) :
    ∀ (its : List (FItem Raw)), WkFL kind its → ∀ (st : List (Frame Raw)) (cur : List (FItem Raw)) (rest : List Raw),
      build kind st cur (flattenFL its ++ rest) = build kind st (its.reverse ++ cur) rest
  | [], _, st, cur, rest => by simp [flattenFL]
  | it :: its, h, st, cur, rest => by
    obtain ⟨h1, h2⟩ := h
    simp only [flattenFL, List.append_assoc]
    rw [build_flattenF kind it h1, build_flattenFL kind its h2]
    simp
end

/-- the rows a scan state stands for -/
def unwind : List (Frame Raw) → List Raw → List Raw
  | [], inner => inner
  | f :: st, inner => unwind st (flattenFL f.before.reverse ++ f.b :: inner)

theorem flattenP_wrap (st : List (Frame Raw)) (t : PTree Raw) :
    flattenP (wrap st t) = unwind st (flattenP t) := by
  induction st generalizing t with
  | nil => simp [wrap, unwind]
  | cons f st ih => simp [wrap, unwind, ih, flattenP]

theorem flattenP_build (kind : Raw → RowKind) (rows : List Raw) :
    ∀ (st : List (Frame Raw)) (cur : List (FItem Raw)),
      flattenP (build kind st cur rows) = unwind st (flattenFL cur.reverse ++ rows) := by
  intro st cur
  fun_induction build kind st cur rows with
  | case1 cur => simp [flattenP, unwind]
  | case2 cur f tail => simp [flattenP_wrap, flattenP]
  | case3 st cur r rs f hE => simp [flattenP_wrap, flattenP]
  | case4 cur r rs fr st' hE ih =>
    rw [ih]
    cases hf : fr.isFor <;> simp [unwind, flattenFL_append, flattenFL, flattenF, List.append_assoc]
  | case5 cur r rs hE => exact absurd hE (isEnd_root_ne_true _)
  | case6 st cur r rs hE hk ih => rw [ih]; simp [unwind, flattenFL]
  | case7 st cur r rs hE hk ih => rw [ih]; simp [unwind, flattenFL]
  | case8 st cur r rs hE h1 h2 ih => rw [ih]; simp [flattenFL_append, flattenFL, flattenF]

theorem flattenP_parseAll (kind : Raw → RowKind) (rows : List Raw) :
    flattenP (parseAll kind rows) = rows := by
  simp [parseAll, flattenP_build, unwind, flattenFL]

/-- frames of a scan state are well kinded -/
def WkSt (kind : Raw → RowKind) : List (Frame Raw) → Prop
  | [] => True
  | f :: st => kind f.b = (if f.isFor then .beginFor else .beginBlock) ∧ WkFL kind f.before ∧ WkSt kind st

theorem WkP_wrap (kind : Raw → RowKind) (st : List (Frame Raw)) (t : PTree Raw)
    (hst : WkSt kind st) (ht : WkP kind (frameBt st) t) : WkP kind .root (wrap st t) := by
  induction st generalizing t with
  | nil => simpa [wrap, frameBt] using ht
  | cons f st ih =>
    obtain ⟨h1, h2, h3⟩ := hst
    simp only [wrap]
    apply ih _ h3
    refine ⟨(WkFL_reverse kind _).2 h2, h1, ?_⟩
    simpa [frameBt] using ht

theorem WkP_build (kind : Raw → RowKind) (rows : List Raw) :
    ∀ (st : List (Frame Raw)) (cur : List (FItem Raw)), WkSt kind st → WkFL kind cur →
      WkP kind .root (build kind st cur rows) := by
  intro st cur
  fun_induction build kind st cur rows with
  | case1 cur => intro _ hcur; simp [WkP, WkFL_reverse, hcur]
  | case2 cur f tail =>
    intro hst hcur
    apply WkP_wrap kind _ _ hst
    refine ⟨(WkFL_reverse kind _).2 hcur, ?_⟩
    cases hf : f.isFor <;> simp [frameBt, hf, isEndOfBlock]
  | case3 st cur r rs f hE =>
    intro hst hcur
    exact WkP_wrap kind _ _ hst ⟨(WkFL_reverse kind _).2 hcur, hE⟩
  | case4 cur r rs fr st' hE ih =>
    intro hst hcur
    obtain ⟨h1, h2, h3⟩ := hst
    apply ih h3
    have hk := (isEnd_true_iff _ _).1 hE
    cases hf : fr.isFor <;> simp [frameBt, hf] at hk <;>
      simp [hf, WkFL, WkF, h2, WkFL_reverse, hcur, hk] at h1 ⊢ <;> exact h1
  | case5 cur r rs hE => exact absurd hE (isEnd_root_ne_true _)
  | case6 st cur r rs hE hk ih => intro hst hcur; exact ih ⟨by simp [hk], hcur, hst⟩ (by simp [WkFL])
  | case7 st cur r rs hE hk ih => intro hst hcur; exact ih ⟨by simp [hk], hcur, hst⟩ (by simp [WkFL])
  | case8 st cur r rs hE h1 h2 ih =>
    intro hst hcur
    refine ih hst ⟨?_, hcur⟩
    rcases (isEnd_false_iff _ _).1 hE with hk | hk | hk
    · exact hk
    · exact absurd hk h1
    · exact absurd hk h2

theorem WkP_parseAll (kind : Raw → RowKind) (rows : List Raw) : WkP kind .root (parseAll kind rows) :=
  WkP_build kind rows [] [] (by simp [WkSt]) (by simp [WkFL])

theorem parseTree_ok_iff (kind : Raw → RowKind) (rows : List Raw) (its : List (FItem Raw)) :
    parseTree kind rows = .ok its ↔ parseAll kind rows = .done its := by
  unfold parseTree
  cases hp : parseAll kind rows <;> simp

/-! ## the scan finds the fault that `Cli.checkBlocks` (C15) finds -/

theorem fault?_wrap (st : List (Frame Raw)) (t : PTree Raw) : (wrap st t).fault? = t.fault? := by
  induction st generalizing t with
  | nil => simp [wrap]
  | cons f st ih => simp [wrap, ih, PTree.fault?]

def frameBts : List (Frame Raw) → List BlockType
  | [] => []
  | f :: st => (if f.isFor then BlockType.for_ else .block) :: frameBts st

theorem top_frameBts (st : List (Frame Raw)) : Cli.top (frameBts st) = frameBt st := by
  cases st <;> simp [frameBts, Cli.top, frameBt]

def errOf {ε α : Type} : Except ε α → Option ε
  | .ok _ => none
  | .error f => some f

theorem fault?_build (kind : Raw → RowKind) (rows : List Raw) :
    ∀ (st : List (Frame Raw)) (cur : List (FItem Raw)),
      (build kind st cur rows).fault? = errOf (Cli.runBlocks (frameBts st) (rows.map kind)) := by
  intro st cur
  fun_induction build kind st cur rows with
  | case1 cur => simp [PTree.fault?, Cli.runBlocks, frameBts, Cli.top, isEndOfBlock, errOf]
  | case2 cur f tail =>
    cases hf : f.isFor <;>
      simp [fault?_wrap, PTree.fault?, Cli.runBlocks, frameBts, Cli.top, isEndOfBlock, hf, errOf]
  | case3 st cur r rs f hE =>
    simp [fault?_wrap, PTree.fault?, Cli.runBlocks, top_frameBts, hE, errOf]
  | case4 cur r rs fr st' hE ih =>
    rw [ih]
    simp only [List.map_cons, Cli.runBlocks, top_frameBts, hE]
    simp [frameBts]
  | case5 cur r rs hE => exact absurd hE (isEnd_root_ne_true _)
  | case6 st cur r rs hE hk ih => rw [ih]; simp [Cli.runBlocks, top_frameBts, hk, frameBts]
  | case7 st cur r rs hE hk ih => rw [ih]; simp [Cli.runBlocks, top_frameBts, hk, frameBts]
  | case8 st cur r rs hE h1 h2 ih =>
    rw [ih]
    rcases (isEnd_false_iff _ _).1 hE with hk | hk | hk
    · simp [Cli.runBlocks, top_frameBts, hk]
    · exact absurd hk h1
    · exact absurd hk h2

theorem btOf_ne_root (isFor : Bool) : (if isFor then BlockType.for_ else .block) ≠ .root := by
  cases isFor <;> simp

theorem fault?_isSome (kind : Raw → RowKind) :
    ∀ (t : PTree Raw) (bt : BlockType), WkP kind bt t → bt ≠ .root → t.fault?.isSome = true := by
  intro t
  induction t with
  | done its => intro bt h hbt; exact absurd h.1 hbt
  | fault its f rest => intro bt h hbt; rfl
  | open_ its isFor b inner ih =>
    intro bt h hbt
    exact ih _ h.2.2 (btOf_ne_root isFor)

theorem errOf_parseTree (kind : Raw → RowKind) (rows : List Raw) :
    errOf (parseTree kind rows) = (parseAll kind rows).fault? := by
  have hw := WkP_parseAll kind rows
  unfold parseTree
  cases hp : parseAll kind rows with
  | done its => rfl
  | fault its f rest => rfl
  | open_ its isFor b t =>
    rw [hp] at hw
    have := fault?_isSome kind t _ hw.2.2 (btOf_ne_root isFor)
    simp only [PTree.fault?, errOf]
    cases ht : t.fault? with
    | none => rw [ht] at this; cases this
    | some f => rfl

end Rpft.SugarFlat
