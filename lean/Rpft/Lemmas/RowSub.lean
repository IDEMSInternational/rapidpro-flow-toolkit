/-
Values that are read back from ONE cell: basic values (`BasicLeaf`), and sub-records whose
fields have basic types, written as `a;va|b;vb` key/value pairs of their non-default fields
(`SubData`: what `Representable` says about such a record).  The fold of `assign_value` over the
entries of a record cell is `assignEntries_gen`, for entries that are each positional or keyword;
a record is read from its entries by `reads_model`; the cell `unparse` writes has keyword entries
only (`sub_reads`).
-/
import Rpft.Lemmas.RowCell
namespace Rpft.Row
open Rpft Rpft.Cell

/-- the tree leaf a basic value is read back as -/
def leafTree : Val → Tree
  | .str s => .str s
  | .int i => .int i
  | .float s => .float s
  | .bool b => .bool b
  | _ => .none

theorem printInt_strOk (i : Int) : strOk (printInt i) = true := by
  simp only [strOk, Bool.and_eq_true, beq_iff_eq, Bool.not_eq_true']
  exact ⟨strip_of_no_ws _ (printInt_no_ws i), printInt_no_brace i⟩

theorem bool_strOk : strOk pyTrue = true ∧ strOk pyFalse = true := by decide +kernel

theorem simpleName_strOk {a : Str} (h : simpleName a = true) : strOk a = true := by
  have hc := fun c hc => okChar_iff.mp (segOk_simple h c hc)
  simp only [strOk, Bool.and_eq_true, beq_iff_eq, Bool.not_eq_true', List.contains_eq_mem,
    decide_eq_false_iff_not]
  exact ⟨strip_of_no_ws _ fun c h => (hc c h).2.2.2.2.1, fun hm => (hc _ hm).2.2.2.2.2 rfl⟩

theorem pyFloatOk_ne_nil {s : Str} (h : pyFloatOk s = true) : s ≠ [] := by
  intro e; subst e; revert h; decide

/-- a representable value of a basic type, case by case (`b`: inside a list, where a string may
not be blank) -/
@[elab_as_elim]
theorem basic_cases {b : Bool} {ty : Ty} {v : Val} (hb : isBasicTy ty = true)
    (hr : reprOk b ty v = true) {C : Ty → Val → Prop}
    (str : ∀ s, strOk s = true → (b = true → s ≠ []) → C .str (.str s))
    (int : ∀ i, C .int (.int i)) (float : ∀ s, floatOk s = true → C .float (.float s))
    (bool : ∀ x, C .bool (.bool x)) : C ty v := by
  cases ty <;> first | exact Bool.noConfusion hb | skip
  all_goals cases v <;> first | exact Bool.noConfusion hr | skip
  · simp only [reprOk, Bool.and_eq_true, Bool.not_eq_true'] at hr
    exact str _ hr.1 (fun hb e => by subst hb; subst e; simp at hr)
  · exact int _
  · exact float _ hr
  · exact bool _

theorem leafValue_basic {ty : Ty} (hb : isBasicTy ty = true) {s : Str} (hs : strOk s = true) :
    leafValue (Sum.inl s) ty = .ok (.atom s) := by
  obtain ⟨h1, h2⟩ := strOk_spec hs
  cases ty <;> first | exact Bool.noConfusion hb | simp [leafValue, isListTy, isModelTy, parseAsString_ok h1 h2]

/-- one basic value in a cell: its text is a representable string (so the cell holds exactly that text),
which `assign_value` reads as the leaf `leafTree v` -/
structure BasicLeaf (ty : Ty) (v : Val) : Prop where
  basicVal : isBasicVal v = true
  strOk : strOk (printBasic v) = true
  nested : toNested ty v = .ok (.str (printBasic v))
  assign : assignValue ty (.atom (printBasic v)) = .ok (some (leafTree v))
  validate : validate ty (leafTree v) = .ok v
  nonblank : fieldOk true ty v = true → printBasic v ≠ []

theorem basic_leaf {ty : Ty} {v : Val} (hb : isBasicTy ty = true) (hr : reprOk false ty v = true) :
    BasicLeaf ty v := by
  refine basic_cases hb hr (fun s hs _ => ?_) (fun i => ?_) (fun s hs => ?_) (fun b => ?_)
  · exact ⟨rfl, hs, rfl, rfl, rfl, fun hf => by simpa [fieldOk, printBasic] using hf⟩
  · exact ⟨rfl, printInt_strOk i, rfl, by simp [assignValue, assignInt, printBasic, leafTree, pyInt_printInt],
      rfl, fun _ => printInt_ne_nil i⟩
  · simp only [floatOk, Bool.and_eq_true] at hs
    exact ⟨rfl, hs.2, rfl, by simp [assignValue, assignFloat, printBasic, leafTree, (strOk_spec hs.2).1, hs.1],
      rfl, fun _ => pyFloatOk_ne_nil hs.1⟩
  · obtain ⟨f1, f2, f3, f4⟩ := bool_facts
    cases b
    · exact ⟨rfl, bool_strOk.2, rfl, by
        simp [assignValue, assignBool, printBasic, printBool, leafTree, (strOk_spec bool_strOk.2).1, f1, f3],
        rfl, fun _ => f3⟩
    · exact ⟨rfl, bool_strOk.1, rfl, by
        simp [assignValue, assignBool, printBasic, printBool, leafTree, (strOk_spec bool_strOk.1).1, f2, f4],
        rfl, fun _ => f4⟩

theorem reprOk_basic_weaken {ty : Ty} {v : Val} (hb : isBasicTy ty = true)
    (h : reprOk true ty v = true) : reprOk false ty v = true ∧ fieldOk true ty v = true :=
  basic_cases hb h (fun s hs hne => by simp [reprOk, fieldOk, hs, hne rfl])
    (fun _ => ⟨rfl, rfl⟩) (fun _ hs => ⟨hs, rfl⟩) (fun _ => ⟨rfl, rfl⟩)

theorem basic_elem {t : Ty} (hb : isBasicTy t = true) {x : Val} (hx : reprOk true t x = true) :
    BasicLeaf t x ∧ printBasic x ≠ [] :=
  have ⟨h1, h2⟩ := reprOk_basic_weaken hb hx
  ⟨basic_leaf hb h1, (basic_leaf hb h1).nonblank h2⟩

/-! ### records of basic fields -/

/-- a (field, value) pair of a record `skvs` of basic fields -/
structure SubPair (skvs : List (Str × Val)) (p : SPair) : Prop where
  look : alookup p.1.1 skvs = some p.2
  name : simpleName p.1.1 = true
  basic : isBasicTy p.1.2.1 = true
  repr : nonDefault p = true → reprOk false p.1.2.1 p.2 = true

/-- (field, value) pairs of a record of basic fields, with distinct names -/
def SubOk (skvs : List (Str × Val)) (pairs : List SPair) : Prop :=
  (pairs.map (·.1.1)).Nodup ∧ ∀ p ∈ pairs, SubPair skvs p

theorem subOk_tail {skvs p pairs} (h : SubOk skvs (p :: pairs)) : SubOk skvs pairs :=
  ⟨(List.nodup_cons.mp h.1).2, fun q hq => h.2 q (List.mem_cons_of_mem _ hq)⟩

theorem subOk_filter {skvs} {pairs : List SPair} (h : SubOk skvs pairs) :
    SubOk skvs (pairs.filter nonDefault) :=
  ⟨(h.1.sublist (List.Sublist.map _ List.filter_sublist)),
    fun p hp => h.2 p (List.mem_filter.mp hp).1⟩

/-- family: a record type without remaps whose fields are basic, with distinct simple names -/
def subFamily (sfs : List Field) : Bool :=
  sfs.all (fun f => simpleName f.1 && isBasicTy f.2.1) && decide ((sfs.map (·.1)).Nodup)

theorem subFamily_iff {sfs : List Field} : subFamily sfs = true ↔
    (∀ f ∈ sfs, simpleName f.1 = true ∧ isBasicTy f.2.1 = true) ∧ (sfs.map (·.1)).Nodup := by
  simp only [subFamily, Bool.and_eq_true, List.all_eq_true, decide_eq_true_eq]

/-- what `reprOk` and `fieldOk` say about a record of basic fields, on its (field, value) pairs
(`subData_of_repr`) -/
structure SubData (sfs : List Field) (skvs : List (Str × Val)) : Prop where
  hnames : skvs.map Prod.fst = sfs.map (·.1)
  hfst : (sfs.zip (skvs.map Prod.snd)).map (·.1) = sfs
  hok : SubOk skvs (sfs.zip (skvs.map Prod.snd))
  hne : (sfs.zip (skvs.map Prod.snd)).filter nonDefault ≠ []
  hfok : ∀ p ∈ sfs.zip (skvs.map Prod.snd), nonDefault p = true → fieldOk true p.1.2.1 p.2 = true

theorem allDefault_of_pairs {fs : List Field} {kvs : List (Str × Val)}
    (hnames : kvs.map Prod.fst = fs.map (·.1)) (hnd : (fs.map (·.1)).Nodup)
    (h : ∀ p ∈ fs.zip (kvs.map Prod.snd), nonDefault p = false) : allDefault fs kvs = true := by
  unfold allDefault
  rw [List.all_eq_true]
  intro f hf
  obtain ⟨v, hv⟩ := zip_mem_of_fst hnames f hf
  rw [alookup_zip fs kvs hnames hnd (f, v) hv]
  simpa [nonDefault] using h (f, v) hv

theorem subData_of_repr {sfs : List Field} {h2f f2h : List (Str × Str)} {skvs : List (Str × Val)}
    (hfam : subFamily sfs = true) (hr : reprOk false (.model sfs h2f f2h) (.model skvs) = true)
    (hfo : fieldOk false (.model sfs h2f f2h) (.model skvs) = true) : SubData sfs skvs := by
  obtain ⟨hbasic, hnd⟩ := subFamily_iff.mp hfam
  simp only [reprOk, Bool.and_eq_true, decide_eq_true_eq, Bool.false_and, Bool.not_false] at hr
  obtain ⟨⟨hnames, _⟩, hrf⟩ := hr
  have hfst := zip_map_fst hnames
  have hnm := zip_map_name hnames
  have hspec := fun p hp => reprFields_zip (p := p) hnames hnd hrf hp
  refine ⟨hnames, hfst, ⟨by rw [hnm]; exact hnd, ?_⟩, ?_, ?_⟩
  · intro p hp
    have hb := hbasic p.1 (List.of_mem_zip hp).1
    exact ⟨(hspec p hp).1, hb.1, hb.2, fun h => ((hspec p hp).2 h).2⟩
  · intro hempty
    have := allDefault_of_pairs hnames hnd fun p hp => by
      cases hq : nonDefault p with
      | false => rfl
      | true => exact absurd (List.mem_filter.mpr ⟨hp, hq⟩) (by rw [hempty]; simp)
    simp [fieldOk, this] at hfo
  · intro p hp hnon
    exact ((hspec p hp).2 hnon).1

/-! ### a record of basic fields packed into one cell -/

def subTr (p : SPair) : Str × Tree := (p.1.1, leafTree p.2)

def subElem (p : SPair) : Elem := .list [p.1.1, printBasic p.2]

def subEntry (p : SPair) : PV := .list [.atom p.1.1, .atom (printBasic p.2)]

/-- the cell of a sub-record value, and the tree it is read back as -/
def subText (sfs : List Field) (skvs : List (Str × Val)) : Str :=
  joinCell (.list (((sfs.zip (skvs.map Prod.snd)).filter nonDefault).map subElem))

def subTree (sfs : List Field) (skvs : List (Str × Val)) : Tree :=
  .dict (((sfs.zip (skvs.map Prod.snd)).filter nonDefault).map subTr)

theorem nestedFields_sub {skvs : List (Str × Val)} :
    ∀ {pairs : List SPair}, SubOk skvs pairs →
      nestedFields (pairs.map (·.1)) skvs =
        .ok (((pairs.filter nonDefault).map subElem).map elemToNested)
  | [], _ => by simp [nestedFields]
  | ((a, ty, d), v) :: rest, hok => by
    obtain ⟨hlook, _, hb, hr⟩ := hok.2 ((a, ty, d), v) (by simp)
    have ih := nestedFields_sub (subOk_tail hok)
    simp only [List.map_cons, nestedFields, hlook]
    cases hdef : isDefault d v with
    | true => simp [List.filter, nonDefault, hdef, ih]
    | false =>
      have hnd : nonDefault ((a, ty, d), v) = true := by simp [nonDefault, hdef]
      simp [List.filter, hnd, (basic_leaf hb (hr hnd)).nested, ih, subElem, elemToNested]

theorem alookup_fieldAssigners (k : Str) : ∀ (sfs : List Field),
    alookup k (fieldAssigners sfs) = (fieldLookup k sfs).map fun f => assignValue f.2.1
  | [] => rfl
  | (n, t, d) :: rest => by
    simp only [fieldAssigners, alookup, fieldLookup, alookup_fieldAssigners k rest]
    split <;> rfl

theorem tryKwarg_pairs_none {fas : List (Str × Assign)} {h2f : List (Str × Str)} {nd : List SPair} :
    tryKwarg fas h2f (.list (nd.map subEntry)) = none := by
  match nd with
  | [] => simp [tryKwarg]
  | [p] => simp [tryKwarg]
  | [p, q] => simp [tryKwarg, subEntry]
  | p :: q :: r :: rest => simp [tryKwarg]

/-! ### the entries of a record value, assigned one after the other -/

/-- one entry of a record value: positional (the value alone, at the index of its field) or
keyword (`key;value`, `key` a header of the field) -/
structure REntry where
  kw : Bool
  key : Str
  f : Field
  x : Val
  pv : PV

def REntry.entry (e : REntry) : PV := if e.kw then .list [.atom e.key, e.pv] else e.pv

/-- a positional entry at index `i` (keyword entries count too, as in `enumerate`) holds the value of
the `i`-th field -/
def RPosAt (sfs : List Field) : Nat → List REntry → Prop
  | _, [] => True
  | i, e :: es => (e.kw = false → sfs[i]? = some e.f) ∧ RPosAt sfs (i + 1) es

theorem fieldAssigners_eq_map : ∀ (sfs : List Field),
    fieldAssigners sfs = sfs.map fun f => (f.1, assignValue f.2.1)
  | [] => rfl
  | (n, t, d) :: rest => by rw [fieldAssigners, fieldAssigners_eq_map rest]; rfl

theorem fieldAssigners_drop_tail (sfs : List Field) (i : Nat) :
    (fieldAssigners (sfs.drop i)).tail = fieldAssigners (sfs.drop (i + 1)) := by
  simp only [fieldAssigners_eq_map, ← List.map_tail, List.tail_drop]

theorem fieldAssigners_drop_get (sfs : List Field) (i : Nat) (f : Field) (h : sfs[i]? = some f) :
    fieldAssigners (sfs.drop i) = (f.1, assignValue f.2.1) :: fieldAssigners (sfs.drop (i + 1)) := by
  obtain ⟨hi, rfl⟩ := List.getElem?_eq_some_iff.mp h
  rw [List.drop_eq_getElem_cons hi]
  simp only [fieldAssigners_eq_map, List.map_cons]

theorem assignEntries_gen (sfs : List Field) (h2f : List (Str × Str)) (tr : REntry → Tree) :
    ∀ (es : List REntry) (i : Nat) (acc : List (Str × Tree)),
      RPosAt sfs i es → (es.map (·.f.1)).Nodup →
      (∀ e ∈ es, fieldLookup e.f.1 sfs = some e.f ∧
        assignValue e.f.2.1 e.pv = .ok (some (tr e)) ∧
        (e.kw = true → remap h2f e.key = e.f.1) ∧
        (e.kw = false → tryKwarg (fieldAssigners sfs) h2f e.pv = none)) →
      (∀ e ∈ es, alookup e.f.1 acc = none) →
      assignEntries (fieldAssigners sfs) h2f (fieldAssigners (sfs.drop i)) (es.map (·.entry)) acc =
        .ok (acc ++ es.map fun e => (e.f.1, tr e))
  | [], _, acc, _, _, _, _ => by simp [assignEntries]
  | e :: es, i, acc, hat, hnd, hok, hacc => by
    obtain ⟨hfl, hav, hkey, hun⟩ := hok e (by simp)
    have habs : alookup e.f.1 acc = none := hacc e (by simp)
    have hacc' : ∀ q ∈ es, alookup q.f.1 (acc ++ [(e.f.1, tr e)]) = none := by
      intro q hq
      rw [alookup_append, hacc q (List.mem_cons_of_mem _ hq)]
      have hne : e.f.1 ≠ q.f.1 := by
        intro h
        have hmem : q.f.1 ∈ es.map (·.f.1) := List.mem_map_of_mem (f := fun q : REntry => q.f.1) hq
        rw [← h] at hmem
        exact (List.nodup_cons.mp hnd).1 hmem
      simp [alookup, hne]
    have ih := assignEntries_gen sfs h2f tr es (i + 1) (acc ++ [(e.f.1, tr e)]) hat.2
      (List.nodup_cons.mp hnd).2 (fun q hq => hok q (List.mem_cons_of_mem _ hq)) hacc'
    rw [List.map_cons]
    cases hk : e.kw with
    | false =>
      have hget := hat.1 hk
      have hent : e.entry = e.pv := by simp [REntry.entry, hk]
      rw [hent, fieldAssigners_drop_get sfs i e.f hget]
      simp only [assignEntries, hun hk, hav, setOpt]
      rw [aset_of_absent _ habs, ih]
      simp
    | true =>
      have hent : e.entry = .list [.atom e.key, e.pv] := by simp [REntry.entry, hk]
      have hkw : tryKwarg (fieldAssigners sfs) h2f (.list [.atom e.key, e.pv]) =
          some (e.f.1, assignValue e.f.2.1, e.pv) := by
        simp [tryKwarg, hkey hk, alookup_fieldAssigners, hfl]
      rw [hent]
      simp only [assignEntries, hkw, hav, setOpt, fieldAssigners_drop_tail]
      rw [aset_of_absent _ habs, ih]
      simp

theorem rposAt_kw {sfs : List Field} : ∀ {es : List REntry} {i : Nat},
    (∀ e ∈ es, e.kw = true) → RPosAt sfs i es
  | [], _, _ => trivial
  | e :: es, i, h =>
    ⟨fun hk => absurd (h e (by simp)) (by simp [hk]),
      rposAt_kw fun q hq => h q (List.mem_cons_of_mem _ hq)⟩

/-- the entries are assigned into the dictionary of their trees `tr e`, which validates to the record
(fields without an entry at their defaults) -/
theorem reads_model (sfs : List Field) (h2f f2h : List (Str × Str)) (kvs : List (Str × Val))
    (es : List REntry) (tr : REntry → Tree)
    (hnames : kvs.map Prod.fst = sfs.map (·.1)) (hnd : (sfs.map (·.1)).Nodup)
    (hmem : ∀ e ∈ es, (e.f, e.x) ∈ sfs.zip (kvs.map Prod.snd))
    (hat : RPosAt sfs 0 es) (hndE : (es.map (·.f.1)).Nodup)
    (htr : ∀ e ∈ es, assignValue e.f.2.1 e.pv = .ok (some (tr e)) ∧ validate e.f.2.1 (tr e) = .ok e.x)
    (hkey : ∀ e ∈ es, e.kw = true → remap h2f e.key = e.f.1)
    (hU2 : ∀ e ∈ es, e.kw = false → tryKwarg (fieldAssigners sfs) h2f e.pv = none)
    (hU1 : tryKwarg (fieldAssigners sfs) h2f (.list (es.map (·.entry))) = none)
    (hrest : ∀ p ∈ sfs.zip (kvs.map Prod.snd), (∃ e ∈ es, (e.f, e.x) = p) ∨ p.1.2.2 = some p.2) :
    assignValue (.model sfs h2f f2h) (.list (es.map (·.entry))) =
      .ok (some (.dict (es.map fun e => (e.f.1, tr e)))) ∧
    validate (.model sfs h2f f2h) (.dict (es.map fun e => (e.f.1, tr e))) = .ok (.model kvs) := by
  have hassign := assignEntries_gen sfs h2f tr es 0 [] hat hndE
    (fun e he => ⟨fieldLookup_mem hnd (List.of_mem_zip (hmem e he)).1, (htr e he).1,
      hkey e he, hU2 e he⟩) (fun _ _ => rfl)
  simp only [List.drop_zero, List.nil_append] at hassign
  refine ⟨by simp only [assignValue, assignModel, hU1, hassign], ?_⟩
  simp only [validate]
  rw [validateFields_of_spec hnames]
  intro p hp
  by_cases hex : ∃ e ∈ es, e.f.1 = p.1.1
  · obtain ⟨e, he, hen⟩ := hex
    obtain rfl : (e.f, e.x) = p := mem_zip_eq hnames hnd (hmem e he) hp hen
    refine Or.inr ⟨tr e, ?_, (htr e he).2⟩
    exact alookup_of_mem_nodup (by rw [List.map_map]; exact hndE)
      (List.mem_map.mpr ⟨e, he, rfl⟩)
  · refine Or.inl ⟨?_, (hrest p hp).resolve_left fun ⟨e, he, h⟩ => hex ⟨e, he, h ▸ rfl⟩⟩
    rw [alookup_none_iff]
    intro hm
    simp only [List.map_map] at hm
    obtain ⟨q, hq, e⟩ := List.mem_map.mp hm
    exact hex ⟨q, hq, e⟩

/-- the entries `[field, text]` of the cell of a record of basic fields are read back as `subTree`:
all are keyword entries, provided `header_name_to_field_name` leaves the field names alone -/
theorem sub_reads {sfs : List Field} {skvs : List (Str × Val)} {h2f : List (Str × Str)}
    (f2h : List (Str × Str)) (hrm : ∀ f ∈ sfs, remap h2f f.1 = f.1) (D : SubData sfs skvs) :
    assignValue (.model sfs h2f f2h)
        (.list (((sfs.zip (skvs.map Prod.snd)).filter nonDefault).map subEntry)) =
      .ok (some (subTree sfs skvs)) ∧
    validate (.model sfs h2f f2h) (subTree sfs skvs) = .ok (.model skvs) := by
  let r : SPair → REntry := fun p => ⟨true, p.1.1, p.1, p.2, .atom (printBasic p.2)⟩
  have hnd : (sfs.map (·.1)).Nodup := by
    have := D.hok.1
    rwa [← D.hfst, List.map_map]
  have h := reads_model sfs h2f f2h skvs (((sfs.zip (skvs.map Prod.snd)).filter nonDefault).map r)
    (fun e => leafTree e.x) D.hnames hnd
    (List.forall_mem_map.mpr fun p hp => (List.mem_filter.mp hp).1)
    (rposAt_kw (List.forall_mem_map.mpr fun _ _ => rfl))
    (by rw [List.map_map]; exact (subOk_filter D.hok).1)
    (List.forall_mem_map.mpr fun p hp => by
      have P := D.hok.2 p (List.mem_filter.mp hp).1
      have L := basic_leaf P.basic (P.repr (List.mem_filter.mp hp).2)
      exact ⟨L.assign, L.validate⟩)
    (List.forall_mem_map.mpr fun p hp _ => hrm p.1 (List.of_mem_zip (List.mem_filter.mp hp).1).1)
    (List.forall_mem_map.mpr fun _ _ hk => nomatch hk)
    (by
      rw [List.map_map]
      exact tryKwarg_pairs_none)
    (fun p hp => by
      cases hn : nonDefault p with
      | true => exact Or.inl ⟨r p, List.mem_map_of_mem (List.mem_filter.mpr ⟨hp, hn⟩), rfl⟩
      | false => exact Or.inr (by simpa [nonDefault, isDefault] using hn))
  simp only [List.map_map] at h
  exact h

end Rpft.Row
