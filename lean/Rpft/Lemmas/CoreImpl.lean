/-
Lock-step simulation, the edges leaving an action row conditionally: the first such edge makes the
compiler create a router node behind the row's node (it inherits the node's unconditional exit;
`impl_first_sim`, the ghost map learns of the node: `behindM`, `EdgePost'`); later edges go to that router
node (`impl_blank_sim`, `impl_test_sim`).
-/
import Rpft.Lemmas.CoreNode
namespace Rpft.CoreSheet
open Rpft Rpft.Compile Rpft.RefFlow

/-- operand and wait the compiler derives from a condition on an edge leaving an action row -/
def owOf (cond : Compile.Cond) : Str × Option Nat :=
  if ¬ cond.var.isEmpty = true then (cond.var, none) else ("@input.text".toList, some 0)

theorem owOf_fst_ne (cond : Compile.Cond) : (owOf cond).1.isEmpty = false := by
  unfold owOf
  by_cases h : cond.var.isEmpty = true
  · simp only [h, not_true_eq_false, if_false]; exact inputText_nonempty
  · simp only [h]; simpa using h

theorem tests_action_nil (es : List OutEdge) (h : ∀ e ∈ es, e.cond.blank = true) : testsOf .action es = [] := by
  rw [tests_action_eq, List.filter_eq_nil_iff]; intro e he; simp [h e he]

theorem implVar_first (es : List OutEdge) (e : OutEdge) (h : ∀ e ∈ es, e.cond.blank = true) (hb : e.cond.blank = false) :
    implVar (es ++ [e]) = e.cond.var := by
  unfold implVar
  rw [List.filter_append, ← tests_action_eq es, tests_action_nil es h]
  simp [hb]

theorem ow_impl (cond : Compile.Cond) (es : List OutEdge) (h : implVar es = cond.var) :
    owOf cond = (implOperand es, implWait es) := by
  unfold owOf implOperand implWait
  rw [h]
  by_cases hv : cond.var.isEmpty = true
  · simp [hv]
  · simp [hv]

theorem owOf_cases (cond : Compile.Cond) : ∃ op w, owOf cond = (op, w) ∧ op.isEmpty = false ∧ (w = none ∨ w = some 0) := by
  refine ⟨(owOf cond).1, (owOf cond).2, rfl, owOf_fst_ne cond, ?_⟩
  unfold owOf
  by_cases h : cond.var.isEmpty = true
  · simp [h]
  · simp [h]

section
variable (rows : List CRow) (M : Maps) (pd : Bool) (kg : Nat) (d : Dest) (tgt : Target) (cond : Compile.Cond) (s : St) (st : P1) (j : Nat)
  (n : NodeM) (c : CRow)

/-- the ghost map after a router node (arena index `x`) has been put behind the node of row `j`; validity and
destinations read as before -/
def behindM (M : Maps) (j x : Nat) : Maps := { M with rOf := fun t => if t = j then some x else M.rOf t }

/-- what the state must look like afterwards (the ghost map may have learnt of a router node) -/
abbrev EdgePost' : PUnit → St → Prop := fun _ s' =>
  ∃ M' : Maps, (∀ t, M'.nOf t = M.nOf t) ∧ M'.el = M.el ∧ M'.fr = M.fr ∧
    Rel rows M' pd kg s' { st with out := newEdge tgt cond j :: st.out } ∧ NExt s.nodes s'.nodes ∧
    ∀ g0, g0 ≠ gOf rows j → s'.groups[g0]? = s.groups[g0]?

variable {rows M pd kg d tgt cond s st j n c}
variable (h : Rel rows M pd kg s st) (hj : EdgeFrom rows M kg s j n c) (hk : kindOf c.row.type = .action)
  (hd : EdgeTo M pd kg s.nodes d tgt)
include h hj hk hd

theorem impl_blank_sim {i' : Nat} {n' : NodeM} {r : SwitchR} (hro : M.rOf j = some i')
    (hp : ImplSim M s.nodes n c (postUpTo rows kg j) (outOf st j) i' n' r) (he : cond.blank = true) :
    wp (rowExitBlank i' n' d) s (EdgePost' rows M pd kg tgt cond s st j) := by
  rw [wp_rowExitBlank_sw d hp.kind' hp.rnode hp.router']
  have hne : i' ≠ M.nOf j := h.rne j i' hro
  have hext : NExt s.nodes (s.nodes.setIfInBounds i' { n' with router := some (.sw (r.setDflt d)) }) :=
    NExt.set hp.rnode rfl
  have hr := (hp.rsim.ext hext).blank (e := newEdge tgt cond j) he (hd.dest.ext hext)
  have hiv := implVar_append (K := .action) (by decide) (outOf st j) (newEdge tgt cond j) hp.some
  refine ⟨M, fun _ => rfl, rfl, rfl, ?_, hext, fun _ _ => rfl⟩
  refine Rel.update_at h (newEdge tgt cond j) rfl hj.lt hj.row hj.owns hd.ok i' (by simp [idxs, hro]) hext
    (fun i hi => Array.getElem?_setIfInBounds_ne hi.symm) rfl rfl rfl rfl (Nat.le_refl _) ?_ (getElem?_set_self_of_some _ hp.rnode)
    (fun _ hr => nomatch hr)
  · refine ⟨n, by rw [Array.getElem?_setIfInBounds_ne hne]; exact hj.node, ?_⟩
    rw [hro]
    exact .impl i' { n' with router := some (.sw (r.setDflt d)) } _ hk ⟨hp.kind, hp.router, hp.acts, hp.link,
      getElem?_set_self_of_some _ hp.rnode, hp.kind', hp.acts',
      rfl, by unfold implOperand; rw [hiv]; exact hp.operand, hp.rname, by unfold implWait; rw [hiv]; exact hp.wait, hp.noResp, hr.cases,
      hr.casecat, hr.catd, hr.dflt, by rw [tests_blank .action _ (newEdge tgt cond j) he]; exact hp.some, hr.names.1, hp.names.2⟩

theorem impl_test_sim {i' : Nat} {n' : NodeM} {r : SwitchR} (hro : M.rOf j = some i')
    (hp : ImplSim M s.nodes n c (postUpTo rows kg j) (outOf st j) i' n' r) (he : cond.blank = false)
    (hnew : NewTest .action (timeoutOf c.row) (outOf st j) (newEdge tgt cond j)) :
    wp (rowExitCond (gOf rows j) [M.nOf j, i'] c.row.type i' n' d cond) s (EdgePost' rows M pd kg tgt cond s st j) := by
  have hiv : implVar (outOf st j ++ [newEdge tgt cond j]) = implVar (outOf st j) := implVar_append (K := .action) (by decide) _ _ hp.some
  unfold rowExitCond
  have hnb : n'.kind ≠ NodeKind.basic := by rw [hp.kind']; intro hh; cases hh
  simp only [hnb, if_false, type_group, type_value, hk, reduceCtorEq, false_or]
  wp_simp
  rw [wp_nodeAddChoice_sw hp.router']
  have how : (if ¬ cond.var.isEmpty = true then (cond.var, (none : Option Nat)) else ("@input.text".toList, some 0)) =
      (implOperand (outOf st j), implWait (outOf st j)) := ow_impl cond _ (by rw [← hiv]; exact (hnew.var (.inl rfl)).symm)
  rw [how]
  simp only
  have hstored := stored_test_plain .action (by decide) cond
  rw [← h.args] at hstored
  refine addChoice_test hp.rsim he (.inr ⟨by decide, hp.noResp⟩) hstored (args_plain .action (by decide) cond) hnew ?_
  intro r' hop hdf hnr' hw hrn ht
  wp_simp [wp_setNode]
  have hopne : (implOperand (outOf st j)).isEmpty = false := by
    have := owOf_fst_ne cond
    unfold owOf at this; rw [how] at this; exact this
  rw [hopne, if_neg Bool.false_ne_true] at hop
  have hne : i' ≠ M.nOf j := h.rne j i' hro
  have hext : NExt s.nodes (s.nodes.setIfInBounds i' { n' with router := some (.sw r') }) := NExt.set hp.rnode rfl
  have hr := ht _ hext (hd.dest.ext hext)
  refine ⟨M, fun _ => rfl, rfl, rfl, ?_, hext, fun _ _ => rfl⟩
  refine Rel.update_at h (newEdge tgt cond j) rfl hj.lt hj.row hj.owns hd.ok i' (by simp [idxs, hro]) hext
    (fun i hi => Array.getElem?_setIfInBounds_ne hi.symm) rfl rfl rfl rfl (Nat.le_add_right _ _) ?_ (getElem?_set_self_of_some _ hp.rnode)
    (fun _ hr => nomatch hr)
  · refine ⟨n, by rw [Array.getElem?_setIfInBounds_ne hne]; exact hj.node, ?_⟩
    rw [hro]
    exact .impl i' { n' with router := some (.sw r') } r' hk ⟨hp.kind, hp.router, hp.acts, hp.link,
      getElem?_set_self_of_some _ hp.rnode, hp.kind', hp.acts', rfl,
      by rw [hop]; unfold implOperand; rw [hiv], by rw [hrn]; exact hp.rname, by rw [hw, hp.wait]; unfold implWait; rw [hiv],
      by rw [hnr']; exact hp.noResp, hr.cases, hr.casecat, hr.catd, hr.dflt,
      by rw [tests_append (K := .action) (by decide) _ (newEdge tgt cond j) he]; simp, hr.names.1, by rw [hdf]; exact hp.names.2⟩

/-- the state after the router node has been created behind the node of row `j` and has been given
its first case, described by what matters -/
theorem impl_first_post (hro : M.rOf j = none) (hp : PlainSim M s.nodes n c.row.action (postUpTo rows kg j) (outOf st j))
    (he : cond.blank = false) (ns' : Array NodeM) (nx : Nat) (rn0 n2 rn2 : NodeM) (rr : SwitchR)
    (hnodes : ns' = ((s.nodes.push rn0).setIfInBounds (M.nOf j) n2).setIfInBounds s.nodes.size rn2) (hnx : s.next ≤ nx)
    (h2u : n2.uid = n.uid) (h2k : n2.kind = n.kind) (h2a : n2.actions = n.actions) (h2r : n2.router = n.router)
    (h2d : n2.dexitDest = Dest.node rn2.uid)
    (hrk : rn2.kind = NodeKind.switch) (hra : rn2.actions = []) (hrr : rn2.router = some (.sw rr))
    (hop : rr.operand = (owOf cond).1) (hwt : rr.wait = (owOf cond).2) (hrn : rr.resultName = none) (hnr : rr.noResp = none)
    (hdn : rr.dflt.name = "Other".toList)
    (ht : ∀ ns', NExt s.nodes ns' → DestIs M ns' d (some tgt) →
      RouterSim M ns' .action (timeoutOf c.row) (outOf st j ++ [newEdge tgt cond j]) rr) :
    EdgePost' rows M pd kg tgt cond s st j ⟨⟩
      { s with nodes := ns', groups := s.groups.setIfInBounds (gOf rows j) (.row [M.nOf j, s.nodes.size] c.row.type),
               next := nx } := by
  have hg := h.grp j c hj.lt hj.row hj.owns.1 (action_not_noop hk)
  have hgl : gOf rows j < s.groups.size := lt_size_of_getElem? hg
  have hnl : M.nOf j < s.nodes.size := lt_size_of_getElem? hj.node
  have hvj : Valid rows M pd kg j c := ⟨.inl hj.lt, hj.row, hj.owns⟩
  have hn2 : ns'[M.nOf j]? = some n2 := by
    rw [hnodes]
    have h1 : ¬ (s.nodes.size = M.nOf j) := by omega
    have h2 : M.nOf j < s.nodes.size + 1 := by omega
    simp [Array.size_setIfInBounds, Array.size_push, h1, h2]
  have hrn2 : ns'[s.nodes.size]? = some rn2 := by
    rw [hnodes]
    simp only [Array.getElem?_setIfInBounds, Array.size_setIfInBounds, Array.size_push]
    simp
  have hoth : ∀ k, k ≠ M.nOf j → k ≠ s.nodes.size → ns'[k]? = s.nodes[k]? := by
    intro k hk1 hk2
    rw [hnodes]
    simp only [Array.getElem?_setIfInBounds, Array.size_setIfInBounds, Array.size_push]
    rw [if_neg (fun e => hk2 e.symm), if_neg (fun e => hk1 e.symm), Array.getElem?_push, if_neg hk2]
  have hMrj : (behindM M j s.nodes.size).rOf j = some s.nodes.size := if_pos rfl
  have hMro : ∀ t, t ≠ j → (behindM M j s.nodes.size).rOf t = M.rOf t := fun t ht => if_neg ht
  have hext : NExt s.nodes ns' := by
    intro i m hm
    by_cases hij : i = M.nOf j
    · subst hij; rw [hj.node] at hm; injection hm with hm; subst hm; exact ⟨n2, hn2, h2u⟩
    · have : i < s.nodes.size := lt_size_of_getElem? hm
      exact ⟨m, by rw [hoth i hij (by omega)]; exact hm, rfl⟩
  -- rows other than `j` have other groups; a `no_op` row is another row
  have hgne : ∀ j0 c0, rows[j0]? = some c0 → isNodeRow c0 = true → j0 ≠ j → gOf rows j ≠ gOf rows j0 :=
    fun j0 c0 hc0 hn0 hjj e => hjj (gOf_inj rows hj.row hc0 hj.owns.1 hn0 e).symm
  have hnej : ∀ j0 c0, rows[j0]? = some c0 → isNoop c0 = true → j0 ≠ j := by
    rintro j0 c0 hc0 hn0 rfl
    obtain rfl : c = c0 := Option.some.inj (hj.row.symm.trans hc0)
    rw [action_not_noop hk] at hn0; cases hn0
  have how := ow_impl cond (outOf st j ++ [newEdge tgt cond j]) (implVar_first _ (newEdge tgt cond j) hp.blank he)
  have hr := ht _ hext (hd.dest.ext hext)
  -- the arena: the step is local to row `j`, which gets a second node beyond the earlier arena
  obtain ⟨hnodes', hdisj'⟩ := h.local (M' := behindM M j s.nodes.size) (pd' := pd) (kg' := kg) j ns'
    { st with out := newEdge tgt cond j :: st.out }
    (fun _ _ hv _ => hv) (fun _ _ => rfl) hMro hext
    (fun j0 c0 hv hjj i hi => hoth i (fun e => hjj (h.disj j0 c0 j c hv hvj i hi (by rw [e]; simp [idxs])))
      (Nat.ne_of_lt (h.idx_lt hv i hi)))
    (fun _ _ _ _ => rfl) (fun j0 hjj => outOf_cons_other st _ j0 (fun e => hjj e.symm)) (fun _ _ _ _ => rfl)
    (fun c0 hv => by
      obtain rfl : c = c0 := Option.some.inj (hj.row.symm.trans hv.2.1)
      refine ⟨n2, hn2, ?_⟩
      rw [outOf_cons_same st (newEdge tgt cond j), hMrj]
      exact .impl s.nodes.size rn2 rr hk ⟨by rw [h2k]; exact hp.kind, by rw [h2r]; exact hp.router,
        by rw [h2a]; exact hp.acts, h2d, hrn2, hrk, hra, hrr, by rw [hop, how], hrn, by rw [hwt, how], hnr, hr.cases,
        hr.casecat, hr.catd.imp (fun _ _ hd => hd.congrN (fun _ => rfl)), hr.dflt.congrN (fun _ => rfl),
        by rw [tests_append (K := .action) (by decide) _ (newEdge tgt cond j) he]; simp, hr.names.1, hdn⟩)
    (fun c0 hv x hx => by
      change x ∈ M.nOf j :: ((behindM M j s.nodes.size).rOf j).toList at hx
      simp only [hMrj, Option.toList, List.mem_cons, List.not_mem_nil, or_false] at hx
      rcases hx with rfl | rfl
      · exact .inl ⟨hv, by simp [idxs]⟩
      · exact .inr (Nat.le_refl _))
  refine ⟨behindM M j s.nodes.size, fun _ => rfl, rfl, rfl, ?_, hext, fun g0 hg0 => by
    simp only [Array.getElem?_setIfInBounds, if_neg (Ne.symm hg0)]⟩
  refine { h with
    gsize := by simpa using h.gsize
    root := by simp only [Array.getElem?_setIfInBounds, if_neg (Nat.ne_of_gt (gOf_pos rows j))]; exact h.root
    grp := fun j0 c0 hj0 hc0 hn0 hnn0 => ?_
    grpN := fun j0 c0 hj0 hc0 hnn0 => ?_
    tgtfr := List.forall_mem_cons.mpr ⟨fun t ht => (hd.ok t ht).2, h.tgtfr⟩
    srcok := List.forall_mem_cons.mpr ⟨⟨hj.lt, c, hj.row, hj.owns.1⟩, h.srcok⟩
    tgtok := List.forall_mem_cons.mpr ⟨fun t ht => (hd.ok t ht).1, h.tgtok⟩
    node := hnodes', disj := hdisj'
    rne := fun j1 i' hi' => ?_
    rnone := fun j1 hj1 => by rw [hMro j1 (Nat.ne_of_gt (Nat.lt_of_lt_of_le hj.lt hj1))]; exact h.rnone j1 hj1
    rnoop := fun j1 c1 hc1 hn1 => by rw [hMro j1 (hnej j1 c1 hc1 hn1)]; exact h.rnoop j1 c1 hc1 hn1
    rfresh := RFresh.step h.rfresh hnx (fun i m hm => ?_) }
  · simp only [Array.getElem?_setIfInBounds]
    by_cases hjj : j0 = j
    · subst hjj
      obtain rfl : c = c0 := Option.some.inj (hj.row.symm.trans hc0)
      rw [if_pos rfl, if_pos hgl, hMrj]; rfl
    · rw [if_neg (hgne j0 c0 hc0 hn0 hjj), hMro j0 hjj]
      exact h.grp j0 c0 hj0 hc0 hn0 hnn0
  · simp only [Array.getElem?_setIfInBounds]
    rw [if_neg (hgne j0 c0 hc0 (isNodeRow_of_noop hnn0) (hnej j0 c0 hc0 hnn0))]
    exact h.grpN j0 c0 hj0 hc0 hnn0
  · by_cases h1 : j1 = j
    · subst h1; rw [hMrj] at hi'; injection hi' with hi'; rw [← hi']; exact Nat.ne_of_gt hnl
    · rw [hMro j1 h1] at hi'; exact h.rne j1 i' hi'
  · by_cases hi1 : i = M.nOf j
    · subst hi1; rw [hn2] at hm; injection hm with hm; subst hm
      exact .inl ⟨n, hj.node, h2r.symm⟩
    · by_cases hi2 : i = s.nodes.size
      · subst hi2; rw [hrn2] at hm; injection hm with hm; subst hm
        exact .inr (fun r hr => by rw [hrr] at hr; cases hr)
      · exact .inl ⟨m, by rw [← hoth i hi1 hi2]; exact hm, rfl⟩

theorem impl_first_sim (hro : M.rOf j = none) (hp : PlainSim M s.nodes n c.row.action (postUpTo rows kg j) (outOf st j))
    (he : cond.blank = false) (hnew : NewTest .action (timeoutOf c.row) (outOf st j) (newEdge tgt cond j)) :
    wp (rowExitCond (gOf rows j) [M.nOf j] c.row.type (M.nOf j) n d cond) s (EdgePost' rows M pd kg tgt cond s st j) := by
  have post := impl_first_post h hj hk hd hro hp he
  unfold rowExitCond
  simp only [hp.kind, if_true, type_group, type_value, hk, reduceCtorEq, false_or, if_false]
  have how : (if ¬ cond.var.isEmpty = true then (cond.var, (none : Option Nat)) else ("@input.text".toList, some 0)) = owOf cond := rfl
  rw [how]
  obtain ⟨op, w, how2, hopne, hw⟩ := owOf_cases cond
  rw [how2] at post ⊢
  simp only at post ⊢
  wp_simp
  unfold routerBehind
  wp_simp [wp_fresh]
  refine ⟨fun _ => trivial, fun _ => ?_⟩
  have hsw : ∀ Q, wp (newSwitch op none w) { s with next := s.next + 1 } Q ↔
      Q { operand := op, cases := [], cats := [],
          dflt := { uid := tid (s.next + 1), name := "Other".toList, exitUid := tid (s.next + 1 + 1), dest := .none },
          noResp := none, wait := w, resultName := none } { s with next := s.next + 1 + 2 } := by
    intro Q
    rw [wp_newSwitch]
    rcases hw with rfl | rfl <;> rfl
  rw [hsw]
  rw [wp_newRouterNode]
  wp_simp [wp_attachRowNode, wp_setNode]
  rw [wp_nodeAddChoice_sw rfl]
  simp only [SwitchR.setDflt]
  have hstored := stored_test_plain .action (by decide) cond
  rw [← h.args] at hstored
  -- the fresh switch, which has inherited the exit of the node, mirrors the out-edges so far: all unconditional
  have hnil := tests_action_nil _ hp.blank
  refine addChoice_test (M := M) (ns := s.nodes) ?_ he (.inr ⟨by decide, ?_⟩) ?_ (args_plain .action (by decide) cond) hnew ?_
  · exact ⟨by rw [hnil]; rfl, rfl, by rw [hnil]; exact .nil, by rw [List.filter_eq_self.mpr hp.blank]; exact hp.dest,
      fun nr hnr => (nomatch hnr), by rw [hnil]; rfl, by rw [baseNames_plain .action (by decide)]; rfl⟩
  · rfl
  · exact hstored
  intro r' hop hdf hnr' hw hrn ht
  wp_simp [wp_setNode]
  rw [hopne, if_neg Bool.false_ne_true] at hop
  exact post _ _ _ _ _ r' rfl (by omega) rfl rfl rfl rfl rfl rfl rfl rfl hop hw hrn hnr' (by rw [hdf]) ht

end
end Rpft.CoreSheet
