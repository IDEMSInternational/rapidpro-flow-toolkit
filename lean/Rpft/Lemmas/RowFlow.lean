/-
Helper definitions and lemmas for Props/C07.lean and Props/C09.lean: the flow schema's tables
with their literals decoded and the side conditions evaluated on them, its context remap, the
indexed edge headers.
-/
import Rpft.Lemmas.RowStar
import Rpft.FlowSchema
namespace Rpft.Row
open Rpft

def msgHdr : Str := "message_text".toList
def typeCol : Str := "type".toList
def edgesS : Str := "edges".toList

/-- the header `edges.k.b` -/
def idxKey (k : Nat) (b : Str) : Str := edgesS ++ '.' :: (printNat k ++ '.' :: b)

/-- the sub-headers of an edge reachable through the short headers -/
def edgeLeaves : List Str :=
  ["from_".toList, "condition.value".toList, "condition.variable".toList, "condition.type".toList,
   "condition.name".toList]

/-! ### the tables with their string literals decoded

Evaluating `"…".toList` the kernel decodes the UTF-8 bytes of the literal; in a kernel-evaluated
fact about the tables that is most of the work, and every such proof does it again.
`String.toList_ofList` rewrites a literal to its character list outright.  So each table `x` comes
with `xD : { t // x = t }`: the witness is not written out but left to the proof (`⟨_, by …⟩`), which
unfolds `x` and rewrites its literals, so that `xD.1` is `x` with character lists for literals.  A
proof by evaluation first rewrites the tables with the equations `xD.2` (`flow_decode`) and then
evaluates the decoded ones. -/

/-- rewrite every `"…".toList` in the goal to the character list.  (`conv` reaches the literals by
congruence; `rewrite` would abstract them from the whole goal, and where the goal has a `match` on a
computed value the kernel compares the two sides of that step by evaluating them.) -/
macro "decode_literals" : tactic =>
  `(tactic| conv in (occs := *) String.toList _ => all_goals try rw [String.toList_ofList])

def flowRowFieldsD : { t // flowRowFields = t } :=
  ⟨_, by
    simp only [flowRowFields, sfield, lfield, afield, waTy, waFields, waDefault, webhookTy,
      webhookFields, webhookDefault, edgeTy, edgeFields, conditionTy, conditionFields,
      conditionDefault, pairsS, List.map]
    decode_literals⟩

def flowF2HD : { t // flowF2H = t } :=
  ⟨_, by
    simp only [flowF2H, pairsS, List.map]
    decode_literals⟩

def flowBasicHeadersD : { t // flowBasicHeaders = t } :=
  ⟨_, by
    simp only [flowBasicHeaders, pairsS, List.map]
    decode_literals⟩

def flowMainArgD : { t // flowMainArg = t } :=
  ⟨_, by
    simp only [flowMainArg, pairsS, List.map]
    decode_literals⟩

def msgHdrD : { t // msgHdr = t } := ⟨_, String.toList_ofList⟩
def typeColD : { t // typeCol = t } := ⟨_, String.toList_ofList⟩
def edgesSD : { t // edgesS = t } := ⟨_, String.toList_ofList⟩

def edgeLeavesD : { t // edgeLeaves = t } :=
  ⟨_, by
    unfold edgeLeaves
    decode_literals⟩

/-- rewrite the flow schema and its tables to their decoded forms -/
macro "flow_decode" : tactic =>
  `(tactic| simp only [flowRowSchema, flowRowTy, flowRowFieldsD.2, flowF2HD.2, flowBasicHeadersD.2,
      flowMainArgD.2, msgHdrD.2, typeColD.2, edgesSD.2, edgeLeavesD.2])

/-- side conditions on `basic_header_dict` and `row_type_to_main_arg` (re-checked against the
regenerated tables on every run): lookups find the listed value, long forms and main arguments are
not themselves remapped and differ from the type column, the keys of `row_type_to_main_arg` are
trimmed (so the trimmed type cell is looked up as written), `message_text` is not a short header -/
theorem flow_ctx_static :
    (∀ p ∈ flowBasicHeaders, alookup p.1 flowBasicHeaders = some p.2 ∧
      alookup p.2 flowBasicHeaders = none ∧ p.2 ≠ msgHdr ∧ p.1 ≠ typeCol ∧ p.2 ≠ typeCol) ∧
    (∀ p ∈ flowMainArg, alookup p.1 flowMainArg = some p.2 ∧ strip pyWs p.1 = p.1 ∧
      alookup p.2 flowBasicHeaders = none ∧ p.2 ≠ msgHdr ∧ p.2 ≠ typeCol) ∧
    alookup msgHdr flowBasicHeaders = none ∧ msgHdr ≠ typeCol := by
  flow_decode
  decide +kernel

theorem flow_main : flowRowSchema.ctxMain = some (msgHdr, typeCol, flowMainArg) := rfl

theorem flow_main_inj {hd tcol : Str} {tb : List (Str × Str)}
    (hm : flowRowSchema.ctxMain = some (hd, tcol, tb)) :
    hd = msgHdr ∧ tcol = typeCol ∧ tb = flowMainArg := by
  simpa only [flow_main, Option.some.injEq, Prod.mk.injEq, eq_comm] using hm

theorem flow_ctxRemap_id (d : List (Str × Str)) {k : Str} (h1 : alookup k flowBasicHeaders = none)
    (h2 : k ≠ msgHdr) : ctxRemap flowRowSchema d k = .ok k :=
  ctxRemap_id _ _ _ h1 fun _ _ _ hm => (flow_main_inj hm).1 ▸ h2

theorem edge_keyChars :
    (∀ c ∈ edgesS, keyChar c = true ∧ c ≠ '.') ∧ keyChar '.' = true ∧
    ∀ b ∈ edgeLeaves, ∀ c ∈ b, keyChar c = true := by
  flow_decode
  decide +kernel

theorem star_key (k : Nat) {b : Str} (hb : b ∈ edgeLeaves) :
    replace1 '*' (printNat k) ("edges.*.".toList ++ b) = idxKey k b := by
  have hnb : '*' ∉ b := fun hm => by simpa [keyChar] using edge_keyChars.2.2 b hb _ hm
  rw [String.toList_ofList, Cell.replace1_append, replace1_noOcc _ _ b hnb]
  simp [replace1, idxKey, edgesSD.2, edgesSD]

end Rpft.Row
