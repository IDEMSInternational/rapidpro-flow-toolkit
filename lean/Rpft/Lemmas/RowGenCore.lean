/-
The general round trip (C07 `parse_unparse`): header paths (`pathStr`, `keyOf`), the local view
of `parse_entry` at a position of the schema (`pstep` / `pfold`), `find_entry` one segment at a time
(`slot`, `findSet_cons`) and the focus lemmas that push a column `name.rest` through one level of it
(record field, list index); at the root `parse_entry` is `pstep` on the path of the header
(`parse_fold_congr`).
-/
import Rpft.Lemmas.RowAny
namespace Rpft.Row
open Rpft

/-! ### header paths -/

/-- the prefix string `unparse_row_recurse` carries for a position: `.seg1.seg2…` -/
def pathStr : List Str → Str
  | [] => []
  | s :: r => '.' :: (s ++ pathStr r)

/-- the column header of a position -/
def keyOf (p : List Str) : Str := trimPrefix (pathStr p)

theorem pathStr_append (a b : List Str) : pathStr (a ++ b) = pathStr a ++ pathStr b := by
  induction a with
  | nil => rfl
  | cons s r ih => simp [pathStr, ih]

theorem pathStr_snoc (a : List Str) (m : Str) : pathStr (a ++ [m]) = pathStr a ++ '.' :: m := by
  rw [pathStr_append]; simp [pathStr]

theorem idxPrefix_pathStr (a : List Str) (i : Nat) :
    idxPrefix (pathStr a) i = pathStr (a ++ [printNat i]) := by
  rw [pathStr_snoc]; rfl

theorem keyOf_cons (s : Str) (r : List Str) : keyOf (s :: r) = s ++ pathStr r := by
  simp [keyOf, pathStr, trimPrefix]

theorem splitDot_keyOf : ∀ (r : List Str) (s : Str), SegOk s → (∀ x ∈ r, SegOk x) →
    splitDot (keyOf (s :: r)) = s :: r
  | [], s, hs, _ => by
    rw [keyOf_cons]; simp only [pathStr, List.append_nil]
    exact splitDot_simple s (segOk_no_dot hs)
  | t :: r, s, hs, hr => by
    have ih := splitDot_keyOf r t (hr t (by simp)) (fun x hx => hr x (List.mem_cons_of_mem _ hx))
    rw [keyOf_cons] at ih ⊢
    simp only [pathStr]
    rw [splitDot_append s _ (segOk_no_dot hs), ih]

theorem pathStr_keyChar : ∀ (p : List Str), (∀ x ∈ p, SegOk x) → ∀ c ∈ pathStr p, keyChar c = true
  | [], _, c, hc => by simp [pathStr] at hc
  | s :: r, h, c, hc => by
    simp only [pathStr, List.mem_cons, List.mem_append] at hc
    rcases hc with rfl | hc | hc
    · decide
    · exact segOk_keyChar (h s (by simp)) c hc
    · exact pathStr_keyChar r (fun x hx => h x (List.mem_cons_of_mem _ hx)) c hc

theorem keyOf_keyChar (p : List Str) (h : ∀ x ∈ p, SegOk x) : ∀ c ∈ keyOf p, keyChar c = true :=
  fun c hc => pathStr_keyChar p h c (by cases p <;> simp_all [keyOf, pathStr, trimPrefix])

/-- the path of a written header is read back by `parse_entry` -/
theorem colPath_keyOf (p : List Str) (hne : p ≠ []) (h : ∀ x ∈ p, SegOk x) :
    splitDot (getFieldName (keyOf p)) = p := by
  rw [getFieldName_key _ (keyOf_keyChar p h)]
  cases p with
  | nil => exact absurd rfl hne
  | cons s r => exact splitDot_keyOf r s (h s (by simp)) (fun x hx => h x (List.mem_cons_of_mem _ hx))

theorem keyOf_inj {p q : List Str} (hp : p ≠ []) (hq : q ≠ []) (h1 : ∀ x ∈ p, SegOk x)
    (h2 : ∀ x ∈ q, SegOk x) (h : keyOf p = keyOf q) : p = q := by
  rw [← colPath_keyOf p hp h1, ← colPath_keyOf q hq h2, h]

theorem takeWhile_seg {m : Str} (hm : ∀ c ∈ m, c ≠ '.') (r : List Str) :
    (m ++ pathStr r).takeWhile (· ≠ '.') = m := by
  cases r with
  | nil =>
    simp only [pathStr, List.append_nil]
    exact takeWhile_all _ _ fun c hc => by simpa using hm c hc
  | cons t r => exact takeWhile_append_dot m _ hm

theorem headSeg_keyOf {n : Str} (hn : simpleName n = true) (r : List Str) :
    headSeg (keyOf (n :: r)) = n := by
  rw [keyOf_cons]; exact takeWhile_seg (segOk_no_dot (segOk_simple hn)) r

theorem pathStr_head_inj {m m' : Str} {r r' : List Str} (hm : SegOk m) (hm' : SegOk m')
    (h : pathStr (m :: r) = pathStr (m' :: r')) : m = m' := by
  simp only [pathStr, List.cons.injEq, true_and] at h
  rw [← takeWhile_seg (segOk_no_dot hm) r, ← takeWhile_seg (segOk_no_dot hm') r', h]

/-- `out` holds no column at or below the position `segs` -/
def Fresh (segs : List Str) (out : Out) : Prop :=
  ∀ kv ∈ out, ∀ r, kv.1 ≠ keyOf (segs ++ r)

theorem fresh_absent {segs : List Str} {out : Out} (h : Fresh segs out) :
    alookup (keyOf segs) out = none := by
  rw [alookup_none_iff]
  intro hm
  obtain ⟨kv, hkv, e⟩ := List.mem_map.mp hm
  exact h kv hkv [] (by simpa using e)

theorem fresh_child {segs : List Str} {out : Out} (h : Fresh segs out) (m : Str) :
    Fresh (segs ++ [m]) out := by
  intro kv hkv r
  have := h kv hkv (m :: r)
  simpa using this

theorem keyOf_append_inj {segs : List Str} {a b : List Str} (hne : segs ≠ [])
    (h : keyOf (segs ++ a) = keyOf (segs ++ b)) : pathStr a = pathStr b := by
  cases segs with
  | nil => exact absurd rfl hne
  | cons s r =>
    simp only [List.cons_append, keyOf_cons, pathStr_append] at h
    exact List.append_cancel_left (List.append_cancel_left h)

theorem fresh_append {segs : List Str} {a b : Out} (ha : Fresh segs a) (hb : Fresh segs b) :
    Fresh segs (a ++ b) := by
  intro kv hkv
  rcases List.mem_append.mp hkv with h | h
  · exact ha kv h
  · exact hb kv h

/-! ### `parse_entry` seen from a position -/

/-- the effect of one column on the tree `t` of a position of type `ty`; `c.1` is the path
below the position (`[]`: the column is the cell of the position itself) -/
def pstep (ty : Ty) (t : Tree) (c : List Str × ColVal) : Except Err Tree :=
  match c.1 with
  | [] =>
    match leafFn c.2 ty with
    | .error e => .error e
    | .ok (some x) => .ok x
    | .ok none => .ok t
  | seg :: rest => findSet (leafFn c.2) ty (initChild ty t) (seg :: rest)

def pfold (ty : Ty) : Tree → List (List Str × ColVal) → Except Err Tree := foldE (pstep ty)

/-- prefix every column path with one more segment -/
def prep (p : Str) (cs : List (List Str × ColVal)) : List (List Str × ColVal) :=
  cs.map fun c => (p :: c.1, c.2)

theorem initChild_dict (ty : Ty) (kvs : List (Str × Tree)) : initChild ty (.dict kvs) = .dict kvs := rfl
theorem initChild_list (ty : Ty) (xs : List Tree) : initChild ty (.list xs) = .list xs := rfl

/-! ### `find_entry`, one segment at a time -/

/-- the list after the placeholder rule of `find_entry`: index `len` appends a `None` -/
def grow (xs : List Tree) (idx : Int) : List Tree :=
  if (xs.length : Int) ≤ idx then xs ++ [Tree.none] else xs

/-- the slot of `out` that the path segment `seg` selects at a position of type `ty`: the type of
the child, the tree that stands there (`None` for a slot `find_entry` has just created), and how
the new tree of the child is put back -/
def slot (ty : Ty) (out : Tree) (seg : Str) : Except Err (Ty × Tree × (Tree → Tree)) :=
  if isListTy ty then
    match out with
    | .list xs =>
      match pyInt seg with
      | none => .error .badIndex
      | some n =>
        if (xs.length : Int) ≤ n - 1 ∧ (xs.length : Int) ≠ n - 1 then .error .assertion
        else
          match pyIndex (grow xs (n - 1)).length (n - 1) with
          | none => .error .badIndex
          | some key => .ok (listChild ty, (grow xs (n - 1)).getD key .none,
              fun t => .list ((grow xs (n - 1)).set key t))
    | _ => .error .illTyped
  else
    match ty with
    | .model fs h2f _ =>
      match out with
      | .dict kvs =>
        match fieldLookup (remap h2f seg) fs with
        | none => .error .noField
        | some f => .ok (f.2.1, (alookup (remap h2f seg) kvs).getD .none,
            fun t => .dict (aset (remap h2f seg) t (ensureKey (remap h2f seg) kvs)))
      | _ => .error .illTyped
    | _ => .error .assertion

theorem set_getD_self {α : Type} (d : α) : ∀ (xs : List α) (k : Nat), xs.set k (xs.getD k d) = xs
  | [], _ => rfl
  | x :: xs, 0 => rfl
  | x :: xs, k + 1 => by simpa using set_getD_self d xs k

/-- the column acts on the slot its first segment selects as the rest of its path acts on the
child; the only proof that unfolds `findSet`: by the cases of `slot` -/
theorem findSet_cons (cv : ColVal) (ty : Ty) (out : Tree) (seg : Str) (rest : List Str) :
    findSet (leafFn cv) ty out (seg :: rest) =
      match slot ty out seg with
      | .error e => .error e
      | .ok r => (pstep r.1 r.2.1 (rest, cv)).map r.2.2 := by
  conv => lhs; unfold findSet
  fun_cases slot ty out seg <;> simp only [grow] at *
  -- the two slots: at a list index, at a record field
  case case4 | case7 =>
    simp only [*, if_true, if_false, Bool.false_eq_true]
    cases rest with
    | cons s r =>
      simp only [pstep, alookup_ensureKey, if_true, Option.getD_some]
      cases findSet (leafFn cv) _ _ (s :: r) <;> rfl
    | nil =>
      simp only [pstep]
      cases leafFn cv _ with
      | error e => rfl
      | ok r =>
        cases r with
        | some t => rfl
        -- a skipped assignment leaves the slot as it is
        | none => simp only [Except.map, set_getD_self, aset_ensureKey_self]; rfl
  all_goals simp [*]

theorem pstep_cons (cv : ColVal) (ty : Ty) (t : Tree) (seg : Str) (rest : List Str) :
    pstep ty t (seg :: rest, cv) =
      match slot ty (initChild ty t) seg with
      | .error e => .error e
      | .ok r => (pstep r.1 r.2.1 (rest, cv)).map r.2.2 :=
  findSet_cons cv ty (initChild ty t) seg rest

theorem slot_model (fs : List Field) (h2f f2h : List (Str × Str)) (kvs : List (Str × Tree)) (seg : Str) :
    slot (.model fs h2f f2h) (.dict kvs) seg =
      match fieldLookup (remap h2f seg) fs with
      | none => .error .noField
      | some f => .ok (f.2.1, (alookup (remap h2f seg) kvs).getD .none,
          fun t => .dict (aset (remap h2f seg) t (ensureKey (remap h2f seg) kvs))) := rfl

/-- at a list: the slot of the last element (`cur = some t0`) or of the next index (`cur = none`) -/
theorem slot_list {lty : Ty} (hl : isListTy lty = true) (ts : List Tree) (cur : Option Tree) :
    slot lty (.list (ts ++ cur.toList)) (printNat (ts.length + 1)) =
      .ok (listChild lty, cur.getD .none, fun t => .list (ts ++ [t])) := by
  have h1 : (Int.ofNat (ts.length + 1) : Int) - 1 = (ts.length : Int) := by simp
  have hg : grow (ts ++ cur.toList) ts.length = ts ++ [cur.getD .none] := by
    cases cur <;> simp [grow] <;> omega
  have hx : ¬ (((ts ++ cur.toList).length : Int) ≤ ts.length ∧ ((ts ++ cur.toList).length : Int) ≠ ts.length) := by
    cases cur <;> simp [Option.toList] <;> omega
  have h3 : pyIndex (ts.length + 1) (ts.length : Int) = some ts.length := by simp [pyIndex]
  unfold slot
  simp only [hl, if_true, pyInt_printNat, h1]
  rw [if_neg hx, hg]
  simp only [List.length_append, List.length_singleton, h3]
  simp

theorem fieldLookup_fst : ∀ (fs : List Field) (k : Str) (f : Field),
    fieldLookup k fs = some f → f.1 = k
  | [], _, _, h => by simp [fieldLookup] at h
  | g :: fs, k, f, h => by
    simp only [fieldLookup] at h
    split at h
    · rename_i hk; cases h; exact hk
    · exact fieldLookup_fst fs k f h

/-- the tree after the columns of field `n` seen so far: no entry yet, or `n ↦ t` at the end -/
def st (kvs : List (Str × Tree)) (n : Str) : Option Tree → List (Str × Tree)
  | none => kvs
  | some t => kvs ++ [(n, t)]

theorem alookup_st {acc : List (Str × Tree)} {n : Str} (hk : alookup n acc = none)
    (cur : Option Tree) : alookup n (st acc n cur) = cur := by
  cases cur with
  | none => simpa [st] using hk
  | some t => simp [st, alookup_append, hk, alookup]

theorem ensureKey_st {acc : List (Str × Tree)} {n : Str} (hk : alookup n acc = none)
    (cur : Option Tree) : ensureKey n (st acc n cur) = st acc n (some (cur.getD .none)) := by
  cases cur with
  | none => simp [ensureKey, st, hk, aset_of_absent Tree.none hk]
  | some t => simp [ensureKey, alookup_st hk (some t)]

theorem aset_st {acc : List (Str × Tree)} {n : Str} (hk : alookup n acc = none) (t x : Tree) :
    aset n x (st acc n (some t)) = st acc n (some x) := by
  simp [st, aset_last t x hk]

/-- the segment `m` focuses the container `K cur` of type `cty` (`cur`: the tree of its child so far)
on the child, of type `ty`: a column `m.rest` acts on the container as `rest` acts on the child -/
def Focus (cty ty : Ty) (m : Str) (K : Option Tree → Tree) : Prop :=
  ∀ cur c, pstep cty (K cur) (m :: c.1, c.2) = (pstep ty (cur.getD .none) c).map fun tr => K (some tr)

theorem focus_model {fs : List Field} {h2f : List (Str × Str)} (f2h : List (Str × Str))
    {acc : List (Str × Tree)} {p n : Str} {ty : Ty} {d : Option Val} (hn : remap h2f p = n)
    (hf : fieldLookup n fs = some (n, ty, d)) (hk : alookup n acc = none) :
    Focus (.model fs h2f f2h) ty p fun cur => .dict (st acc n cur) := by
  intro cur c
  rw [pstep_cons, initChild_dict, slot_model]
  simp only [hn, hf, alookup_st hk, ensureKey_st hk, aset_st hk]

theorem focus_list {lty : Ty} (hl : isListTy lty = true) (ts : List Tree) :
    Focus lty (listChild lty) (printNat (ts.length + 1)) fun cur => .list (ts ++ cur.toList) := by
  intro cur c
  rw [pstep_cons, initChild_list, slot_list hl]
  rfl

theorem Focus.block {cty ty : Ty} {m : Str} {K : Option Tree → Tree} (h : Focus cty ty m K) :
    ∀ (cs : List (List Str × ColVal)) (c : List Str × ColVal) (cur : Option Tree),
      pfold cty (K cur) (prep m (c :: cs)) =
        (pfold ty (cur.getD .none) (c :: cs)).map fun tr => K (some tr) := by
  intro cs
  induction cs with
  | nil =>
    intro c cur
    simp only [pfold, prep, List.map_cons, List.map_nil, foldE]
    rw [h cur c]
    cases pstep ty (cur.getD Tree.none) c <;> rfl
  | cons c' cs ih =>
    intro c cur
    have ih' := ih c'
    simp only [pfold, prep, List.map_cons, foldE] at ih' ⊢
    rw [h cur c]
    cases pstep ty (cur.getD Tree.none) c with
    | error e => rfl
    | ok tr => exact ih' (some tr)

/-- the first column of a position creates its container -/
theorem pstep_none (ty : Ty) {c : List Str × ColVal} (hne : c.1 ≠ []) :
    pstep ty .none c = pstep ty (initChild ty .none) c := by
  obtain ⟨path, cv⟩ := c
  cases path with
  | nil => exact absurd rfl hne
  | cons seg rest =>
    simp only [pstep]
    cases ty <;> simp [initChild, isListTy, isModelTy]

theorem pfold_none {ty : Ty} : ∀ {cs : List (List Str × ColVal)}, cs ≠ [] → (∀ c ∈ cs, c.1 ≠ []) →
    pfold ty .none cs = pfold ty (initChild ty .none) cs
  | [], hne, _ => absurd rfl hne
  | c :: cs, _, h => by
    simp only [pfold, foldE]
    rw [pstep_none ty (h c (by simp))]

theorem pfold_append (ty : Ty) (t : Tree) (a b : List (List Str × ColVal)) :
    pfold ty t (a ++ b) = (match pfold ty t a with
      | .error e => .error e
      | .ok t' => pfold ty t' b) := by
  unfold pfold; rw [foldE_append]; cases foldE (pstep ty) t a <;> rfl

/-! ### `parse_entry` at the root is `pstep` on the path of the header -/

theorem findSet_model_dict {cv : ColVal} {fs : List Field}
    {h2f f2h : List (Str × Str)} {kvs : List (Str × Tree)} {seg : Str} {rest : List Str} {t : Tree}
    (h : findSet (leafFn cv) (.model fs h2f f2h) (.dict kvs) (seg :: rest) = .ok t) :
    ∃ kvs', t = .dict kvs' := by
  rw [findSet_cons, slot_model] at h
  cases hf : fieldLookup (remap h2f seg) fs with
  | none => simp [hf] at h
  | some f =>
    simp only [hf] at h
    cases hp : pstep f.2.1 ((alookup (remap h2f seg) kvs).getD .none) (rest, cv) with
    | error e => simp [hp, Except.map] at h
    | ok tr => simp [hp, Except.map] at h; exact ⟨_, h.symm⟩

/-- The columns of a row, read by `parse_entry` under headers `g (keyOf path)`, act on the root
dictionary as `pstep` along their paths: `g` (the context remap) may rename the first segment
`a` of a path to `pn`, provided the root's header→field table `h2f` sends `pn` where the table
`h2f'` sends `a`. -/
theorem parse_fold_congr (fs : List Field) (h2f h2f' f2h : List (Str × Str)) (g : Str → Str) :
    ∀ (cs : List (List Str × ColVal)) (acc : List (Str × Tree)),
      (∀ c ∈ cs, ∃ a pn r, c.1 = a :: r ∧ g (keyOf c.1) = keyOf (pn :: r) ∧ SegOk pn ∧
        (∀ s ∈ r, SegOk s) ∧ remap h2f pn = remap h2f' a) →
      foldE (parseEntry (.model fs h2f f2h)) (.dict acc) (cs.map fun c => (g (keyOf c.1), c.2)) =
        pfold (.model fs h2f' f2h) (.dict acc) cs
  | [], acc, _ => by simp [foldE, pfold]
  | c :: cs, acc, h => by
    obtain ⟨a, pn, r, e1, e2, hpn, hr, hb⟩ := h c (by simp)
    have hstep : parseEntry (.model fs h2f f2h) (.dict acc) (g (keyOf c.1), c.2) =
        pstep (.model fs h2f' f2h) (.dict acc) c := by
      unfold parseEntry
      simp only [e2]
      rw [colPath_keyOf (pn :: r) (by simp) (List.forall_mem_cons.mpr ⟨hpn, hr⟩)]
      simp only [pstep, e1, initChild_dict]
      -- `find_entry` at a record depends on the header→field table only through the first segment
      rw [findSet_cons, findSet_cons, slot_model, slot_model, hb]
    simp only [List.map_cons, foldE, pfold]
    rw [hstep]
    cases hres : pstep (.model fs h2f' f2h) (.dict acc) c with
    | error e => rfl
    | ok t =>
      simp only
      have : ∃ kvs', t = .dict kvs' := by
        simp only [pstep, e1, initChild_dict] at hres
        exact findSet_model_dict hres
      obtain ⟨kvs', rfl⟩ := this
      exact parse_fold_congr fs h2f h2f' f2h g cs kvs' (fun c hc => h c (List.mem_cons_of_mem _ hc))

end Rpft.Row
