/-
What a contact can observe of a flow depends only on its index-resolved abstraction: per node the
observable content of the actions, the observation made at the decision, and — per way the
environment can answer — the INDEX of the node the destination names.  Two flows with the same
abstraction have the same traces for every answer stream (identifiers do not matter).
-/
import Rpft.FlowSys
import Rpft.Lemmas.Bisim
namespace Rpft.Flow
open Rpft Rpft.Bisim

structure ANode where
  acts : List Str
  ask : Option RouterObs
  /-- with a router: one entry per admissible answer; without: the one exit -/
  dests : List (Option (Option Nat))
  deriving DecidableEq, Repr

/-- the index of the node a destination names (`some none`: it names no node of the flow) -/
def destIdx (f : Flow) (d : Option Id) : Option (Option Nat) := d.map (findNode f)

def absNode (lvl : ObsLevel) (f : Flow) (n : Node) : ANode :=
  { acts := n.actions.map (·.obs)
    ask := n.router.map (routerObs lvl)
    dests := match n.router with
      | none => [destIdx f ((n.exits.head?).bind (·.dest))]
      | some r => (List.range (routerArity r)).map fun c => destIdx f ((routerChoice r c).bind (catDest n r)) }

def absFlow (lvl : ObsLevel) (f : Flow) : List ANode := f.nodes.map (absNode lvl f)

def aEnter (A : List ANode) : Nat → Option (Option Nat) → Option St
  | _, none => none
  | 0, some _ => some .div
  | _ + 1, some none => none
  | fuel + 1, some (some i) =>
    match A[i]? with
    | none => none
    | some a =>
      if a.acts.isEmpty && a.ask.isNone then aEnter A fuel (a.dests.head?.join)
      else some (.at ⟨i, 0⟩)

def aObs (A : List ANode) : St → Obs
  | .div => .diverge
  | .at p =>
    match A[p.node]? with
    | none => .diverge
    | some a =>
      match a.acts[p.k]? with
      | some x => .act x
      | none =>
        match a.ask with
        | some r => .ask r
        | none => .diverge

def aArity (A : List ANode) : St → Nat
  | .div => 0
  | .at p =>
    match A[p.node]? with
    | none => 0
    | some a =>
      match a.acts[p.k]? with
      | some _ => 1
      | none =>
        match a.ask with
        | some _ => a.dests.length
        | none => 0

def aNext (A : List ANode) : St → Nat → Option St
  | .div, _ => none
  | .at p, c =>
    match A[p.node]? with
    | none => none
    | some a =>
      match a.acts[p.k]? with
      | some _ =>
        if p.k + 1 < a.acts.length then some (.at ⟨p.node, p.k + 1⟩)
        else match a.ask with
          | some _ => some (.at ⟨p.node, p.k + 1⟩)
          | none => aEnter A (A.length + 1) (a.dests.head?.join)
      | none =>
        match a.ask with
        | some _ => aEnter A (A.length + 1) (a.dests[c]?.join)
        | none => none

def aSys (A : List ANode) : Sys St Obs := { obs := aObs A, arity := aArity A, next := aNext A }

def aStart (A : List ANode) : Option St :=
  match A with
  | [] => none
  | _ :: _ => aEnter A (A.length + 1) (some (some 0))

/-- where the system is once `k` actions of node `i` (the node `a`) are performed: at position `k` if an action or the
decision is left to do there, else wherever the exit leads.  Both moving on inside a node (`aSys_act`) and entering
one (`aEnter_sys_node`) arrive in this sense. -/
def aArrive (A : List ANode) (i : Nat) (a : ANode) (k : Nat) : Option St :=
  if k < a.acts.length then some (.at ⟨i, k⟩)
  else match a.ask with
    | some _ => some (.at ⟨i, k⟩)
    | none => aEnter A (A.length + 1) (a.dests.head?.join)

theorem aArrive_lt {A : List ANode} {i k : Nat} {a : ANode} (h : k < a.acts.length) :
    aArrive A i a k = some (.at ⟨i, k⟩) :=
  if_pos h

theorem aArrive_ask {A : List ANode} {i k : Nat} {a : ANode} {r : RouterObs} (h : a.ask = some r) :
    aArrive A i a k = some (.at ⟨i, k⟩) := by
  unfold aArrive
  rw [h]
  split <;> rfl

theorem aArrive_end {A : List ANode} {i k : Nat} {a : ANode} (h1 : a.acts.length ≤ k) (h2 : a.ask = none) :
    aArrive A i a k = aEnter A (A.length + 1) (a.dests.head?.join) := by
  unfold aArrive
  rw [if_neg (Nat.not_lt.2 h1), h2]

theorem aSys_act {A : List ANode} {i k : Nat} {a : ANode} {x : Str} (ha : A[i]? = some a)
    (hx : a.acts[k]? = some x) :
    aObs A (.at ⟨i, k⟩) = .act x ∧ aArity A (.at ⟨i, k⟩) = 1 ∧ ∀ c, aNext A (.at ⟨i, k⟩) c = aArrive A i a (k + 1) :=
  ⟨by simp only [aObs, ha, hx], by simp only [aArity, ha, hx], fun c => by simp only [aNext, ha, hx, aArrive]⟩

theorem aSys_ask {A : List ANode} {i k : Nat} {a : ANode} {r : RouterObs} (ha : A[i]? = some a)
    (hx : a.acts[k]? = none) (hr : a.ask = some r) :
    aObs A (.at ⟨i, k⟩) = .ask r ∧ aArity A (.at ⟨i, k⟩) = a.dests.length ∧
      ∀ c, aNext A (.at ⟨i, k⟩) c = aEnter A (A.length + 1) (a.dests[c]?.join) :=
  ⟨by simp only [aObs, ha, hx, hr], by simp only [aArity, ha, hx, hr], fun c => by simp only [aNext, ha, hx, hr]⟩

theorem aStart_cons {A : List ANode} (h : A ≠ []) : aStart A = aEnter A (A.length + 1) (some (some 0)) := by
  cases A with
  | nil => exact absurd rfl h
  | cons _ _ => rfl

theorem absFlow_getElem? (lvl : ObsLevel) (f : Flow) (i : Nat) :
    (absFlow lvl f)[i]? = (f.nodes[i]?).map (absNode lvl f) := by
  simp [absFlow]

theorem enter_abs (lvl : ObsLevel) (f : Flow) (fuel : Nat) (d : Option Id) :
    enter f fuel d = aEnter (absFlow lvl f) fuel (destIdx f d) := by
  fun_induction enter f fuel d with
  | case1 => simp [aEnter, destIdx]
  | case2 => rfl
  | case3 fuel u h => simp [aEnter, destIdx, h]
  | case4 fuel u i hi hn => simp [aEnter, destIdx, hi, absFlow_getElem?, hn]
  | case5 fuel u i hi n hn hc ih =>
    simp only [Bool.and_eq_true, Option.isNone_iff_eq_none] at hc
    simp [aEnter, destIdx, hi, absFlow_getElem?, hn, absNode, hc, ih]
  | case6 fuel u i hi n hn hc => simp [aEnter, destIdx, hi, absFlow_getElem?, hn, absNode, hc]

theorem absFlow_fuel (lvl : ObsLevel) (f : Flow) : (absFlow lvl f).length + 1 = fuelOf f := by
  simp [absFlow, fuelOf]

/-- a flow's system and the system of its abstraction agree state by state, in the shape
`Bisim.run_eq_of_rel` asks for -/
theorem flowSys_abs (lvl : ObsLevel) (f : Flow) (s : St) :
    obsAt lvl f s = aObs (absFlow lvl f) s ∧ arityAt f s = aArity (absFlow lvl f) s ∧
      ∀ c, c < arityAt f s → OptRel Eq (nextAt f s c) (aNext (absFlow lvl f) s c) := by
  cases s with
  | div => exact ⟨rfl, rfl, fun _ _ => trivial⟩
  | «at» p =>
    simp only [obsAt, arityAt, nextAt, aObs, aArity, aNext, absFlow_getElem?]
    cases f.nodes[p.node]? with
    | none => exact ⟨rfl, rfl, fun _ _ => trivial⟩
    | some n =>
      simp only [Option.map_some, absNode, List.getElem?_map, List.length_map, absFlow_fuel, enter_abs lvl]
      cases n.actions[p.k]? with
      | some a =>
        refine ⟨rfl, rfl, fun c _ => ?_⟩
        cases n.router <;> simp [OptRel.eq_refl]
      | none =>
        cases n.router with
        | none => exact ⟨rfl, rfl, fun _ _ => trivial⟩
        | some r =>
          refine ⟨rfl, by simp, fun c hc => ?_⟩
          simp [hc, OptRel.eq_refl]

theorem start_abs (lvl : ObsLevel) (f : Flow) : start f = aStart (absFlow lvl f) := by
  unfold start aStart
  rw [enter_abs lvl]
  cases hn : f.nodes with
  | nil => simp [absFlow, hn, destIdx, aEnter]
  | cons n ns =>
    have h0 : destIdx f ((f.nodes.head?).map (·.uuid)) = some (some 0) := by
      simp [destIdx, hn, findNode, List.findIdx?_cons]
    rw [← hn, h0, ← absFlow_fuel lvl]
    simp [absFlow, hn]

theorem trace_abs (lvl : ObsLevel) (f : Flow) (env : Nat → Nat) (n : Nat) :
    trace lvl f env n = run (aSys (absFlow lvl f)) (aStart (absFlow lvl f)) env n := by
  unfold trace
  rw [start_abs lvl]
  refine run_eq_of_rel ?_ (OptRel.eq_refl _)
  rintro s _ rfl
  exact flowSys_abs lvl f s

theorem trace_eq_of_abs (lvl : ObsLevel) (f g : Flow) (h : absFlow lvl f = absFlow lvl g)
    (env : Nat → Nat) (n : Nat) : trace lvl f env n = trace lvl g env n := by
  rw [trace_abs, trace_abs, h]

end Rpft.Flow
