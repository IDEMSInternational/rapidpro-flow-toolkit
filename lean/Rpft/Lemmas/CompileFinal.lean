/-
The final state of a successful compilation.  From the arena invariant: every emitted node is an arena node, so
its cases name its categories and its destinations are identifiers of arena nodes.  From the tree invariant:
every arena node is emitted, exactly once.
-/
import Rpft.Lemmas.CompileTreeParse
import Rpft.Lemmas.CompileTreeEmit
namespace Rpft.Compile
open Rpft

section
def initSt (noArgs testTypes : List Str) : St := { noArgs := noArgs, testTypes := testTypes }

variable {noArgs testTypes : List Str} {evs : List Event} {s : St} {n : NodeM}

theorem ainv_init (h : Flags) (noArgs testTypes : List Str) : AInv h (initSt noArgs testTypes) := by
  have empty : ∀ {i : Nat} {n : NodeM}, (initSt noArgs testTypes).nodes[i]? = some n → False := by
    intro i n hn; simp [initSt] at hn
  exact ⟨fun _ _ hn => (empty hn).elim,
    fun _ => ⟨fun _ _ hn => (empty hn).elim, fun _ _ hn => (empty hn).elim, fun _ _ _ _ _ hn => (empty hn).elim⟩,
    fun _ _ _ hn => (empty hn).elim⟩

/-- what a successful compilation is: the final state of the machine and the emitted nodes -/
theorem compile_ok {out : Out}
    (h : compile noArgs testTypes evs = .ok out) :
    ∃ s, (steps evs).run (initSt noArgs testTypes) = .ok ((), s) ∧ s.stack.length = 1 ∧
      out.nodes = (emit s (s.groups.size + 2) 0).filterMap fun i => s.nodes[i]? := by
  unfold compile at h
  split at h
  · simp at h
  · rename_i u s hs
    split at h
    · simp at h
    · rename_i hl
      refine ⟨s, hs, by simpa using hl, ?_⟩
      injection h with h
      rw [← h]

theorem final_ainv (h : Flags) (hid : EvsOk h evs)
    (hr : (steps evs).run (initSt noArgs testTypes) = .ok ((), s)) : AInv h s :=
  (wp_of_run (steps_spec h evs hid _ (ainv_init h noArgs testTypes) trivial) hr).1

/-- whatever the sheet: the destinations of an arena node lead to arena nodes, its cases name its categories -/
theorem final_nodeOk {i : Nat} (hr : (steps evs).run (initSt noArgs testTypes) = .ok ((), s))
    (hi : s.nodes[i]? = some n) : NodeOk s.nodes n :=
  (final_ainv Flags.none ⟨fun hf => hf.elim, fun hf => hf.elim⟩ hr).ok i n hi

theorem out_nodes_arena {l : List Nat}
    (hn : n ∈ l.filterMap fun i => s.nodes[i]?) : ∃ i : Nat, s.nodes[i]? = some n := by
  simp only [List.mem_filterMap] at hn
  obtain ⟨i, _, hi⟩ := hn
  exact ⟨i, hi⟩

theorem rendered_cases_ok (hc : ∀ r, n.router = some (.sw r) → CaseCatsOk r) :
    ∀ r, (renderNode n).router = some r → ∀ k ∈ r.cases, k.catUuid ∈ r.cats.map (·.uuid) := by
  intro r hr k hk
  rcases hrt : n.router with _ | sw | rnd
  · simp [renderNode, hrt] at hr
  · simp only [renderNode, hrt, Option.map_some, Option.some.injEq] at hr
    subst hr
    simp only [renderRouter, Flow.Router.cases, List.mem_map] at hk
    obtain ⟨k0, hk0, rfl⟩ := hk
    have := hc sw hrt k0 hk0
    simp only [List.mem_map] at this
    obtain ⟨c, hc1, hc2⟩ := this
    simp only [renderRouter, Flow.Router.cats, List.map_map, List.mem_map, Function.comp]
    exact ⟨c, hc1, by simp [renderCat, renderCase, hc2]⟩
  · simp only [renderNode, hrt, Option.map_some, Option.some.injEq] at hr
    subst hr
    simp [renderRouter, Flow.Router.cases] at hk

theorem renderDest_eq_some {d : Dest} {u : Uid} (h : renderDest d = some u) : d = .node u := by
  cases d <;> simp [renderDest] at h
  rw [h]

theorem rendered_dest {e : Flow.Exit} {d : Flow.Id} (he : e ∈ (renderNode n).exits)
    (hd : e.dest = some d) : Dest.node d ∈ n.exitDests := by
  rcases hrt : n.router with _ | sw | rnd
  · simp only [renderNode, hrt, List.mem_singleton] at he
    subst he
    simp only [NodeM.exitDests, hrt, List.mem_singleton]
    exact (renderDest_eq_some hd).symm
  · simp only [renderNode, hrt, List.mem_map] at he
    obtain ⟨c, hc, rfl⟩ := he
    simp only [NodeM.exitDests, hrt, List.mem_map]
    exact ⟨c, hc, renderDest_eq_some hd⟩
  · simp only [renderNode, hrt, List.mem_map] at he
    obtain ⟨c, hc, rfl⟩ := he
    simp only [NodeM.exitDests, hrt, List.mem_map]
    exact ⟨c, hc, renderDest_eq_some hd⟩

end

theorem emit_eq_emitF (s : St) : ∀ fuel g, emit s fuel g = emitF (heldF s.groups) (kidsF s.groups) fuel g := by
  intro fuel
  induction fuel with
  | zero => intro g; rfl
  | succ fuel ih =>
    intro g
    unfold emit emitF
    simp only [heldF, kidsF]
    rcases hg : s.groups[g]? with _ | grp
    · simp
    · rcases grp with ⟨ns, t⟩ | ⟨ps, _ | j⟩ | ch
      · simp [held, kids]
      · simp [held, kids]
      · simp [held, kids]
      · simp only [Option.map_some, held, kids, List.nil_append]
        congr 1
        funext c; exact ih c

theorem binv_init (noArgs testTypes : List Str) :
    BInv (fun _ => False) (fun _ => False) 0 (initSt noArgs testTypes) := by
  have hl : ∀ (f : Grp → List Nat), f (.block []) = [] → ∀ (g : Nat) (l : List Nat),
      (#[Grp.block []][g]?).map f = some l → l = [] := by
    intro f hf g l h
    rcases g with _ | g
    · simp [hf] at h; exact h
    · simp at h
  refine ⟨.empty (hl held rfl) (fun i => by simp [initSt]), ginv_iff.mpr ⟨.empty (hl kids rfl) (fun i => ?_), ?_⟩,
    ⟨by simp [initSt], fun b _ hb => hb, by simp [initSt]⟩⟩
  · simp [initSt]
  · intro p l c h hc
    rw [hl kids rfl p l h] at hc; cases hc

theorem final_binv {noArgs testTypes : List Str} {evs : List Event} {s : St}
    (hr : (steps evs).run (initSt noArgs testTypes) = .ok ((), s)) :
    BInv (fun _ => False) (fun _ => False) 0 s :=
  wp_of_run (steps_B evs _ (binv_init noArgs testTypes)) hr

section
variable {s : St} (b : BInv (fun _ => False) (fun _ => False) 0 s) (hl : s.stack.length = 1)
include b hl

theorem final_stack : s.stack = [0] := b.st.eq_singleton hl

theorem final_ginv : GInv (fun x => x = 0) s.groups.size (kidsF s.groups) := by
  have := b.g
  rw [final_stack b hl] at this
  exact this.congr (fun x => by simp)

theorem final_desc : ∀ g, g < s.groups.size → Desc (kidsF s.groups) 0 g := by
  have hG := final_ginv b hl
  intro g
  induction g using Nat.strongRecOn with
  | _ g ih =>
    intro hg
    rcases hG.gparent g hg with h | ⟨p, l, hp, hc⟩
    · rw [h]; exact .refl 0
    · have h1 := hG.klt p l g hp hc
      exact (ih p h1.1 (by omega)).snoc hp hc

theorem emit_all (i : Nat) (hi : i < s.nodes.size) : i ∈ emit s (s.groups.size + 2) 0 := by
  rw [emit_eq_emitF]
  rcases b.n.nheld i hi with h | ⟨g, l, hg, hil⟩
  · exact h.elim
  · -- `heldF` and `kidsF` are defined on the same indices, those of the group arena
    have dom : ∀ {f : Grp → List Nat} {g : Nat} {l : List Nat}, (s.groups[g]?).map f = some l →
        g < s.groups.size ∧ ∀ f' : Grp → List Nat, ∃ l', (s.groups[g]?).map f' = some l' := by
      intro f g l h
      obtain ⟨grp, hgg, _⟩ := Option.map_eq_some_iff.mp h
      exact ⟨lt_size_of_getElem? hgg, fun f' => ⟨f' grp, by rw [hgg]; rfl⟩⟩
    exact emitF_complete (final_ginv b hl) (fun g l h => ⟨(dom h).1, (dom h).2 kids⟩) (fun g k h => (dom h).2 held)
      _ 0 g i l (by omega) (final_desc b hl g (dom hg).1) hg hil

theorem emit_nodup : (emit s (s.groups.size + 2) 0).Nodup := by
  rw [emit_eq_emitF]
  exact emitF_nodup b.n (final_ginv b hl) _ _
end

theorem map_sublist_flatMap {α β} (f : α → β) (g : α → List β) (hg : ∀ x, ∃ t, g x = f x :: t) :
    ∀ l : List α, (l.map f).Sublist (l.flatMap g) := by
  intro l
  induction l with
  | nil => simp
  | cons a l ih =>
    obtain ⟨t, ht⟩ := hg a
    simp only [List.map_cons, List.flatMap_cons, ht, List.cons_append]
    exact (ih.trans (List.sublist_append_right t _)).cons_cons _

end Rpft.Compile
