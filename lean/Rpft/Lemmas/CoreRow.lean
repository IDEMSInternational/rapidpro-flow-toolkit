/-
What the steps of one row do to the simulation relation: the facts about a row of the fragment the parser looks
at (`RowFacts`; such a row goes straight to `newRow`, `wp_parseRow_new`), the node the compiler creates for it, which
is the compiled form of the row with no out-edge yet (`rowNode_sim`), and `Rel` after each bookkeeping step — the
node is pushed on the arena (`Rel.push_node`, from `Rel.push_fields`), a row that produces no node is passed
(`Rel.step_skip`), the group of the row is appended to the root block and its row id registered (`Rel.close_row`).
-/
import Rpft.Lemmas.CoreEdge
import Rpft.Lemmas.CoreFixed
namespace Rpft.CoreSheet
open Rpft Rpft.Compile Rpft.RefFlow

/-- the facts about a row of the fragment that the parser looks at -/
structure RowFacts (c : CRow) : Prop where
  nouid : c.row.nodeUuid = []
  /-- a node name: on an action row that has an action only -/
  noname : c.row.nodeName = [] ∨ (kindOf c.row.type = .action ∧ c.row.action.isSome = true)
  node : (kindOf c.row.type).isNode = true
  nnoop : kindOf c.row.type ≠ .noOp
  ninsert : c.row.type ≠ "insert_as_block".toList

theorem rowFacts (c : CRow) (hf : nodeRowOk c = true) : RowFacts c := by
  simp only [nodeRowOk, Bool.or_eq_true] at hf
  rcases hf with ((hf | hf) | hf) | hf
  · simp only [plainActionRow, Bool.and_eq_true, Bool.not_eq_true', List.isEmpty_iff, decide_eq_true_eq] at hf
    obtain ⟨⟨⟨hsp, hu⟩, hnm⟩, _⟩ := hf
    have hk := kindOf_action hsp
    refine ⟨hu, ?_, by rw [hk]; rfl, by rw [hk]; decide, ne_insert_of_plain hsp⟩
    simp only [Bool.or_eq_true, List.isEmpty_iff] at hnm
    exact hnm.imp id (fun h => ⟨hk, h⟩)
  · simp only [switchRow, Bool.and_eq_true, List.isEmpty_iff] at hf
    obtain ⟨⟨⟨hsw, hu⟩, hnm⟩, _⟩ := hf
    rcases kindOf_switch (switch_type hsw) with h | h | h <;>
      exact ⟨hu, .inl hnm, by rw [h]; rfl, by rw [h]; decide, ne_insert_of_kind (by rw [h]; decide)⟩
  · simp only [fixedRow, Bool.and_eq_true, List.isEmpty_iff] at hf
    obtain ⟨⟨⟨hsw, hu⟩, hnm⟩, _⟩ := hf
    rcases kindOf_fixed (fixed_type hsw) with h | h | h <;>
      exact ⟨hu, .inl hnm, by rw [h]; rfl, by rw [h]; decide, ne_insert_of_kind (by rw [h]; decide)⟩
  · simp only [randomRow, Bool.and_eq_true, List.isEmpty_iff, decide_eq_true_eq] at hf
    obtain ⟨⟨⟨ht, hu⟩, hnm⟩, _⟩ := hf
    have h := type_random.mp ht
    exact ⟨hu, .inl hnm, by rw [h]; rfl, by rw [h]; decide, ne_insert_of_kind (by rw [h]; decide)⟩

theorem wp_parseRow_new (c : CRow) (hf : RowFacts c) (s : St) (Q : PUnit → St → Prop)
    (hex : c.row.nodeName = [] ∨ s.names.find? (·.1 = c.row.nodeName) = none)
    (h : c.row.actionOk = true → wp (newRow { c.row with edges := dropTrivial c.row.edges } c.row.nodeName) s Q) :
    wp (parseRow c.row) s Q := by
  rw [parseRow_node c.row hf.node hf.nnoop hf.ninsert]
  unfold actionRow
  wp_simp
  refine ⟨fun _ => trivial, fun hok => ?_⟩
  have e1 : (if List.isEmpty c.row.nodeUuid = true then c.row.nodeName else c.row.nodeUuid) = c.row.nodeName := by
    simp [hf.nouid]
  rw [e1]
  have e2 : (if c.row.nodeName.isEmpty = true then none
      else Option.map (fun x => x.2) (List.find? (fun x => decide (x.1 = c.row.nodeName)) s.names)) = none := by
    rcases hex with hex | hex
    · simp [hex]
    · rw [hex]; simp
  rw [e2]
  exact h (by simpa using hok)

theorem rowNode_sim (c : CRow) (hf : nodeRowOk c = true) (edges : List Compile.Edge) (act : Option (Uid × Str))
    (hact : act.map (·.2) = c.row.action) (s : St) (hna : s.noArgs = RefFlow.noArgsTests) :
    wp (rowNode { c.row with edges := edges } act) s (fun n s' =>
      (∃ k, Bump s s' k) ∧ (∀ r, n.router = some (RouterM.rnd r) → r.cats = []) ∧ ∀ M ns, NodeSim M ns n c [] []) := by
  simp only [nodeRowOk, Bool.or_eq_true] at hf
  rcases hf with ((hf | hf) | hf) | hf
  · simp only [plainActionRow, Bool.and_eq_true, Bool.not_eq_true', List.isEmpty_iff, decide_eq_true_eq] at hf
    obtain ⟨⟨⟨hsp, _⟩, _⟩, _⟩ := hf
    refine wp_mono (rowNode_plain _ act s hsp) ?_
    rintro n s' ⟨hb, hnk, hnr, hna, hnd⟩
    refine ⟨hb, (fun r hr => by rw [hnr] at hr; cases hr), fun M ns => .plain (kindOf_action hsp) ⟨hnk, hnr, ?_, ?_, ?_⟩⟩
    · have e2 : act.toList.map (·.2) = (act.map (·.2)).toList := by cases act <;> rfl
      rw [hna, e2, hact, List.append_nil]
    · rw [hnd]; rfl
    · intro e he; cases he
  · simp only [switchRow, Bool.and_eq_true, List.isEmpty_iff] at hf
    obtain ⟨⟨⟨hsw, _⟩, _⟩, _⟩ := hf
    have hk := kindOf_switch (switch_type hsw)
    refine wp_mono (rowNode_switch _ act s hk) ?_
    rintro n s' ⟨hb, hnk, hna, sw, hrt, hfr⟩
    refine ⟨hb, (fun r hr => by rw [hrt] at hr; cases hr), fun M ns => .sw sw hk ⟨hnk, hna, hrt, hfr.operand, hfr.rname, ?_, hfr.nrSome, ?_, ?_, ?_, ?_, ?_, ?_⟩⟩
    · rw [hfr.wait]; rfl
    · rw [hfr.cases]; rfl
    · rw [hfr.cases, hfr.cats]; rfl
    · rw [hfr.cats]; exact List.Forall₂.nil
    · rw [hfr.dflt]; rfl
    · intro nr hnr; rw [hfr.nr nr hnr]; rfl
    · -- the "No Response" category exists iff the row waits with a timeout
      refine ⟨by rw [hfr.cats]; rfl, ?_⟩
      have hw : sw.wait = if c.row.type = "wait_for_response".toList then some (timeoutOf c.row) else none := hfr.wait
      simp only [type_wait] at hw
      unfold baseNames
      by_cases hyes : kindOf c.row.type = .wait ∧ timeoutOf c.row ≠ 0
      · obtain ⟨m, hm⟩ : ∃ m, timeoutOf c.row = m + 1 := ⟨timeoutOf c.row - 1, by omega⟩
        obtain ⟨nr, hnr⟩ := Option.isSome_iff_exists.mp (hfr.nrSome.mpr ⟨m, by rw [hw, if_pos hyes.1, hm]⟩)
        rw [if_pos hyes, hnr]
        simp [hfr.dname, hfr.nrname nr hnr]
      · have hnone : sw.noResp = none := by
          cases hnn : sw.noResp with
          | none => rfl
          | some nr =>
            obtain ⟨m, hm⟩ := hfr.nrSome.mp (by rw [hnn]; rfl)
            rw [hw] at hm
            split at hm
            · rename_i h1; injection hm with hm; exact absurd ⟨h1, by omega⟩ hyes
            · cases hm
        rw [if_neg hyes, hnone]
        simp [hfr.dname]
  · simp only [fixedRow, Bool.and_eq_true, List.isEmpty_iff] at hf
    obtain ⟨⟨⟨hsw, _⟩, _⟩, _⟩ := hf
    have hk := kindOf_fixed (fixed_type hsw)
    refine wp_mono (rowNode_fixed _ act s hna hk) ?_
    rintro n s' ⟨hb, sw, sc, hfr⟩
    refine ⟨hb, (fun r hr => by rw [hfr.router] at hr; cases hr), fun M ns => .fix sw sc hk ⟨hfr.kind, hfr.acts, hfr.router, hfr.operand, hfr.rname,
      hfr.wait, hfr.noResp, hfr.cats, hfr.sname, hfr.uidne, hfr.cases, ?_, ?_⟩⟩
    · rw [hfr.succ]; rfl
    · rw [hfr.dflt]; rfl
  · simp only [randomRow, Bool.and_eq_true, List.isEmpty_iff, decide_eq_true_eq] at hf
    obtain ⟨⟨⟨ht, _⟩, _⟩, _⟩ := hf
    have hk := type_random.mp ht
    refine wp_mono (rowNode_random _ act s hk) ?_
    rintro n s' ⟨hb, hnk, hna, hrt⟩
    refine ⟨hb, (fun r hr => by rw [hrt] at hr; injection hr with hr; injection hr with hr; rw [← hr]), fun M ns =>
      .rnd _ hk ⟨hnk, hna, hrt, rfl, List.nodup_nil, List.nodup_nil, List.Forall₂.nil, ?_⟩⟩
    intro cat hcat; cases hcat

theorem isNodeRow_of_ok (c : CRow) (hf : nodeRowOk c = true) (hm : (c.merged && isNamedAct c) = false) :
    isNodeRow c = true := by
  unfold isNodeRow
  rw [hm, (rowFacts c hf).node]
  rfl

theorem isNoop_false_of_ok (c : CRow) (hf : nodeRowOk c = true) : isNoop c = false :=
  decide_eq_false (fun e => (rowFacts c hf).nnoop (type_noop.mp e))

theorem namedAct_of_ok {c : CRow} (hf : nodeRowOk c = true) (hnm : c.row.nodeName ≠ []) : isNamedAct c = true := by
  simp only [nodeRowOk, Bool.or_eq_true] at hf
  rcases hf with ((h1 | h1) | h1) | h1
  · simp only [plainActionRow, Bool.and_eq_true, Bool.not_eq_true'] at h1
    unfold isNamedAct
    rw [h1.1.1.1]
    cases hh : c.row.nodeName with
    | nil => exact absurd hh hnm
    | cons _ _ => rfl
  · simp only [switchRow, Bool.and_eq_true, List.isEmpty_iff] at h1; exact absurd h1.1.2 hnm
  · simp only [fixedRow, Bool.and_eq_true, List.isEmpty_iff] at h1; exact absurd h1.1.2 hnm
  · simp only [randomRow, Bool.and_eq_true, List.isEmpty_iff] at h1; exact absurd h1.1.2 hnm

theorem rowOk_cases {c : CRow} (hok : rowOk c = true) :
    nodeRowOk c = true ∨ (kindOf c.row.type).isNode = false ∨ noopRow c = true := by
  simp only [rowOk, Bool.or_eq_true] at hok
  rcases hok with ((h1 | h1) | h1) | h1
  · exact .inl h1
  · simp only [exitRow, Bool.and_eq_true, Bool.or_eq_true, decide_eq_true_eq] at h1
    rcases h1.1 with h2 | h2
    · exact .inr (.inl (by rw [h2, kindOf_hard]; rfl))
    · exact .inr (.inl (by rw [h2, kindOf_loose]; rfl))
  · simp only [gotoRow, Bool.and_eq_true, decide_eq_true_eq] at h1
    exact .inr (.inl (by rw [h1.1, kindOf_goto]; rfl))
  · exact .inr (.inr h1)

theorem nodeRowOk_of_kind {c : CRow} (hok : rowOk c = true) (hn : (kindOf c.row.type).isNode = true)
    (hno : isNoop c = false) : nodeRowOk c = true := by
  rcases rowOk_cases hok with h | h | h
  · exact h
  · rw [hn] at h; cases h
  · simp only [noopRow, Bool.and_eq_true] at h
    rw [h.1.1] at hno; cases hno

/-- row `k`, which produces no node, has been dealt with; on the way the arena, the counter and the row ids may have
changed -/
theorem Rel.step_skip {rows : List CRow} {M : Maps} {k : Nat} {s : St} {st : P1} {c : CRow}
    (h : Rel rows M false k s st) (hc : rows[k]? = some c) (hn : isNodeRow c = false)
    (ns' : Array NodeM) (nx : Nat) (rowIds : List (Str × Nat))
    (ids : List (Str × Nat)) (hids : rowIds = ids.map (fun p => (p.1, gOf rows p.2)))
    (hidok : ∀ p ∈ ids, p.2 < k + 1 ∧ ∃ c, rows[p.2]? = some c ∧ isNodeRow c = true)
    (hnode : ∀ j c', Valid rows M false k j c' → ∃ n, ns'[M.nOf j]? = some n ∧
      RowSim M ns' n c' (postUpTo rows (k + 1) j) (outOf st j) (M.rOf j))
    (hrf : RFresh ns' nx) :
    Rel rows M false (k + 1) { s with nodes := ns', rowIds := rowIds, next := nx } { st with ids := ids } := by
  have hg : gOf rows (k + 1) = gOf rows k := by rw [gOf_succ rows k c hc, hn]; simp
  have hlt : ∀ j c', j < k + 1 → rows[j]? = some c' → isNodeRow c' = true → j < k := by
    intro j c' hj hc' hn'
    rcases Nat.lt_succ_iff_lt_or_eq.mp hj with h1 | rfl
    · exact h1
    · rw [Option.some.inj (hc.symm.trans hc'), hn'] at hn; cases hn
  have conv : ∀ j c', Valid rows M false (k + 1) j c' → Valid rows M false k j c' := by
    rintro j c' ⟨h1 | h1, h2, h3⟩
    · exact ⟨.inl (hlt j c' h1 h2 h3.1), h2, h3⟩
    · exact absurd h1.1 (by simp)
  exact { h with
    gsize := by rw [hg]; exact h.gsize
    root := by rw [hg]; exact h.root
    grp := fun j c' hj hc' hn' => h.grp j c' (hlt j c' hj hc' hn') hc' hn'
    grpN := fun j c' hj hc' hnn' => h.grpN j c' (hlt j c' hj hc' (isNodeRow_of_noop hnn')) hc' hnn'
    frel := fun j hj => ⟨(h.frel j hj).1, Nat.lt_succ_of_lt (h.frel j hj).2.1, (h.frel j hj).2.2⟩
    ids := hids, idok := hidok
    prev := by
      have := h.prev
      cases hpv : st.prev with
      | none => rw [hpv] at this; simp only at this ⊢; rw [hg]; exact this
      | some p =>
        rw [hpv] at this
        simp only at this ⊢
        exact ⟨by omega, this.2.1, by rw [hg]; exact this.2.2⟩
    srcok := fun e he => ⟨Nat.lt_succ_of_lt (h.srcok e he).1, (h.srcok e he).2⟩
    tgtok := fun e he t ht => (h.tgtok e he t ht).elim (fun h1 => .inl (Nat.lt_succ_of_lt h1)) (fun h1 => absurd h1.1 (by simp))
    node := fun j c' hv => hnode j c' (conv _ _ hv)
    disj := fun j c1 j' c2 hv1 hv2 => h.disj j c1 j' c2 (conv _ _ hv1) (conv _ _ hv2)
    rnone := fun j hj => h.rnone j (by omega)
    rfresh := hrf
    names := ⟨fun p hp hne => (h.names.1 p hp hne).imp fun i => Exists.imp fun c' r => ⟨Nat.lt_succ_of_lt r.1, r.2⟩,
      fun i c' hi hc' hn' => h.names.2 i c' (hlt i c' hi hc' hn') hc' hn'⟩ }

theorem Rel.skip {rows : List CRow} {M : Maps} {k : Nat} {s : St} {st : P1} {c : CRow}
    (h : Rel rows M false k s st) (hc : rows[k]? = some c) (hn : isNodeRow c = false)
    (hm : (c.merged && isNamedAct c) = false) :
    Rel rows M false (k + 1) s st :=
  h.step_skip hc hn s.nodes s.next s.rowIds st.ids h.ids (fun p hp => ⟨Nat.lt_succ_of_lt (h.idok p hp).1, (h.idok p hp).2⟩)
    (fun j c' hv => by rw [postUpTo_succ rows k j c hc hm]; exact h.node j c' hv) h.rfresh

theorem names_none_of_unmerged {rows : List CRow} {M : Maps} {k : Nat} {names : List (Str × Nat)} {c : CRow}
    (ha : Annot rows) (h : NamesInv rows M k names) (hc : rows[k]? = some c)
    (hm : (c.merged && isNamedAct c) = false) (hna : c.row.nodeName ≠ [] → isNamedAct c = true) :
    c.row.nodeName = [] ∨ names.find? (·.1 = c.row.nodeName) = none := by
  by_cases hnm : c.row.nodeName = []
  · exact .inl hnm
  · right
    have hnamed := hna hnm
    rw [hnamed, Bool.and_true] at hm
    cases hfd : names.find? (·.1 = c.row.nodeName) with
    | none => rfl
    | some p =>
      have hp1 : p.1 = c.row.nodeName := by simpa using List.find?_some hfd
      obtain ⟨i, ci, hi, hci, _, _, hnai, hnmi, _⟩ := h.1 p (List.mem_of_find?_eq_some hfd) (by rw [hp1]; exact hnm)
      rw [(ha.merged_iff hc hnamed).mpr ⟨i, ci, hi, hci, hnai, hnmi.trans hp1⟩] at hm
      cases hm

theorem NamesInv.push {rows : List CRow} {M : Maps} {k : Nat} {names : List (Str × Nat)} {c : CRow}
    (h : NamesInv rows M k names) (hc : rows[k]? = some c) (hnode : isNodeRow c = true) (hnn : isNoop c = false)
    (hna : c.row.nodeName ≠ [] → isNamedAct c = true) :
    NamesInv rows M (k + 1) ((c.row.nodeName, M.nOf k) :: names) := by
  refine ⟨fun p hp hne => ?_, fun i c' hi hc' hn' hnn' hne => ?_⟩
  · simp only [List.mem_cons] at hp
    rcases hp with rfl | hp
    · exact ⟨k, c, by omega, hc, hnode, hnn, hna hne, rfl, rfl⟩
    · obtain ⟨i, c', hi, r⟩ := h.1 p hp hne
      exact ⟨i, c', by omega, r⟩
  · rcases Nat.lt_succ_iff_lt_or_eq.mp hi with h1 | h1
    · exact List.mem_cons_of_mem _ (h.2 i c' h1 hc' hn' hnn' hne)
    · subst h1; rw [hc] at hc'; injection hc' with hc'; subst hc'; simp

theorem NamesInv.step_noop {rows : List CRow} {M : Maps} {k : Nat} {names : List (Str × Nat)} {c : CRow}
    (h : NamesInv rows M k names) (hc : rows[k]? = some c) (hnn : isNoop c = true) :
    NamesInv rows M (k + 1) names := by
  refine ⟨fun p hp hne => ?_, fun i c' hi hc' hn' hnn' hne => ?_⟩
  · obtain ⟨i, c', hi, r⟩ := h.1 p hp hne
    exact ⟨i, c', by omega, r⟩
  · rcases Nat.lt_succ_iff_lt_or_eq.mp hi with h1 | h1
    · exact h.2 i c' h1 hc' hn' hnn' hne
    · subst h1; rw [hc] at hc'; injection hc' with hc'; subst hc'; rw [hnn] at hnn'; cases hnn'

/-- a node for row `k`, which had none, is pushed on the arena and entered in the ghost map: the rows that had
their nodes keep them, arena indices stay apart -/
theorem Rel.push_fields {rows : List CRow} {M M' : Maps} {pd pd' : Bool} {kg : Nat} {s : St} {st : P1}
    (h : Rel rows M pd kg s st) (k : Nat) (n : NodeM) (nx : Nat)
    (hMk : M'.nOf k = s.nodes.size) (hMo : ∀ x, x ≠ k → M'.nOf x = M.nOf x) (hMr : M'.rOf = M.rOf)
    (hrk : M.rOf k = none)
    (hvalid : ∀ j c, Valid rows M' pd' kg j c → j ≠ k → Valid rows M pd kg j c)
    (htg : ∀ e ∈ st.out, ∀ t, e.tgt = Target.row t → t ≠ k)
    (hnrnd : ∀ r, n.router = some (RouterM.rnd r) → r.cats = []) (hnx : s.next ≤ nx)
    (hk : ∀ c, Valid rows M' pd' kg k c → RowSim M' (s.nodes.push n) n c (postUpTo rows kg k) (outOf st k) none) :
    Arena rows M' pd' kg (s.nodes.push n) st ∧ (∀ j i', M'.rOf j = some i' → i' ≠ M'.nOf j) ∧
      RFresh (s.nodes.push n) nx := by
  refine ⟨h.local (M' := M') (pd' := pd') (kg' := kg) k (s.nodes.push n) st hvalid hMo
    (fun _ _ => by rw [hMr]) (NExt.push _ _)
    (fun j c hv _ i hi => by
      have := h.idx_lt hv i hi
      simp [Array.getElem?_push, Nat.ne_of_lt this])
    (fun e he t ht => hMo t (htg e he t ht)) (fun _ _ => rfl) (fun _ _ _ _ => rfl)
    (fun c hv => ⟨n, by rw [hMk]; simp, by rw [hMr, hrk]; exact hk c hv⟩)
    (fun c _ x hx => .inr (by simp only [idxs, hMk, hMr, hrk, Option.toList, List.mem_singleton] at hx; omega)),
    fun j i' hi' => ?_, RFresh.step h.rfresh hnx (fun i m hm => ?_)⟩
  · rw [hMr] at hi'
    have hjk : j ≠ k := by intro e; rw [e, hrk] at hi'; cases hi'
    rw [hMo j hjk]; exact h.rne j i' hi'
  · simp only [Array.getElem?_push] at hm
    split at hm
    · injection hm with hm; subst hm
      exact .inr (fun r hr cat hcat => by rw [hnrnd r hr] at hcat; cases hcat)
    · exact .inl ⟨m, hm, rfl⟩

theorem Rel.push_node {rows : List CRow} {M : Maps} {k : Nat} {s : St} {st : P1} {c : CRow}
    (h : Rel rows M false k s st) (hc : rows[k]? = some c)
    (n : NodeM) (hnrnd : ∀ r, n.router = some (RouterM.rnd r) → r.cats = [])
    (hnsim : ∀ M ns, NodeSim M ns n c [] []) (nx : Nat) (hnx : s.next ≤ nx) :
    Rel rows { M with nOf := fun x => if x = k then s.nodes.size else M.nOf x } true k
      { s with nodes := s.nodes.push n, next := nx } st := by
  have hMo : ∀ x, x ≠ k → (if x = k then s.nodes.size else M.nOf x) = M.nOf x := fun x hx => if_neg hx
  have hlt : ∀ e ∈ st.out, ∀ t, e.tgt = Target.row t → t < k := fun e he t ht =>
    (h.tgtok e he t ht).elim id (fun h1 => absurd h1.1 (by simp))
  obtain ⟨⟨hnodes, hdisj⟩, hrne, hrf⟩ := h.push_fields
    (M' := { M with nOf := fun x => if x = k then s.nodes.size else M.nOf x }) (pd' := true) k n nx (if_pos rfl) hMo rfl
    (h.rnone k (Nat.le_refl _)) (fun j c' hv hjk => ⟨hv.1.elim .inl (fun h1 => absurd h1.2 hjk), hv.2⟩)
    (fun e he t ht => Nat.ne_of_lt (hlt e he t ht)) hnrnd hnx (fun c' hv => by
      obtain rfl : c = c' := Option.some.inj (hc.symm.trans hv.2.1)
      rw [outOf_nil_of_src st k (fun e he => (h.srcok e he).1), postUpTo_le rows (Nat.le_succ k)]
      exact .one (hnsim _ _))
  exact { h with
    grp := fun j c' hj hc' hn' hnn' => by simp only [hMo j (Nat.ne_of_lt hj)]; exact h.grp j c' hj hc' hn' hnn'
    grpN := fun j c' hj hc' hnn' => by simp only [hMo j (Nat.ne_of_lt hj)]; exact h.grpN j c' hj hc' hnn'
    tgtok := fun e he t ht => .inl (hlt e he t ht)
    node := hnodes, disj := hdisj, rne := hrne, rfresh := hrf
    names := h.names.congr (fun i _ hi _ _ _ => hMo i (Nat.ne_of_lt hi)) }

theorem Rel.close_row {rows : List CRow} {M : Maps} {pd0 : Bool} {k : Nat} {s3 : St} {st1 : P1} {c : CRow}
    (r3 : Rel rows M pd0 k s3 st1) (hc : rows[k]? = some c) (hnode : isNodeRow c = true)
    (hpd : pd0 = true ∨ M.el k = true) (grp : Grp)
    (hg1 : isNoop c = false → grp = .row (M.nOf k :: (M.rOf k).toList) c.row.type)
    (hg2 : isNoop c = true → ∃ ps ro, grp = .noop ps ro ∧ (M.el k = false → ro = some (M.nOf k)))
    (rowId : Str) (names : List (Str × Nat)) (hnames : NamesInv rows M (k + 1) names) :
    Rel rows M false (k + 1)
      { s3 with groups := (s3.groups.push grp).setIfInBounds 0
                  (Grp.block (List.range' 1 (gOf rows k - 1) ++ [s3.groups.size])),
                rowIds := if rowId.isEmpty then s3.rowIds else (rowId, s3.groups.size) :: s3.rowIds, names := names }
      { st1 with prev := some k, ids := if rowId.isEmpty then st1.ids else (rowId, k) :: st1.ids } := by
  have hgk : gOf rows (k + 1) = gOf rows k + 1 := by rw [gOf_succ rows k c hc, hnode]; simp
  have hsz : s3.groups.size = gOf rows k := r3.gsize
  have hpos := gOf_pos rows k
  have conv : ∀ j c', Valid rows M false (k + 1) j c' → Valid rows M pd0 k j c' := by
    rintro j c' ⟨h1 | h1, h2, h3⟩
    · rcases Nat.lt_succ_iff_lt_or_eq.mp h1 with h4 | h4
      · exact ⟨.inl h4, h2, h3⟩
      · rcases hpd with hpd | hpd
        · exact ⟨.inr ⟨hpd, h4⟩, h2, h3⟩
        · rw [h4, hpd] at h3; cases h3.2
    · exact absurd h1.1 (by simp)
  have hget : ∀ j c', j < k + 1 → rows[j]? = some c' → isNodeRow c' = true →
      ((s3.groups.push grp).setIfInBounds 0 (Grp.block (List.range' 1 (gOf rows k - 1) ++ [s3.groups.size])))[gOf rows j]? =
        if j = k then some grp else s3.groups[gOf rows j]? := by
    intro j c' hj hc' hn'
    have := gOf_pos rows j
    rw [Array.getElem?_setIfInBounds, if_neg (by omega), Array.getElem?_push]
    by_cases hjk : j = k
    · rw [hjk, if_pos hsz.symm, if_pos rfl]
    · have := gOf_lt rows (show j < k by omega) hc' hn'
      rw [if_neg (by omega), if_neg hjk]
  have hlt : ∀ {j}, j < k + 1 → j ≠ k → j < k := fun hj hjk => by omega
  exact { r3 with
    gsize := by simp [hsz, hgk]
    root := by
      simp only [Array.getElem?_setIfInBounds, Array.size_push]
      rw [show gOf rows (k + 1) - 1 = (gOf rows k - 1) + 1 by omega, List.range'_concat]
      simp [hsz]; omega
    grp := fun j c' hj hc' hn' hnn' => by
      rw [hget j c' hj hc' hn']
      by_cases hjk : j = k
      · subst hjk
        obtain rfl : c = c' := Option.some.inj (hc.symm.trans hc')
        rw [if_pos rfl, hg1 hnn']
      · rw [if_neg hjk]; exact r3.grp j c' (hlt hj hjk) hc' hn' hnn'
    grpN := fun j c' hj hc' hnn' => by
      rw [hget j c' hj hc' (isNodeRow_of_noop hnn')]
      by_cases hjk : j = k
      · subst hjk
        obtain rfl : c = c' := Option.some.inj (hc.symm.trans hc')
        obtain ⟨ps, ro, e1, e2⟩ := hg2 hnn'
        exact ⟨ps, ro, by rw [if_pos rfl, e1], e2⟩
      · rw [if_neg hjk]; exact r3.grpN j c' (hlt hj hjk) hc' hnn'
    frel := fun j hj => by
      by_cases hjk : j = k
      · subst hjk; exact absurd (r3.frel j hj).2.1 (Nat.lt_irrefl j)
      · have := r3.frel j hj; exact ⟨this.1, by omega, this.2.2⟩
    ids := by
      show (if rowId.isEmpty then s3.rowIds else (rowId, s3.groups.size) :: s3.rowIds) =
        (if rowId.isEmpty then st1.ids else (rowId, k) :: st1.ids).map (fun p => (p.1, gOf rows p.2))
      rw [r3.ids, hsz]
      split <;> rfl
    idok := fun p hp => by
      have hp' : p = (rowId, k) ∨ p ∈ st1.ids := by
        change p ∈ (if rowId.isEmpty then st1.ids else (rowId, k) :: st1.ids) at hp
        split at hp
        · exact .inr hp
        · exact List.mem_cons.mp hp
      rcases hp' with rfl | hp'
      · exact ⟨Nat.lt_succ_self k, c, hc, hnode⟩
      · exact ⟨Nat.lt_succ_of_lt (r3.idok p hp').1, (r3.idok p hp').2⟩
    prev := ⟨by omega, ⟨c, hc, hnode⟩, hgk.symm⟩
    srcok := fun e he => ⟨Nat.lt_succ_of_lt (r3.srcok e he).1, (r3.srcok e he).2⟩
    tgtok := fun e he t ht => .inl ((r3.tgtok e he t ht).elim Nat.lt_succ_of_lt (fun h1 => h1.2 ▸ Nat.lt_succ_self k))
    node := fun j c' hv => by
      rw [postUpTo_succ rows k j c hc (unmerged_of_node hnode)]
      exact r3.node j c' (conv _ _ hv)
    disj := fun j c1 j' c2 hv1 hv2 => r3.disj j c1 j' c2 (conv _ _ hv1) (conv _ _ hv2)
    rnone := fun j hj => r3.rnone j (by omega)
    names := hnames }

end Rpft.CoreSheet
