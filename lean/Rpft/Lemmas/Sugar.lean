/-
Desugaring against parsing (`agree_items`).  Both evaluators have the same shape — instantiate, test
include_if, recurse, wrap — so the agreement is proved on outcomes: `AgreeR d e` for the outcome `d` of
desugaring and `e` of parsing.  It passes through every step of that shape: the head of an item (`gate`),
an item followed by the rest (`append`), the iterations in sequence (`sequence`), the block wrapped around a
body (`block`, `unrolled`); the induction over the tree then only follows the evaluators.  `gate`, `block`
and `unrolled` are stated with the `match` expressions of the evaluators themselves, so that they apply to
`dsItem` / `evItem` unfolded once.  At the end `OkAll`: a property of every successful outcome, carried
through the same steps.
-/
import Rpft.Sugar
namespace Rpft.Sugar
open Rpft

variable {Raw Inst Ctx Val Hdr Err : Type}

/-- the recursor of the nested type, with "every member" as the motive for lists -/
theorem Item.induct {P : Item Raw → Prop} (row : ∀ r, P (.row r))
    (forLoop : ∀ b body, (∀ it ∈ body, P it) → P (.forLoop b body))
    (block : ∀ b body, (∀ it ∈ body, P it) → P (.block b body)) : ∀ it, P it :=
  fun it => Item.rec (motive_1 := P) (motive_2 := fun its => ∀ it ∈ its, P it) row forLoop block
    (fun _ h => nomatch h)
    (fun _ _ h1 h2 x hx => by
      rcases List.mem_cons.1 hx with rfl | hx
      · exact h1
      · exact h2 x hx) it

/-- `a ++ b` on outcomes, the first error winning: an item followed by the rest -/
def appendOk {α : Type} (x y : Except Err (List α)) : Except Err (List α) :=
  match x with
  | .error e => .error e
  | .ok a =>
    match y with
    | .error e => .error e
    | .ok b => .ok (a ++ b)

@[simp] theorem appendOk_ok {α : Type} (a b : List α) :
    appendOk (.ok a : Except Err (List α)) (.ok b) = .ok (a ++ b) := rfl

theorem evItems_nil (I : Iface Raw Inst Ctx Val Hdr Err) (ctx : Ctx) :
    evItems I ctx [] = .ok [] := by simp [evItems]

theorem evItems_cons (I : Iface Raw Inst Ctx Val Hdr Err) (ctx : Ctx) (it : Item Raw) (its : List (Item Raw)) :
    evItems I ctx (it :: its) = appendOk (evItem I ctx it) (evItems I ctx its) := by
  rw [evItems]
  cases evItem I ctx it with
  | error e => rfl
  | ok a => cases evItems I ctx its <;> rfl

theorem dsItems_cons (I : Iface Raw Inst Ctx Val Hdr Err) (ctx : Ctx) (it : Item Raw) (its : List (Item Raw)) :
    dsItems I ctx (it :: its) = appendOk (dsItem I ctx it) (dsItems I ctx its) := by
  rw [dsItems]
  cases dsItem I ctx it with
  | error e => rfl
  | ok a => cases dsItems I ctx its <;> rfl

theorem appendOk_assoc {α : Type} (x y z : Except Err (List α)) :
    appendOk (appendOk x y) z = appendOk x (appendOk y z) := by
  cases x <;> cases y <;> cases z <;> simp [appendOk]

theorem evItems_append (I : Iface Raw Inst Ctx Val Hdr Err) (ctx : Ctx) (xs ys : List (Item Raw)) :
    evItems I ctx (xs ++ ys) = appendOk (evItems I ctx xs) (evItems I ctx ys) := by
  induction xs with
  | nil => rw [evItems_nil, List.nil_append]; cases evItems I ctx ys <;> rfl
  | cons x xs ih => rw [List.cons_append, evItems_cons, evItems_cons, ih, appendOk_assoc]

theorem evItems_singleton (I : Iface Raw Inst Ctx Val Hdr Err) (ctx : Ctx) (it : Item Raw) :
    evItems I ctx [it] = evItem I ctx it := by
  rw [evItems_cons, evItems_nil]
  cases evItem I ctx it <;> simp [appendOk]

theorem sequence_flatten {α : Type} (l : List (Except Err (List α))) :
    (sequence l).map List.flatten = l.foldr appendOk (.ok []) := by
  induction l with
  | nil => rfl
  | cons x l ih =>
    rw [List.foldr_cons, ← ih]
    cases x with
    | error e => rfl
    | ok a => simp only [sequence]; cases sequence l <;> rfl

/-- the desugared items evaluate, in any context, to the events `e` holds; or both fail alike -/
def AgreeR (I : Iface Raw Inst Ctx Val Hdr Err) (d : Except Err (List (Item Raw)))
    (e : Except Err (List (Ev Inst Hdr))) : Prop :=
  match d with
  | .ok its' => ∃ es, e = .ok es ∧ ∀ ctx', evItems I ctx' its' = .ok es
  | .error x => e = .error x

theorem AgreeR.nil (I : Iface Raw Inst Ctx Val Hdr Err) : AgreeR I (.ok []) (.ok []) :=
  ⟨[], rfl, fun ctx' => evItems_nil I ctx'⟩

section
variable {I : Iface Raw Inst Ctx Val Hdr Err}

theorem AgreeR.append {d1 d2 : Except Err (List (Item Raw))}
    {e1 e2 : Except Err (List (Ev Inst Hdr))} (h1 : AgreeR I d1 e1) (h2 : AgreeR I d2 e2) :
    AgreeR I (appendOk d1 d2) (appendOk e1 e2) := by
  cases d1 with
  | error x => cases h1; rfl
  | ok a =>
    obtain ⟨es1, rfl, hall1⟩ := h1
    cases d2 with
    | error x => cases h2; rfl
    | ok b =>
      obtain ⟨es2, rfl, hall2⟩ := h2
      exact ⟨_, rfl, fun ctx' => by rw [evItems_append, hall1, hall2, appendOk_ok]⟩

theorem AgreeR.sequence {α : Type} (xs : List α)
    (ds : α → Except Err (List (Item Raw))) (ev : α → Except Err (List (Ev Inst Hdr)))
    (H : ∀ x, AgreeR I (ds x) (ev x)) :
    AgreeR I ((sequence (xs.map ds)).map List.flatten) ((sequence (xs.map ev)).map List.flatten) := by
  rw [sequence_flatten, sequence_flatten]
  induction xs with
  | nil => exact AgreeR.nil I
  | cons x xs ih => exact AgreeR.append (H x) ih

theorem AgreeR.block (L : Laws I) {i : Inst} {h : Hdr}
    (hinc : I.includeIf i = true) (hh : I.hdr i = h) {d : Except Err (List (Item Raw))}
    {e : Except Err (List (Ev Inst Hdr))} (H : AgreeR I d e) :
    -- not generalizing: the evaluators' `match` has one discriminant, it does not take `H` along
    AgreeR I (match (generalizing := false) d with | .error x => .error x | .ok bs => .ok [.block (I.lit i) bs])
      (match (generalizing := false) e with | .error x => .error x | .ok es => .ok ([.open_ h] ++ es ++ [.close h])) := by
  cases d with
  | error x => cases H; rfl
  | ok bs =>
    obtain ⟨es, rfl, hall⟩ := H
    refine ⟨_, rfl, fun ctx' => ?_⟩
    simp [evItems_singleton, evItem, L.inst_lit, hinc, hh, hall ctx']

theorem AgreeR.unrolled (L : Laws I) {i : Inst} {h : Hdr}
    (hinc : I.includeIf i = true) (hh : I.hdr i = h) {α : Type} {xs : List α}
    {ds : α → Except Err (List (Item Raw))} {ev : α → Except Err (List (Ev Inst Hdr))}
    (H : ∀ x, AgreeR I (ds x) (ev x)) :
    AgreeR I
      (match Sugar.sequence (xs.map ds) with | .error x => .error x | .ok bss => .ok [.block (I.lit i) bss.flatten])
      (match Sugar.sequence (xs.map ev) with
       | .error x => .error x
       | .ok ess => .ok ([.open_ h] ++ ess.flatten ++ [.close h])) := by
  have := AgreeR.block L hinc hh (AgreeR.sequence xs ds ev H)
  cases hd : Sugar.sequence (xs.map ds) <;> cases he : Sugar.sequence (xs.map ev) <;> rw [hd, he] at this <;> exact this

theorem AgreeR.gate {ctx : Ctx} {r : Raw}
    {d : Inst → Except Err (List (Item Raw))} {e : Inst → Except Err (List (Ev Inst Hdr))}
    (H : ∀ i, I.includeIf i = true → AgreeR I (d i) (e i)) :
    AgreeR I (match I.inst ctx r with | .error x => .error x | .ok i => if I.includeIf i then d i else .ok [])
      (match I.inst ctx r with | .error x => .error x | .ok i => if I.includeIf i then e i else .ok []) := by
  cases I.inst ctx r with
  | error x => rfl
  | ok i =>
    dsimp only
    cases hinc : I.includeIf i with
    | false => exact AgreeR.nil I
    | true => exact H i hinc

end

theorem agreeR_items_of (I : Iface Raw Inst Ctx Val Hdr Err) (its : List (Item Raw))
    (H : ∀ it ∈ its, ∀ (ctx : Ctx), AgreeR I (dsItem I ctx it) (evItem I ctx it)) (ctx : Ctx) :
    AgreeR I (dsItems I ctx its) (evItems I ctx its) := by
  induction its with
  | nil => rw [dsItems, evItems]; exact AgreeR.nil I
  | cons it its ih =>
    rw [dsItems_cons, evItems_cons]
    exact AgreeR.append (H it (List.mem_cons_self ..) ctx) (ih fun x hx => H x (List.mem_cons_of_mem _ hx))

theorem agreeR_item (I : Iface Raw Inst Ctx Val Hdr Err) (L : Laws I) :
    ∀ (it : Item Raw) (ctx : Ctx), AgreeR I (dsItem I ctx it) (evItem I ctx it) := by
  intro it
  induction it using Item.induct with
  | row r =>
    intro ctx
    simp only [dsItem, evItem, apply_ite Except.ok]
    exact AgreeR.gate fun i hinc => ⟨_, rfl, fun ctx' => by simp [evItems_singleton, evItem, L.inst_lit, hinc]⟩
  | block b body ih =>
    intro ctx
    rw [dsItem, evItem]
    exact AgreeR.gate fun i hinc => AgreeR.block L hinc rfl (agreeR_items_of I body ih ctx)
  | forLoop b body ih =>
    intro ctx
    rw [dsItem, evItem]
    refine AgreeR.gate fun i hinc => ?_
    cases I.loopVars i with
    | none => rfl
    | some p =>
      -- the unrolled loop is a block under the begin row rewritten as a block row
      exact AgreeR.unrolled L (L.include_asBlock i hinc) (L.hdr_asBlock i)
        fun x => agreeR_items_of I body ih (iterCtx I ctx p.1 p.2 x.1 x.2)

/-- `AgreeR` of the outcomes of `dsItems` and `evItems` on one list of items, written out -/
def Agree (I : Iface Raw Inst Ctx Val Hdr Err) (ctx : Ctx) (its : List (Item Raw)) : Prop :=
  match dsItems I ctx its with
  | .ok its' => ∃ es, evItems I ctx its = .ok es ∧ ∀ ctx', evItems I ctx' its' = .ok es
  | .error e => evItems I ctx its = .error e

theorem agree_items (I : Iface Raw Inst Ctx Val Hdr Err) (L : Laws I) :
    ∀ (its : List (Item Raw)) (ctx : Ctx), Agree I ctx its :=
  fun its => agreeR_items_of I its fun it _ => agreeR_item I L it

theorem agree_item (I : Iface Raw Inst Ctx Val Hdr Err) (L : Laws I) :
    ∀ (it : Item Raw) (ctx : Ctx), Agree I ctx [it] :=
  fun it ctx => agree_items I L [it] ctx

/-! ### a property of every successful outcome

`OkAll Q d` passes through the head of an item, `appendOk` and `sequence` as `AgreeR` does: an invariant of
trees that the cases of `dsItem` keep is kept by desugaring (well-kindedness, `Lemmas/SugarFlatErase.lean`). -/

def OkAll {α : Type} (Q : α → Prop) (d : Except Err α) : Prop := ∀ out, d = .ok out → Q out

theorem OkAll.error {α : Type} {Q : α → Prop} (x : Err) : OkAll Q (.error x : Except Err α) := fun _ h => nomatch h

theorem OkAll.ok {α : Type} {Q : α → Prop} {a : α} (h : Q a) : OkAll Q (.ok a : Except Err α) :=
  fun _ e => by cases e; exact h

theorem OkAll.appendOk {α : Type} {Q : List α → Prop} (hQ : ∀ a b, Q a → Q b → Q (a ++ b))
    {d1 d2 : Except Err (List α)} (h1 : OkAll Q d1) (h2 : OkAll Q d2) : OkAll Q (appendOk d1 d2) := by
  cases d1 with
  | error x => exact .error x
  | ok a =>
    cases d2 with
    | error x => exact .error x
    | ok b => exact .ok (hQ a b (h1 a rfl) (h2 b rfl))

theorem OkAll.sequence {α β : Type} {Q : List β → Prop} (h0 : Q []) (hQ : ∀ a b, Q a → Q b → Q (a ++ b))
    (xs : List α) (ds : α → Except Err (List β)) (H : ∀ x, OkAll Q (ds x)) :
    OkAll Q ((sequence (xs.map ds)).map List.flatten) := by
  rw [sequence_flatten]
  induction xs with
  | nil => exact .ok h0
  | cons x xs ih => exact (H x).appendOk hQ ih

theorem OkAll.gate {α : Type} {Q : List α → Prop} (h0 : Q []) {I : Iface Raw Inst Ctx Val Hdr Err} {ctx : Ctx}
    {r : Raw} {k : Inst → Except Err (List α)}
    (H : ∀ i, I.inst ctx r = .ok i → I.includeIf i = true → OkAll Q (k i)) :
    OkAll Q (match I.inst ctx r with | .error x => .error x | .ok i => if I.includeIf i then k i else .ok []) := by
  cases hi : I.inst ctx r with
  | error x => exact .error x
  | ok i =>
    dsimp only
    cases hinc : I.includeIf i with
    | false => exact .ok h0
    | true => exact H i hi hinc

end Rpft.Sugar
