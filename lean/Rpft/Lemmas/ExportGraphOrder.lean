/-
Helper lemmas for C04 (graph level): what one call of the DFS adds to the graph of the skeleton.
As a MULTISET: the task's own edges + `nodeOut` of every node the call completes (`run_perm`).
In ORDER: for a fixed source row `s` and a test `Q` on edges, the sub-list selected by `src = s ∧ Q` grows only AT
THE FRONT, by the task's own edges in exit order (`run_filter`) — provided that whenever a selected edge is
prepended to the first row of a completed node, no selected edge is carried by an earlier row (`DoneOk`).
Instances: `Q = (dst = t)` (always) and `Q = true` for nodes none of whose edges was prepended.
-/
import Rpft.Lemmas.ExportGraphEdges
import Rpft.Lemmas.ListFacts
namespace Rpft.Export
open Function

variable {U : Type} [DecidableEq U]

/-- the edges a task itself puts into the sheet, in exit order (a loop walks its exits in reverse) -/
def taskEdges (f : FlowX U) : Task U → List (GEdge U)
  | .loop n es => loopEdges f n es.reverse
  | .node n pe => [inEdge n pe]

/-! ### as a multiset -/

/-- prepending to the block of a completed node `c` puts one edge into the graph, right below what stands above that
block (`A`, which has no block of `c`) -/
theorem skelEdges_prepend {f : FlowX U} {vis : List U} {items : List (Item U)} (hi : Inv f vis items) {c : NodeX U}
    (hc : Canon f c) (hm : c.uuid ∈ blockUuids items) (e : EdgeT U) :
    ∃ A es B R, items = A ++ Item.block c es :: B ∧ c.uuid ∉ blockUuids A ∧ skelEdges items = skelEdges A ++ R ∧
      skelEdges (items.map (prependItem c.uuid e)) = skelEdges A ++ inEdge c e :: R := by
  obtain ⟨A, es, B, hAB, hA, hB⟩ := split_block hi hc hm
  refine ⟨A, es, B, es.map (inEdge c) ++ chain c ++ skelEdges B, hAB, hA, ?_, ?_⟩ <;>
    simp [hAB, map_prepend_of_not_mem _ _ _ hA, map_prepend_of_not_mem _ _ _ hB, prependItem, skelEdges_append, skelEdges_cons,
      itemEdges]

theorem perm_shift {α : Type} (T N R : List α) (x : α) : (T ++ (N ++ x :: R)).Perm ((T ++ [x]) ++ (N ++ R)) :=
  (List.perm_middle.append_left T).trans (List.Perm.of_eq (List.append_cons ..))

theorem run_perm {f : FlowX U} {D : List (Item U) → NodeX U → NodeX U → Label → Prop}
    {task : Task U} {vis : List U} {items : List (Item U)} {vis' : List U} {items' : List (Item U)}
    (h : Run f D task vis items vis' items') (hi : Inv f vis items) (ht : TaskOk f vis task) :
    ∃ newN, Inv f vis' items' ∧ Delta vis items vis' items' newN ∧
      (skelEdges items').Perm (taskEdges f task ++ (newN.flatMap (nodeOut f) ++ skelEdges items)) := by
  apply Run.rec_inv ?nil ?skip ?done ?back ?new ?node h hi ht
  case nil => exact List.Perm.refl _
  case skip =>
    intro n lab es _ _ _ _ _ ih
    simpa only [taskEdges, List.reverse_cons, loopEdges_snoc, exitEdge_none, Option.toList, List.append_nil] using ih
  case done =>
    intro n lab d es c _ items _ _ newN hfn hc _ hi _ _ ih
    obtain ⟨A, _, _, B, _, _, h1, h2⟩ := skelEdges_prepend hi (findNode_canon hfn) hc ⟨some (lastId n), lab⟩
    simp only [taskEdges, List.reverse_cons, loopEdges_snoc, exitEdge_some n lab hfn, Option.toList, h1, h2] at ih ⊢
    exact ih.trans ((((List.perm_middle.append_left _).append_left _)).trans (perm_shift ..))
  case back =>
    intro n lab d es c k _ items _ _ _ hfn _ _ _ _ _ ih
    simp only [taskEdges, List.reverse_cons, loopEdges_snoc, exitEdge_some n lab hfn, Option.toList, skelEdges_cons,
      itemEdges, List.singleton_append] at ih ⊢
    exact ih.trans (perm_shift ..)
  case new =>
    intro n lab d es c _ _ _ _ _ _ _ _ hfn _ _ _ _ _ p1 p2
    simp only [taskEdges, List.reverse_cons, loopEdges_snoc, exitEdge_some n lab hfn, Option.toList, List.flatMap_append,
      List.singleton_append, List.append_assoc] at p1 p2 ⊢
    refine (p2.trans ((p1.append_left _).append_left _)).trans ((perm_shift ..).trans (List.Perm.of_eq ?_))
    simp only [List.append_assoc, List.singleton_append]
  case node =>
    intro n pe _ _ _ _ _ _ p
    simp only [taskEdges, List.reverse_reverse, skelEdges_cons, itemEdges, List.flatMap_cons, nodeOut, exitsEdges,
      List.map_cons, List.map_nil, List.cons_append, List.append_assoc] at p ⊢
    exact (p.append_left _).cons _

/-! ### in order -/

def sel (s : TempId U) (Q : GEdge U → Bool) (l : List (GEdge U)) : List (GEdge U) :=
  l.filter (fun e => decide (e.src = some s) && Q e)

@[simp] theorem sel_append (s : TempId U) (Q : GEdge U → Bool) (a b : List (GEdge U)) :
    sel s Q (a ++ b) = sel s Q a ++ sel s Q b := by simp [sel]

theorem sel_cons (s : TempId U) (Q : GEdge U → Bool) (x : GEdge U) (l : List (GEdge U)) :
    sel s Q (x :: l) = sel s Q [x] ++ sel s Q l := by
  rw [← List.singleton_append, sel_append]

@[simp] theorem sel_nil (s : TempId U) (Q : GEdge U → Bool) : sel s Q [] = [] := rfl

theorem sel_eq_nil_of_src {s : TempId U} {Q : GEdge U → Bool} {l : List (GEdge U)}
    (h : ∀ e ∈ l, e.src ≠ some s) : sel s Q l = [] := by
  simp only [sel, List.filter_eq_nil_iff]
  intro e he
  simp [h e he]

theorem src_nodeOut {f : FlowX U} {m : NodeX U} {e : GEdge U} (h : e ∈ nodeOut f m) : ∃ j, e.src = some (rowId m j) := by
  simp only [nodeOut, List.mem_append] at h
  rcases h with h | h
  · obtain ⟨j, _, he⟩ := mem_chain.1 h
    exact ⟨j, by rw [he]⟩
  · obtain ⟨lab, d, c, _, _, he⟩ := mem_exitsEdges.1 h
    exact ⟨_, by rw [he]; rfl⟩

theorem sel_nodeOut_nil {f : FlowX U} {n : NodeX U} {j : Nat} {Q : GEdge U → Bool} {newN : List (NodeX U)}
    (h : ∀ m ∈ newN, m.uuid ≠ n.uuid) : sel (rowId n j) Q (newN.flatMap (nodeOut f)) = [] := by
  apply sel_eq_nil_of_src
  intro e he
  obtain ⟨m, hm, hem⟩ := List.mem_flatMap.1 he
  obtain ⟨i, hi⟩ := src_nodeOut hem
  rw [hi]
  intro heq
  exact h m hm (rowId_eq_uuid (Option.some.inj heq))

theorem sel_singleton_eq_nil {s : TempId U} {Q : GEdge U → Bool} {x : GEdge U} (h : ¬ (x.src = some s ∧ Q x = true)) :
    sel s Q [x] = [] := by
  simp only [sel, List.filter_cons, List.filter_nil, Bool.and_eq_true, decide_eq_true_eq, if_neg h]

/-- one exit of `n` handled: its edge, selected in front of what the rest of the loop left, moves in front of the
contributions of the nodes completed meanwhile (none of them is `n`) and joins the edges of the task -/
theorem sel_loop_step {f : FlowX U} {s : TempId U} {Q : GEdge U → Bool} {n c : NodeX U} {lab : Label} {d : U}
    {es : List (Label × Option U)} {newN : List (NodeX U)} {R : List (GEdge U)} (hfn : findNode f d = some c)
    (h : ∀ m ∈ newN, m.uuid ≠ n.uuid) :
    sel s Q (taskEdges f (.loop n es)) ++ (sel s Q (newN.flatMap (nodeOut f)) ++
        (sel s Q [inEdge c ⟨some (lastId n), lab⟩] ++ R)) =
      sel s Q (taskEdges f (.loop n ((lab, some d) :: es))) ++ (sel s Q (newN.flatMap (nodeOut f)) ++ R) := by
  simp only [taskEdges, List.reverse_cons, loopEdges_snoc, exitEdge_some n lab hfn, Option.toList, sel_append,
    List.append_assoc]
  congr 1
  by_cases hs : s = lastId n
  · subst hs
    have : sel (lastId n) Q (newN.flatMap (nodeOut f)) = [] := sel_nodeOut_nil (j := n.rows.length - 1) h
    rw [this]; simp
  · rw [sel_singleton_eq_nil fun hx => hs (Option.some.inj hx.1).symm]; rfl

/-- what the filter needs of the "edge to a completed node" branch -/
def DoneOk (f : FlowX U) (D : List (Item U) → NodeX U → NodeX U → Label → Prop) (s : TempId U) (Q : GEdge U → Bool) : Prop :=
  ∀ vis0 items0 n c lab A es B, D items0 n c lab → Inv f vis0 items0 → items0 = A ++ Item.block c es :: B →
    c.uuid ∉ blockUuids A → s = lastId n → Q ⟨some (lastId n), lab, firstId c⟩ = true → sel s Q (skelEdges A) = []

theorem run_filter {f : FlowX U} {D : List (Item U) → NodeX U → NodeX U → Label → Prop} {s : TempId U} {Q : GEdge U → Bool}
    (hD : DoneOk f D s Q)
    {task : Task U} {vis : List U} {items : List (Item U)} {vis' : List U} {items' : List (Item U)}
    (h : Run f D task vis items vis' items') (hi : Inv f vis items) (ht : TaskOk f vis task) :
    ∃ newN, Inv f vis' items' ∧ Delta vis items vis' items' newN ∧ sel s Q (skelEdges items') =
      sel s Q (taskEdges f task) ++ (sel s Q (newN.flatMap (nodeOut f)) ++ sel s Q (skelEdges items)) := by
  apply Run.rec_inv ?nil ?skip ?done ?back ?new ?node h hi ht
  case nil => simp [taskEdges, loopEdges]
  case skip =>
    intro n lab es _ _ _ _ _ ih
    simpa [taskEdges, loopEdges_snoc, exitEdge_none] using ih
  case done =>
    intro n lab d es c vis items _ _ newN hfn hc hDd hi ht hd ih
    obtain ⟨A, es0, B, R, hAB, hA, h1, h2⟩ := skelEdges_prepend hi (findNode_canon hfn) hc ⟨some (lastId n), lab⟩
    -- the prepended edge passes the filter only if nothing selected stands above the block of `c`
    have e1 : sel s Q (skelEdges A) ++ sel s Q [inEdge c ⟨some (lastId n), lab⟩]
        = sel s Q [inEdge c ⟨some (lastId n), lab⟩] ++ sel s Q (skelEdges A) := by
      by_cases hp : s = lastId n ∧ Q ⟨some (lastId n), lab, firstId c⟩ = true
      · rw [hD vis items n c lab A es0 B hDd hi hAB hA hp.1 hp.2]; simp
      · rw [sel_singleton_eq_nil (x := inEdge c ⟨some (lastId n), lab⟩) fun hx => hp ⟨(Option.some.inj hx.1).symm, hx.2⟩]
        simp
    rw [ih, h2, sel_append, sel_cons, ← List.append_assoc (sel s Q (skelEdges A)), e1, List.append_assoc, ← sel_append, ← h1]
    exact sel_loop_step hfn (hd.fresh_ne ht.2)
  case back =>
    intro n lab d es c k _ items _ _ newN hfn _ _ _ ht hd ih
    rw [ih, skelEdges_cons, itemEdges, sel_append]
    exact sel_loop_step hfn (hd.fresh_ne ht.2)
  case new =>
    intro n lab d es c _ _ _ _ _ _ new1 new2 hfn _ ht _ hd1 hd2 p1 p2
    rw [p2, p1, List.flatMap_append, sel_append, List.append_assoc]
    exact sel_loop_step hfn (hd2.fresh_ne (hd1.mono _ ht.2))
  case node =>
    intro n pe _ _ _ _ _ _ p
    simp only [taskEdges, List.reverse_reverse] at p
    simp only [taskEdges, skelEdges_cons, itemEdges, List.flatMap_cons, nodeOut, exitsEdges, List.map_cons, List.map_nil,
      sel_append, p, List.append_assoc]

/-! ### instance 1: edges into one target row -/

theorem gotoAfter_split {A B : List (Item U)} {c : NodeX U} {es : List (EdgeT U)}
    (h : GotoAfter (A ++ Item.block c es :: B)) : ∀ k c' e, Item.goto k c' e ∈ A → c'.uuid ≠ c.uuid := by
  induction A with
  | nil => nofun
  | cons it A ih =>
    intro k c' e hm
    cases it with
    | goto k2 c2 e2 =>
      rcases List.mem_cons.1 hm with hm | hm
      · cases hm
        exact fun heq => h.1 (by simp [heq, blockUuids_append, blockUuids_cons_block])
      · exact ih h.2 k c' e hm
    | block m es2 => exact ih h k c' e ((List.mem_cons.1 hm).resolve_left nofun)

theorem dst_skelEdges_ne {A : List (Item U)} {c : NodeX U}
    (hA : c.uuid ∉ blockUuids A) (hG : ∀ k c' e, Item.goto k c' e ∈ A → c'.uuid ≠ c.uuid) :
    ∀ e ∈ skelEdges A, e.dst ≠ firstId c := by
  intro e he
  obtain ⟨it, hit, hei⟩ := List.mem_flatMap.1 he
  cases it with
  | goto k c' e0 =>
    simp only [itemEdges, List.mem_singleton] at hei
    subst hei
    exact fun heq => hG k c' e0 hit (rowId_eq_uuid heq)
  | block m es =>
    have hm : m.uuid ≠ c.uuid := by
      intro heq
      apply hA
      rw [← heq]
      exact List.mem_map.2 ⟨m, mem_blockNodes.2 ⟨es, hit⟩, rfl⟩
    simp only [itemEdges, List.mem_append, List.mem_map] at hei
    rcases hei with ⟨e0, _, rfl⟩ | hch
    · exact fun heq => hm (rowId_eq_uuid heq)
    · obtain ⟨j, _, rfl⟩ := mem_chain.1 hch
      exact fun heq => hm (rowId_eq_uuid heq)

/-- nothing that stands above the block of `c` enters the first row of `c`: no block of `c` is there, and no `go_to`
row for `c` (`GotoAfter`) -/
theorem doneOk_dst (f : FlowX U) (D : List (Item U) → NodeX U → NodeX U → Label → Prop) (s t : TempId U) :
    DoneOk f D s (fun e => decide (e.dst = t)) := by
  intro vis0 items0 n c lab A es B _ hi hAB hA _ hQ
  simp only [decide_eq_true_eq] at hQ
  subst hQ
  have hG := gotoAfter_split (hAB ▸ hi.gotoAfter)
  have := dst_skelEdges_ne hA hG
  simp only [sel, List.filter_eq_nil_iff]
  intro e he
  simp [this e he]

/-! ### instance 2: nodes none of whose edges was PREPENDED to an existing row -/

/-- the "edge to a completed node" branch is only taken for sources other than `s` -/
def DNe (s : TempId U) : List (Item U) → NodeX U → NodeX U → Label → Prop := fun _ n _ _ => lastId n ≠ s

theorem doneOk_ne (f : FlowX U) (s : TempId U) (Q : GEdge U → Bool) : DoneOk f (DNe s) s Q := by
  intro _ _ _ _ _ _ _ _ h _ _ _ hs _
  exact absurd hs.symm h

def EdgesNonempty (items : List (Item U)) : Prop := ∀ n es, Item.block n es ∈ items → es ≠ []

/-- `e` stands in the edge list of a first row, but not as its last entry: it was prepended there
(the last entry is the edge the row was created with) -/
def Prepended (items : List (Item U)) (e : EdgeT U) : Prop := ∃ n es, Item.block n es ∈ items ∧ e ∈ es.dropLast

theorem mem_block_map_prepend {cu : U} {e : EdgeT U} {items : List (Item U)} {n : NodeX U} {es : List (EdgeT U)}
    (h : Item.block n es ∈ items) :
    ∃ pre, Item.block n (pre ++ es) ∈ items.map (prependItem cu e) ∧ (n.uuid = cu → pre = [e]) := by
  by_cases hu : n.uuid = cu
  · exact ⟨[e], List.mem_map.2 ⟨_, h, by simp [prependItem, hu]⟩, fun _ => rfl⟩
  · exact ⟨[], List.mem_map.2 ⟨_, h, by simp [prependItem, hu]⟩, fun e => absurd e hu⟩

theorem EdgesNonempty.prepend {items : List (Item U)} (h0 : EdgesNonempty items) {cu : U} {e : EdgeT U} :
    EdgesNonempty (items.map (prependItem cu e)) := by
  intro n es hm
  obtain ⟨es0, hes0, rfl | rfl⟩ := mem_map_prepend hm
  · exact h0 n es hes0
  · exact List.cons_ne_nil _ _

omit [DecidableEq U] in
theorem EdgesNonempty.pushGoto {items : List (Item U)} (h0 : EdgesNonempty items) {k : Nat} {c : NodeX U} {e : EdgeT U} :
    EdgesNonempty (.goto k c e :: items) := by
  intro n es hm
  cases hm with
  | tail _ hm => exact h0 n es hm

section
variable {f : FlowX U} {D : List (Item U) → NodeX U → NodeX U → Label → Prop}
  {task : Task U} {vis : List U} {items : List (Item U)} {vis' : List U} {items' : List (Item U)}
  (h : Run f D task vis items vis' items')
include h

theorem run_grow : ∀ n es, Item.block n es ∈ items → ∃ pre, Item.block n (pre ++ es) ∈ items' := by
  induction h with
  | nil => intro n es h; exact ⟨[], h⟩
  | skip _ ih => exact ih
  | done _ _ _ _ ih =>
    intro n es h
    obtain ⟨p1, h1, _⟩ := mem_block_map_prepend h
    obtain ⟨p2, h2⟩ := ih n _ h1
    exact ⟨p2 ++ p1, by simpa [List.append_assoc] using h2⟩
  | back _ _ _ _ ih =>
    intro n es h
    exact ih n es (List.mem_cons_of_mem _ h)
  | new _ _ _ _ _ ih1 ih2 =>
    intro n es h
    obtain ⟨p1, h1⟩ := ih1 n es h
    obtain ⟨p2, h2⟩ := ih2 n _ h1
    exact ⟨p2 ++ p1, by simpa [List.append_assoc] using h2⟩
  | node _ _ ih =>
    intro n es h
    obtain ⟨p, h2⟩ := ih n es h
    exact ⟨p, List.mem_cons_of_mem _ h2⟩

theorem Prepended.of_run {e : EdgeT U} (hp : Prepended items e) : Prepended items' e := by
  obtain ⟨n, es, hm, he⟩ := hp
  obtain ⟨pre, h2⟩ := run_grow h n es hm
  refine ⟨n, pre ++ es, h2, ?_⟩
  have hne : es ≠ [] := by intro e0; subst e0; simp at he
  rw [List.dropLast_append_of_ne_nil hne]
  exact List.mem_append_right _ he

theorem run_nonempty : EdgesNonempty items → EdgesNonempty items' := by
  induction h with
  | nil => exact id
  | skip _ ih => exact ih
  | done _ _ _ _ ih => exact fun h0 => ih h0.prepend
  | back _ _ _ _ ih => exact fun h0 => ih h0.pushGoto
  | new _ _ _ _ _ ih1 ih2 => exact fun h0 => ih2 (ih1 h0)
  | node _ _ ih =>
    intro h0 n es hm
    cases hm with
    | head => simp
    | tail _ hm => exact ih h0 n es hm

end

/-- if no edge leaving row `s` was prepended anywhere in the final sheet, the "edge to a completed
node" branch never ran for an exit of the node that ends in `s` -/
theorem run_noPrepended {f : FlowX U} (s : TempId U)
    {task : Task U} {vis : List U} {items : List (Item U)} {vis' : List U} {items' : List (Item U)}
    (h : Run f DTrue task vis items vis' items') :
    EdgesNonempty items → (∀ e, Prepended items' e → e.from_ ≠ some s) → Run f (DNe s) task vis items vis' items' := by
  induction h with
  | nil => intro _ _; exact .nil
  | skip _ ih => intro h0 hj; exact .skip (ih h0 hj)
  | @done n lab d es c vis items vis' items' hfn hc _ r ih =>
    intro h0 hj
    refine .done hfn hc ?_ (ih h0.prepend hj)
    intro heq
    obtain ⟨m, hm1, hm2⟩ := List.mem_map.1 hc
    obtain ⟨es0, hes⟩ := mem_blockNodes.1 hm1
    obtain ⟨pre, hpre, hp⟩ := mem_block_map_prepend (cu := c.uuid) (e := ⟨some (lastId n), lab⟩) hes
    rw [hp hm2] at hpre
    have hne := h0 m es0 hes
    have hprep : Prepended (items.map (prependItem c.uuid ⟨some (lastId n), lab⟩)) ⟨some (lastId n), lab⟩ := by
      refine ⟨m, _, hpre, ?_⟩
      rw [List.dropLast_append_of_ne_nil hne]
      simp
    exact hj _ (Prepended.of_run r hprep) (by simp [heq])
  | @back n lab d es c k vis items vis' items' hfn hc hv r ih =>
    intro h0 hj
    exact .back hfn hc hv (ih h0.pushGoto hj)
  | @new n lab d es c vis items vis1 items1 vis' items' hfn hc hv r1 r2 ih1 ih2 =>
    intro h0 hj
    exact .new hfn hc hv (ih1 h0 (fun e he => hj e (Prepended.of_run r2 he))) (ih2 (run_nonempty r1 h0) hj)
  | @node n pe vis items vis' items' hr r ih =>
    intro h0 hj
    refine .node hr (ih h0 ?_)
    intro e he
    obtain ⟨m, es, hm, hes⟩ := he
    exact hj e ⟨m, es, List.mem_cons_of_mem _ hm, hes⟩

/-! ### the selection on the prescribed edges -/

theorem sel_chain_nil (n : NodeX U) (Q : GEdge U → Bool) : sel (lastId n) Q (chain n) = [] := by
  apply sel_eq_nil_of_src
  intro e he
  obtain ⟨j, hj, rfl⟩ := mem_chain.1 he
  intro heq
  have := rowId_inj n (Option.some.inj heq)
  omega

theorem sel_exitsEdges (f : FlowX U) (n : NodeX U) (Q : GEdge U → Bool) :
    sel (lastId n) Q (exitsEdges f n) = (exitsEdges f n).filter Q := by
  simp only [sel]
  apply List.filter_congr
  intro e he
  obtain ⟨lab, d, c, _, _, rfl⟩ := mem_exitsEdges.1 he
  simp

theorem sel_flatMap_nodeOut (f : FlowX U) (Q : GEdge U → Bool) {order : List (NodeX U)} {n : NodeX U}
    (hnd : (order.map (·.uuid)).Nodup) (hn : n ∈ order) :
    sel (lastId n) Q (order.flatMap (nodeOut f)) = (exitsEdges f n).filter Q := by
  have : sel (lastId n) Q (order.flatMap (nodeOut f)) = sel (lastId n) Q (nodeOut f n) := by
    refine filter_flatMap_single _ _ (hnd.of_map _ fun _ _ hne e => hne (congrArg _ e)) hn ?_
    intro m hm hne x hx
    obtain ⟨i, hi⟩ := src_nodeOut hx
    have : rowId m i ≠ lastId n := fun e => hne (eq_of_nodup_map hnd hm hn (rowId_eq_uuid e))
    simp [hi, this]
  rw [this, nodeOut, sel_append, sel_chain_nil, sel_exitsEdges, List.nil_append]

theorem outOf_eq_sel (s : TempId U) (l : List (GEdge U)) : outOf s l = sel s (fun _ => true) l := by
  simp [outOf, sel]

theorem outOf_filter_eq_sel (s : TempId U) (Q : GEdge U → Bool) (l : List (GEdge U)) :
    (outOf s l).filter Q = sel s Q l := by
  simp [outOf, sel, List.filter_filter, Bool.and_comm]

end Rpft.Export
