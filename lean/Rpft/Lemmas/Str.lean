/-
Facts about the string primitives of `Rpft/Str.lean`: `replace1` / `replace2` and a character that does not
occur; `lstrip` / `rstrip` / `strip` on strings without whitespace, on whitespace padding, what they keep, and that
the strings `strip` leaves alone are closed under `++`.
-/
import Rpft.Str
namespace Rpft

theorem replace1_noOcc (c : Char) (r : Str) : ∀ (s : Str), c ∉ s → replace1 c r s = s
  | [], _ => rfl
  | x :: s, h => by
    have hx : x ≠ c := fun e => h (by simp [e])
    have hs : c ∉ s := fun e => h (by simp [e])
    have ih := replace1_noOcc c r s hs
    simp only [replace1] at ih ⊢
    simp [hx, ih]

theorem replace2_noOcc (a b : Char) (r : Str) : ∀ (s : Str), a ∉ s → replace2 a b r s = s
  | [], _ => rfl
  | [x], _ => rfl
  | x :: y :: rest, h => by
    have hx : x ≠ a := fun e => h (by simp [e])
    have hs : a ∉ y :: rest := fun e => h (by simp [e])
    have ih := replace2_noOcc a b r (y :: rest) hs
    simp [replace2, hx, ih]

theorem not_mem_replace1 {c : Char} {r : Str} (hr : c ∉ r) (s : Str) : c ∉ replace1 c r s := by
  unfold replace1
  intro h
  rcases List.mem_flatMap.1 h with ⟨x, _, hx⟩
  by_cases hxc : x = c
  · simp [hxc] at hx; exact hr hx
  · simp [hxc] at hx; exact hxc hx.symm

theorem rstrip_cons (ws : Char → Bool) (c : Char) (s : Str) :
    rstrip ws (c :: s) = if rstrip ws s = [] then (if ws c then [] else [c]) else c :: rstrip ws s := by
  simp only [rstrip]
  split <;> simp_all

theorem rstrip_append (ws : Char → Bool) (p s : Str) :
    rstrip ws (p ++ s) = if rstrip ws s = [] then rstrip ws p else p ++ rstrip ws s := by
  induction p with
  | nil => split <;> simp [*, rstrip]
  | cons c p ih =>
    rw [List.cons_append, rstrip_cons, ih, rstrip_cons]
    split <;> simp [*]

theorem rstrip_eq_nil_of_all {ws : Char → Bool} {s : Str} (h : ∀ c ∈ s, ws c = true) :
    rstrip ws s = [] := by
  induction s with
  | nil => rfl
  | cons c s ih =>
    have := ih (fun x hx => h x (by simp [hx]))
    simp [rstrip, this, h c (by simp)]

theorem rstrip_of_no_ws {ws : Char → Bool} : ∀ (s : Str), (∀ c ∈ s, ws c = false) → rstrip ws s = s
  | [], _ => rfl
  | c :: s, h => by
    have ih := rstrip_of_no_ws s (fun x hx => h x (List.mem_cons_of_mem _ hx))
    have hc : ws c = false := h c (by simp)
    simp only [rstrip, ih]
    cases s with
    | nil => simp [hc]
    | cons d t => rfl

theorem strip_of_no_ws {ws : Char → Bool} (s : Str) (h : ∀ c ∈ s, ws c = false) : strip ws s = s := by
  unfold strip lstrip
  have : s.dropWhile ws = s := by
    cases s with
    | nil => rfl
    | cons c t => simp [List.dropWhile, h c (by simp)]
  rw [this, rstrip_of_no_ws s h]

theorem sublist_rstrip (ws : Char → Bool) (s : Str) : (rstrip ws s).Sublist s := by
  induction s with
  | nil => exact List.Sublist.refl _
  | cons c s ih =>
    rw [rstrip_cons]
    split
    · split
      · exact List.nil_sublist _
      · exact List.Sublist.cons_cons c (List.nil_sublist _)
    · exact List.Sublist.cons_cons c ih

theorem mem_rstrip {ws : Char → Bool} {c : Char} (hc : ws c = false) :
    ∀ {s : Str}, c ∈ s → c ∈ rstrip ws s
  | x :: r, h => by
    rcases List.mem_cons.mp h with e | e
    · subst e
      rw [rstrip]
      split
      · simp [hc]
      · simp
    · have ih := mem_rstrip hc e
      rw [rstrip]
      split
      · next hnil => rw [hnil] at ih; cases ih
      · exact List.mem_cons_of_mem _ ih

theorem mem_lstrip {ws : Char → Bool} {c : Char} (hc : ws c = false) :
    ∀ {s : Str}, c ∈ s → c ∈ lstrip ws s
  | x :: r, h => by
    unfold lstrip
    rw [List.dropWhile_cons]
    split
    · next hx =>
      rcases List.mem_cons.mp h with e | e
      · subst e; rw [hc] at hx; cases hx
      · exact mem_lstrip hc e
    · exact h

theorem mem_strip {ws : Char → Bool} {c : Char} (hc : ws c = false) {s : Str} (h : c ∈ s) :
    c ∈ strip ws s := mem_rstrip hc (mem_lstrip hc h)

theorem lstrip_append_ws {ws : Char → Bool} {l : Str} (hl : ∀ c ∈ l, ws c = true) (s : Str) :
    lstrip ws (l ++ s) = lstrip ws s := by
  induction l with
  | nil => rfl
  | cons c l ih =>
    have hc := hl c (by simp)
    have := ih (fun x hx => hl x (by simp [hx]))
    simp only [lstrip] at this ⊢
    simp [hc, this]

theorem rstrip_append_ws {ws : Char → Bool} {r : Str} (hr : ∀ c ∈ r, ws c = true) (s : Str) :
    rstrip ws (s ++ r) = rstrip ws s := by
  rw [rstrip_append, if_pos (rstrip_eq_nil_of_all hr)]

theorem strip_padded {ws : Char → Bool} {l r : Str} (hl : ∀ c ∈ l, ws c = true)
    (hr : ∀ c ∈ r, ws c = true) (s : Str) : strip ws (l ++ s ++ r) = strip ws s := by
  unfold strip
  rw [List.append_assoc, lstrip_append_ws hl]
  induction s with
  | nil =>
    have h := lstrip_append_ws hr ([] : Str)
    rw [List.append_nil] at h
    rw [List.nil_append, h]
  | cons c s ih =>
    by_cases hc : ws c = true
    · simpa [lstrip, List.dropWhile_cons, hc] using ih
    · have hc' : ws c = false := by simpa using hc
      simp only [lstrip, List.cons_append, List.dropWhile_cons, hc', Bool.false_eq_true, if_false]
      exact rstrip_append_ws hr (c :: s)

theorem lstrip_rstrip_of_strip {ws : Char → Bool} {s : Str} (h : strip ws s = s) :
    lstrip ws s = s ∧ rstrip ws s = s := by
  have hsub : (lstrip ws s).Sublist s := List.dropWhile_sublist ws
  have h2 : (strip ws s).length ≤ (lstrip ws s).length := (sublist_rstrip ws _).length_le
  have hl : lstrip ws s = s := hsub.eq_of_length (Nat.le_antisymm hsub.length_le (by rwa [h] at h2))
  refine ⟨hl, ?_⟩
  unfold strip at h
  rwa [hl] at h

theorem strip_append_of_strip {ws : Char → Bool} {a b : Str} (ha : strip ws a = a) (hb : strip ws b = b) :
    strip ws (a ++ b) = a ++ b := by
  obtain ⟨la, ra⟩ := lstrip_rstrip_of_strip ha
  obtain ⟨lb, rb⟩ := lstrip_rstrip_of_strip hb
  have hl : lstrip ws (a ++ b) = a ++ b := by
    unfold lstrip at *
    rw [List.dropWhile_append, la, lb]
    cases a <;> simp
  unfold strip
  rw [hl, rstrip_append, ra, rb]
  split <;> simp [*]

end Rpft
