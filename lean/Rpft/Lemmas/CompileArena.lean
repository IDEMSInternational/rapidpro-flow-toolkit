/-
The arena invariant of the compiler machine, `AInvC h ns b` (`AInv h s` on a state), under the ghost flags `h`:
* `NodesOk`  — every destination stored anywhere in the arena is the identifier of an arena
  node, and every case of every switch router names a category of that router;
* `IdsInv` (under `h.ids`) — every identifier the counter accounts for (`NodeM.fids`: all but a node identifier
  given in the sheet) is `~k` for some `k < next`, and none occurs twice (inside one node or in two nodes);
* under `h.noGiven`, every node identifier looks invented.
Beside it `NExt`, which every step keeps: the arena only grows and the identifier of an arena node never changes.
Here: the definitions; `Grow`, how a list of identifiers changes while the counter advances; the invariant under
the arena updates — allocate identifiers (`bump`), overwrite a node (`set`), push a node (`push`), the last two
instances of the one update `Upd`; and what `IdsInv` gives for the nodes selected by a duplicate-free list of
indices: all their identifiers are pairwise different as soon as the node identifiers are.
-/
import Rpft.Lemmas.CompileConnect
namespace Rpft.Compile
open Rpft

/-- every category of a router that a case names exists in that router -/
def CaseCatsOk (r : SwitchR) : Prop := ∀ k ∈ r.cases, k.catUid ∈ r.allCats.map (·.uid)

theorem allCats_mapCats_uids (r : SwitchR) (f : Cat → Cat) (hf : ∀ c, (f c).uid = c.uid) :
    (r.mapCats f).allCats.map (·.uid) = r.allCats.map (·.uid) := by
  rw [allCats_mapCats, List.map_map]
  exact List.map_congr_left fun c _ => hf c

theorem caseCatsOk_mapCats (r : SwitchR) (f : Cat → Cat) (hf : ∀ c, (f c).uid = c.uid)
    (h : CaseCatsOk r) : CaseCatsOk (r.mapCats f) := by
  intro k hk
  rw [allCats_mapCats_uids r f hf]
  exact h k hk

def DestOk (ns : Array NodeM) : Dest → Prop
  | .node u => ∃ (i : Nat) (n : NodeM), ns[i]? = some n ∧ n.uid = u
  | _ => True

structure NodeOk (ns : Array NodeM) (n : NodeM) : Prop where
  dests : ∀ d ∈ n.exitDests, DestOk ns d
  dexit : DestOk ns n.dexitDest
  cases : ∀ r, n.router = some (.sw r) → CaseCatsOk r

def NodesOk (ns : Array NodeM) : Prop := ∀ (i : Nat) (n : NodeM), ns[i]? = some n → NodeOk ns n

def NExt (ns ns' : Array NodeM) : Prop :=
  ∀ (i : Nat) (n : NodeM), ns[i]? = some n → ∃ n' : NodeM, ns'[i]? = some n' ∧ n'.uid = n.uid

variable {ns ns' : Array NodeM} {b b' b1 b2 i k : Nat} {x : Uid} {l l' l1 l2 : List Uid} {n n' : NodeM} {d : Dest}

theorem NExt.refl (ns : Array NodeM) : NExt ns ns := fun _ n h => ⟨n, h, rfl⟩

theorem NExt.trans {a b c : Array NodeM} (h1 : NExt a b) (h2 : NExt b c) : NExt a c := by
  intro i n h
  obtain ⟨n1, hn1, hu1⟩ := h1 i n h
  obtain ⟨n2, hn2, hu2⟩ := h2 i n1 hn1
  exact ⟨n2, hn2, by rw [hu2, hu1]⟩

theorem DestOk.ext (h : NExt ns ns') (hd : DestOk ns d) :
    DestOk ns' d := by
  cases d with
  | none => exact True.intro
  | hard => exact True.intro
  | node u =>
    obtain ⟨i, n, hi, hu⟩ := hd
    obtain ⟨n', hi', hu'⟩ := h i n hi
    exact ⟨i, n', hi', by rw [hu', hu]⟩

theorem NodeOk.ext (h : NExt ns ns') (hn : NodeOk ns n) :
    NodeOk ns' n := ⟨fun d hd => (hn.dests d hd).ext h, hn.dexit.ext h, hn.cases⟩

theorem NExt.set {old : NodeM} (ho : ns[i]? = some old)
    (hu : n'.uid = old.uid) : NExt ns (ns.setIfInBounds i n') := by
  intro j n hj
  rw [Array.getElem?_setIfInBounds]
  by_cases hij : i = j
  · subst hij
    have hlt : i < ns.size := lt_size_of_getElem? ho
    rw [ho] at hj; injection hj with hj; subst hj
    simp [hlt, hu]
  · simp [hij, hj]

theorem NExt.push (ns : Array NodeM) (n : NodeM) : NExt ns (ns.push n) :=
  fun _ m hj => ⟨m, getElem?_push_of_some hj, rfl⟩

/-- `ns'` arises from `ns` by overwriting or adding the entry at `i` -/
def Upd (ns ns' : Array NodeM) (i : Nat) (n' : NodeM) : Prop :=
  ∀ j m, ns'[j]? = some m → (j = i ∧ m = n') ∨ (j ≠ i ∧ ns[j]? = some m)

theorem Upd.set (ns : Array NodeM) (i : Nat) (n' : NodeM) : Upd ns (ns.setIfInBounds i n') i n' :=
  fun _ _ hj => getElem?_set_some hj

theorem Upd.push (ns : Array NodeM) (n : NodeM) : Upd ns (ns.push n) ns.size n :=
  fun _ _ hj => getElem?_push_some hj

theorem NodesOk.upd (h : NodesOk ns) (hu : Upd ns ns' i n')
    (he : NExt ns ns') (hn : NodeOk ns' n') : NodesOk ns' := fun j m hj =>
  (hu j m hj).elim (fun e => e.2 ▸ hn) fun e => (h j m e.2).ext he

theorem DestOk.push_self : DestOk (ns.push n) (.node n.uid) :=
  ⟨ns.size, n, by simp, rfl⟩

def SwitchR.ids (r : SwitchR) : List Uid :=
  r.allCats.map (·.exitUid) ++ (r.allCats.map (·.uid) ++ r.cases.map (·.uid))

def RandomR.ids (r : RandomR) : List Uid := r.cats.map (·.exitUid) ++ r.cats.map (·.uid)

def NodeM.tailIds (n : NodeM) : List Uid :=
  match n.router with
  | none => [n.dexitUid]
  | some (.sw r) => r.ids
  | some (.rnd r) => r.ids

/-- every identifier of a node, in the order of the rendered document -/
def NodeM.ids (n : NodeM) : List Uid := n.uid :: (n.actions.map (·.1) ++ n.tailIds)

theorem renderNode_ids (n : NodeM) : (renderNode n).ids = n.ids := by
  unfold NodeM.ids NodeM.tailIds Flow.Node.ids renderNode
  rcases h : n.router with _ | r | r
  · simp [List.map_map, Function.comp]
  · simp [List.map_map, Function.comp_def, Flow.Router.ids, renderRouter, Flow.Router.cats,
      Flow.Router.cases, SwitchR.ids, renderCat, renderExit, renderCase]
  · simp [List.map_map, Function.comp_def, Flow.Router.ids, renderRouter, Flow.Router.cats,
      Flow.Router.cases, RandomR.ids, renderCat, renderExit]

/-- an identifier that looks like an invented one (`~…`) -/
def Invented (u : Uid) : Prop := u.head? = some '~'

instance (u : Uid) : Decidable (Invented u) := by unfold Invented; exact inferInstance

/-- the node identifier counts as "freshly allocated" only when it looks invented: identifiers
given in the sheet (`_nodeId`) are not under the control of the counter -/
def uidPart (u : Uid) : List Uid := if Invented u then [u] else []

/-- the identifiers of a node other than its own -/
def NodeM.innerIds (n : NodeM) : List Uid := n.actions.map (·.1) ++ n.tailIds

/-- the identifiers of a node that the counter accounts for -/
def NodeM.fids (n : NodeM) : List Uid := uidPart n.uid ++ n.innerIds

theorem NodeM.ids_eq (n : NodeM) : n.ids = n.uid :: n.innerIds := rfl

theorem innerIds_sub_fids (n : NodeM) {x : Uid} (h : x ∈ n.innerIds) : x ∈ n.fids := by
  simp only [NodeM.fids, List.mem_append]; exact .inr h

theorem uid_mem_fids (n : NodeM) (h : Invented n.uid) : n.uid ∈ n.fids := by
  simp [NodeM.fids, uidPart, h]

theorem mem_fids_of_invented {n : NodeM} {x : Uid} (hx : x ∈ n.ids) (hinv : Invented x) : x ∈ n.fids := by
  rw [NodeM.ids_eq, List.mem_cons] at hx
  rcases hx with rfl | hx
  · exact uid_mem_fids n hinv
  · exact innerIds_sub_fids n hx

/-- `x` is one of the identifiers handed out while the counter went from `b` to `b'` -/
def InR (b b' : Nat) (x : Uid) : Prop := ∃ k, b ≤ k ∧ k < b' ∧ x = tid k

def Below (b : Nat) (x : Uid) : Prop := ∃ k, k < b ∧ x = tid k

theorem InR.below (h : InR b b' x) : Below b' x := by
  obtain ⟨k, _, h2, h3⟩ := h; exact ⟨k, h2, h3⟩

theorem invented_tid (k : Nat) : Invented (tid k) := rfl

theorem uidPart_tid (k : Nat) : uidPart (tid k) = [tid k] := by simp [uidPart, invented_tid]

theorem Below.invented {b : Nat} {x : Uid} (h : Below b x) : Invented x := by
  obtain ⟨k, _, rfl⟩ := h; exact invented_tid k

theorem Below.mono (h : Below b x) (hb : b ≤ b') : Below b' x := by
  obtain ⟨k, h2, h3⟩ := h; exact ⟨k, by omega, h3⟩

theorem Below.not_inR (h : Below b x) : ¬ InR b b' x := by
  rintro ⟨k, h1, _, h3⟩
  obtain ⟨k', h4, h5⟩ := h
  rw [h5] at h3
  have := tid_inj.mp h3
  omega

/-- `l'` arises from `l` by adding identifiers handed out in `[b, b')`, each at most once
(identifiers may also disappear) -/
def Grow (b b' : Nat) (l l' : List Uid) : Prop :=
  ∀ x, (InR b b' x → l'.count x ≤ l.count x + 1) ∧ (¬ InR b b' x → l'.count x ≤ l.count x)

theorem Grow.refl : Grow b b' l l := by
  intro x; constructor <;> intro _ <;> omega

theorem Grow.trans (h1 : Grow b b1 l l1)
    (h2 : Grow b1 b2 l1 l2) (hb : b ≤ b1) (hb' : b1 ≤ b2) : Grow b b2 l l2 := by
  intro x
  by_cases hx1 : InR b b1 x
  · have hx2 : ¬ InR b1 b2 x := by
      rintro ⟨k, h3, _, h5⟩
      obtain ⟨k', _, h7, h8⟩ := hx1
      rw [h8] at h5; have := tid_inj.mp h5; omega
    have hx : InR b b2 x := by
      obtain ⟨k', h6, h7, h8⟩ := hx1; exact ⟨k', h6, by omega, h8⟩
    have a1 := (h1 x).1 hx1
    have a2 := (h2 x).2 hx2
    constructor
    · intro _; omega
    · intro hn; exact absurd hx hn
  · have a1 := (h1 x).2 hx1
    by_cases hx2 : InR b1 b2 x
    · have hx : InR b b2 x := by
        obtain ⟨k', h6, h7, h8⟩ := hx2; exact ⟨k', by omega, h7, h8⟩
      have a2 := (h2 x).1 hx2
      constructor
      · intro _; omega
      · intro hn; exact absurd hx hn
    · have a2 := (h2 x).2 hx2
      constructor <;> intro _ <;> omega

theorem inR_tid_iff : InR b b' (tid k) ↔ b ≤ k ∧ k < b' := by
  constructor
  · rintro ⟨k', h1, h2, h3⟩; have := tid_inj.mp h3; subst this; exact ⟨h1, h2⟩
  · rintro ⟨h1, h2⟩; exact ⟨k, h1, h2, rfl⟩

/-- the usual way to grow: new identifiers, pairwise different, are inserted somewhere -/
theorem Grow.of_perm {new : List Uid} (hp : l'.Perm (l ++ new)) (hn : new.Nodup)
    (hr : ∀ x ∈ new, InR b b' x) : Grow b b' l l' := by
  intro x
  have hc : l'.count x = l.count x + new.count x := by
    rw [hp.count_eq, List.count_append]
  have h1 : new.count x ≤ 1 := List.nodup_iff_count.mp hn x
  constructor
  · intro _; omega
  · intro hx
    have : new.count x = 0 := by
      rw [List.count_eq_zero]; intro hm; exact hx (hr x hm)
    omega

/-- `grow_new [tid a, tid b, …]`: the new list is the old one with these identifiers inserted -/
macro "grow_new " new:term : tactic => `(tactic| (
  apply Grow.of_perm (new := $new)
  · rw [List.perm_iff_count]; intro x
    simp only [List.map_append, List.count_append, List.map_cons, List.map_nil, List.count_cons,
      List.count_nil, List.cons_append, List.nil_append, List.append_nil, Option.toList]
    all_goals omega
  · simp only [List.nodup_cons, List.mem_cons, tid_inj, List.not_mem_nil, List.nodup_nil, or_false,
      not_or, not_false_eq_true, and_true]
    all_goals omega
  · simp only [List.forall_mem_cons, inR_tid_iff, List.not_mem_nil, false_imp_iff, implies_true,
      and_true]
    all_goals omega))

theorem Grow.perm_right {l'' : List Uid} (h : Grow b b' l l') (hp : l'.Perm l'') :
    Grow b b' l l'' := by
  intro x; rw [← hp.count_eq]; exact h x

theorem Grow.mono_left (h : Grow b b' l l')
    (hs : ∀ x, l.count x ≤ l2.count x) : Grow b b' l2 l' := by
  intro x
  have := hs x
  constructor
  · intro hx; have := (h x).1 hx; omega
  · intro hx; have := (h x).2 hx; omega

theorem Grow.ctx (h : Grow b b' l l') (a c : List Uid) :
    Grow b b' (a ++ (l ++ c)) (a ++ (l' ++ c)) := by
  intro x
  simp only [List.count_append]
  constructor
  · intro hx; have := (h x).1 hx; omega
  · intro hx; have := (h x).2 hx; omega

theorem Grow.append {b b1 b2 : Nat} {l1 l1' l2 l2' : List Uid} (h1 : Grow b b1 l1 l1')
    (h2 : Grow b1 b2 l2 l2') (hb : b ≤ b1) (hb' : b1 ≤ b2) :
    Grow b b2 (l1 ++ l2) (l1' ++ l2') := by
  have e1 : Grow b b1 (l1 ++ l2) (l1' ++ l2) := by
    have := h1.ctx [] l2; simpa using this
  have e2 : Grow b1 b2 (l1' ++ l2) (l1' ++ l2') := by
    have := h2.ctx l1' []; simpa using this
  exact e1.trans e2 hb hb'

theorem Grow.nodup (h : Grow b b' l l') (hn : l.Nodup)
    (hb : ∀ x ∈ l, Below b x) : l'.Nodup := by
  rw [List.nodup_iff_count] at *
  intro x
  by_cases hx : InR b b' x
  · have h0 : l.count x = 0 := by
      rw [List.count_eq_zero]
      intro hm; exact (hb x hm).not_inR hx
    have := (h x).1 hx; omega
  · have := (h x).2 hx; have := hn x; omega

theorem Grow.mem (h : Grow b b' l l') (hx : x ∈ l') :
    x ∈ l ∨ InR b b' x := by
  by_cases hr : InR b b' x
  · exact .inr hr
  · left
    have := (h x).2 hr
    have h1 : 0 < l'.count x := List.count_pos_iff.mpr hx
    exact List.count_pos_iff.mp (by omega)

structure IdsInv (ns : Array NodeM) (b : Nat) : Prop where
  nodup : ∀ (i : Nat) (n : NodeM), ns[i]? = some n → n.fids.Nodup
  below : ∀ (i : Nat) (n : NodeM), ns[i]? = some n → ∀ x ∈ n.fids, Below b x
  disj : ∀ (i j : Nat) (n m : NodeM) (x : Uid), ns[i]? = some n → ns[j]? = some m → x ∈ n.fids → x ∈ m.fids → i = j

theorem IdsInv.mono (h : IdsInv ns b) (hb : b ≤ b') : IdsInv ns b' :=
  ⟨h.nodup, fun i n hi x hx => (h.below i n hi x hx).mono hb, h.disj⟩

/-- the entry at `i` is overwritten or added; its identifiers grow from `old`, a list that was
duplicate-free, below `b` and shared nothing with the other entries -/
theorem IdsInv.upd {old : List Uid} (h : IdsInv ns b)
    (hu : Upd ns ns' i n') (hg : Grow b b' old n'.fids) (hb : b ≤ b') (hnd : old.Nodup)
    (hbl : ∀ x ∈ old, Below b x)
    (hdj : ∀ (j : Nat) (m : NodeM) (x : Uid), j ≠ i → ns[j]? = some m → x ∈ old → x ∉ m.fids) :
    IdsInv ns' b' := by
  have hbn : ∀ x ∈ n'.fids, Below b' x := fun x hx =>
    (hg.mem hx).elim (fun h1 => (hbl x h1).mono hb) InR.below
  have hne : ∀ (j : Nat) (m : NodeM) (x : Uid), j ≠ i → ns[j]? = some m → x ∈ n'.fids → x ∉ m.fids :=
    fun j m x hj hm hx hxm => (hg.mem hx).elim (fun h1 => hdj j m x hj hm h1 hxm)
      fun h1 => (h.below j m hm x hxm).not_inR h1
  refine ⟨fun j m hj => ?_, fun j m hj x hx => ?_, fun j1 j2 m1 m2 x h1 h2 hx1 hx2 => ?_⟩
  · rcases hu j m hj with ⟨_, rfl⟩ | ⟨_, hm⟩
    · exact hg.nodup hnd hbl
    · exact h.nodup j m hm
  · rcases hu j m hj with ⟨_, rfl⟩ | ⟨_, hm⟩
    · exact hbn x hx
    · exact (h.below j m hm x hx).mono hb
  · rcases hu j1 m1 h1 with ⟨e1, rfl⟩ | ⟨e1, hm1⟩ <;> rcases hu j2 m2 h2 with ⟨e2, rfl⟩ | ⟨e2, hm2⟩
    · rw [e1, e2]
    · exact absurd hx2 (hne j2 m2 x e2 hm2 hx1)
    · exact absurd hx1 (hne j1 m1 x e1 hm1 hx2)
    · exact h.disj j1 j2 m1 m2 x hm1 hm2 hx1 hx2

/-- **identifiers are used once**: in the node list selected by a duplicate-free index list, all
identifiers are pairwise different as soon as the node identifiers are (the node identifiers are
the only ones a sheet can dictate) -/
theorem ids_nodup_of_idsInv {ns : Array NodeM} {bd : Nat} (hI : IdsInv ns bd) :
    ∀ L : List Nat, L.Nodup → ((L.filterMap fun i => ns[i]?).map (·.uid)).Nodup →
      ((L.filterMap fun i => ns[i]?).flatMap NodeM.ids).Nodup := by
  -- an identifier other than a node's own came from the counter
  have inner : ∀ {i : Nat} {n : NodeM} {x : Uid}, ns[i]? = some n → x ∈ n.ids → x ≠ n.uid → Invented x := fun hi hx hne =>
    (hI.below _ _ hi _ (innerIds_sub_fids _ ((List.mem_cons.mp hx).resolve_left hne))).invented
  intro L
  induction L with
  | nil => intro _ _; simp
  | cons i L ih =>
    intro hL hU
    rw [List.nodup_cons] at hL
    rcases hi : ns[i]? with _ | n
    · simp only [List.filterMap_cons, hi] at hU ⊢; exact ih hL.2 hU
    · simp only [List.filterMap_cons, hi, List.flatMap_cons, List.map_cons] at hU ⊢
      rw [List.nodup_cons] at hU
      have hfn := hI.nodup i n hi
      unfold NodeM.fids at hfn
      have huin : n.uid ∉ n.innerIds := fun hm =>
        (List.nodup_append.mp hfn).2.2 n.uid
          (by simp [uidPart, (hI.below i n hi _ (innerIds_sub_fids n hm)).invented]) n.uid hm rfl
      rw [List.nodup_append]
      refine ⟨by rw [NodeM.ids_eq, List.nodup_cons]; exact ⟨huin, (List.nodup_append.mp hfn).2.1⟩, ih hL.2 hU.2, ?_⟩
      intro x hx y hy hxy
      subst hxy
      simp only [List.mem_flatMap, List.mem_filterMap] at hy
      obtain ⟨m, ⟨j, hj, hjm⟩, hxm⟩ := hy
      have hij : i ≠ j := fun e => hL.1 (e ▸ hj)
      by_cases hinv : Invented x
      · exact hij (hI.disj i j n m x hi hjm (mem_fids_of_invented hx hinv) (mem_fids_of_invented hxm hinv))
      · -- not from the counter: it is the identifier of both nodes
        have h1 : x = n.uid := Classical.not_not.mp fun h => hinv (inner hi hx h)
        have h2 : x = m.uid := Classical.not_not.mp fun h => hinv (inner hjm hxm h)
        exact hU.1 (List.mem_map.mpr ⟨m, List.mem_filterMap.mpr ⟨j, hj, hjm⟩, h2.symm.trans h1⟩)

theorem uids_nodup_of_invented {ns : Array NodeM} {bd : Nat} (hI : IdsInv ns bd)
    (hinv : ∀ (i : Nat) (n : NodeM), ns[i]? = some n → Invented n.uid) :
    ∀ L : List Nat, L.Nodup → ((L.filterMap fun i => ns[i]?).map (·.uid)).Nodup := by
  intro L
  induction L with
  | nil => intro _; simp
  | cons i L ih =>
    intro hL
    rw [List.nodup_cons] at hL
    rcases hi : ns[i]? with _ | n
    · simp only [List.filterMap_cons, hi]; exact ih hL.2
    · simp only [List.filterMap_cons, hi, List.map_cons]
      rw [List.nodup_cons]
      refine ⟨?_, ih hL.2⟩
      intro hm
      simp only [List.mem_map, List.mem_filterMap] at hm
      obtain ⟨m, ⟨j, hj, hjm⟩, hu⟩ := hm
      have : i = j := hI.disj i j n m n.uid hi hjm (uid_mem_fids n (hinv i n hi))
        (hu ▸ uid_mem_fids m (hinv j m hjm))
      exact hL.1 (this ▸ hj)

/-- ghost flags: which hypotheses on the sheet's `_nodeId` column are assumed
(`ids`: given identifiers do not look like invented ones — then identifier freshness is tracked;
`noGiven`: no identifiers are given at all — then every node identifier is an invented one) -/
structure Flags where
  ids : Prop
  noGiven : Prop

/-- no hypothesis on the sheet -/
def Flags.none : Flags := ⟨False, False⟩

structure AInvC (h : Flags) (ns : Array NodeM) (b : Nat) : Prop where
  ok : NodesOk ns
  ids : h.ids → IdsInv ns b
  inv : h.noGiven → ∀ (i : Nat) (n : NodeM), ns[i]? = some n → Invented n.uid

def AInv (h : Flags) (s : St) : Prop := AInvC h s.nodes s.next

theorem AInvC.bump {h : Flags} {ns : Array NodeM} {b b' : Nat} (a : AInvC h ns b) (hb : b ≤ b') :
    AInvC h ns b' := ⟨a.ok, fun hh => (a.ids hh).mono hb, a.inv⟩

theorem AInvC.upd {h : Flags} {old : List Uid}
    (a : AInvC h ns b) (hu : Upd ns ns' i n') (he : NExt ns ns') (hn : NodeOk ns' n')
    (hg : h.ids → Grow b b' old n'.fids) (hb : b ≤ b') (hnd : h.ids → old.Nodup)
    (hbl : h.ids → ∀ x ∈ old, Below b x)
    (hdj : h.ids → ∀ (j : Nat) (m : NodeM) (x : Uid), j ≠ i → ns[j]? = some m → x ∈ old → x ∉ m.fids)
    (hi : h.noGiven → Invented n'.uid) : AInvC h ns' b' :=
  ⟨a.ok.upd hu he hn, fun hh => (a.ids hh).upd hu (hg hh) hb (hnd hh) (hbl hh) (hdj hh),
    fun hh j m hj => (hu j m hj).elim (fun e => e.2 ▸ hi hh) fun e => a.inv hh j m e.2⟩

theorem AInvC.set {h : Flags} {old : NodeM} (a : AInvC h ns b)
    (ho : ns[i]? = some old) (hu : n'.uid = old.uid) (hn : NodeOk ns n')
    (hg : Grow b b' old.fids n'.fids) (hb : b ≤ b') : AInvC h (ns.setIfInBounds i n') b' :=
  a.upd (Upd.set ns i n') (NExt.set ho hu) (hn.ext (NExt.set ho hu)) (fun _ => hg) hb
    (fun hh => (a.ids hh).nodup i old ho) (fun hh => (a.ids hh).below i old ho)
    (fun hh j m x hj hm hx hxm => hj ((a.ids hh).disj j i m old x hm ho hxm hx))
    (fun hh => hu ▸ a.inv hh i old ho)

theorem AInvC.push {h : Flags} (a : AInvC h ns b)
    (hn : NodeOk (ns.push n) n) (hg : h.ids → Grow b b' [] n.fids) (hi : h.noGiven → Invented n.uid)
    (hb : b ≤ b') : AInvC h (ns.push n) b' :=
  a.upd (Upd.push ns n) (NExt.push ns n) hn hg hb (fun _ => List.nodup_nil) (fun _ _ hx => nomatch hx)
    (fun _ _ _ _ _ _ hx => nomatch hx) hi

end Rpft.Compile
