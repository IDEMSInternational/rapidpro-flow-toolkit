/-
`add_exit` preserves the arena simulation (`addExit_rel`): on a row group (the exits of its last node by kind, a
router created behind a basic node, choices), on a `no_op` group and on a block.
-/
import Rpft.Lemmas.CompileInsertOps
namespace Rpft.Compile
open Rpft Function

variable {P : Params} (ok : P.Ok)
include ok

theorem setCatDestByName_rel (r : SwitchR) (name : Str) (d : Dest) :
    IdRel P.ρ (rnSw P.ρ) (setCatDestByName r name d) (setCatDestByName (rnSw P.ρ r) name (rnDest P.ρ d)) := by
  unfold setCatDestByName
  rw [rnSw_catByName]
  cases r.catByName name with
  | none => exact IdRel.fail_left
  | some c => exact IdRel.pure (rnSw_setDest ok.hρ r c.uid d)

section
variable {s₁ s₂ : St} (h : ASim P s₁ s₂)
include h

theorem ASim.attachRow {g : Nat} (hd : P.DG g) {nodes : List Nat} {t : Str}
    (hg : s₁.groups[g]? = some (.row nodes t)) (rn : NodeM)
    (hdx : IdOk s₁.next rn.dexitUid)
    (hrl : P.op = true → (∀ i ∈ nodes, ∀ n, s₁.nodes[i]? = some n → NoLoose n) → NoLoose rn) :
    ASim P { s₁ with nodes := s₁.nodes.push rn, groups := s₁.groups.setIfInBounds g (.row (nodes ++ [s₁.nodes.size]) t) }
      { s₂ with nodes := s₂.nodes.push (rnNode P.ρ rn),
                groups := s₂.groups.setIfInBounds (P.γ g) (.row (nodes.map P.ν ++ [s₂.nodes.size]) t) } := by
  have h0 : P.ν s₁.nodes.size = s₂.nodes.size := by simpa using h.nsync 0
  have a1 := h.addNode rn hdx
  have a2 := a1.setGrp ok hd (g' := .row (nodes ++ [s₁.nodes.size]) t) hg
    (fun i hi => (List.mem_append.mp hi).imp_right fun hi => by
      cases List.mem_singleton.mp hi; exact ⟨h.ndom _ (Nat.le_refl _), by simp⟩)
    (fun _ hx => nomatch hx) (fun _ _ e => nomatch e)
    (by
      intro hop ht
      have hold := a1.tight_left hd hg ht
      obtain ⟨_, _, e, hn2⟩ := ht
      cases (a1.groups g _ hd hg).symm.trans e
      refine ⟨_, t, Array.getElem?_setIfInBounds_self_of_lt (a1.grp_lt hd hg), fun k hk => ?_⟩
      obtain ⟨i, hi, rfl⟩ := List.mem_map.mp hk
      rcases List.mem_append.mp hi with hi | hi
      · exact hn2 _ (List.mem_map_of_mem hi)
      · cases List.mem_singleton.mp hi
        exact ⟨_, h0 ▸ Array.getElem?_push_size,
          noLoose_rn (hrl hop fun i hi n hni => hold i hi n (getElem?_push_of_some hni))⟩)
  have e : mapGrpAt P g (.row (nodes ++ [s₁.nodes.size]) t) = .row (nodes.map P.ν ++ [s₂.nodes.size]) t := by
    simp [mapGrpAt, mapGrp, h0]
  rw [e] at a2
  exact a2

theorem ASim.attachNoop {g : Nat} (hd : P.DG g)
    {ps : List (Nat × Cond)} {r0 : Option Nat}
    (hg : s₁.groups[g]? = some (.noop ps r0)) (rn : NodeM)
    (hdx : IdOk s₁.next rn.dexitUid) :
    ASim P { s₁ with nodes := s₁.nodes.push rn, groups := s₁.groups.setIfInBounds g (.noop ps (some s₁.nodes.size)) }
      { s₂ with nodes := s₂.nodes.push (rnNode P.ρ rn),
                groups := s₂.groups.setIfInBounds (P.γ g)
                  (.noop (ps.map fun p => (P.γ p.1, p.2)) (some s₂.nodes.size)) } := by
  have h0 : P.ν s₁.nodes.size = s₂.nodes.size := by simpa using h.nsync 0
  have a2 := (h.addNode rn hdx).setNoop ok hd (ps' := ps) (r' := some s₁.nodes.size) hg (fun p hp => .inl hp)
    (fun i e => .inr (by cases e; exact ⟨h.ndom _ (Nat.le_refl _), by simp⟩))
  simp only [Option.map_some, h0] at a2
  exact a2

theorem routerBehind_rel {g i : Nat} (hdg : P.DG g) (hdi : P.DN i)
    {nodes : List Nat} {rowType : Str} {n : NodeM}
    (hg : s₁.groups[g]? = some (.row nodes rowType)) (hn : s₁.nodes[i]? = some n)
    {operandV : Str} {waitT : Option Nat}
    (hi : i ∈ nodes) (hk : n.kind = .basic) (hw : waitT = none ∨ waitT = some 0) :
    rwp (routerBehind g nodes rowType i n operandV waitT)
      (routerBehind (P.γ g) (nodes.map P.ν) rowType (P.ν i) (rnNode P.ρ n) operandV waitT) s₁ s₂
      (fun a t₁ b t₂ => RPost P s₁ s₂ (fun a b => b = (P.ν a.1, rnNode P.ρ a.2)) a t₁ b t₂ ∧
        t₁.nodes[a.1]? = some a.2 ∧ P.DN a.1) := by
  unfold routerBehind
  refine rwp_bind_id h IdRel.fresh fun u k0 a0 => ?_
  refine rwp_ite (fun _ => rwp_fail_left) fun _ => ?_
  have hsw : wp (newSwitch operandV none waitT) { s₁ with next := s₁.next + k0 }
      (fun sw _ => sw.cats = [] ∧ sw.noResp = none) := by
    rw [wp_newSwitch]
    rcases hw with rfl | rfl <;> exact ⟨rfl, rfl⟩
  refine rwp_bind_id_wp a0 hsw newSwitch_rel ?_
  rintro sw k1 a1 ⟨hsw1, hsw2⟩
  refine rwp_bind_newRouterNode a1 u .switch (.sw (sw.setDflt n.dexitDest)) fun a2 hrd => ?_
  generalize hrn : mkRouterNode u .switch (.sw (sw.setDflt n.dexitDest)) (tid (s₁.next + k0 + k1)) = rn at hrd ⊢
  rw [rwp_iff_wp]
  dsimp only
  wp_simp [wp_attachRowNode, wp_fresh, wp_setNode]
  have h0 : P.ν s₁.nodes.size = s₂.nodes.size := by simpa using h.nsync 0
  have a3 := a2.attachRow ok hdg (nodes := nodes) (t := rowType) hg rn (.inl hrd) (by
    intro hop hold
    have hnl : NoLoose n := hold i hi n hn
    have hdd := hnl.2 hk
    rw [← hrn]
    refine ⟨?_, fun e => by cases e⟩
    rw [hasLoose_sw (r := sw.setDflt n.dexitDest) (by rfl)]
    intro c hc
    simp only [SwitchR.allCats, SwitchR.setDflt, hsw1, hsw2, List.nil_append, Option.toList, List.append_nil,
      List.mem_singleton] at hc
    subst hc
    exact hdd)
  have a4 := a3.bump 1
  have a5 := a4.setNode ok hdi (old := n) (n' := { n with dexitUid := tid (s₁.next + k0 + k1 + 1), dexitDest := .node u })
    (getElem?_push_of_some hn) (.inr ⟨s₁.next + k0 + k1 + 1, by simp, rfl⟩)
    (fun _ hl => noLoose_setDexit n _ _ (fun e => by cases e) hl)
  have hid : P.ρ (tid (s₁.next + k0 + k1 + 1)) = tid (s₂.next + k0 + k1 + 1) := a2.idsync 0
  refine ⟨⟨by simp [h0], ?_, SEq.refl _, SEq.refl _⟩, ?_, h.ndom _ (Nat.le_refl _)⟩
  · refine a5.congr (f := ⟨?_, rfl, rfl, rfl, rfl⟩)
    simp [rnNode, hid]
  · have hlt : i < s₁.nodes.size := lt_size_of_getElem? hn
    have : ¬ i = s₁.nodes.size := by omega
    simp [this]

/-! ### `add_exit` towards `d`; in open mode `d` is a destination, so that no node of the inert group's parents gets a loose exit -/

section
variable {d : Dest} (hdn : P.op = true → d ≠ Dest.none)
include hdn

theorem updSwitch_rel {i : Nat} (hd : P.DN i)
    {f₁ f₂ : SwitchR → M SwitchR} (hf : ∀ r, IdRel P.ρ (rnSw P.ρ) (f₁ r) (f₂ (rnSw P.ρ r))) (hu : SwUpd d f₁) :
    rwp (updSwitch i f₁) (updSwitch (P.ν i) f₂) s₁ s₂ (RPost P s₁ s₂ (fun _ _ => True)) := by
  unfold updSwitch
  refine rwp_getNode_bind h hd fun n hn => ?_
  cases hr : n.router with
  | none => exact rwp_fail_left
  | some rt =>
    cases rt with
    | rnd r => exact rwp_fail_left
    | sw r =>
      simp only [rnNode_router, hr, Option.map_some, rnRouter]
      refine rwp_bind_id_wp h (hu r s₁) (hf r) ?_
      rintro r' k ak ⟨_, hD, _⟩
      exact setNode_rel ok ak hd hn (n' := { n with router := some (.sw r') }) (.inl rfl)
        fun hop hl => noLoose_sw hr hl (hD (· ≠ Dest.none) (hdn hop))

theorem updSwitch_setDflt_rel {i : Nat} (hd : P.DN i) :
    rwp (updSwitch i (setDfltM d)) (updSwitch (P.ν i) (setDfltM (rnDest P.ρ d))) s₁ s₂
      (RPost P s₁ s₂ (fun _ _ => True)) :=
  updSwitch_rel ok h hdn hd (fun _ => IdRel.pure rfl) (swUpd_setDflt d)

theorem updSwitch_byName_rel {i : Nat} (hd : P.DN i) {name : Str} :
    rwp (updSwitch i fun r => setCatDestByName r name d)
      (updSwitch (P.ν i) fun r => setCatDestByName r name (rnDest P.ρ d)) s₁ s₂
      (RPost P s₁ s₂ (fun _ _ => True)) :=
  updSwitch_rel ok h hdn hd (fun r => setCatDestByName_rel ok r name d) (swUpd_byName name d)

theorem rowExitBlank_rel {i : Nat} (hd : P.DN i) {n : NodeM} (hn : s₁.nodes[i]? = some n) :
    rwp (rowExitBlank i n d) (rowExitBlank (P.ν i) (rnNode P.ρ n) (rnDest P.ρ d)) s₁ s₂
      (RPost P s₁ s₂ (fun _ _ => True)) := by
  unfold rowExitBlank
  simp only [rnNode_kind]
  cases hk : n.kind with
  | basic =>
    simp only []
    refine rwp_bind_fresh h fun a1 => ?_
    have := setNode_rel ok a1 hd hn (n' := { n with dexitUid := tid s₁.next, dexitDest := d })
      (.inr ⟨s₁.next, by simp, rfl⟩) fun hop hl => noLoose_setDexit n _ d (hdn hop) hl
    rw [hk] at this
    exact this
  | enter => exact rwp_fail_left
  | _ => exact updSwitch_setDflt_rel ok h hdn hd

theorem rowExitEnter_rel {i : Nat} (hd : P.DN i) {c : Cond} :
    rwp (rowExitEnter i c d) (rowExitEnter (P.ν i) c (rnDest P.ρ d)) s₁ s₂ (RPost P s₁ s₂ (fun _ _ => True)) :=
  rwp_ite (fun _ => updSwitch_byName_rel ok h hdn hd) fun _ =>
    rwp_ite (fun _ => updSwitch_setDflt_rel ok h hdn hd) fun _ => rwp_fail_left

theorem rowExitHook_rel {i : Nat} (hd : P.DN i) {c : Cond} :
    rwp (rowExitHook i c d) (rowExitHook (P.ν i) c (rnDest P.ρ d)) s₁ s₂ (RPost P s₁ s₂ (fun _ _ => True)) :=
  rwp_ite (fun _ => updSwitch_byName_rel ok h hdn hd) fun _ =>
    rwp_ite (fun _ => updSwitch_setDflt_rel ok h hdn hd) fun _ => rwp_fail_left

theorem rowExitNoResp_rel {i : Nat} (hd : P.DN i) {n : NodeM} (hn : s₁.nodes[i]? = some n) :
    rwp (rowExitNoResp i n d) (rowExitNoResp (P.ν i) (rnNode P.ρ n) (rnDest P.ρ d)) s₁ s₂
      (RPost P s₁ s₂ (fun _ _ => True)) := by
  unfold rowExitNoResp
  simp only [rnNode_router]
  cases hr : n.router with
  | none => exact arel_pure h
  | some rt =>
    cases rt with
    | rnd r => exact arel_pure h
    | sw r =>
      simp only [Option.map_some, rnRouter, rnSw_noResp, rnSw_wait]
      cases hnr : r.noResp with
      | none => exact arel_pure h
      | some nr =>
        rcases hw : r.wait with _ | _ | w
        · exact arel_pure h
        · exact arel_pure h
        · simp only [Option.map_some]
          have := setNode_rel ok h hd hn (n' := { n with router := some (.sw { r with noResp := some { nr with dest := d } }) })
            (.inl rfl) (fun hop hl =>
              noLoose_sw hr hl ((SwEdit.setNoResp (dest := d) (s := s₁) hnr).dests (· ≠ Dest.none) (hdn hop)))
          rw [hw] at this
          exact this

theorem nodeAddChoice_rel {i : Nat} (hd : P.DN i) {n : NodeM}
    (hn : s₁.nodes[i]? = some n) {operandV ctype : Str} {args : List (Option Str)} {c : Cond} :
    rwp (nodeAddChoice i n operandV ctype args c d)
      (nodeAddChoice (P.ν i) (rnNode P.ρ n) operandV ctype args c (rnDest P.ρ d)) s₁ s₂
      (RPost P s₁ s₂ (fun _ _ => True)) := by
  unfold nodeAddChoice
  cases hr : n.router with
  | none => exact rwp_fail_left
  | some rt =>
    cases rt with
    | sw r =>
      simp only [rnNode_router, hr, Option.map_some, rnRouter]
      refine rwp_bind_id_wp h addChoice_spec (addChoice_rel ok.hρ) ?_
      rintro r' k ak ⟨_, hD, _⟩
      exact setNode_rel ok ak hd hn (n' := { n with router := some (.sw r') }) (.inl rfl)
        fun hop hl => noLoose_sw hr hl (hD (· ≠ Dest.none) (hdn hop))
    | rnd r =>
      simp only [rnNode_router, hr, Option.map_some, rnRouter]
      refine rwp_bind_id_wp h randomAddChoice_spec (randomAddChoice_rel ok.hρ) ?_
      rintro r' k ak ⟨_, hD⟩
      exact setNode_rel ok ak hd hn (n' := { n with router := some (.rnd r') }) (.inl rfl)
        fun hop hl => noLoose_rnd hr hl (hD (· ≠ Dest.none) (hdn hop))

theorem rowExitCond_rel {g i : Nat} (hdg : P.DG g) (hdi : P.DN i)
    {nodes : List Nat} {rowType : Str} {n : NodeM}
    (hg : s₁.groups[g]? = some (.row nodes rowType)) (hn : s₁.nodes[i]? = some n) {c : Cond} (hi : i ∈ nodes) :
    rwp (rowExitCond g nodes rowType i n d c)
      (rowExitCond (P.γ g) (nodes.map P.ν) rowType (P.ν i) (rnNode P.ρ n) (rnDest P.ρ d) c) s₁ s₂
      (RPost P s₁ s₂ (fun _ _ => True)) := by
  unfold rowExitCond
  simp only [rnNode_operandOf, rnNode_kind]
  rw [rwp_bind]
  by_cases hk : n.kind = .basic
  · simp only [hk, if_true]
    refine rwp_mono (routerBehind_rel ok h hdg hdi hg hn hi hk (by
      split
      · exact .inl rfl
      · split
        · exact .inl rfl
        · exact .inr rfl)) ?_
    rintro a t₁ b t₂ ⟨⟨hb, hs, e1, e2⟩, hnn, hdn'⟩
    subst b
    refine rwp_mono (nodeAddChoice_rel ok hs hdn hdn' hnn) ?_
    rintro _ u₁ _ u₂ ⟨_, hs', e1', e2'⟩
    exact ⟨trivial, hs', e1.trans e1', e2.trans e2'⟩
  · simp only [hk, if_false]
    rw [rwp_pure]
    exact nodeAddChoice_rel ok h hdn hdi hn

theorem rowAddExit_rel {g : Nat} (hdg : P.DG g)
    {nodes : List Nat} {rowType : Str} (hg : s₁.groups[g]? = some (.row nodes rowType)) {c : Cond} :
    rwp (rowAddExit g nodes rowType d c)
      (rowAddExit (P.γ g) (nodes.map P.ν) rowType (rnDest P.ρ d) c) s₁ s₂ (RPost P s₁ s₂ (fun _ _ => True)) := by
  unfold rowAddExit
  rw [List.getLast?_map]
  cases hl : nodes.getLast? with
  | none => exact rwp_fail_left
  | some i =>
    have hdi : P.DN i := h.row_nodes hdg hg i (List.mem_of_getLast? hl)
    simp only [Option.map_some]
    refine rwp_getNode_bind h hdi fun n hn => ?_
    simp only [rnNode_kind]
    refine rwp_ite (fun _ => rowExitBlank_rel ok h hdn hdi hn) fun _ => ?_
    refine rwp_ite (fun _ => rowExitEnter_rel ok h hdn hdi) fun _ => ?_
    refine rwp_ite (fun _ => rowExitHook_rel ok h hdn hdi) fun _ => ?_
    refine rwp_ite (fun _ => rowExitNoResp_rel ok h hdn hdi hn) fun _ => ?_
    exact rowExitCond_rel ok h hdn hdg hdi hg hn (List.mem_of_getLast? hl)

theorem noopRouterExit_rel {j : Nat} (hd : P.DN j) {c : Cond} :
    rwp (noopRouterExit j d c) (noopRouterExit (P.ν j) (rnDest P.ρ d) c) s₁ s₂
      (RPost P s₁ s₂ (fun _ _ => True)) := by
  unfold noopRouterExit
  refine rwp_ite (fun _ => updSwitch_setDflt_rel ok h hdn hd) fun _ => ?_
  exact updSwitch_rel ok h hdn hd (fun _ => addChoice_rel ok.hρ) (swUpd_addChoice _ _ _ _ d false)

theorem connectIfLoose_rel (f₁ f₂ : Nat) {ch : Nat} (lv : P.Live ch) :
    rwp (connectIfLoose f₁ d ch) (connectIfLoose f₂ (rnDest P.ρ d) (P.γ ch)) s₁ s₂
      (RPost P s₁ s₂ (fun _ _ => True)) := by
  unfold connectIfLoose
  refine rwp_bind_ro (hasLoose_rel ok h lv) ?_
  rintro _ a rfl
  cases a with
  | true => simp only [if_true]; exact connectLoose_rel ok hdn h lv
  | false =>
    simp only [Bool.false_eq_true, if_false]
    exact arel_pure h

end
end

theorem addExit_rel {f₁ f₂ j : Nat} {d : Dest} {c : Cond} {s₁ s₂ : St} (h : ASim P s₁ s₂) (lv : P.Live j)
    (hdn : P.op = true → d ≠ Dest.none) :
    rwp (addExit f₁ j d c) (addExit f₂ (P.γ j) (rnDest P.ρ d) c) s₁ s₂ (RPost P s₁ s₂ (fun _ _ => True)) := by
  induction f₁ generalizing f₂ j d c s₁ s₂ with
  | zero => exact rwp_fail_left
  | succ f₁ ih =>
    cases f₂ with
    | zero => exact rwp_fail_right
    | succ f₂ =>
      unfold addExit
      refine rwp_getGrp_bind h lv.1 fun g hg => ?_
      cases g with
      | row nodes t =>
        rw [mapGrpAt_row]
        exact rowAddExit_rel ok h hdn lv.1 hg
      | block cs =>
        have main : rwp (cs.forM (connectIfLoose (f₁ + 1) d))
            ((cs.map P.γ).forM (connectIfLoose (f₂ + 1) (rnDest P.ρ d))) s₁ s₂ (RPost P s₁ s₂ (fun _ _ => True)) := by
          refine arel_forM P.γ cs _ _ h ?_
          intro x hx u₁ u₂ hu
          exact connectIfLoose_rel ok hu hdn (f₁ + 1) (f₂ + 1) (h.live_refs lv hg x hx)
        have hch : ∃ cs', mapGrpAt P j (.block cs) = .block cs' ∧
            rwp (cs.forM (connectIfLoose (f₁ + 1) d))
              (cs'.forM (connectIfLoose (f₂ + 1) (rnDest P.ρ d))) s₁ s₂ (RPost P s₁ s₂ (fun _ _ => True)) := by
          rcases h.block_image ok lv.2 cs with e | ⟨_, e, hi⟩
          · exact ⟨_, e, main⟩
          · exact ⟨_, e, rwp_forM_skip (inert_connectIfLoose hi (f₂ + 1) _) main⟩
        obtain ⟨cs', ecs, hmain⟩ := hch
        rw [ecs]
        refine rwp_ite (fun _ => ?_) fun _ => rwp_fail_left
        refine rwp_bind_ro (hasLoose_rel ok h lv) ?_
        rintro _ a rfl
        cases a with
        | false => exact rwp_fail_left
        | true => exact hmain
      | noop ps router =>
        rw [mapGrpAt_noop]
        have hps := h.noop_parents lv hg
        cases router with
        | some i =>
          simp only [Option.map_some]
          exact noopRouterExit_rel ok h hdn (h.noop_router lv.1 hg)
        | none =>
          simp only [Option.map_none]
          refine rwp_ite (fun _ => ?_) fun _ => rwp_ite (fun _ => rwp_fail_left) fun _ => ?_
          · refine arel_forM (fun p : Nat × Cond => (P.γ p.1, p.2)) ps _ _ h ?_
            intro p hp u₁ u₂ hu
            exact ih hu (hps p hp) hdn
          refine rwp_bind_id h IdRel.fresh fun u k0 a0 => ?_
          refine rwp_bind_id a0 newSwitch_rel fun sw k1 a1 => ?_
          refine rwp_bind_newRouterNode a1 u .switch (.sw sw) fun a2 hrd => ?_
          generalize mkRouterNode u .switch (.sw sw) (tid (s₁.next + k0 + k1)) = rn at hrd ⊢
          have a3 := a2.attachNoop ok lv.1 (ps := ps) (r0 := none) hg rn (.inl hrd)
          dsimp only at a3 ⊢
          rw [rwp_bind, rwp_iff_wp, wp_attachNoopRouter, wp_attachNoopRouter]
          have hdn' : P.DN s₁.nodes.size := h.ndom _ (Nat.le_refl _)
          have h0 : P.ν s₁.nodes.size = s₂.nodes.size := by simpa using h.nsync 0
          refine arel_bind (arel_forM (fun p : Nat × Cond => (P.γ p.1, p.2)) ps
            (fun p => addExit f₁ p.1 (.node u) p.2) (fun p => addExit f₂ p.1 (.node (P.ρ u)) p.2) a3
            fun p hp u₁ u₂ hu => ih hu (hps p hp) (fun _ e => by cases e))
            fun _ _ u₁ u₂ _ hu _ _ => h0 ▸ noopRouterExit_rel ok hu hdn hdn'

end Rpft.Compile
