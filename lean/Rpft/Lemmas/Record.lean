/-
`UUIDDict._record_uuid` on a `Rpft.Dict`, for any notion `t` of a truthy value: `Recorded t d k v d'` says what an
accepted record of `v` under `k` leaves of `d`, and the three lemmas say what that does to the truthy entries, to the
keys and to their distinctness.  M6 (`Uuid.recordDict`, values `Option U`) and the C13 model (`Det.recordUuid`, values
`Option Str` with `None` and `""` falsy) each prove that a successful call of their function is `Recorded`
(`recordDict_ok`, `recordUuid_ok`) and read the rest off here.
-/
import Rpft.Lemmas.Dict
namespace Rpft.Dict
variable {κ β : Type} [DecidableEq κ] {t : β → Bool} {d d' : Dict κ β} {k : κ} {v : β}

/-- a truthy entry stays, and a truthy `v` is then that entry; a falsy or absent one is overwritten -/
def Recorded (t : β → Bool) (d : Dict κ β) (k : κ) (v : β) (d' : Dict κ β) : Prop :=
  (∃ r, get d k = some r ∧ t r = true ∧ (t v = true → v = r) ∧ d' = d) ∨
  ((∀ r, get d k = some r → t r = false) ∧ d' = set d k v)

theorem Recorded.truthy_iff (h : Recorded t d k v d') {m : κ} {u : β} (hu : t u = true) :
    get d' m = some u ↔ get d m = some u ∨ (m = k ∧ v = u) := by
  rcases h with ⟨r, hr, _, hv, rfl⟩ | ⟨hf, rfl⟩
  · refine ⟨Or.inl, fun h' => h'.elim id ?_⟩
    rintro ⟨rfl, rfl⟩
    rw [hr, hv hu]
  · rw [get_set]
    by_cases hm : m = k
    · subst hm
      have : get d m ≠ some u := fun e => by rw [hf u e] at hu; cases hu
      simp [this]
    · simp [hm]

theorem Recorded.mem_keys_iff (h : Recorded t d k v d') {m : κ} : m ∈ keys d' ↔ m ∈ keys d ∨ m = k := by
  rcases h with ⟨r, hr, _, _, rfl⟩ | ⟨_, rfl⟩
  · exact ⟨Or.inl, fun h' => h'.elim id fun e => e ▸ get_isSome_iff.1 (by rw [hr]; rfl)⟩
  · rw [mem_keys_set, or_comm]

theorem Recorded.nodup (h : Recorded t d k v d') (hd : (keys d).Nodup) : (keys d').Nodup := by
  rcases h with ⟨_, _, _, _, rfl⟩ | ⟨_, rfl⟩
  · exact hd
  · exact nodup_set hd _ _

end Rpft.Dict
