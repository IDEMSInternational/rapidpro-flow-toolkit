/-
The schedule of the junctions.  The compiler keeps a `no_op` row as a lazy junction: the edges INTO it take
effect when an edge LEAVES it.  The simulation relation `Rel` therefore runs against a SCHEDULE `st` of the
reference's pass 1 in which the edges into a `no_op` row are recorded when they take effect; `Sched` ties the
schedule to the true state `stT` of pass 1 (per source row the same out-edges in the same order, apart from the
remembered ones `pnd`).  Here: where the compiler finds the source of an edge (`SrcInv`), the conditions on the whole
sheet (`Sheet`), the three kinds of step of `schedStep`, what `Sched` becomes at each of them (`sched_append`,
`sched_leave`, `sched_into`) and at the end of a row, and how the ghost maps change on the way (`MExt`, `LeftAt`).
-/
import Rpft.Lemmas.CoreRow
namespace Rpft.CoreSheet
open Rpft Rpft.Compile Rpft.RefFlow

/-- what finding the source of an edge reads: the compiler is at the root block, whose children are the groups of the
rows so far; the row ids and the previous row are those of pass 1 -/
structure SrcInv (rows : List CRow) (kg : Nat) (s : St) (st : P1) : Prop where
  stack : s.stack = [0]
  root : s.groups[0]? = some (.block (List.range' 1 (gOf rows kg - 1)))
  ids : s.rowIds = st.ids.map (fun p => (p.1, gOf rows p.2))
  idok : ∀ p ∈ st.ids, p.2 < kg ∧ ∃ c, rows[p.2]? = some c ∧ isNodeRow c = true
  prev : match st.prev with
    | none => gOf rows kg = 1
    | some p => p < kg ∧ (∃ c, rows[p]? = some c ∧ isNodeRow c = true) ∧ gOf rows p + 1 = gOf rows kg

section
variable {rows : List CRow} {kg : Nat} {s : St} {st : P1}

theorem Rel.src {M : Maps} {pd : Bool} (h : Rel rows M pd kg s st) : SrcInv rows kg s st :=
  ⟨h.stack, h.root, h.ids, h.idok, h.prev⟩

theorem SrcInv.congr (h : SrcInv rows kg s st) {s' : St} {st' : P1} (h1 : s'.stack = s.stack)
    (h2 : s'.groups[0]? = s.groups[0]?) (h3 : s'.rowIds = s.rowIds) (h4 : st'.ids = st.ids) (h5 : st'.prev = st.prev) :
    SrcInv rows kg s' st' :=
  ⟨h1 ▸ h.stack, h2 ▸ h.root, by rw [h3, h4]; exact h.ids, h4 ▸ h.idok, h5 ▸ h.prev⟩

theorem SrcInv.recent (h : SrcInv rows kg s st) : mostRecentIn s.groups s.stack = st.prev.map (gOf rows) := by
  rw [h.stack, mostRecent_root s.groups _ h.root]
  have hp := h.prev
  cases hpv : st.prev with
  | none =>
    simp only [hpv] at hp
    rw [if_pos (by omega)]; rfl
  | some p =>
    simp only [hpv] at hp
    have := gOf_pos rows p
    rw [if_neg (by omega)]
    exact congrArg some (by omega)

theorem SrcInv.byId (h : SrcInv rows kg s st) (id : Str) :
    (s.rowIds.find? (·.1 = id)).map (·.2) = (lookupId st.ids id).map (gOf rows) := by
  rw [h.ids, lookup_ids]

theorem SrcInv.src_ok (h : SrcInv rows kg s st) {e : REdge} {R : Nat} (hsrc : edgeSrc st kg e = .ok (some R)) :
    R < kg ∧ ∃ c, rows[R]? = some c ∧ isNodeRow c = true := by
  rcases edgeSrc_some hsrc with ⟨_, hpv⟩ | ⟨_, hl⟩
  · have := h.prev; rw [hpv] at this
    exact ⟨this.1, this.2.1⟩
  · obtain ⟨p, hp, hpj⟩ := lookupId_mem hl
    exact hpj ▸ h.idok p hp

/-- the group the compiler finds for the `from` cell of an edge is the group of the row pass 1 finds: the two
lookups are the same three cases -/
theorem wp_groupOfEdge_src (h : SrcInv rows kg s st) {e : Compile.Edge} {Q : Option Nat → St → Prop}
    (hQ : ∀ o, edgeSrc st kg (toREdge e) = .ok o →
      (∀ j, o = some j → j < kg ∧ ∃ c, rows[j]? = some c ∧ isNodeRow c = true) → Q (o.map (gOf rows)) s) :
    wp (groupOfEdge e) s Q := by
  have hQ' : ∀ o, edgeSrc st kg (toREdge e) = .ok o → Q (o.map (gOf rows)) s :=
    fun o ho => hQ o ho (fun j hj => h.src_ok (hj ▸ ho))
  rw [edgeSrc_eq] at hQ'
  rw [wp_groupOfEdge, h.recent, h.byId]
  split
  · rename_i hs
    exact hQ' none (if_pos hs)
  · rename_i hs
    split
    · rename_i hemp
      exact hQ' st.prev ((if_neg hs).trans (if_pos hemp))
    · rename_i hemp
      cases hl : lookupId st.ids e.from_ with
      | none => exact trivial
      | some j => exact hQ' (some j) ((if_neg hs).trans ((if_neg hemp).trans (by rw [show (toREdge e).from_ = e.from_ from rfl, hl])))

end

abbrev NoopRow (rows : List CRow) (N : Nat) : Prop := ∃ c, rows[N]? = some c ∧ isNoop c = true

theorem noopAt_iff {rows : List CRow} {N : Nat} : noopAt rows N = true ↔ NoopRow rows N := by
  unfold noopAt NoopRow
  cases h : rows[N]? with
  | none => simp
  | some c => simp

theorem tgtNoop_row_false {rows : List CRow} {k : Nat} {c : CRow} (hc : rows[k]? = some c) (hnn : isNoop c = false) :
    tgtNoop rows (Target.row k) = false := by
  show noopAt rows k = false
  unfold noopAt; rw [hc]; exact hnn

theorem ne_of_noop {rows : List CRow} {j N : Nat} {c : CRow} (hc : rows[j]? = some c) (hnn : isNoop c = false)
    (hN : NoopRow rows N) : j ≠ N := by
  rintro rfl
  obtain ⟨cN, hcN, hnN⟩ := hN
  rw [hc] at hcN; injection hcN with hcN; subst hcN
  rw [hnn] at hnN; cases hnN

theorem gOf_ne_noop {rows : List CRow} {j N : Nat} {c : CRow} (hc : rows[j]? = some c) (hn : isNodeRow c = true)
    (hnn : isNoop c = false) (hN : NoopRow rows N) : gOf rows N ≠ gOf rows j := by
  obtain ⟨cN, hcN, hnN⟩ := hN
  exact fun e => ne_of_noop hc hnn ⟨cN, hcN, hnN⟩ (gOf_inj rows hcN hc (isNodeRow_of_noop hnN) hn e).symm

/-- a condition as the compiler remembers it -/
def fromRCond (c : RefFlow.Cond) : Compile.Cond := ⟨c.value, c.var, c.type, c.name⟩

theorem toRCond_fromRCond (c : RefFlow.Cond) : toRCond (fromRCond c) = c := rfl
theorem fromRCond_toRCond (c : Compile.Cond) : fromRCond (toRCond c) = c := rfl

/-- the remembered form of an edge -/
def encP (rows : List CRow) (e : OutEdge) : Nat × Compile.Cond := (gOf rows e.src, fromRCond e.cond)

/-- the parents the compiler remembers for the `no_op` row `N`: the remembered edges into it, each as `encP` gives it -/
def parentsOf (rows : List CRow) (pnd : List OutEdge) (N : Nat) : List (Nat × Compile.Cond) :=
  (pnd.filter (fun pe => decide (pe.tgt = .row N))).map (fun pe => (gOf rows pe.src, fromRCond pe.cond))

theorem parentsOf_append (rows : List CRow) (p q : List OutEdge) (N : Nat) :
    parentsOf rows (p ++ q) N = parentsOf rows p N ++ parentsOf rows q N := by
  unfold parentsOf
  rw [List.filter_append, List.map_append]

theorem parentsOf_into {rows : List CRow} {l : List OutEdge} {k : Nat} (h : ∀ e ∈ l, e.tgt = .row k) (N : Nat) :
    parentsOf rows l N = if N = k then l.map (encP rows) else [] := by
  unfold parentsOf
  split
  · rename_i hN
    rw [List.filter_eq_self.mpr (fun e he => by simp [h e he, hN])]; rfl
  · rename_i hN
    rw [List.filter_eq_nil_iff.mpr (fun e he => by simpa [h e he] using fun e' => hN e'.symm)]; rfl

/-- the true state `stT` of pass 1, the schedule `st` the simulation relation runs against, the
remembered edges `pnd` -/
structure Sched (rows : List CRow) (M : Maps) (kg : Nat) (s : St) (stT st : P1) (pnd : List OutEdge) : Prop where
  ids : st.ids = stT.ids
  prev : st.prev = stT.prev
  /-- per source row: the same out-edges in the same order, the remembered ones last -/
  split : ∀ j, outOf stT j = outOf st j ++ pnd.filter (·.src = j)
  fold : stT.out.reverse.foldlM (schedStep rows) [] = some pnd
  /-- remembered edges lead from ordinary rows into `no_op` rows that have not been left -/
  pend : ∀ e ∈ pnd, ∃ N, e.tgt = .row N ∧ M.fr N = true
  psrc : ∀ e ∈ pnd, e.src < kg ∧ ∃ c, rows[e.src]? = some c ∧ isNodeRow c = true ∧ isNoop c = false
  /-- a `no_op` row that has not been left: no out-edge; its group remembers the edges into it -/
  fresh : ∀ N, M.fr N = true → NoopRow rows N ∧ outOf stT N = [] ∧
    s.groups[gOf rows N]? = some (.noop (parentsOf rows pnd N) none)
  /-- a `no_op` row left unconditionally: its sources lead where its one out-edge leads -/
  elided : ∀ N, M.el N = true → M.fr N = false → N < kg →
    NoopRow rows N ∧ ∃ b T cT, outOf stT N = [b] ∧ b.cond.blank = true ∧ b.tgt = .row T ∧ M.nOf N = M.nOf T ∧
      rows[T]? = some cT ∧ isNodeRow cT = true ∧ isNoop cT = false
  /-- a `no_op` row left conditionally -/
  routed : ∀ N c, N < kg → rows[N]? = some c → isNoop c = true → M.el N = false →
    testsOf .noOp (outOf stT N) ≠ []
  /-- a `no_op` row without a node of its own has no router node -/
  elgrp : ∀ N, M.el N = true → N < kg → NoopRow rows N → ∃ ps, s.groups[gOf rows N]? = some (.noop ps none)

/-- the conditions of the fragment as facts about `outF`, all the out-edges pass 1 records for the sheet: `Good`, the
edges leaving a `no_op` row are in shape, the schedule of the junctions runs through -/
structure Sheet (rows : List CRow) (outF : List OutEdge) : Prop extends Good rows outF where
  shape : noopShape rows outF = true
  sched : ∃ p, outF.foldlM (schedStep rows) [] = some p

theorem Sheet.pre {rows : List CRow} {outF l : List OutEdge} (g : Sheet rows outF) (h : l <+: outF) :
    ∃ p, l.foldlM (schedStep rows) [] = some p :=
  foldlM_prefix_some _ _ _ _ h g.sched

theorem schedStep_normal {rows : List CRow} {pnd p' : List OutEdge} {e : OutEdge}
    (hs : noopAt rows e.src = false) (ht : tgtNoop rows e.tgt = false) (h : schedStep rows pnd e = some p') :
    p' = pnd ∧ pnd.filter (·.src = e.src) = [] := by
  unfold schedStep at h
  rw [ht, hs] at h
  simp only [Bool.false_eq_true, if_false] at h
  split at h
  · cases h
  · rename_i hany
    injection h with h
    refine ⟨h.symm, ?_⟩
    rw [List.filter_eq_nil_iff]
    intro pe hpe hsrc
    apply hany
    rw [List.any_eq_true]
    exact ⟨pe, hpe, hsrc⟩

theorem schedStep_into {rows : List CRow} {pnd p' : List OutEdge} {e : OutEdge}
    (ht : tgtNoop rows e.tgt = true) (h : schedStep rows pnd e = some p') :
    p' = pnd ++ [e] ∧ noopAt rows e.src = false := by
  unfold schedStep at h
  rw [ht] at h
  simp only [if_true] at h
  split at h
  · cases h
  · rename_i hn
    injection h with h
    exact ⟨h.symm, by simpa using hn⟩

/-- a source of a remembered edge into row `N` has no remembered edge into another row -/
def OnlyInto (pnd : List OutEdge) (N : Nat) : Prop :=
  ∀ pe ∈ pnd, ∀ m ∈ pnd, m.tgt = .row N → m.src = pe.src → pe.tgt = .row N

theorem schedStep_leave {rows : List CRow} {pnd p' : List OutEdge} {e : OutEdge} {N : Nat}
    (hs : NoopRow rows N) (ht : tgtNoop rows e.tgt = false) (h : schedStep rows pnd e = some p') (hN : e.src = N) :
    p' = pnd.filter (fun pe => !decide (pe.tgt = .row N)) ∧ OnlyInto pnd N := by
  subst hN
  unfold schedStep at h
  rw [ht, noopAt_iff.mpr hs] at h
  simp only [Bool.false_eq_true, if_false, if_true] at h
  split at h
  · cases h
  · rename_i hany
    injection h with h
    refine ⟨h.symm, fun pe hpe m hm hmt hms => ?_⟩
    by_contra hne
    apply hany
    rw [List.any_eq_true]
    refine ⟨pe, hpe, ?_⟩
    rw [Bool.and_eq_true, List.any_eq_true]
    refine ⟨⟨m, ?_, by simpa using hms⟩, by simpa using hne⟩
    rw [List.mem_filter]
    exact ⟨hm, by simpa using hmt⟩

/-- the remembered edges of one source: all of them lead into `N`, or none does -/
theorem pnd_split {pnd : List OutEdge} {N : Nat} (hold : OnlyInto pnd N) (j : Nat) :
    pnd.filter (·.src = j) =
      (pnd.filter (fun pe => decide (pe.tgt = .row N))).filter (·.src = j) ++
      (pnd.filter (fun pe => !decide (pe.tgt = .row N))).filter (·.src = j) := by
  by_cases hex : ∃ m ∈ pnd, m.tgt = .row N ∧ m.src = j
  · obtain ⟨m, hm, hmt, hms⟩ := hex
    obtain ⟨e1, e2⟩ := filter_filter_of_imp (l := pnd) (p := fun pe => decide (pe.tgt = .row N)) (q := fun pe => decide (pe.src = j))
      (fun pe hpe hsj => by simpa using hold pe hpe m hm hmt (by rw [hms]; exact (of_decide_eq_true hsj).symm))
    rw [e1, e2, List.append_nil]
  · obtain ⟨e1, e2⟩ := filter_filter_of_imp (l := pnd) (p := fun pe => !decide (pe.tgt = .row N)) (q := fun pe => decide (pe.src = j))
      (fun pe hpe hsj => by simpa using fun ht => hex ⟨pe, hpe, ht, by simpa using hsj⟩)
    simp only [Bool.not_not] at e2
    rw [e1, e2, List.nil_append]

theorem foldlM_schedStep_into {rows : List CRow} {k : Nat} (hk : NoopRow rows k) :
    ∀ (new : List OutEdge) {pnd q : List OutEdge}, (∀ e ∈ new, e.tgt = .row k) →
      new.foldlM (schedStep rows) pnd = some q → q = pnd ++ new ∧ ∀ e ∈ new, noopAt rows e.src = false := by
  intro new
  induction new with
  | nil => intro pnd q _ h; simp at h; exact ⟨by rw [← h]; simp, fun e he => by cases he⟩
  | cons e new ih =>
    intro pnd q ht h
    rw [List.foldlM_cons] at h
    cases hs : schedStep rows pnd e with
    | none => rw [hs] at h; cases h
    | some p1 =>
      rw [hs] at h
      have h : new.foldlM (schedStep rows) p1 = some q := h
      have htn : tgtNoop rows e.tgt = true := by rw [ht e (by simp)]; exact noopAt_iff.mpr hk
      obtain ⟨e1, e2⟩ := schedStep_into htn hs
      obtain ⟨e3, e4⟩ := ih (fun e' he' => ht e' (by simp [he'])) h
      refine ⟨by rw [e3, e1]; simp, ?_⟩
      intro e' he'
      simp only [List.mem_cons] at he'
      rcases he' with rfl | he'
      · exact e2
      · exact e4 e' he'

theorem group_kept {rows : List CRow} {gs : Array Grp} {k N : Nat} (hsz : gs.size = gOf rows k) (hlt : N < k)
    (hN : NoopRow rows N) (x blk : Grp) :
    ((gs.push x).setIfInBounds 0 blk)[gOf rows N]? = gs[gOf rows N]? := by
  obtain ⟨cN, hcN, hnN⟩ := hN
  have h1 := gOf_pos rows N
  have h2 := gOf_lt rows hlt hcN (isNodeRow_of_noop hnN)
  simp only [Array.getElem?_setIfInBounds, Array.getElem?_push]
  rw [if_neg (by omega), if_neg (by omega)]

section
variable {rows : List CRow} {M : Maps} {kg : Nat} {s : St} {stT st : P1} {pnd : List OutEdge}

theorem Sched.nosrc (hs : Sched rows M kg s stT st pnd) {N : Nat} (hN : NoopRow rows N) : pnd.filter (·.src = N) = [] := by
  rw [List.filter_eq_nil_iff]
  intro pe hpe hsrc
  obtain ⟨_, c, hc, _, hnn⟩ := hs.psrc pe hpe
  exact ne_of_noop hc hnn hN (by simpa using hsrc)

theorem Sched.not_into (hs : Sched rows M kg s stT st pnd) {N : Nat} (hN : M.fr N = false) : ∀ pe ∈ pnd, pe.tgt ≠ .row N := by
  intro pe hpe ht
  obtain ⟨N2, ht2, hf2⟩ := hs.pend pe hpe
  rw [ht] at ht2
  injection ht2 with ht2
  rw [ht2, hf2] at hN
  cases hN

theorem Sched.out_noop (hs : Sched rows M kg s stT st pnd) {N : Nat} (hN : NoopRow rows N) : outOf stT N = outOf st N := by
  rw [hs.split N, hs.nosrc hN, List.append_nil]

theorem Sched.fold_cons (hs : Sched rows M kg s stT st pnd) {new : OutEdge} {p' : List OutEdge} :
    (new :: stT.out).reverse.foldlM (schedStep rows) [] = some p' ↔ schedStep rows pnd new = some p' := by
  rw [List.reverse_cons, foldlM_snoc, hs.fold]
  rfl

theorem Sched.next (hs : Sched rows M kg s stT st pnd) {outF : List OutEdge} (g : Sheet rows outF) {new : OutEdge}
    (hTpre : (new :: stT.out).reverse <+: outF) : ∃ p', schedStep rows pnd new = some p' := by
  obtain ⟨p', hp'⟩ := g.pre hTpre
  exact ⟨p', hs.fold_cons.mp hp'⟩

theorem Sched.src (hs : Sched rows M kg s stT st pnd) {pd : Bool} (h : Rel rows M pd kg s st) : SrcInv rows kg s stT :=
  h.src.congr rfl rfl rfl hs.ids.symm hs.prev.symm

theorem Sched.mine (hs : Sched rows M kg s stT st pnd) (N : Nat) :
    ∀ m ∈ pnd.filter (fun pe => decide (pe.tgt = .row N)), m.tgt = .row N ∧ m.src < kg ∧
      ∃ c, rows[m.src]? = some c ∧ isNodeRow c = true ∧ isNoop c = false := by
  intro m hm
  have hm' := List.mem_filter.mp hm
  exact ⟨by simpa using hm'.2, hs.psrc m hm'.1⟩

theorem Sched.mine_grp (hs : Sched rows M kg s stT st pnd) (N : Nat) {N2 : Nat} (hN2 : NoopRow rows N2) :
    ∀ m ∈ pnd.filter (fun pe => decide (pe.tgt = .row N)), gOf rows N2 ≠ gOf rows m.src := by
  intro m hm
  obtain ⟨_, c, hc, hn, hnn⟩ := hs.psrc m (List.mem_filter.mp hm).1
  exact gOf_ne_noop hc hn hnn hN2

theorem Sched.mine_prefix (hs : Sched rows M kg s stT st pnd) {outF : List OutEdge} {new : OutEdge}
    (hTpre : (new :: stT.out).reverse <+: outF) (N : Nat) (hold : OnlyInto pnd N) (j : Nat) :
    outOf st j ++ (pnd.filter (fun pe => decide (pe.tgt = .row N))).filter (·.src = j) <+: outF.filter (·.src = j) := by
  have h1 : outOf stT j <+: outF.filter (·.src = j) := by
    have := hTpre.filter (·.src = j)
    rw [List.reverse_cons, List.filter_append] at this
    exact (List.prefix_append _ _).trans this
  refine List.IsPrefix.trans ?_ h1
  rw [hs.split j]
  rw [pnd_split hold j, ← List.append_assoc]
  exact List.prefix_append _ _

theorem Sched.elided_mem
    (hs : Sched rows M kg s stT st pnd) {N : Nat} {b : OutEdge} (hN : NoopRow rows N) (hb : outOf stT N = [b]) :
    b ∈ st.out := by
  have hm : b ∈ outOf st N := by rw [← hs.out_noop hN, hb]; simp
  exact mem_out_of_outOf hm

/-- an edge leaves a row whose earlier out-edges have all taken effect: both states record it -/
theorem sched_append {M' : Maps} {s' : St}
    (hs : Sched rows M kg s stT st pnd) {new : OutEdge}
    (hp' : schedStep rows pnd new = some pnd) (hnop : pnd.filter (·.src = new.src) = [])
    (hMn : ∀ t, M'.nOf t = M.nOf t) (hMel : M'.el = M.el) (hMfr : M'.fr = M.fr)
    (hfrs : M.fr new.src = false) (hels : M.el new.src = false)
    (hgrp : ∀ N, NoopRow rows N → s'.groups[gOf rows N]? = s.groups[gOf rows N]?)
    (hrt : ∀ c, rows[new.src]? = some c → isNoop c = true → testsOf .noOp (outOf stT new.src ++ [new]) ≠ []) :
    Sched rows M' kg s' { stT with out := new :: stT.out } { st with out := new :: st.out } pnd := by
  have hout : ∀ N, N ≠ new.src → outOf { stT with out := new :: stT.out } N = outOf stT N :=
    fun N hN => outOf_cons_other stT new N (Ne.symm hN)
  refine ⟨hs.ids, hs.prev, ?_, ?_, by rw [hMfr]; exact hs.pend, hs.psrc, ?_, ?_, ?_, ?_⟩
  rotate_right
  · intro N hel hlt hNn
    rw [hMel] at hel
    rw [hgrp N hNn]; exact hs.elgrp N hel hlt hNn
  · intro j0
    rw [outOf_cons, outOf_cons, hs.split j0]
    by_cases hj0 : new.src = j0
    · subst hj0
      simp [hnop]
    · simp [hj0]
  · exact hs.fold_cons.mpr hp'
  · intro N hN
    rw [hMfr] at hN
    obtain ⟨hnr, ho, hgN⟩ := hs.fresh N hN
    have hne : N ≠ new.src := by intro e; rw [e, hfrs] at hN; cases hN
    exact ⟨hnr, by rw [hout N hne]; exact ho, by rw [hgrp N hnr]; exact hgN⟩
  · intro N hel hfr hlt
    rw [hMel] at hel; rw [hMfr] at hfr
    have hne : N ≠ new.src := by intro e; rw [e, hels] at hel; cases hel
    obtain ⟨hNn, b, T, cT, h1, h2, h3, h4, h5⟩ := hs.elided N hel hfr hlt
    exact ⟨hNn, b, T, cT, by rw [hout N hne]; exact h1, h2, h3, by rw [hMn, hMn]; exact h4, h5⟩
  · intro N cN hN hcN hnN hel
    rw [hMel] at hel
    by_cases hne : N = new.src
    · subst hne
      rw [outOf_cons, if_pos rfl]
      exact hrt cN hcN hnN
    · rw [hout N hne]
      exact hs.routed N cN hN hcN hnN hel

/-- the ghost maps only learn: rows that are not `no_op` rows waiting to be left keep their node -/
def MExt (M M' : Maps) : Prop := ∀ t, M.fr t = false → M'.fr t = false ∧ M'.nOf t = M.nOf t

theorem MExt.refl (M : Maps) : MExt M M := fun _ h => ⟨h, rfl⟩

theorem MExt.trans {M1 M2 M3 : Maps} (h1 : MExt M1 M2) (h2 : MExt M2 M3) : MExt M1 M3 := by
  intro t ht
  obtain ⟨a, b⟩ := h1 t ht
  obtain ⟨c, d⟩ := h2 t a
  exact ⟨c, by rw [d, b]⟩

theorem MExt.of_eq {M M' : Maps} (h1 : ∀ t, M'.nOf t = M.nOf t) (h2 : M'.fr = M.fr) : MExt M M' :=
  fun t ht => ⟨by rw [h2]; exact ht, h1 t⟩

theorem DestIs.mext {M M' : Maps} (hM : MExt M M') {ns : Array NodeM} {d : Dest} {tgt : Target}
    (htf : ∀ t, tgt = Target.row t → M.fr t = false) (hd : DestIs M ns d (some tgt)) : DestIs M' ns d (some tgt) :=
  hd.congrM (fun k hk => by injection hk with hk; exact (hM k (htf k hk)).2)

/-- the ghost maps before and after the `no_op` row `N` is left for the first time: `N` stops waiting, the other rows
keep their entries -/
structure LeftAt (M M' : Maps) (N : Nat) : Prop where
  nOf : ∀ t, t ≠ N → M'.nOf t = M.nOf t
  el : ∀ t, t ≠ N → M'.el t = M.el t
  fr : ∀ t, M'.fr t = if t = N then false else M.fr t

theorem LeftAt.mext {M M' : Maps} {N : Nat} (h : LeftAt M M' N) (hN : M.fr N = true) : MExt M M' := by
  intro t ht
  have : t ≠ N := by intro e; rw [e, hN] at ht; cases ht
  exact ⟨by rw [h.fr, if_neg this]; exact ht, h.nOf t this⟩

theorem LeftAt.congr {M M1 M2 : Maps} {N : Nat} (h : LeftAt M M1 N) (hn : ∀ t, M2.nOf t = M1.nOf t) (he : M2.el = M1.el)
    (hf : M2.fr = M1.fr) : LeftAt M M2 N :=
  ⟨fun t ht => (hn t).trans (h.nOf t ht), fun t ht => he ▸ h.el t ht, fun t => hf ▸ h.fr t⟩

/-- the schedule after the `no_op` row `N` has been left for the first time, by the edge `new`: the remembered edges
into `N` have taken effect, then `new` -/
theorem sched_leave {p' : List OutEdge} {M2 : Maps} {s2 : St} {N : Nat} {new : OutEdge}
    (hs : Sched rows M kg s stT st pnd) (hNr : NoopRow rows N) (hfrN : M.fr N = true)
    (hnsrc : new.src = N) (htn : tgtNoop rows new.tgt = false) (hp' : schedStep rows pnd new = some p')
    (hL : LeftAt M M2 N)
    (hgrp : ∀ N2, NoopRow rows N2 → N2 ≠ N → s2.groups[gOf rows N2]? = s.groups[gOf rows N2]?)
    (helN : M2.el N = true → ∃ T cT, new.cond.blank = true ∧ new.tgt = .row T ∧ M2.nOf N = M2.nOf T ∧
      rows[T]? = some cT ∧ isNodeRow cT = true ∧ isNoop cT = false)
    (hrtN : M2.el N = false → testsOf .noOp [new] ≠ [])
    (helg : M2.el N = true → ∃ ps, s2.groups[gOf rows N]? = some (.noop ps none)) :
    Sched rows M2 kg s2 { stT with out := new :: stT.out }
      { st with out := new :: ((pnd.filter fun pe => decide (pe.tgt = .row N)).reverse ++ st.out) } p' := by
  obtain ⟨hpeq, hold⟩ := schedStep_leave hNr htn hp' hnsrc
  -- in the true state `N` has its first out-edge; the other rows are as before
  have houtN : outOf { stT with out := new :: stT.out } N = [new] := by
    rw [outOf_cons, hnsrc, if_pos rfl, (hs.fresh N hfrN).2.1]; rfl
  have houtO : ∀ N2, N2 ≠ N → outOf { stT with out := new :: stT.out } N2 = outOf stT N2 :=
    fun N2 hne => outOf_cons_other stT new N2 (hnsrc ▸ Ne.symm hne)
  refine ⟨hs.ids, hs.prev, fun j => ?_, hs.fold_cons.mpr hp', fun e he => ?_,
    fun e he => hs.psrc e (List.mem_filter.mp (hpeq ▸ he)).1, fun N2 hf2 => ?_, fun N2 hel2 hf2 hlt2 => ?_,
    fun N2 c2 hlt2 hc2 hn2 hel2 => ?_, fun N2 hel2 hlt2 hN2 => ?_⟩
  · -- per source: the remembered edges into `N` were its oldest remembered ones
    have hout : outOf { st with out := new :: ((pnd.filter fun pe => decide (pe.tgt = .row N)).reverse ++ st.out) } j =
        outOf st j ++ (pnd.filter (fun pe => decide (pe.tgt = .row N))).filter (·.src = j) ++ (if N = j then [new] else []) := by
      rw [outOf_cons { st with out := (pnd.filter fun pe => decide (pe.tgt = .row N)).reverse ++ st.out }, outOf_append rfl, hnsrc]
    rw [hout, outOf_cons, hnsrc, hs.split j, hpeq]
    have e1 := pnd_split hold j
    by_cases hj : N = j
    · subst hj
      have := hs.nosrc hNr
      rw [this] at e1
      have e1' := e1.symm
      rw [List.append_eq_nil_iff] at e1'
      rw [this, e1'.1, e1'.2]; simp
    · simp only [hj, if_false, List.append_nil]
      rw [e1, List.append_assoc]
  · rw [hpeq] at he
    have hm := List.mem_filter.mp he
    obtain ⟨N2, ht, hf2⟩ := hs.pend e hm.1
    have : N2 ≠ N := by intro e2; rw [ht, e2] at hm; simp at hm
    exact ⟨N2, ht, by rw [hL.fr, if_neg this]; exact hf2⟩
  · rw [hL.fr] at hf2
    have hne : N2 ≠ N := by intro e2; rw [if_pos e2] at hf2; cases hf2
    rw [if_neg hne] at hf2
    obtain ⟨hnr, ho, hg⟩ := hs.fresh N2 hf2
    refine ⟨hnr, (houtO N2 hne).trans ho, ?_⟩
    rw [hgrp N2 hnr hne, hg]
    -- its parents are not among the edges that took effect
    unfold parentsOf
    rw [hpeq, List.filter_filter]
    congr 3
    exact List.filter_congr fun pe _ => by by_cases ht : pe.tgt = .row N2 <;> simp [ht, hne]
  · by_cases hne : N2 = N
    · subst hne
      obtain ⟨T, cT, h1, h2, h3, h4⟩ := helN hel2
      exact ⟨hNr, new, T, cT, houtN, h1, h2, h3, h4⟩
    · rw [hL.el N2 hne] at hel2
      rw [hL.fr, if_neg hne] at hf2
      obtain ⟨hnr2, b, T, cT, h1, h2, h3, h4, h5, h6, h7⟩ := hs.elided N2 hel2 hf2 hlt2
      exact ⟨hnr2, b, T, cT, (houtO N2 hne).trans h1, h2, h3,
        by rw [hL.nOf N2 hne, hL.nOf T (ne_of_noop h5 h7 hNr)]; exact h4, h5, h6, h7⟩
  · by_cases hne : N2 = N
    · subst hne
      rw [houtN]
      exact hrtN hel2
    · rw [hL.el N2 hne] at hel2
      rw [houtO N2 hne]
      exact hs.routed N2 c2 hlt2 hc2 hn2 hel2
  · by_cases hne : N2 = N
    · subst hne; exact helg hel2
    · rw [hL.el N2 hne] at hel2
      rw [hgrp N2 hN2 hne]
      exact hs.elgrp N2 hel2 hlt2 hN2

/-- the ghost map after the `no_op` row `k` has been parsed: it has no node of its own and waits to be left -/
def enterM (M : Maps) (k : Nat) : Maps :=
  { M with el := fun t => if t = k then true else M.el t, fr := fun t => if t = k then true else M.fr t }

/-- the `no_op` row `k` has been parsed: the edges `new` into it are remembered, in its group -/
theorem sched_into {k : Nat} {stT1 : P1}
    (hs : Sched rows M k s stT st pnd) (h : Rel rows M false k s st) (hNr : NoopRow rows k) {new : List OutEdge}
    (hnew : ∀ e ∈ new, e.tgt = .row k ∧ e.src < k ∧ ∃ c, rows[e.src]? = some c ∧ isNodeRow c = true)
    (ho1 : stT1.out = new.reverse ++ stT.out) (hq : ∃ q, stT1.out.reverse.foldlM (schedStep rows) [] = some q)
    {blk : Grp} {rowIds names ids : List (Str × Nat)} :
    Sched rows (enterM M k) (k + 1)
      { s with groups := (s.groups.push (Grp.noop (new.map (encP rows)) none)).setIfInBounds 0 blk,
               rowIds := rowIds, names := names }
      { stT1 with prev := some k, ids := ids } { st with prev := some k, ids := ids } (pnd ++ new) := by
  have hM2elo : ∀ t, t ≠ k → (enterM M k).el t = M.el t := fun t ht => if_neg ht
  have hM2fro : ∀ t, t ≠ k → (enterM M k).fr t = M.fr t := fun t ht => if_neg ht
  have hM2elk : (enterM M k).el k = true := if_pos rfl
  have hM2frk : (enterM M k).fr k = true := if_pos rfl
  have hsz : s.groups.size = gOf rows k := h.gsize
  have hpos := gOf_pos rows k
  have hfrk : M.fr k = false := Bool.eq_false_iff.mpr fun hf' => Nat.lt_irrefl k (h.frel k hf').2.1
  have hnewt : ∀ e ∈ new, e.tgt = .row k := fun e he => (hnew e he).1
  -- the schedule remembers the new edges; none of them leaves a `no_op` row
  obtain ⟨q, hq⟩ := hq
  have hfold := hq
  rw [ho1, List.reverse_append, List.reverse_reverse, List.foldlM_append, hs.fold] at hfold
  obtain ⟨rfl, hnewsrc⟩ := foldlM_schedStep_into hNr new hnewt hfold
  have houtT : ∀ N, NoopRow rows N → outOf stT1 N = outOf stT N := by
    intro N hN
    rw [outOf_append ho1, List.filter_eq_nil_iff.mpr, List.append_nil]
    intro e he hsrc
    have := hnewsrc e he
    rw [of_decide_eq_true hsrc, noopAt_iff.mpr hN] at this
    cases this
  -- no remembered edge leads into `k` yet
  have hpndk : parentsOf rows pnd k = [] := by
    unfold parentsOf
    rw [List.filter_eq_nil_iff.mpr fun pe hpe => by simpa using hs.not_into hfrk pe hpe]; rfl
  have hpar : ∀ N, parentsOf rows (pnd ++ new) N = if N = k then new.map (encP rows) else parentsOf rows pnd N := by
    intro N
    rw [parentsOf_append, parentsOf_into hnewt]
    split
    · rename_i hN; rw [hN, hpndk]; rfl
    · rw [List.append_nil]
  -- the group of `k` is the last one; the earlier `no_op` rows keep theirs
  have hgk : ((s.groups.push (Grp.noop (new.map (encP rows)) none)).setIfInBounds 0 blk)[gOf rows k]? =
      some (Grp.noop (new.map (encP rows)) none) := by
    simp only [Array.getElem?_setIfInBounds, Array.getElem?_push]
    rw [if_neg (by omega), if_pos hsz.symm]
  have hgo : ∀ N, NoopRow rows N → N < k →
      ((s.groups.push (Grp.noop (new.map (encP rows)) none)).setIfInBounds 0 blk)[gOf rows N]? = s.groups[gOf rows N]? :=
    fun N hN hlt => group_kept hsz hlt hN _ _
  have hlt : ∀ N, N ≠ k → N < k + 1 → N < k := fun N h1 h2 => by omega
  refine ⟨rfl, rfl, fun j => ?_, hq, fun e he => ?_, fun e he => ?_, fun N hN => ?_, fun N hel hfr hlt' => ?_,
    fun N cN hlt' hcN hnN hel => ?_, fun N hel hlt' hNn => ?_⟩
  · show outOf stT1 j = outOf st j ++ _
    rw [outOf_append ho1, hs.split j, List.filter_append, List.append_assoc]
  · rcases List.mem_append.mp he with he | he
    · obtain ⟨N, ht', hfN⟩ := hs.pend e he
      have : N ≠ k := by intro e2; rw [e2, hfrk] at hfN; cases hfN
      exact ⟨N, ht', by rw [hM2fro N this]; exact hfN⟩
    · exact ⟨k, hnewt e he, hM2frk⟩
  · rcases List.mem_append.mp he with he | he
    · exact ⟨Nat.lt_succ_of_lt (hs.psrc e he).1, (hs.psrc e he).2⟩
    · obtain ⟨_, h2, c2, hc2, hn2⟩ := hnew e he
      have := hnewsrc e he
      unfold noopAt at this; rw [hc2] at this
      exact ⟨Nat.lt_succ_of_lt h2, c2, hc2, hn2, this⟩
  · show _ ∧ outOf stT1 N = [] ∧ _
    by_cases hNk : N = k
    · subst hNk
      refine ⟨hNr, ?_, by rw [hgk, hpar, if_pos rfl]⟩
      rw [houtT N hNr, hs.split N, outOf_nil_of_src st N (fun e he => (h.srcok e he).1), hs.nosrc hNr]; rfl
    · rw [hM2fro N hNk] at hN
      obtain ⟨hnr, ho, hgN⟩ := hs.fresh N hN
      exact ⟨hnr, by rw [houtT N hnr]; exact ho, by rw [hgo N hnr (h.frel N hN).2.1, hpar, if_neg hNk]; exact hgN⟩
  · have hNk : N ≠ k := by intro e2; rw [e2, hM2frk] at hfr; cases hfr
    rw [hM2elo N hNk] at hel; rw [hM2fro N hNk] at hfr
    obtain ⟨hNn, b, T, cT, h1, h2, h3, h4, h5⟩ := hs.elided N hel hfr (hlt N hNk hlt')
    exact ⟨hNn, b, T, cT, (houtT N hNn).trans h1, h2, h3, h4, h5⟩
  · have hNk : N ≠ k := by intro e2; rw [e2, hM2elk] at hel; cases hel
    rw [hM2elo N hNk] at hel
    show testsOf .noOp (outOf stT1 N) ≠ []
    rw [houtT N ⟨cN, hcN, hnN⟩]
    exact hs.routed N cN (hlt N hNk hlt') hcN hnN hel
  · by_cases hNk : N = k
    · subst hNk; exact ⟨_, hgk⟩
    · rw [hM2elo N hNk] at hel
      obtain ⟨ps, hgN⟩ := hs.elgrp N hel (hlt N hNk hlt') hNn
      exact ⟨ps, (hgo N hNn (hlt N hNk hlt')).trans hgN⟩

/-- the arena grows, the ghost map learns about the row being parsed: the schedule is unaffected -/
theorem Sched.push {M' : Maps} {k : Nat} {s' : St}
    (hs : Sched rows M k s stT st pnd) (h : Rel rows M false k s st)
    (hn : ∀ t, t ≠ k → M'.nOf t = M.nOf t) (hel : M'.el = M.el) (hfr : M'.fr = M.fr)
    (hg : s'.groups = s.groups) : Sched rows M' k s' stT st pnd := by
  refine ⟨hs.ids, hs.prev, hs.split, hs.fold, by rw [hfr]; exact hs.pend, hs.psrc, ?_, ?_, ?_,
    fun N hel' hlt hNn => by rw [hel] at hel'; rw [hg]; exact hs.elgrp N hel' hlt hNn⟩
  · intro N hN; rw [hfr] at hN; rw [hg]; exact hs.fresh N hN
  · intro N hel' hfr' hlt
    rw [hel] at hel'; rw [hfr] at hfr'
    obtain ⟨hNn, b, T, cT, h1, h2, h3, h4, h5⟩ := hs.elided N hel' hfr' hlt
    have hT : T < k := by
      rcases h.tgtok b (hs.elided_mem hNn h1) T h3 with h6 | h6
      · exact h6
      · exact absurd h6.1 (by simp)
    exact ⟨hNn, b, T, cT, h1, h2, h3, by rw [hn N (by omega), hn T (by omega)]; exact h4, h5⟩
  · intro N cN hN hcN hnN hel'
    rw [hel] at hel'
    exact hs.routed N cN hN hcN hnN hel'

theorem Sched.congr_ids {s' : St}
    (hs : Sched rows M kg s stT st pnd) (hg : s'.groups = s.groups) (ids : List (Str × Nat)) :
    Sched rows M kg s' { stT with ids := ids } { st with ids := ids } pnd := by
  refine ⟨rfl, hs.prev, hs.split, hs.fold, hs.pend, hs.psrc, ?_, hs.elided, hs.routed, ?_⟩
  · intro N hN; rw [hg]; exact hs.fresh N hN
  · intro N hel hlt hNn; rw [hg]; exact hs.elgrp N hel hlt hNn

/-- an ordinary row `k` has been dealt with: the groups of the `no_op` rows are what they were, the row ids and
the previous row may have changed -/
theorem Sched.succ {k : Nat} {s' : St} {c : CRow}
    (hs : Sched rows M k s stT st pnd) {pd : Bool} (h : Rel rows M pd k s st) (hc : rows[k]? = some c)
    (hnn : isNoop c = false)
    (hg : ∀ N, NoopRow rows N → N < k → s'.groups[gOf rows N]? = s.groups[gOf rows N]?)
    (prev : Option Nat) (ids : List (Str × Nat)) :
    Sched rows M (k + 1) s' { stT with prev := prev, ids := ids } { st with prev := prev, ids := ids } pnd := by
  have hlt : ∀ N, N < k + 1 → M.el N = true → N < k :=
    fun N hlt hel => Nat.lt_of_le_of_ne (Nat.le_of_lt_succ hlt) (fun e => by rw [e, h.elno k c hc hnn] at hel; cases hel)
  refine ⟨rfl, rfl, hs.split, hs.fold, hs.pend, fun e he => ⟨Nat.lt_succ_of_lt (hs.psrc e he).1, (hs.psrc e he).2⟩,
    ?_, fun N hel hfr hlt' => hs.elided N hel hfr (hlt N hlt' hel), ?_, ?_⟩
  · intro N hN
    obtain ⟨hnr, ho, hgN⟩ := hs.fresh N hN
    exact ⟨hnr, ho, by rw [hg N hnr (h.frel N hN).2.1]; exact hgN⟩
  · intro N cN hlt' hcN hnN hel
    have hne := (ne_of_noop hc hnn ⟨cN, hcN, hnN⟩).symm
    exact hs.routed N cN (by omega) hcN hnN hel
  · intro N hel hlt' hNn
    rw [hg N hNn (hlt N hlt' hel)]
    exact hs.elgrp N hel (hlt N hlt' hel) hNn

/-- the group of an ordinary row `k` is appended, its row id registered -/
theorem Sched.close {k : Nat} {s3 : St} {c : CRow}
    (hs : Sched rows M k s3 stT st pnd) (r3 : Rel rows M true k s3 st) (hc : rows[k]? = some c)
    (hnn : isNoop c = false) {grp blk : Grp} {rowIds names ids : List (Str × Nat)} :
    Sched rows M (k + 1)
      { s3 with groups := (s3.groups.push grp).setIfInBounds 0 blk, rowIds := rowIds, names := names }
      { stT with prev := some k, ids := ids } { st with prev := some k, ids := ids } pnd := by
  refine hs.succ r3 hc hnn (fun _ hN hlt => ?_) _ _
  exact group_kept r3.gsize hlt hN _ _

theorem Sched.skip {k : Nat} {c : CRow}
    (hs : Sched rows M k s stT st pnd) (h : Rel rows M false k s st) (hc : rows[k]? = some c)
    (hn : isNodeRow c = false) : Sched rows M (k + 1) s stT st pnd := by
  have hnn : isNoop c = false := Bool.eq_false_iff.mpr fun hh => by rw [isNodeRow_of_noop hh] at hn; cases hn
  have e : ({ st with prev := stT.prev, ids := stT.ids } : P1) = st := by rw [← hs.prev, ← hs.ids]
  have := hs.succ (s' := s) h hc hnn (fun _ _ _ => rfl) stT.prev stT.ids
  rw [e] at this
  exact this

end
end Rpft.CoreSheet
