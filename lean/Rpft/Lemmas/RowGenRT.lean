/-
The general round trip (C07 `parse_unparse`): the round trip of ONE position
of the schema (`PosRT`) and how the round trips of the fields of a record / the elements of
a list compose into the round trip of the record / the list.
-/
import Rpft.Lemmas.RowGenPack
namespace Rpft.Row
open Rpft

/-! ### induction over the (nested) schema type -/

section
variable {P : Ty → Prop} (hstr : P .str) (hint : P .int) (hfloat : P .float) (hbool : P .bool)
  (hany : P .anyList) (hlist : ∀ t, P t → P (.list t))
  (hmodel : ∀ fs h2f f2h, (∀ f ∈ fs, P f.2.1) → P (.model fs h2f f2h))
include hstr hint hfloat hbool hany hlist hmodel
-- the linter does not follow the hypotheses through the mutual recursion
set_option linter.unusedSectionVars false
mutual
theorem Ty.induct : ∀ t : Ty, P t
  | .str => hstr
  | .int => hint
  | .float => hfloat
  | .bool => hbool
  | .anyList => hany
  | .list t => hlist t (Ty.induct t)
  | .model fs h2f f2h => hmodel fs h2f f2h (Ty.inductFields fs)
theorem Ty.inductFields : ∀ fs : List (Str × Ty × Option Val), ∀ f ∈ fs, P f.2.1
  | [], f, h => by simp at h
  | (n, t, d) :: rest, f, h => by
    rcases List.mem_cons.mp h with rfl | h
    · exact Ty.induct t
    · exact Ty.inductFields rest f h
end
end

/-! ### the round trip of one position -/

/-- the headers of columns given by their paths below the position `segs` -/
def absCols (segs : List Str) (cols : List (List Str × Str)) : Out :=
  cols.map fun c => (keyOf (segs ++ c.1), c.2)

def inlCols (cols : List (List Str × Str)) : List (List Str × ColVal) :=
  cols.map fun c => (c.1, Sum.inl c.2)

/-- Round trip of the value `v : ty` written by `W` at the position `segs`: `W` appends
columns `cols` (paths below `segs`, at least one); parsing them from the empty position
builds a tree `tr` that validates to `v`. -/
def ColsRT (W : Out → Except Err Out) (segs : List Str) (ty : Ty) (v : Val) : Prop :=
  ∃ (cols : List (List Str × Str)) (tr : Tree),
    cols ≠ [] ∧ (∀ c ∈ cols, ∀ s ∈ c.1, SegOk s) ∧ (cols.map (·.1)).Nodup ∧
    (∀ out, Fresh segs out → W out = .ok (out ++ absCols segs cols)) ∧
    pfold ty .none (inlCols cols) = .ok tr ∧ validate ty tr = .ok v ∧
    (isBasicVal v = true → cols = [([], printBasic v)])

def PosRT (lay : Layout) (ty : Ty) (v : Val) (segs : List Str) : Prop :=
  ColsRT (unparseRec lay ty v (pathStr segs)) segs ty v

theorem validate_not_none {ty : Ty} {tr : Tree} {v : Val} (h : validate ty tr = .ok v) :
    tr.isNone = false := by
  cases tr <;> simp [Tree.isNone]
  cases ty <;> simp [validate] at h

theorem absCols_append (segs : List Str) (a b : List (List Str × Str)) :
    absCols segs (a ++ b) = absCols segs a ++ absCols segs b := by simp [absCols]

theorem inlCols_append (a b : List (List Str × Str)) : inlCols (a ++ b) = inlCols a ++ inlCols b := by
  simp [inlCols]

/-- push the columns of a child below its parent -/
def under (m : Str) (cols : List (List Str × Str)) : List (List Str × Str) :=
  cols.map fun c => (m :: c.1, c.2)

theorem absCols_under (segs : List Str) (m : Str) (cols : List (List Str × Str)) :
    absCols segs (under m cols) = absCols (segs ++ [m]) cols := by
  simp [absCols, under, List.map_map, Function.comp]

theorem inlCols_under (m : Str) (cols : List (List Str × Str)) :
    inlCols (under m cols) = prep m (inlCols cols) := by
  simp [inlCols, under, prep, List.map_map, Function.comp]

/-- reading the columns of one child (below the segment `m`) and then the rest: the child's
columns act on the container `K none` as one block -/
theorem Focus.under_append {cty ty : Ty} {m : Str} {K : Option Tree → Tree} (h : Focus cty ty m K)
    {colsX cols' : List (List Str × Str)} {tr : Tree} (hne : colsX ≠ [])
    (hP : pfold ty .none (inlCols colsX) = .ok tr) :
    pfold cty (K none) (inlCols (under m colsX ++ cols')) = pfold cty (K (some tr)) (inlCols cols') := by
  rw [inlCols_append, pfold_append, inlCols_under]
  cases hcp : inlCols colsX with
  | nil => simp [inlCols] at hcp; exact absurd hcp hne
  | cons c cs =>
    rw [h.block cs c none, ← hcp]
    simp only [Option.getD_none, hP, Except.map]

theorem colsRT_of_pack {W : Out → Except Err Out} {segs : List Str} {ty : Ty} {v : Val}
    (hp : PackRT ty v) (hW : ∀ out, W out = writeValue ty v (pathStr segs) out) :
    ColsRT W segs ty v := by
  obtain ⟨text, tr, hw, hl, hv⟩ := hp
  refine ⟨[([], text)], tr, by simp, by simp, by simp, ?_, ?_, hv, ?_⟩
  · intro out hf
    rw [hW, hw]
    have := fresh_absent hf
    simp only [keyOf] at this
    simp [writeOut, this, absCols, keyOf]
  · simp [pfold, inlCols, foldE, pstep, hl]
  · intro hb
    have := hw [] []
    simp [writeValue, hb, writeOut, alookup] at this
    rw [this]

/-! ### the fields of a record -/

/-- what `unparse_row_recurse` does for one non-default field -/
def fieldW (lay : Layout) (f2h : List (Str × Str)) (segs : List Str) (p : SPair) :
    Out → Except Err Out := fun out =>
  if p.1.1 = remap f2h p.1.1 then
    unparseRec lay p.1.2.1 p.2 (pathStr (segs ++ [remap f2h p.1.1])) out
  else writeValue p.1.2.1 p.2 (pathStr (segs ++ [remap f2h p.1.1])) out

/-- the columns `cols` and the dictionary entries `trs` of the fields `pairs` of a record at `segs`:
`unparseFields` appends the columns, each below the header of a non-default field (a remapped field has
one column, its own cell); read into a dictionary without these fields they add the entries `trs`, which
validate to the field values, a field without an entry being at its default -/
def FieldsSpec (lay : Layout) (fs : List Field) (h2f f2h : List (Str × Str)) (segs : List Str)
    (kvs : List (Str × Val)) (pairs : List SPair) (cols : List (List Str × Str))
    (trs : List (Str × Tree)) : Prop :=
  (∀ out : Out, (∀ p ∈ pairs, nonDefault p = true → Fresh (segs ++ [hdr f2h p]) out) →
      unparseFields lay f2h (pathStr segs) (pairs.map (·.1)) kvs out =
        .ok (out ++ absCols segs cols)) ∧
  (∀ c ∈ cols, ∃ p ∈ pairs, nonDefault p = true ∧
      ∃ r, c.1 = hdr f2h p :: r ∧ (∀ s ∈ r, SegOk s) ∧ (hdr f2h p ≠ p.1.1 → r = [])) ∧
  (cols.map (·.1)).Nodup ∧
  (∀ acc, (∀ p ∈ pairs, alookup p.1.1 acc = none) →
      pfold (.model fs h2f f2h) (.dict acc) (inlCols cols) = .ok (.dict (acc ++ trs))) ∧
  (∀ kv ∈ trs, kv.1 ∈ pairs.map (·.1.1) ∧ kv.2.isNone = false) ∧
  (∀ p ∈ pairs, (alookup p.1.1 trs = none ∧ p.1.2.2 = some p.2) ∨
      (∃ tr, alookup p.1.1 trs = some tr ∧ validate p.1.2.1 tr = .ok p.2)) ∧
  (cols = [] → ∀ p ∈ pairs, nonDefault p = false) ∧
  (∀ p ∈ pairs, nonDefault p = true → isBasicVal p.2 = true →
      ([hdr f2h p], printBasic p.2) ∈ cols)

theorem fresh_absCols_sibling {segs : List Str} {m m' : Str} (hm : SegOk m) (hm' : SegOk m')
    (hd : m' ≠ m) (cols : List (List Str × Str)) :
    Fresh (segs ++ [m]) (absCols (segs ++ [m']) cols) := by
  intro kv hkv r e
  obtain ⟨c, _, rfl⟩ := List.mem_map.mp hkv
  simp only [List.append_assoc, List.singleton_append] at e
  apply hd
  cases segs with
  | nil =>
    simp only [List.nil_append, keyOf_cons] at e
    apply pathStr_head_inj hm' hm (r := c.1) (r' := r)
    simp only [pathStr]; rw [e]
  | cons s t => exact pathStr_head_inj hm' hm (keyOf_append_inj (by simp) e)

set_option linter.unusedVariables false in
theorem fresh_sibling {segs : List Str} (hne : segs ≠ []) {m m' : Str} (hm : SegOk m)
    (hm' : SegOk m') (hd : m' ≠ m) (cols : List (List Str × Str)) :
    Fresh (segs ++ [m]) (cols.map fun c => (keyOf ((segs ++ [m']) ++ c.1), c.2)) :=
  fresh_absCols_sibling hm hm' hd cols

theorem nodup_under_append {m : Str} {a : List (List Str × Str)} {b : List (List Str × Str)}
    (ha : (a.map (·.1)).Nodup) (hb : (b.map (·.1)).Nodup)
    (hd : ∀ c ∈ b, ∀ r, c.1 ≠ m :: r) : ((under m a ++ b).map (·.1)).Nodup := by
  rw [List.map_append]
  refine List.nodup_append.mpr ⟨?_, hb, ?_⟩
  · have : (under m a).map (·.1) = (a.map (·.1)).map (fun r => m :: r) := by
      simp [under, List.map_map, Function.comp]
    rw [this]
    exact List.Pairwise.map _ (fun _ _ hab e => hab (List.cons.inj e).2) ha
  · intro x hx y hy hxy
    obtain ⟨c, hc, rfl⟩ := List.mem_map.mp hx
    obtain ⟨c', hc', rfl⟩ := List.mem_map.mp hy
    obtain ⟨c0, _, rfl⟩ := List.mem_map.mp hc
    exact hd c' hc' c0.1 hxy.symm

theorem absCols_nodup {segs : List Str} (hsegs : ∀ s ∈ segs, SegOk s) {cols : List (List Str × Str)}
    (hS : ∀ c ∈ cols, segs ++ c.1 ≠ [] ∧ ∀ s ∈ c.1, SegOk s) (hN : (cols.map (·.1)).Nodup) :
    ((absCols segs cols).map Prod.fst).Nodup := by
  have : (absCols segs cols).map Prod.fst = (cols.map (·.1)).map fun r => keyOf (segs ++ r) := by
    simp [absCols, List.map_map, Function.comp]
  rw [this]
  apply nodup_map_on _ _ hN
  intro a ha b hb hab
  obtain ⟨ca, hca, rfl⟩ := List.mem_map.mp ha
  obtain ⟨cb, hcb, rfl⟩ := List.mem_map.mp hb
  have hok : ∀ c ∈ cols, ∀ x ∈ segs ++ c.1, SegOk x := fun c hc x hx =>
    (List.mem_append.mp hx).elim (hsegs x) ((hS c hc).2 x)
  exact List.append_cancel_left
    (keyOf_inj (hS ca hca).1 (hS cb hcb).1 (hok ca hca) (hok cb hcb) hab)

theorem writeValue_single {ty : Ty} {v : Val} {pfx : Str} {out' : Out}
    (h : writeValue ty v pfx [] = .ok out') : ∃ text, out' = [(trimPrefix pfx, text)] := by
  revert h
  fun_cases writeValue ty v pfx [] <;> intro h <;>
    first | exact ⟨_, (Except.ok.inj h).symm⟩ | cases h

theorem fields_spec (lay : Layout) (he : lay.excluded = []) (fs : List Field)
    (h2f f2h : List (Str × Str)) (segs : List Str) (hsegs : ∀ s ∈ segs, SegOk s)
    (kvs : List (Str × Val)) :
    ∀ (pairs : List SPair),
      (pairs.map (·.1.1)).Nodup →
      ((pairs.filter nonDefault).map (hdr f2h)).Nodup →
      (∀ p ∈ pairs, alookup p.1.1 kvs = some p.2 ∧ (nonDefault p = true →
        SegOk (hdr f2h p) ∧ remap h2f (hdr f2h p) = p.1.1 ∧ fieldLookup p.1.1 fs = some p.1 ∧
        ColsRT (fieldW lay f2h segs p) (segs ++ [hdr f2h p]) p.1.2.1 p.2)) →
      ∃ cols trs, FieldsSpec lay fs h2f f2h segs kvs pairs cols trs := by
  intro pairs
  induction pairs with
  | nil =>
    intro _ _ _
    refine ⟨[], [], ?_, ?_, ?_, ?_, ?_, ?_, ?_, ?_⟩
    · intro out _; simp [unparseFields, absCols]
    · intro c h; simp at h
    · simp
    · intro acc _; simp [inlCols, pfold, foldE]
    · intro kv h; simp at h
    · intro p h; simp at h
    · intro _ p h; simp at h
    · intro p h; simp at h
  | cons p rest ih =>
    obtain ⟨⟨n, ty, d⟩, v⟩ := p
    intro hnd hhd hp
    have hn_notin : n ∉ rest.map (·.1.1) := (List.nodup_cons.mp hnd).1
    have hnne : ∀ p ∈ rest, n ≠ p.1.1 := fun p hp' e =>
      hn_notin (e ▸ List.mem_map_of_mem (f := fun q : SPair => q.1.1) hp')
    obtain ⟨hlook, hrt⟩ := hp ((n, ty, d), v) (by simp)
    obtain ⟨cols', trs', hU', hK', hN', hP', hT', hV', hE', hB'⟩ :=
      ih (List.nodup_cons.mp hnd).2
        (hhd.sublist (((List.sublist_cons_self _ rest).filter _).map _))
        (fun p hp' => hp p (List.mem_cons_of_mem _ hp'))
    have hlook_trs' : alookup n trs' = none := by
      rw [alookup_none_iff]
      intro hm
      obtain ⟨kv, hkv, hkn⟩ := List.mem_map.mp hm
      exact hn_notin (hkn ▸ (hT' kv hkv).1)
    cases hdef : nonDefault ((n, ty, d), v) with
    | false =>
      have hisdef : isDefault d v = true := by simpa [nonDefault] using hdef
      refine ⟨cols', trs', ?_, ?_, hN', ?_, ?_, ?_, ?_, ?_⟩
      · intro out hout
        simp only [List.map_cons, unparseFields, hlook, hisdef, if_true]
        exact hU' out (fun p hp' => hout p (List.mem_cons_of_mem _ hp'))
      · exact fun c hc => (hK' c hc).imp fun p h => ⟨List.mem_cons_of_mem _ h.1, h.2⟩
      · exact fun acc hk => hP' acc fun p hp' => hk p (List.mem_cons_of_mem _ hp')
      · exact fun kv hkv => ⟨List.mem_cons_of_mem _ (hT' kv hkv).1, (hT' kv hkv).2⟩
      · exact List.forall_mem_cons.mpr ⟨Or.inl ⟨hlook_trs', by simpa [isDefault] using hisdef⟩, hV'⟩
      · exact fun hc => List.forall_mem_cons.mpr ⟨hdef, hE' hc⟩
      · exact List.forall_mem_cons.mpr ⟨fun hpn => (by rw [hdef] at hpn; cases hpn), hB'⟩
    | true =>
      have hfil : (((n, ty, d), v) :: rest).filter nonDefault =
          ((n, ty, d), v) :: rest.filter nonDefault := by simp [List.filter, hdef]
      rw [hfil, List.map_cons, List.nodup_cons] at hhd
      obtain ⟨hsm, hback, hfl, colsP, tr, hne, hS, hN, hU, hP, hVal, hBas⟩ := hrt hdef
      have hisdef : isDefault d v = false := by simpa [nonDefault] using hdef
      have hmne : ∀ q ∈ rest, nonDefault q = true → hdr f2h q ≠ hdr f2h ((n, ty, d), v) := by
        intro q hq hqn e
        exact hhd.1 (e ▸ List.mem_map_of_mem (f := hdr f2h) (List.mem_filter.mpr ⟨hq, hqn⟩))
      refine ⟨under (hdr f2h ((n, ty, d), v)) colsP ++ cols', (n, tr) :: trs',
        ?_, ?_, ?_, ?_, ?_, ?_, ?_, ?_⟩
      · intro out hout
        simp only [List.map_cons, unparseFields, hlook, hisdef, Bool.false_eq_true, if_false]
        have hfw : (if n = remap f2h n then
              unparseRec lay ty v (pathStr segs ++ '.' :: remap f2h n) out
            else if matchesHeaders (pathStr segs ++ '.' :: remap f2h n) lay.excluded = true then
              Except.ok out
            else writeValue ty v (pathStr segs ++ '.' :: remap f2h n) out) =
            fieldW lay f2h segs ((n, ty, d), v) out := by
          simp only [fieldW, pathStr_snoc, he, matchesHeaders_nil, Bool.false_eq_true, if_false]
        rw [hfw, hU out (hout _ (by simp) hdef)]
        simp only
        rw [hU' (out ++ absCols (segs ++ [hdr f2h ((n, ty, d), v)]) colsP)]
        · rw [absCols_append, absCols_under, List.append_assoc]
        · intro q hq hqn
          apply fresh_append (hout q (List.mem_cons_of_mem _ hq) hqn)
          have hq' := (hp q (List.mem_cons_of_mem _ hq)).2 hqn
          exact fresh_absCols_sibling hq'.1 hsm (hmne q hq hqn).symm colsP
      · intro c hc
        rcases List.mem_append.mp hc with h | h
        · obtain ⟨c0, hc0, rfl⟩ := List.mem_map.mp h
          refine ⟨((n, ty, d), v), List.mem_cons_self .., hdef, c0.1, rfl, hS c0 hc0, ?_⟩
          intro hrm
          have hne' : ¬ n = remap f2h n := fun e => hrm e.symm
          have h0 := hU [] (by intro kv hkv; simp at hkv)
          simp only [fieldW, hne', if_false, List.nil_append] at h0
          obtain ⟨text, ht⟩ := writeValue_single h0
          -- the one cell written is the cell of the position itself
          have hmem : (keyOf ((segs ++ [hdr f2h ((n, ty, d), v)]) ++ c0.1), c0.2) ∈
              absCols (segs ++ [hdr f2h ((n, ty, d), v)]) colsP :=
            List.mem_map.mpr ⟨c0, hc0, rfl⟩
          rw [ht, List.mem_singleton] at hmem
          have hso : ∀ x ∈ segs ++ [hdr f2h ((n, ty, d), v)], SegOk x :=
            List.forall_mem_append.mpr ⟨hsegs, List.forall_mem_singleton.mpr hsm⟩
          have := keyOf_inj (p := (segs ++ [hdr f2h ((n, ty, d), v)]) ++ c0.1)
            (q := segs ++ [hdr f2h ((n, ty, d), v)]) (by simp) (by simp)
            (fun x hx => (List.mem_append.mp hx).elim (hso x) (hS c0 hc0 x)) hso
            (by simpa [keyOf, hdr] using (Prod.mk.inj hmem).1)
          simpa using this
        · obtain ⟨p, hp', h'⟩ := hK' c h
          exact ⟨p, List.mem_cons_of_mem _ hp', h'⟩
      · apply nodup_under_append hN hN'
        intro c hc r e
        obtain ⟨q, hq, hqn, r', e', _⟩ := hK' c hc
        rw [e'] at e
        exact hmne q hq hqn (List.cons.inj e).1
      · intro acc hk
        have hkn : alookup n acc = none := hk ((n, ty, d), v) (by simp)
        have hblock := (focus_model f2h hback hfl hkn).under_append (cols' := cols') hne hP
        simp only [st] at hblock
        rw [hblock, hP' (acc ++ [(n, tr)]) (by
            intro p hp'
            rw [alookup_append, hk p (List.mem_cons_of_mem _ hp')]
            simp [alookup, hnne p hp'])]
        simp
      · exact List.forall_mem_cons.mpr ⟨⟨List.mem_cons_self .., validate_not_none hVal⟩,
          fun kv hkv => ⟨List.mem_cons_of_mem _ (hT' kv hkv).1, (hT' kv hkv).2⟩⟩
      · refine List.forall_mem_cons.mpr ⟨Or.inr ⟨tr, by simp [alookup], hVal⟩, fun p hp' => ?_⟩
        simpa [alookup, hnne p hp'] using hV' p hp'
      · intro hc
        cases colsP with
        | nil => exact absurd rfl hne
        | cons c cs => simp [under] at hc
      · refine List.forall_mem_cons.mpr ⟨fun _ hpb => List.mem_append_left _ ?_,
          fun p hp' hpn hpb => List.mem_append_right _ (hB' p hp' hpn hpb)⟩
        rw [hBas hpb]
        simp [under]

end Rpft.Row
