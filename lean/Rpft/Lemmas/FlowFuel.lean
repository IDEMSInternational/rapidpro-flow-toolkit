/-
Fuel stability of `aEnter`: with `A.length + 1` units of fuel the chain of do-nothing nodes either
ends, or it has revisited a node and never ends — more fuel changes nothing.  Hence entering with the
systems' fuel unfolds without fuel (`aEnter_sys_skip`, `aEnter_sys_node`) and admits induction along
the chain (`aEnter_sys_ind`); that is all `Lemmas/FlowFuse.lean` uses.
-/
import Rpft.Lemmas.FlowAbs
import Mathlib.Data.Finset.Card
import Mathlib.Data.Finset.Range
import Mathlib.Logic.Function.Iterate
namespace Rpft.Flow
open Rpft

/-- the argument names a do-nothing node of `A` -/
def eGood (A : List ANode) : Option (Option Nat) → Bool
  | some (some i) =>
    match A[i]? with
    | some a => a.acts.isEmpty && a.ask.isNone
    | none => false
  | _ => false

/-- where the (do-nothing) node named by the argument leads -/
def eStep (A : List ANode) : Option (Option Nat) → Option (Option Nat)
  | some (some i) =>
    match A[i]? with
    | some a => a.dests.head?.join
    | none => none
  | _ => none

def eIdx : Option (Option Nat) → Nat
  | some (some i) => i
  | _ => 0

theorem eGood_spec {A : List ANode} {x : Option (Option Nat)} (h : eGood A x = true) :
    x = some (some (eIdx x)) ∧ eIdx x < A.length := by
  match x with
  | none => simp [eGood] at h
  | some none => simp [eGood] at h
  | some (some i) =>
    refine ⟨rfl, ?_⟩
    simp only [eIdx]
    by_contra hlt
    have : A[i]? = none := List.getElem?_eq_none (Nat.le_of_not_lt hlt)
    simp [eGood, this] at h

theorem aEnter_succ_good {A : List ANode} {x : Option (Option Nat)} (h : eGood A x = true)
    (f : Nat) : aEnter A (f + 1) x = aEnter A f (eStep A x) := by
  match x with
  | none => simp [eGood] at h
  | some none => simp [eGood] at h
  | some (some i) =>
    cases ha : A[i]? with
    | none => simp [eGood, ha] at h
    | some a =>
      simp only [eGood, ha] at h
      simp only [aEnter, eStep, ha, h, if_true]

theorem aEnter_succ_not_good {A : List ANode} {x : Option (Option Nat)} (h : eGood A x = false)
    (f : Nat) : aEnter A (f + 1) x = aEnter A 1 x ∧ aEnter A (f + 1) x ≠ some .div := by
  match x with
  | none => simp [aEnter]
  | some none => simp [aEnter]
  | some (some i) =>
    cases ha : A[i]? with
    | none => simp [aEnter, ha]
    | some a =>
      simp only [eGood, ha] at h
      simp [aEnter, ha, h]

theorem aEnter_mono {A : List ANode} {f g : Nat} {x : Option (Option Nat)}
    (h : aEnter A f x ≠ some .div) (hfg : f ≤ g) : aEnter A g x = aEnter A f x := by
  induction f generalizing g x with
  | zero =>
    match x with
    | none => simp [aEnter]
    | some y => simp [aEnter] at h
  | succ f ih =>
    cases g with
    | zero => exact absurd hfg (Nat.not_succ_le_zero f)
    | succ g =>
      cases hg : eGood A x with
      | true =>
        rw [aEnter_succ_good hg] at h ⊢
        rw [aEnter_succ_good hg]
        exact ih h (Nat.le_of_succ_le_succ hfg)
      | false => rw [(aEnter_succ_not_good hg g).1, (aEnter_succ_not_good hg f).1]

theorem aEnter_div_good {A : List ANode} {f : Nat} {x : Option (Option Nat)} (h : aEnter A f x = some .div) :
    ∀ k, k < f → eGood A ((eStep A)^[k] x) = true := by
  induction f generalizing x with
  | zero => intro k hk; exact absurd hk (Nat.not_lt_zero k)
  | succ f ih =>
    intro k hk
    cases hg : eGood A x with
    | false => exact absurd h (aEnter_succ_not_good hg f).2
    | true =>
      cases k with
      | zero => exact hg
      | succ k =>
        rw [aEnter_succ_good hg] at h
        exact ih h k (Nat.lt_of_succ_lt_succ hk)

theorem aEnter_div_of_good {A : List ANode} (g : Nat) {x : Option (Option Nat)}
    (h : ∀ k, eGood A ((eStep A)^[k] x) = true) : aEnter A g x = some .div := by
  induction g generalizing x with
  | zero =>
    have h0 : eGood A x = true := h 0
    rw [(eGood_spec h0).1]
    rfl
  | succ g ih =>
    have h0 : eGood A x = true := h 0
    rw [aEnter_succ_good h0]
    exact ih fun k => h (k + 1)

theorem eGood_periodic {A : List ANode} {x : Option (Option Nat)} {a b : Nat} (hab : a < b)
    (heq : (eStep A)^[a] x = (eStep A)^[b] x)
    (hb : ∀ k, k < b → eGood A ((eStep A)^[k] x) = true) :
    ∀ k, eGood A ((eStep A)^[k] x) = true := by
  intro k
  induction k using Nat.strong_induction_on with
  | _ k ih =>
    rcases Nat.lt_or_ge k b with hlt | hge
    · exact hb k hlt
    · obtain ⟨m, rfl⟩ : ∃ m, k = m + b := ⟨k - b, by omega⟩
      rw [Function.iterate_add_apply, ← heq, ← Function.iterate_add_apply]
      exact ih (m + a) (by omega)

theorem aEnter_div_all {A : List ANode} {x : Option (Option Nat)}
    (h : aEnter A (A.length + 1) x = some .div) (g : Nat) : aEnter A g x = some .div := by
  have hg := aEnter_div_good h
  -- pigeonhole: the first `A.length + 1` arguments of the chain name nodes of `A`, so two coincide
  obtain ⟨k1, hk1, k2, hk2, hne, heq⟩ :=
    Finset.exists_ne_map_eq_of_card_lt_of_maps_to
      (s := Finset.range (A.length + 1)) (t := Finset.range A.length)
      (f := fun k => eIdx ((eStep A)^[k] x)) (by simp)
      (by
        intro k hk
        have hk' : k < A.length + 1 := by simpa using hk
        simpa using (eGood_spec (hg k hk')).2)
  have hk1' : k1 < A.length + 1 := by simpa using hk1
  have hk2' : k2 < A.length + 1 := by simpa using hk2
  have heq' : (eStep A)^[k1] x = (eStep A)^[k2] x := by
    have e1 := (eGood_spec (hg k1 hk1')).1
    have e2 := (eGood_spec (hg k2 hk2')).1
    have heq2 : eIdx ((eStep A)^[k1] x) = eIdx ((eStep A)^[k2] x) := heq
    rw [e1, e2, heq2]
  refine aEnter_div_of_good g ?_
  rcases Nat.lt_or_gt_of_ne hne with hlt | hgt
  · exact eGood_periodic hlt heq' (fun k hk => hg k (by omega))
  · exact eGood_periodic hgt heq'.symm (fun k hk => hg k (by omega))

theorem aEnter_stable (A : List ANode) (f : Nat) (x : Option (Option Nat)) (hf : A.length + 1 ≤ f) :
    aEnter A f x = aEnter A (A.length + 1) x := by
  by_cases h : aEnter A (A.length + 1) x = some .div
  · rw [h]; exact aEnter_div_all h f
  · exact aEnter_mono h hf

theorem aEnter_skip {A : List ANode} {k : Nat} {a : ANode} (hk : A[k]? = some a) (h1 : a.acts = [])
    (h2 : a.ask = none) (f : Nat) : aEnter A (f + 1) (some (some k)) = aEnter A f a.dests.head?.join := by
  simp [aEnter, hk, h1, h2]

theorem aEnter_sys_skip {A : List ANode} {k : Nat} {a : ANode} (hk : A[k]? = some a) (h1 : a.acts = [])
    (h2 : a.ask = none) :
    aEnter A (A.length + 1) (some (some k)) = aEnter A (A.length + 1) a.dests.head?.join :=
  (aEnter_stable A (A.length + 2) _ (Nat.le_succ _)).symm.trans (aEnter_skip hk h1 h2 _)

theorem aEnter_sys_node {A : List ANode} {k : Nat} {a : ANode} (hk : A[k]? = some a) :
    aEnter A (A.length + 1) (some (some k)) = aArrive A k a 0 := by
  by_cases h : a.acts = [] ∧ a.ask = none
  · rw [aEnter_sys_skip hk h.1 h.2, aArrive_end (by rw [h.1]; exact Nat.le_refl 0) h.2]
  · simp only [aEnter, hk]
    rw [if_neg (by simpa [List.isEmpty_iff] using h)]
    cases hr : a.ask with
    | some r => exact (aArrive_ask hr).symm
    | none => exact (aArrive_lt (List.length_pos_iff.2 fun e => h ⟨e, hr⟩)).symm

/-- Induction along the chain of do-nothing nodes from `x`, when it is finite: `P x` follows from `P`
at where the do-nothing node named by `x` (if it names one) leads. -/
theorem aEnter_sys_ind {A : List ANode} {P : Option (Option Nat) → Prop}
    (step : ∀ x, (∀ k a, x = some (some k) → A[k]? = some a → a.acts = [] → a.ask = none →
      P a.dests.head?.join) → P x) :
    ∀ x, aEnter A (A.length + 1) x ≠ some .div → P x := by
  suffices h : ∀ f x, aEnter A f x ≠ some .div → P x from fun x => h _ x
  intro f
  induction f with
  | zero =>
    intro x hx
    refine step x ?_
    rintro k a rfl - - -
    exact absurd rfl hx
  | succ f ih =>
    intro x hx
    refine step x ?_
    rintro k a rfl hk h1 h2
    rw [aEnter_skip hk h1 h2] at hx
    exact ih _ hx

end Rpft.Flow
