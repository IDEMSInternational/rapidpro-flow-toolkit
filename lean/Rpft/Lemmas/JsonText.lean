/-
Lemmas for the JSON text (`Rpft/JsonText.lean`).  String literals: every escaped character is read
back as itself (`escapeChar_cases`, `scanString_escapeChar`), hence the literal round trip
`scanStr_encodeString`.  Documents: `loads_dumps`, by mutual induction over values, elements and
members (`rtV`, `rtE`, `rtM`); the parser's lookahead is discharged by `Opens` (what `dumpValue`
writes starts with a quote, a bracket or a brace, so whitespace skipping stops there).
-/
import Rpft.JsonText
namespace Rpft.JsonText
open Rpft

theorem hex_roundtrip : ∀ n : Fin 32,
    hex4 '0' '0' (hexDigit (n.val / 16)) (hexDigit (n.val % 16)) = some n.val := by decide +kernel

theorem char_ofNat_toNat (c : Char) : Char.ofNat c.toNat = c := Char.ofNat_toNat c

/-- `ESCAPE_DCT` against `simpleEscape`.  `e ≠ 'u'`: the scanner tests for `\u` first; `e ≠ '\r'` is for
`Sheets.escapeChar_noCR`. -/
theorem escapeChar_named : ∀ c ∈ ['\\', '"', '\x08', '\x0c', '\n', '\r', '\t'],
    ∃ e ∈ ['\\', '"', 'b', 'f', 'n', 'r', 't'],
      escapeChar c = ['\\', e] ∧ simpleEscape e = some c ∧ e ≠ 'u' ∧ e ≠ '\r' := by decide +kernel

theorem escapeChar_cases (c : Char) :
    (∃ e, escapeChar c = ['\\', e] ∧ simpleEscape e = some c ∧ e ≠ 'u' ∧ e ≠ '\r') ∨
    (c.toNat < 0x20 ∧
      escapeChar c = ['\\', 'u', '0', '0', hexDigit (c.toNat / 16), hexDigit (c.toNat % 16)]) ∨
    (c ≠ '"' ∧ c ≠ '\\' ∧ 0x20 ≤ c.toNat ∧ escapeChar c = [c]) := by
  by_cases hm : c ∈ ['\\', '"', '\x08', '\x0c', '\n', '\r', '\t']
  · obtain ⟨e, _, h⟩ := escapeChar_named c hm
    exact .inl ⟨e, h⟩
  · simp only [List.mem_cons, List.not_mem_nil, or_false, not_or] at hm
    obtain ⟨h1, h2, h3, h4, h5, h6, h7⟩ := hm
    rw [escapeChar, if_neg h1, if_neg h2, if_neg h3, if_neg h4, if_neg h5, if_neg h6, if_neg h7]
    by_cases h : c.toNat < 0x20
    · exact .inr (.inl ⟨h, if_pos h⟩)
    · exact .inr (.inr ⟨h2, h1, Nat.le_of_not_lt h, if_neg h⟩)

/-- `t ≠ []`: after `\u00XX` the scanner wants one more character (`end >= len` is refused) -/
theorem scanString_escapeChar (f : Nat) (c : Char) (t acc : Str) (ht : t ≠ []) :
    scanString (f + 1) (escapeChar c ++ t) acc = scanString f t (c :: acc) := by
  rcases escapeChar_cases c with ⟨e, h, he, hu, _⟩ | ⟨hc, h⟩ | ⟨h1, h2, h3, h⟩ <;> rw [h]
  · simp [scanString, hu, he]
  · have hr := hex_roundtrip ⟨c.toNat, hc⟩
    have hh : isHigh c.toNat = false := by simp [isHigh]; omega
    have hl : isLow c.toNat = false := by simp [isLow]; omega
    have hte : t.isEmpty = false := by simpa using ht
    simp only at hr
    simp [scanString, hr, hh, hl, hte]
  · have : ¬ c.toNat ≤ 0x1f := by omega
    simp [scanString, h1, h2, this]

theorem scanString_encode (s : Str) (fuel : Nat) (acc rest : Str) (hf : fuel > s.length) :
    scanString fuel (s.flatMap escapeChar ++ '"' :: rest) acc = .ok (acc.reverse ++ s, rest) := by
  induction s generalizing fuel acc with
  | nil =>
    cases fuel with
    | zero => omega
    | succ f => simp [scanString]
  | cons c s ih =>
    cases fuel with
    | zero => omega
    | succ f =>
      simp only [List.flatMap_cons, List.append_assoc]
      rw [scanString_escapeChar f c _ acc (by simp), ih f (c :: acc) (by simp only [List.length_cons] at hf; omega)]
      simp

theorem escapeChar_length_pos (c : Char) : 1 ≤ (escapeChar c).length := by
  rcases escapeChar_cases c with ⟨e, h, _⟩ | ⟨_, h⟩ | ⟨_, _, _, h⟩ <;> rw [h] <;> simp

theorem length_le_flatMap (s : Str) : s.length ≤ (s.flatMap escapeChar).length := by
  induction s with
  | nil => simp
  | cons c s ih =>
    simp only [List.flatMap_cons, List.length_append, List.length_cons]
    have := escapeChar_length_pos c
    omega

/-- the scanner with the fuel its callers give it: the length of the text after the opening quote -/
theorem scanString_encode_fuel (k rest : Str) :
    scanString ((k.flatMap escapeChar ++ '"' :: rest).length + 1) (k.flatMap escapeChar ++ '"' :: rest) []
      = .ok (k, rest) := by
  have hlen := length_le_flatMap k
  have := scanString_encode k ((k.flatMap escapeChar ++ '"' :: rest).length + 1) [] rest
    (by simp only [List.length_append, List.length_cons]; omega)
  simpa using this

theorem scanStr_encodeString (s rest : Str) : scanStr (encodeString s ++ rest) = .ok (s, rest) := by
  simp only [scanStr, encodeString, List.cons_append, List.append_assoc, List.nil_append,
    scanString_encode_fuel]

def jmKeys : JMs → List Str
  | .nil => []
  | .cons k _ ms => k :: jmKeys ms

def jmAppend : JMs → JMs → JMs
  | .nil, b => b
  | .cons k v a, b => .cons k v (jmAppend a b)

def jvsAppend : JVs → JVs → JVs
  | .nil, b => b
  | .cons x a, b => .cons x (jvsAppend a b)

mutual
/-- every object has distinct keys (what a Python dict guarantees) -/
def ukV : JV → Prop
  | .str _ => True
  | .arr xs => ukVs xs
  | .obj ms => (jmKeys ms).Nodup ∧ ukMs ms
def ukVs : JVs → Prop
  | .nil => True
  | .cons x xs => ukV x ∧ ukVs xs
def ukMs : JMs → Prop
  | .nil => True
  | .cons _ v ms => ukV v ∧ ukMs ms
end

theorem jvsAppend_snoc : ∀ (a : JVs) (x : JV) (b : JVs),
    jvsAppend (jvsSnoc a x) b = jvsAppend a (.cons x b)
  | .nil, _, _ => rfl
  | .cons y a, x, b => by simp [jvsSnoc, jvsAppend, jvsAppend_snoc a x b]

theorem jvsSnoc_eq : ∀ (a : JVs) (x : JV), jvsSnoc a x = jvsAppend a (.cons x .nil)
  | .nil, _ => rfl
  | .cons y a, x => by simp [jvsSnoc, jvsAppend, jvsSnoc_eq a x]

theorem jmInsert_fresh : ∀ (k : Str) (v : JV) (a : JMs), k ∉ jmKeys a →
    jmInsert k v a = jmAppend a (.cons k v .nil)
  | _, _, .nil, _ => rfl
  | k, v, .cons k' v' a, h => by
    simp only [jmKeys, List.mem_cons, not_or] at h
    have : ¬ k' = k := fun e => h.1 e.symm
    simp [jmInsert, jmAppend, this, jmInsert_fresh k v a h.2]

theorem jmAppend_assoc_cons : ∀ (a : JMs) (k : Str) (v : JV) (b : JMs),
    jmAppend (jmAppend a (.cons k v .nil)) b = jmAppend a (.cons k v b)
  | .nil, _, _, _ => rfl
  | .cons k' v' a, k, v, b => by simp [jmAppend, jmAppend_assoc_cons a k v b]

theorem jmAppend_nil : ∀ (a : JMs), jmAppend a .nil = a
  | .nil => rfl
  | .cons k v a => by simp [jmAppend, jmAppend_nil a]

theorem jmKeys_append : ∀ (a b : JMs), jmKeys (jmAppend a b) = jmKeys a ++ jmKeys b
  | .nil, _ => rfl
  | .cons k v a, b => by simp [jmAppend, jmKeys, jmKeys_append a b]

theorem skipWs_cons (c : Char) (t : Str) (h : isWs c = false) : skipWs (c :: t) = c :: t := by
  simp [skipWs, List.dropWhile, h]

theorem skipWs_append (w : Str) (hw : ∀ x ∈ w, isWs x = true) (c : Char) (t : Str)
    (h : isWs c = false) : skipWs (w ++ c :: t) = c :: t := by
  induction w with
  | nil => simp [skipWs, h]
  | cons a w ih =>
    have := ih (fun x hx => hw x (by simp [hx]))
    simp only [skipWs, List.cons_append, List.dropWhile, hw a (by simp)] at this ⊢
    exact this

theorem nl_ws (lvl : Nat) : ∀ x ∈ nl lvl, isWs x = true := by
  intro x hx
  simp only [nl, List.mem_cons, List.mem_replicate] at hx
  rcases hx with rfl | ⟨_, rfl⟩ <;> rfl

theorem dumpValue_arr_cons (lvl : Nat) (x : JV) (xs : JVs) :
    dumpValue lvl (.arr (.cons x xs))
      = '[' :: (nl (lvl + 1) ++ dumpElems (lvl + 1) (.cons x xs) ++ nl lvl ++ [']']) := by
  rw [dumpValue]; intro h; cases h

theorem dumpValue_obj_cons (lvl : Nat) (k : Str) (v : JV) (ms : JMs) :
    dumpValue lvl (.obj (.cons k v ms))
      = '{' :: (nl (lvl + 1) ++ dumpMembers (lvl + 1) (.cons k v ms) ++ nl lvl ++ ['}']) := by
  rw [dumpValue]; intro h; cases h

theorem dumpElems_cons_cons (lvl : Nat) (x y : JV) (ys : JVs) :
    dumpElems lvl (.cons x (.cons y ys))
      = dumpValue lvl x ++ ',' :: (nl lvl ++ dumpElems lvl (.cons y ys)) := by
  rw [dumpElems]; intro h; cases h

theorem dumpMembers_cons_cons (lvl : Nat) (k : Str) (v : JV) (k2 : Str) (v2 : JV) (ms : JMs) :
    dumpMembers lvl (.cons k v (.cons k2 v2 ms))
      = encodeString k ++ ':' :: ' ' :: (dumpValue lvl v ++ ',' :: (nl lvl ++ dumpMembers lvl (.cons k2 v2 ms))) := by
  rw [dumpMembers]; intro h; cases h

theorem isWs_open (c : Char) (h : c = '"' ∨ c = '[' ∨ c = '{') :
    isWs c = false ∧ c ≠ ']' ∧ c ≠ '}' := by
  rcases h with h | h | h <;> subst h <;> decide

def Opens (s : Str) : Prop := ∃ c t, s = c :: t ∧ (c = '"' ∨ c = '[' ∨ c = '{')

theorem Opens.append {s : Str} (h : Opens s) (t : Str) : Opens (s ++ t) := by
  obtain ⟨c, u, rfl, hc⟩ := h
  exact ⟨c, u ++ t, rfl, hc⟩

theorem Opens.skipWs {s : Str} (h : Opens s) (w : Str) (hw : ∀ x ∈ w, isWs x = true) :
    skipWs (w ++ s) = s := by
  obtain ⟨c, t, rfl, hc⟩ := h
  exact skipWs_append w hw c t (isWs_open c hc).1

theorem opens_dumpValue (lvl : Nat) (v : JV) : Opens (dumpValue lvl v) := by
  cases v with
  | str s => exact ⟨'"', _, rfl, .inl rfl⟩
  | arr xs => cases xs with
    | nil => exact ⟨'[', _, rfl, .inr (.inl rfl)⟩
    | cons x xs => exact ⟨'[', _, dumpValue_arr_cons lvl x xs, .inr (.inl rfl)⟩
  | obj ms => cases ms with
    | nil => exact ⟨'{', _, rfl, .inr (.inr rfl)⟩
    | cons k v ms => exact ⟨'{', _, dumpValue_obj_cons lvl k v ms, .inr (.inr rfl)⟩

theorem opens_dumpElems (lvl : Nat) (x : JV) (xs : JVs) : Opens (dumpElems lvl (.cons x xs)) := by
  cases xs with
  | nil => rw [dumpElems]; exact opens_dumpValue lvl x
  | cons y ys => rw [dumpElems_cons_cons]; exact (opens_dumpValue lvl x).append _

theorem opens_dumpMembers (lvl : Nat) (k : Str) (v : JV) (ms : JMs) :
    Opens (dumpMembers lvl (.cons k v ms)) := by
  cases ms with
  | nil => rw [dumpMembers]; exact ⟨'"', _, rfl, .inl rfl⟩
  | cons k2 v2 ms => rw [dumpMembers_cons_cons]; exact ⟨'"', _, rfl, .inl rfl⟩

theorem parseValue_arr {f l : Nat} {s : Str} (h : Opens s) :
    parseValue (f + 1) ('[' :: (nl l ++ s)) = parseElems f s .nil := by
  rw [parseValue, h.skipWs _ (nl_ws l)]
  obtain ⟨c, t, rfl, hc⟩ := h
  simp [(isWs_open c hc).2.1]

theorem parseValue_obj {f l : Nat} {s : Str} (h : Opens s) :
    parseValue (f + 1) ('{' :: (nl l ++ s)) = parseMembers f s .nil := by
  rw [parseValue, h.skipWs _ (nl_ws l)]
  obtain ⟨c, t, rfl, hc⟩ := h
  simp [(isWs_open c hc).2.2]

theorem parseValue_str (f : Nat) (s rest : Str) :
    parseValue (f + 1) (encodeString s ++ rest) = .ok (.str s, rest) := by
  simp only [encodeString, List.cons_append, List.append_assoc, List.nil_append, parseValue,
    ↓reduceIte, scanString_encode_fuel]

theorem fuel_succ {n fuel : Nat} (h : n < fuel) : ∃ f, fuel = f + 1 ∧ n ≤ f :=
  match fuel, h with
  | f + 1, h => ⟨f, rfl, Nat.le_of_lt_succ h⟩

theorem parseMembers_member {f : Nat} {k V : Str} (hV : Opens V) {T : Str} {v : JV} {acc : JMs}
    (hv : parseValue f (V ++ T) = .ok (v, T)) :
    parseMembers (f + 1) (encodeString k ++ ':' :: ' ' :: (V ++ T)) acc =
      match skipWs T with
      | [] => .error .expectingComma
      | c2 :: r3 =>
        if c2 = '}' then .ok (.obj (jmInsert k v acc), r3)
        else if c2 = ',' then parseMembers f (skipWs r3) (jmInsert k v acc)
        else .error .expectingComma := by
  have hsp : skipWs (' ' :: (V ++ T)) = V ++ T := (hV.append T).skipWs [' '] (by decide)
  simp only [encodeString, List.append_assoc, List.cons_append, List.nil_append]
  rw [parseMembers]
  simp only [ne_eq, not_true_eq_false, ↓reduceIte, scanString_encode_fuel k (':' :: ' ' :: (V ++ T)),
    skipWs_cons ':' _ (by decide), hsp, hv]
  cases skipWs T <;> rfl

mutual
theorem rtV : ∀ (v : JV) (lvl : Nat) (rest : Str) (fuel : Nat), ukV v →
    2 * (dumpValue lvl v ++ rest).length < fuel →
    parseValue fuel (dumpValue lvl v ++ rest) = .ok (v, rest)
  | .str s, lvl, rest, fuel, _, hf => by
    obtain ⟨f, rfl, _⟩ := fuel_succ hf
    rw [dumpValue]
    exact parseValue_str f s rest
  | .arr .nil, lvl, rest, fuel, _, hf => by
    obtain ⟨f, rfl, _⟩ := fuel_succ hf
    simp [dumpValue, parseValue, skipWs_cons ']' rest (by decide)]
  | .arr (.cons x xs), lvl, rest, fuel, huk, hf => by
    obtain ⟨f, rfl, hf'⟩ := fuel_succ hf
    rw [dumpValue_arr_cons] at hf' ⊢
    simp only [List.cons_append, List.append_assoc, List.nil_append] at hf' ⊢
    rw [parseValue_arr ((opens_dumpElems _ x xs).append _),
      rtE (.cons x xs) (lvl + 1) lvl rest f .nil nofun huk
        (by simp only [List.length_append, List.length_cons] at hf' ⊢; omega)]
    rfl
  | .obj .nil, lvl, rest, fuel, _, hf => by
    obtain ⟨f, rfl, _⟩ := fuel_succ hf
    simp [dumpValue, parseValue, skipWs_cons '}' rest (by decide)]
  | .obj (.cons k v ms), lvl, rest, fuel, huk, hf => by
    obtain ⟨f, rfl, hf'⟩ := fuel_succ hf
    rw [dumpValue_obj_cons] at hf' ⊢
    simp only [List.cons_append, List.append_assoc, List.nil_append] at hf' ⊢
    rw [parseValue_obj ((opens_dumpMembers _ k v ms).append _),
      rtM (.cons k v ms) (lvl + 1) lvl rest f .nil nofun huk.2 huk.1
        (by simp only [List.length_append, List.length_cons] at hf' ⊢; omega)]
    rfl
theorem rtE : ∀ (xs : JVs) (lvl l' : Nat) (rest : Str) (fuel : Nat) (acc : JVs), xs ≠ .nil → ukVs xs →
    2 * (dumpElems lvl xs ++ (nl l' ++ ']' :: rest)).length + 1 < fuel →
    parseElems fuel (dumpElems lvl xs ++ (nl l' ++ ']' :: rest)) acc = .ok (.arr (jvsAppend acc xs), rest)
  | .nil, _, _, _, _, _, hne, _, _ => absurd rfl hne
  | .cons x .nil, lvl, l', rest, fuel, acc, _, huk, hf => by
    obtain ⟨f, rfl, hf'⟩ := fuel_succ hf
    rw [dumpElems] at hf' ⊢
    rw [parseElems, rtV x lvl _ f huk.1 (by omega)]
    simp [skipWs_append (nl l') (nl_ws l') ']' rest (by decide), jvsSnoc_eq]
  | .cons x (.cons y ys), lvl, l', rest, fuel, acc, _, huk, hf => by
    obtain ⟨f, rfl, hf'⟩ := fuel_succ hf
    rw [dumpElems_cons_cons] at hf' ⊢
    simp only [List.append_assoc, List.cons_append] at hf' ⊢
    rw [parseElems, rtV x lvl _ f huk.1 (by omega)]
    simp only [skipWs_cons ',' _ (by decide), ((opens_dumpElems lvl y ys).append _).skipWs _ (nl_ws lvl)]
    simp [rtE (.cons y ys) lvl l' rest f (jvsSnoc acc x) nofun huk.2
      (by simp only [List.length_append, List.length_cons] at hf' ⊢; omega), jvsAppend_snoc]
theorem rtM : ∀ (ms : JMs) (lvl l' : Nat) (rest : Str) (fuel : Nat) (acc : JMs), ms ≠ .nil → ukMs ms →
    (jmKeys acc ++ jmKeys ms).Nodup →
    2 * (dumpMembers lvl ms ++ (nl l' ++ '}' :: rest)).length + 1 < fuel →
    parseMembers fuel (dumpMembers lvl ms ++ (nl l' ++ '}' :: rest)) acc = .ok (.obj (jmAppend acc ms), rest)
  | .nil, _, _, _, _, _, hne, _, _, _ => absurd rfl hne
  | .cons k v .nil, lvl, l', rest, fuel, acc, _, huk, hnd, hf => by
    obtain ⟨f, rfl, hf'⟩ := fuel_succ hf
    have hk : k ∉ jmKeys acc := fun hmem => (List.nodup_append.mp hnd).2.2 k hmem k (.head _) rfl
    rw [dumpMembers] at hf' ⊢
    simp only [List.append_assoc, List.cons_append] at hf' ⊢
    rw [parseMembers_member (opens_dumpValue lvl v) (rtV v lvl _ f huk.1
        (by simp only [List.length_append, List.length_cons] at hf' ⊢; omega)),
      skipWs_append (nl l') (nl_ws l') '}' rest (by decide)]
    simp [jmInsert_fresh k v acc hk]
  | .cons k v (.cons k2 v2 ms), lvl, l', rest, fuel, acc, _, huk, hnd, hf => by
    obtain ⟨f, rfl, hf'⟩ := fuel_succ hf
    have hk : k ∉ jmKeys acc := fun hmem => (List.nodup_append.mp hnd).2.2 k hmem k (.head _) rfl
    have hnd' : (jmKeys (jmInsert k v acc) ++ jmKeys (.cons k2 v2 ms)).Nodup := by
      rw [jmInsert_fresh k v acc hk, jmKeys_append]
      simpa [jmKeys, List.append_assoc] using hnd
    rw [dumpMembers_cons_cons] at hf' ⊢
    simp only [List.append_assoc, List.cons_append] at hf' ⊢
    rw [parseMembers_member (opens_dumpValue lvl v) (rtV v lvl _ f huk.1
        (by simp only [List.length_append, List.length_cons] at hf' ⊢; omega)),
      skipWs_cons ',' _ (by decide)]
    simp only [((opens_dumpMembers lvl k2 v2 ms).append _).skipWs _ (nl_ws lvl),
      rtM (.cons k2 v2 ms) lvl l' rest f (jmInsert k v acc) nofun huk.2 hnd'
        (by simp only [List.length_append, List.length_cons] at hf' ⊢; omega)]
    simp [jmInsert_fresh k v acc hk, jmAppend_assoc_cons]
end

theorem loads_dumps (v : JV) (huk : ukV v) : loads (dumps v) = .ok v := by
  obtain ⟨c, t, hd, hc⟩ := opens_dumpValue 0 v
  have hrt := rtV v 0 [] (2 * (dumps v).length + 2) huk (by simp only [dumps, List.append_nil]; omega)
  simp only [List.append_nil] at hrt
  unfold loads
  have hne : c ≠ '\ufeff' := by rcases hc with h | h | h <;> subst h <;> decide
  unfold dumps at hrt ⊢
  rw [hd] at hrt ⊢
  split
  · rename_i heq; cases heq; exact absurd rfl hne
  · rw [skipWs_cons c t (isWs_open c hc).1, hrt]
    simp [skipWs]

end Rpft.JsonText
