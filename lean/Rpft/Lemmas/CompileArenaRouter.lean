/-
Arena invariant, routers.  What an operation that only draws identifiers does to a list of identifiers is stated
between its two STATES (`Drew s s' l l'`), so that running one such operation after another is transitivity and no
proof adds up counter values.  Whatever `add_choice` and the other router mutators do to a switch router is an edit
`SwEdit` — identifiers are only added, fresh ones, each once; destinations are the old ones or the one passed
in; cases keep naming categories of the router.  The same for the random router (`RndRel`).  A new switch router
has fresh identifiers, no destination and no case (`newSwitch_spec`).
-/
import Rpft.Lemmas.CompileArena
namespace Rpft.Compile
open Rpft

/-- only the counter moved, by `k` -/
def Bump (s s' : St) (k : Nat) : Prop := s' = { s with next := s.next + k }

theorem Bump.zero (s : St) : Bump s s 0 := rfl

/-- from `s` to `s'` only the counter moved, and `l'` is `l` with identifiers handed out on the way inserted -/
def Drew (s s' : St) (l l' : List Uid) : Prop := ∃ k, Bump s s' k ∧ Grow s.next (s.next + k) l l'

namespace Drew
variable {s s1 s2 s' : St} {l l1 l2 l' l1' l2' : List Uid}

theorem bump (h : Drew s s' l l') : ∃ k, Bump s s' k := h.imp fun _ h => h.1

theorem le (h : Drew s s' l l') : s.next ≤ s'.next := by
  obtain ⟨k, rfl, _⟩ := h; exact Nat.le_add_right _ _

theorem grow (h : Drew s s' l l') : Grow s.next s'.next l l' := by
  obtain ⟨k, rfl, h⟩ := h; exact h

theorem refl : Drew s s l l := ⟨0, rfl, Grow.refl⟩

/-- `k` identifiers are drawn and none of them is used -/
theorem skip (k : Nat) : Drew s { s with next := s.next + k } l l := ⟨k, rfl, Grow.refl⟩

theorem fresh (s : St) : Drew s { s with next := s.next + 1 } [] [tid s.next] := ⟨1, rfl, by grow_new [tid s.next]⟩

theorem trans (h1 : Drew s s1 l l1) (h2 : Drew s1 s2 l1 l2) : Drew s s2 l l2 := by
  obtain ⟨k1, rfl, g1⟩ := h1
  obtain ⟨k2, rfl, g2⟩ := h2
  exact ⟨k1 + k2, by simp only [Bump, Nat.add_assoc],
    Nat.add_assoc .. ▸ g1.trans g2 (Nat.le_add_right _ _) (Nat.le_add_right _ _)⟩

theorem ctx (h : Drew s s' l l') (a c : List Uid) : Drew s s' (a ++ (l ++ c)) (a ++ (l' ++ c)) :=
  h.imp fun _ h => ⟨h.1, h.2.ctx a c⟩

theorem append (h1 : Drew s s1 l l1) (h2 : Drew s1 s2 [] l2) : Drew s s2 l (l1 ++ l2) := by
  have e2 := h2.ctx l1 []
  simp only [List.append_nil] at e2
  exact h1.trans e2

theorem mono_left (h : Drew s s' l l') (hs : l.Sublist l2) : Drew s s' l2 l' :=
  h.imp fun _ h => ⟨h.1, h.2.mono_left fun x => hs.count_le x⟩

theorem perm_right {l'' : List Uid} (h : Drew s s' l l') (hp : l'.Perm l'') : Drew s s' l l'' :=
  h.imp fun _ h => ⟨h.1, h.2.perm_right hp⟩

end Drew

/-- every destination of the router satisfies `D` -/
def SwD (D : Dest → Prop) (r : SwitchR) : Prop := ∀ c ∈ r.allCats, D c.dest

theorem swD_iff {D : Dest → Prop} {r : SwitchR} :
    SwD D r ↔ (∀ c ∈ r.cats, D c.dest) ∧ D r.dflt.dest ∧ ∀ c, r.noResp = some c → D c.dest := by
  simp only [SwD, SwitchR.allCats, List.mem_append, List.mem_singleton, Option.mem_toList, or_imp, forall_and,
    forall_eq, and_assoc]

theorem ids_mapCats (r : SwitchR) (f : Cat → Cat) (hu : ∀ c, (f c).uid = c.uid)
    (he : ∀ c, (f c).exitUid = c.exitUid) : (r.mapCats f).ids = r.ids := by
  unfold SwitchR.ids
  rw [allCats_mapCats]
  simp [List.map_map, Function.comp_def, hu, he, SwitchR.mapCats]

theorem ids_setDest (r : SwitchR) (u : Uid) (d : Dest) : (r.setDest u d).ids = r.ids := by
  unfold SwitchR.setDest
  apply ids_mapCats <;> intro c <;> split <;> rfl

theorem swD_setDest {D : Dest → Prop} {r : SwitchR} (u : Uid) {d : Dest} (hd : D d) (h : SwD D r) :
    SwD D (r.setDest u d) := by
  unfold SwD SwitchR.setDest
  rw [allCats_mapCats]
  intro c hc
  simp only [List.mem_map] at hc
  obtain ⟨c0, hc0, rfl⟩ := hc
  split
  · exact hd
  · exact h c0 hc0

theorem caseCatsOk_setDest {r : SwitchR} (u : Uid) (d : Dest) (h : CaseCatsOk r) :
    CaseCatsOk (r.setDest u d) := by
  unfold SwitchR.setDest
  apply caseCatsOk_mapCats _ _ _ h
  intro c; split <;> rfl

theorem cases_setDest (r : SwitchR) (u : Uid) (d : Dest) : (r.setDest u d).cases = r.cases := rfl

theorem catUids_setDest (r : SwitchR) (u : Uid) (d : Dest) :
    (r.setDest u d).allCats.map (·.uid) = r.allCats.map (·.uid) := by
  unfold SwitchR.setDest
  apply allCats_mapCats_uids
  intro c; split <;> rfl

theorem ids_setDflt (r : SwitchR) (d : Dest) : (r.setDflt d).ids = r.ids := by
  unfold SwitchR.setDflt SwitchR.ids SwitchR.allCats; simp

theorem swD_setDflt {D : Dest → Prop} {r : SwitchR} {d : Dest} (hd : D d) (h : SwD D r) :
    SwD D (r.setDflt d) := by
  rw [swD_iff] at h ⊢
  exact ⟨h.1, hd, h.2.2⟩

theorem caseCatsOk_setDflt {r : SwitchR} (d : Dest) (h : CaseCatsOk r) : CaseCatsOk (r.setDflt d) := by
  unfold CaseCatsOk SwitchR.setDflt SwitchR.allCats at *
  simpa using h

theorem mem_allCats_of_find {r : SwitchR} {p : Cat → Bool} {c : Cat} (h : r.allCats.find? p = some c) :
    c ∈ r.allCats := List.mem_of_find?_eq_some h

/-- an edit of a switch router on behalf of destination `dest`, between the states `s` and `s'`: identifiers are only
added (drawn on the way, once each), destinations stay inside any set that contains `dest`, cases keep naming
categories -/
structure SwEdit (dest : Dest) (s s' : St) (r r' : SwitchR) : Prop where
  drew : Drew s s' r.ids r'.ids
  dests : ∀ D : Dest → Prop, D dest → SwD D r → SwD D r'
  cases : CaseCatsOk r → CaseCatsOk r'

variable {dest : Dest} {s s1 s2 : St} {r r1 r2 : SwitchR}

theorem SwEdit.trans (h1 : SwEdit dest s s1 r r1) (h2 : SwEdit dest s1 s2 r1 r2) : SwEdit dest s s2 r r2 :=
  ⟨h1.drew.trans h2.drew, fun D hd h => h2.dests D hd (h1.dests D hd h), fun h => h2.cases (h1.cases h)⟩

/-- an edit that changes neither identifiers, categories nor cases (the operand, a name) -/
theorem SwEdit.of_eq (hi : r1.ids = r.ids) (hd : r1.allCats.map (·.dest) = r.allCats.map (·.dest))
    (hu : r1.allCats.map (·.uid) = r.allCats.map (·.uid)) (hc : r1.cases = r.cases) : SwEdit dest s s r r1 := by
  refine ⟨hi ▸ .refl, fun D _ h c hc1 => ?_, fun h k hk => ?_⟩
  · have : c.dest ∈ r.allCats.map (·.dest) := hd ▸ List.mem_map_of_mem hc1
    obtain ⟨c0, h0, e⟩ := List.mem_map.mp this
    exact e ▸ h c0 h0
  · rw [hu]; exact h k (hc ▸ hk)

theorem SwEdit.setDest {u : Uid} : SwEdit dest s s r (r.setDest u dest) :=
  ⟨ids_setDest r u dest ▸ .refl, fun _ hd h => swD_setDest u hd h, caseCatsOk_setDest u dest⟩

theorem SwEdit.setDflt : SwEdit dest s s r (r.setDflt dest) :=
  ⟨ids_setDflt r dest ▸ .refl, fun _ hd h => swD_setDflt hd h, caseCatsOk_setDflt dest⟩

theorem SwEdit.rename (r : SwitchR) (nm : Str) : SwEdit dest s s r { r with dflt := { r.dflt with name := nm } } :=
  .of_eq (by simp [SwitchR.ids, SwitchR.allCats]) (by simp [SwitchR.allCats]) (by simp [SwitchR.allCats]) rfl

theorem SwEdit.addCat {name : Str} :
    SwEdit dest s { s with next := s.next + 2 } r
      { r with cats := r.cats ++ [{ uid := tid s.next, name := name, exitUid := tid (s.next + 1), dest := dest }] } := by
  refine ⟨⟨2, rfl, ?_⟩, fun D hd h => ?_, fun h k hk => ?_⟩
  · simp only [SwitchR.ids, SwitchR.allCats]
    grow_new [tid s.next, tid (s.next + 1)]
  · rw [swD_iff] at h ⊢
    refine ⟨fun c hc => ?_, h.2⟩
    rcases List.mem_append.mp hc with hc | hc
    · exact h.1 c hc
    · rw [List.mem_singleton.mp hc]; exact hd
  · have := h k hk
    simp only [SwitchR.allCats, List.map_append, List.mem_append] at this ⊢
    exact this.imp_left (.imp_left .inl)

theorem SwEdit.addCase {type : Str} {args : List (Option Str)} {u : Uid} (hu : u ∈ r.allCats.map (·.uid)) :
    SwEdit dest s { s with next := s.next + 1 } r
      { r with cases := r.cases ++ [{ uid := tid s.next, type := type, args := args, catUid := u }] } := by
  refine ⟨⟨1, rfl, ?_⟩, fun D _ h => h, fun h k hk => ?_⟩
  · simp only [SwitchR.ids, SwitchR.allCats]
    grow_new [tid s.next]
  · rcases List.mem_append.mp hk with hk | hk
    · exact h k hk
    · rw [List.mem_singleton.mp hk]; exact hu

theorem SwEdit.setNoResp {nr : Cat} (hnr : r.noResp = some nr) :
    SwEdit dest s s r { r with noResp := some { nr with dest := dest } } := by
  refine ⟨?_, fun D hd h => ?_, fun h k hk => ?_⟩
  · have : ({ r with noResp := some { nr with dest := dest } } : SwitchR).ids = r.ids := by
      simp [SwitchR.ids, SwitchR.allCats, hnr]
    rw [this]; exact .refl
  · rw [swD_iff] at h ⊢
    exact ⟨h.1, h.2.1, fun c hc => by cases hc; exact hd⟩
  · simpa [SwitchR.allCats, hnr] using h k hk

theorem newSwitch_spec {operand : Str} {rn : Option Str} {wait : Option Nat} :
    wp (newSwitch operand rn wait) s (fun sw s' =>
      Drew s s' [] sw.ids ∧ SwD (· = Dest.none) sw ∧ CaseCatsOk sw) := by
  rw [wp_newSwitch]
  generalize "Other".toList = o
  generalize "No Response".toList = nr
  split
  · refine ⟨⟨4, rfl, ?_⟩, ?_, fun _ h => nomatch h⟩
    · simp only [SwitchR.ids, SwitchR.allCats]
      grow_new [tid s.next, tid (s.next + 1), tid (s.next + 2), tid (s.next + 3)]
    · intro c hc; simp [SwitchR.allCats] at hc; rcases hc with rfl | rfl <;> rfl
  · refine ⟨⟨2, rfl, ?_⟩, ?_, fun _ h => nomatch h⟩
    · simp only [SwitchR.ids, SwitchR.allCats]
      grow_new [tid s.next, tid (s.next + 1)]
    · intro c hc; simp [SwitchR.allCats] at hc; subst hc; rfl

theorem choiceCat_spec {name : Str} {isDefault : Bool} :
    wp (choiceCat r name dest isDefault) s (fun rc s' =>
      SwEdit dest s s' r rc.1 ∧ rc.2 ∈ rc.1.allCats.map (·.uid)) := by
  unfold choiceCat
  wp_simp
  refine ⟨fun _ => ⟨SwEdit.setDflt.trans (.rename _ _), by simp [SwitchR.allCats]⟩, fun _ => ?_⟩
  split
  · rename_i c hc
    wp_simp
    refine ⟨.setDest, ?_⟩
    rw [catUids_setDest]; exact List.mem_map_of_mem (mem_allCats_of_find hc)
  · wp_simp [wp_mkCat]
    exact ⟨fun _ => trivial, fun _ => ⟨.addCat, by simp [SwitchR.allCats]⟩⟩

theorem choiceCase_spec {type : Str} {stored : List (Option Str)} {catUid : Uid}
    (hu : catUid ∈ r.allCats.map (·.uid)) :
    wp (choiceCase r type stored catUid) s (fun r' s' => SwEdit dest s s' r r') := by
  unfold choiceCase
  wp_simp [wp_fresh]
  exact ⟨fun _ => .addCase hu, fun _ => trivial⟩

theorem addChoice_spec {var type : Str} {args : List (Option Str)} {catName : Str} {isDefault : Bool} :
    wp (addChoice r var type args catName dest isDefault) s (fun r' s' => SwEdit dest s s' r r') := by
  unfold addChoice
  wp_simp
  generalize hr0 : (if var.isEmpty = true then r else { r with operand := var }) = r0
  have e0 : SwEdit dest s s r r0 := by
    subst hr0; split
    · exact .of_eq rfl rfl rfl rfl
    · exact .of_eq rfl rfl rfl rfl
  split
  · split
    · wp_simp
    · wp_simp
      exact e0.trans .setDest
  · wp_simp
    refine wp_mono choiceCat_spec ?_
    rintro rc s1 ⟨e1, hm⟩
    exact wp_mono (choiceCase_spec hm) fun _ _ e2 => (e0.trans e1).trans e2

/-- the edit `random_add_choice` makes on behalf of `dest`, as `SwEdit` (a random router has no cases) -/
structure RndRel (s : St) (r : RandomR) (dest : Dest) (r' : RandomR) (s' : St) : Prop where
  drew : Drew s s' r.ids r'.ids
  dests : ∀ D : Dest → Prop, D dest → (∀ c ∈ r.cats, D c.dest) → ∀ c ∈ r'.cats, D c.dest

theorem randomAddChoice_spec {r : RandomR} {name : Str} :
    wp (randomAddChoice r name dest) s (RndRel s r dest) := by
  unfold randomAddChoice
  wp_simp
  split
  · rename_i c hc
    wp_simp
    refine ⟨?_, ?_⟩
    · have : ∀ f : Cat → Cat, (∀ c, (f c).uid = c.uid) → (∀ c, (f c).exitUid = c.exitUid) →
          ({ r with cats := r.cats.map f } : RandomR).ids = r.ids := by
        intro f h1 h2; simp [RandomR.ids, List.map_map, Function.comp_def, h1, h2]
      rw [this]
      · exact .refl
      · intro c; split <;> rfl
      · intro c; split <;> rfl
    · intro D hd h c' hc'
      simp only [List.mem_map] at hc'
      obtain ⟨c0, hc0, rfl⟩ := hc'
      split
      · exact hd
      · exact h c0 hc0
  · wp_simp [wp_mkCat]
    refine ⟨⟨2, rfl, ?_⟩, ?_⟩
    · simp only [RandomR.ids]
      grow_new [tid s.next, tid (s.next + 1)]
    · intro D hd h c hc
      simp only [List.mem_append, List.mem_singleton] at hc
      rcases hc with hc | hc
      · exact h c hc
      · subst hc; exact hd

end Rpft.Compile
