/-
Helper lemmas for C04 (graph level): REACHABILITY and ERRORS.  A run completes only nodes reachable from
the first node (`run_reach`) and leaves the completed set closed under exits (`run_closed`) — so a successful
export completes exactly the reachable nodes (`export_skeleton` in `ExportGraphTop.lean`); an error of the export proves that
a reachable node has no row model or a reachable exit names a uuid that is no node of the flow (`toRowsT_error`,
which also shows that the fuel is never exhausted).
-/
import Rpft.Lemmas.ExportGraphInv
namespace Rpft.Export
open Function

variable {U : Type} [DecidableEq U]

/-- reachable from the first node of the flow, following exits through `find_node` -/
inductive Reach (f : FlowX U) : NodeX U → Prop
  | start {n0 : NodeX U} : f.head? = some n0 → Reach f n0
  | step {n c : NodeX U} {lab : Label} {d : U} : Reach f n → (lab, some d) ∈ n.edges → findNode f d = some c → Reach f c

theorem Reach.canon {f : FlowX U} {n : NodeX U} (h : Reach f n) : Canon f n := by
  cases h with
  | start h0 =>
    cases f with
    | nil => cases h0
    | cons a f => simp only [List.head?_cons, Option.some.injEq] at h0; subst h0; exact canon_head _ _
  | step _ _ hf => exact findNode_canon hf

theorem Reach.ne_nil {f : FlowX U} {n : NodeX U} (h : Reach f n) : f ≠ [] := by
  induction h with
  | start h0 => intro e; subst e; cases h0
  | step _ _ _ ih => exact ih

theorem mem_nil_iff_reach {m : NodeX U} : m ∈ ([] : List (NodeX U)) ↔ Reach ([] : FlowX U) m :=
  ⟨fun hm => (nomatch hm), fun hr => absurd rfl hr.ne_nil⟩

/-! ### soundness: only reachable nodes are completed -/

def TaskReach (f : FlowX U) : Task U → Prop
  | .loop n es => Reach f n ∧ ∀ x ∈ es, x ∈ n.edges
  | .node n _ => Reach f n

theorem run_reach {f : FlowX U} {D : List (Item U) → NodeX U → NodeX U → Label → Prop}
    {task : Task U} {vis : List U} {items : List (Item U)} {vis' : List U} {items' : List (Item U)}
    (h : Run f D task vis items vis' items') :
    TaskReach f task → (∀ m ∈ blockNodes items, Reach f m) → ∀ m ∈ blockNodes items', Reach f m := by
  induction h with
  | nil => intro _ h0; exact h0
  | skip _ ih =>
    intro ht h0
    exact ih ⟨ht.1, fun x hx => ht.2 x (List.mem_cons_of_mem _ hx)⟩ h0
  | done hfn hc hD _ ih =>
    intro ht h0
    exact ih ⟨ht.1, fun x hx => ht.2 x (List.mem_cons_of_mem _ hx)⟩ (by rw [blockNodes_map_prepend]; exact h0)
  | back hfn hc hv _ ih =>
    intro ht h0
    exact ih ⟨ht.1, fun x hx => ht.2 x (List.mem_cons_of_mem _ hx)⟩ (by rw [blockNodes_cons_goto]; exact h0)
  | new hfn hc hv _ _ ih1 ih2 =>
    intro ht h0
    have hrc := Reach.step ht.1 (ht.2 _ (List.mem_cons_self ..)) hfn
    exact ih2 ⟨ht.1, fun x hx => ht.2 x (List.mem_cons_of_mem _ hx)⟩ (ih1 hrc h0)
  | @node n pe vis items vis' items' hr _ ih =>
    intro ht h0 m hm
    rw [blockNodes_cons_block] at hm
    rcases List.mem_cons.1 hm with hm | hm
    · subst hm; exact ht
    · exact ih ⟨ht, fun x hx => List.mem_reverse.1 hx⟩ h0 m hm

/-! ### completeness: the completed set is closed under exits -/

def Closed (f : FlowX U) (vis : List U) (items : List (Item U)) : Prop :=
  ∀ m ∈ blockNodes items, ∀ lab d, (lab, some d) ∈ m.edges → ∃ c, findNode f d = some c ∧ c.uuid ∈ vis

def TaskPost (f : FlowX U) (vis' : List U) : Task U → Prop
  | .loop _ es => ∀ lab d, (lab, some d) ∈ es → ∃ c, findNode f d = some c ∧ c.uuid ∈ vis'
  | .node n _ => n.uuid ∈ vis'

theorem Closed.mono {f : FlowX U} {vis vis' : List U} {items : List (Item U)} (h : Closed f vis items)
    (hm : ∀ u ∈ vis, u ∈ vis') : Closed f vis' items := by
  intro m hmem lab d hd
  obtain ⟨c, h1, h2⟩ := h m hmem lab d hd
  exact ⟨c, h1, hm _ h2⟩

theorem TaskPost.cons {f : FlowX U} {n : NodeX U} {lab : Label} {d : U} {es : List (Label × Option U)} {c : NodeX U}
    {vis' : List U} (hfn : findNode f d = some c) (hv : c.uuid ∈ vis') (h : TaskPost f vis' (.loop n es)) :
    TaskPost f vis' (.loop n ((lab, some d) :: es)) := by
  intro lab' d' hm
  rcases List.mem_cons.1 hm with hm | hm
  · cases hm; exact ⟨c, hfn, hv⟩
  · exact h lab' d' hm

theorem run_closed {f : FlowX U} {D : List (Item U) → NodeX U → NodeX U → Label → Prop}
    {task : Task U} {vis : List U} {items : List (Item U)} {vis' : List U} {items' : List (Item U)}
    (h : Run f D task vis items vis' items') (hi : Inv f vis items) (ht : TaskOk f vis task) :
    ∃ newN, Inv f vis' items' ∧ Delta vis items vis' items' newN ∧
      (Closed f vis items → Closed f vis' items' ∧ TaskPost f vis' task) := by
  apply Run.rec_inv ?nil ?skip ?done ?back ?new ?node h hi ht
  case nil => exact fun hc => ⟨hc, fun _ _ h => nomatch h⟩
  case skip =>
    intro n lab es _ _ _ _ _ ih hc
    refine ⟨(ih hc).1, fun lab d hm => ?_⟩
    rcases List.mem_cons.1 hm with hm | hm
    · cases hm
    · exact (ih hc).2 lab d hm
  case done =>
    intro n lab d es c _ _ _ _ _ hfn hcm _ hi _ hd ih hc
    obtain ⟨h1, h2⟩ := ih (by intro m hm; rw [blockNodes_map_prepend] at hm; exact hc m hm)
    exact ⟨h1, TaskPost.cons hfn (hd.mono _ (hi.sub _ hcm)) h2⟩
  case back =>
    intro n lab d es c k _ _ _ _ _ hfn _ hv _ _ hd ih hc
    obtain ⟨h1, h2⟩ := ih (by intro m hm; rw [blockNodes_cons_goto] at hm; exact hc m hm)
    exact ⟨h1, TaskPost.cons hfn (hd.mono _ hv) h2⟩
  case new =>
    intro n lab d es c _ _ _ _ _ _ _ _ hfn _ _ _ _ hd2 ih1 ih2 hc
    obtain ⟨a1, a2⟩ := ih1 hc
    obtain ⟨h1, h2⟩ := ih2 a1
    exact ⟨h1, TaskPost.cons hfn (hd2.mono _ a2) h2⟩
  case node =>
    intro n pe _ _ _ _ _ hd2 ih hc
    obtain ⟨h1, h2⟩ := ih (hc.mono (fun u hu => List.mem_cons_of_mem _ hu))
    refine ⟨?_, hd2.mono _ (List.mem_cons_self ..)⟩
    intro m hm lab d hd
    rw [blockNodes_cons_block] at hm
    rcases List.mem_cons.1 hm with hm | hm
    · subst hm; exact h2 lab d (List.mem_reverse.2 hd)
    · exact h1 m hm lab d hd

/-! ### errors -/

/-- what an error of the DFS proves about the flow; the fuel `|nodes| + 1` is never exhausted, because every
recursive call visits a node of the flow that was not visited before -/
def Defect (f : FlowX U) : Err → Prop
  | .noRows => ∃ m, Reach f m ∧ m.rows = []
  | .noNode => ∃ m lab d, Reach f m ∧ (lab, some d) ∈ m.edges ∧ findNode f d = none
  | _ => False

theorem loop_error (f : FlowX U) (fuel : Nat) (rc : NodeX U → EdgeT U → St U → Except Err (St U))
    (hmono : ∀ c e s s', rc c e s = .ok s' → ∀ u ∈ s.visited, u ∈ s'.visited)
    (hrc : ∀ c e s x, Reach f c → c.uuid ∉ s.visited → unvisited f s.visited ≤ fuel → rc c e s = .error x → Defect f x)
    (n : NodeX U) (hn : Reach f n) (fromId : TempId U) (es : List (Label × Option U)) :
    (∀ y ∈ es, y ∈ n.edges) → ∀ st x, loop f rc fromId es st = .error x → unvisited f st.visited ≤ fuel → Defect f x := by
  intro hsub st
  fun_induction loop f rc fromId es st with
  | case1 => nofun
  | case2 lab es st ih => exact ih (List.forall_mem_cons.1 hsub).2
  | case3 lab d es st hfn =>
    intro x h _
    cases h
    exact ⟨n, lab, d, hn, (List.forall_mem_cons.1 hsub).1, hfn⟩
  | case4 lab d es st c hfn h1 ih => exact ih (List.forall_mem_cons.1 hsub).2
  | case5 lab d es st c hfn h1 h2 ih => exact ih (List.forall_mem_cons.1 hsub).2
  | case6 lab d es st c hfn h1 h2 e hr =>
    intro x h hm
    cases h
    exact hrc c _ st _ (Reach.step hn (List.forall_mem_cons.1 hsub).1 hfn) h2 hm hr
  | case7 lab d es st c hfn h1 h2 s1 hr ih =>
    exact fun x h hm => ih (List.forall_mem_cons.1 hsub).2 x h (Nat.le_trans (unvisited_mono f (hmono _ _ _ _ hr)) hm)

theorem dfs_error (f : FlowX U) (fuel : Nat) :
    ∀ (n : NodeX U) (pe : EdgeT U) (st : St U) (x : Err), Reach f n → n.uuid ∉ st.visited →
      unvisited f st.visited ≤ fuel → dfs f fuel n pe st = .error x → Defect f x := by
  induction fuel with
  | zero =>
    intro n pe st x hn hv hm _
    have := unvisited_cons_lt f (findNode_mem hn.canon) hv
    omega
  | succ fuel ih =>
    intro n pe st x hn hv hm h
    simp only [dfs] at h
    by_cases hr : n.rows = []
    · simp only [hr, if_true] at h
      cases h
      exact ⟨n, hn, hr⟩
    · simp only [hr, if_false] at h
      have hlt := unvisited_cons_lt f (findNode_mem hn.canon) hv
      cases hl : loop f (dfs f fuel) (rowId n (n.rows.length - 1)) n.edges.reverse { st with visited := n.uuid :: st.visited } with
      | error e =>
        simp only [hl] at h
        cases h
        exact loop_error f fuel (dfs f fuel) (dfs_visited_mono f fuel) ih
          n hn _ _ (fun y hy => List.mem_reverse.1 hy) _ _ hl (by simp only []; omega)
      | ok st2 => simp [hl] at h

theorem toRowsT_error (f : FlowX U) (x : Err) (h : toRowsT f = .error x) : Defect f x := by
  cases f with
  | nil => simp [toRowsT] at h
  | cons n0 f =>
    simp only [toRowsT] at h
    cases hd : dfs (n0 :: f) (f.length + 1 + 1) n0 ⟨none, blankLabel⟩ ⟨[], [], [], 0⟩ with
    | error e =>
      have : e = x := by simpa [hd] using h
      subst this
      exact dfs_error _ _ _ _ _ _ (Reach.start rfl) (by simp)
        (by have := unvisited_le_length (n0 :: f) ([] : List U); simp only [List.length_cons] at this ⊢; omega) hd
    | ok st => simp [hd] at h

end Rpft.Export
