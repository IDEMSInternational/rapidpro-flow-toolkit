/-
Lock-step simulation with `no_op` rows, row by row: the edges of one row, then one step of the machine for each
kind of row of the fragment — rows that produce a node, `hard_exit` / `loose_exit` rows, `go_to` rows, `no_op`
rows (the edges into them are only remembered).  Between rows the relation is `RelN`: `Rel` and `Sched` for some
ghost maps and some schedule.  Merged rows: `CoreMerge`.
-/
import Rpft.Lemmas.CoreNoop
namespace Rpft.CoreSheet
open Rpft Rpft.Compile Rpft.RefFlow

theorem edge_simN {rows : List CRow} {outF : List OutEdge} (g : Sheet rows outF) {M : Maps} {pd : Bool} {kg : Nat} {d : Dest}
    {tgt : Target} (e : Compile.Edge) {s : St} {stT stT' st : P1} {pnd : List OutEdge}
    (h : Rel rows M pd kg s st) (hs : Sched rows M kg s stT st pnd) (ht : TgtIs rows M pd kg s.nodes d tgt)
    (hst : edgeStep stT kg (toREdge e) tgt = .ok stT') (hpre : stT'.out.reverse <+: outF) :
    wp (addRowEdge d e) s (NPost rows M pd kg s stT') := by
  unfold addRowEdge
  wp_simp
  refine wp_groupOfEdge_src (hs.src h) ?_
  intro o hsrcT hok
  unfold edgeStep at hst
  rw [hsrcT] at hst
  cases o with
  | none =>
    simp only [Except.ok.injEq] at hst
    subst hst
    simp only [Option.map_none]
    wp_simp
    exact ⟨M, st, pnd, MExt.refl M, h, hs, NExt.refl _⟩
  | some j =>
    simp only [Except.ok.injEq] at hst
    subst hst
    simp only [Option.map_some]
    wp_simp [wp_fuelOf]
    obtain ⟨hj, c, hc, hnode⟩ := hok j rfl
    cases hnn : isNoop c with
    | true =>
      exact noop_leave_sim g e.cond h hs hj ht hpre _ ⟨c, hc, hnn⟩
    | false =>
      exact addExit_simN g e.cond h hs hj ht hpre _ ⟨c, hc, hnode, hnn⟩

theorem edges_simN {rows : List CRow} {outF : List OutEdge} (g : Sheet rows outF) {pd : Bool} {kg : Nat} {d : Dest} {tgt : Target} :
    ∀ (es : List Compile.Edge) {M : Maps} {s : St} {stT stT' st : P1} {pnd : List OutEdge},
      Rel rows M pd kg s st → Sched rows M kg s stT st pnd → TgtIs rows M pd kg s.nodes d tgt →
      addEdges stT kg (es.map fun e => (toREdge e, tgt)) = .ok stT' → stT'.out.reverse <+: outF →
      wp (es.forM (addRowEdge d)) s (NPost rows M pd kg s stT') := by
  intro es
  induction es with
  | nil =>
    intro M s stT stT' st pnd h hs _ hst _
    rw [List.map_nil, addEdges_nil] at hst
    injection hst with hst; subst hst
    rw [wp_forM_nil]; exact ⟨M, st, pnd, MExt.refl M, h, hs, NExt.refl _⟩
  | cons e es ih =>
    intro M s stT stT' st pnd h hs ht hst hpre
    rw [List.map_cons] at hst
    rw [wp_forM_cons]
    obtain ⟨stT1, h1, hst⟩ := addEdges_cons_ok hst
    refine wp_mono (edge_simN g e h hs ht h1 ((addEdges_prefix _ _ _ _ hst).trans hpre)) ?_
    rintro _ s1 ⟨M1, st1, pnd1, hM1, r1, hs1, e1⟩
    refine wp_mono (ih r1 hs1 (ht.step e1 hM1) hst hpre) ?_
    rintro _ s2 ⟨M2, st2, pnd2, hM2, r2, hs2, e2⟩
    exact ⟨M2, st2, pnd2, hM1.trans hM2, r2, hs2, e1.trans e2⟩

/-- the state of the compiler machine and the (true) state of pass 1 after `kg` rows: related through some ghost maps
and some schedule -/
def RelN (rows : List CRow) (kg : Nat) (s : St) (stT : P1) : Prop :=
  ∃ (M : Maps) (st : P1) (pnd : List OutEdge), Rel rows M false kg s st ∧ Sched rows M kg s stT st pnd

theorem RelN.skip {rows : List CRow} {k : Nat} {s : St} {stT : P1} {c : CRow}
    (h : RelN rows k s stT) (hc : rows[k]? = some c) (hn : isNodeRow c = false)
    (hm : (c.merged && isNamedAct c) = false) : RelN rows (k + 1) s stT := by
  obtain ⟨M, st, pnd, h, hs⟩ := h
  exact ⟨M, st, pnd, h.skip hc hn hm, hs.skip h hc hn⟩

theorem goto_edges_simN {rows : List CRow} {outF : List OutEdge} (g : Sheet rows outF) {k : Nat} :
    ∀ (es : List Compile.Edge) {ds : List Str} {tgts : List Target} {s : St} {stT stT' : P1},
      RelN rows k s stT → ds.length = es.length →
      ds.mapM (fun d => match lookupId stT.ids d with
        | some t => (pure (Target.row t) : Except WfErr Target)
        | none => throw (WfErr.unknownDest k d)) = .ok tgts →
      addEdges stT k ((es.map toREdge).zip tgts) = .ok stT' →
      stT'.out.reverse <+: outF →
      wp ((es.zip ds).forM gotoEdge) s (fun _ s' => RelN rows k s' stT') := by
  intro es
  induction es with
  | nil =>
    intro ds tgts s stT stT' h _ _ hst _
    simp only [List.map_nil, List.zip_nil_left] at hst ⊢
    rw [addEdges_nil] at hst
    injection hst with hst; subst hst
    rw [wp_forM_nil]; exact h
  | cons e es ih =>
    intro ds tgts s stT stT' hN hlen hm hst hpre
    obtain ⟨M, st, pnd, h, hs⟩ := hN
    cases ds with
    | nil => simp at hlen
    | cons dd ds =>
      simp only [List.mapM_cons, Except.bind_eq_ok, Except.pure_eq_ok] at hm
      obtain ⟨tg, htg, tg2, hm2, rfl⟩ := hm
      split at htg
      rotate_left
      · simp only [Except.throw_eq_ok] at htg
      rename_i t hl
      simp only [Except.pure_eq_ok] at htg
      subst htg
      simp only [List.map_cons, List.zip_cons_cons] at hst ⊢
      rw [wp_forM_cons]
      obtain ⟨stT1, h1, hst⟩ := addEdges_cons_ok hst
      have hpre1 : stT1.out.reverse <+: outF := (addEdges_prefix _ _ _ _ hst).trans hpre
      -- the destination row: its group, its node
      obtain ⟨p, hp, hpt⟩ := lookupId_mem hl
      have hidok := (hs.src h).idok p hp
      rw [hpt] at hidok
      obtain ⟨htk, ct, hct, hnt⟩ := hidok
      have step1 : wp (gotoEdge (e, dd)) s (fun _ s1 => RelN rows k s1 stT1) := by
        unfold gotoEdge
        wp_simp [wp_lookupRow]
        rw [(hs.src h).byId, hl]
        simp only [Option.map_some]
        wp_simp [wp_fuelOf]
        cases hnnt : isNoop ct with
        | true =>
          -- the compiler rejects a `go_to` into a `no_op` row
          obtain ⟨ps, ro, hgN, _⟩ := h.grpN t ct htk hct hnnt
          simp only [wp_entryNode, hgN, Option.some.injEq, forall_eq']
        | false =>
          obtain ⟨nt, hnt', _⟩ := h.node t ct ⟨.inl htk, hct, hnt, h.elno t ct hct hnnt⟩
          rw [wp_entryNode_row (h.grp t ct htk hct hnt hnnt)]
          wp_simp [wp_getNode]
          intro n' hn'
          rw [hnt'] at hn'; injection hn' with hn'; subst hn'
          exact wp_mono (edge_simN (tgt := Target.row t) g e h hs
            { dest := ⟨nt, hnt', rfl⟩
              ok := fun t' ht' => by injection ht' with ht'; subst ht'; exact ⟨.inl htk, h.fr_false hct hnnt⟩
              row := fun t' ht' => by injection ht' with ht'; subst ht'; exact ⟨ct, hct, hnt⟩
              nn := tgtNoop_row_false hct hnnt }
            h1 hpre1)
            (fun _ _ ⟨M1, st1, pnd1, _, r1, hs1, _⟩ => ⟨M1, st1, pnd1, r1, hs1⟩)
      exact wp_mono step1 fun _ _ r1 =>
        ih r1 (by simpa using hlen) (by rw [(edgeStep_prefix h1).2.1]; exact hm2) hst hpre

/-- the edges of a `no_op` row: the compiler only remembers them, in its group `G` -/
theorem noop_edges_loop (rows : List CRow) (k G : Nat) :
    ∀ (es : List Compile.Edge) (ps : List (Nat × Compile.Cond)) (s : St) (stT stT' : P1),
      s.groups[G]? = some (.noop ps none) → G ≠ 0 → SrcInv rows k s stT →
      addEdges stT k (es.map fun e => (toREdge e, Target.row k)) = .ok stT' →
      wp (es.forM (noopEdge G)) s (fun _ s' => ∃ new : List OutEdge,
        stT'.out = new.reverse ++ stT.out ∧ stT'.ids = stT.ids ∧
        s' = { s with groups := s.groups.setIfInBounds G (.noop (ps ++ new.map (encP rows)) none) } ∧
        ∀ e ∈ new, e.tgt = .row k ∧ e.src < k ∧ ∃ c, rows[e.src]? = some c ∧ isNodeRow c = true) := by
  intro es
  induction es with
  | nil =>
    intro ps s stT stT' hG _ _ hst
    rw [List.map_nil, addEdges_nil] at hst
    injection hst with hst; subst hst
    rw [wp_forM_nil]
    refine ⟨[], by simp, rfl, ?_, fun e he => by cases he⟩
    obtain ⟨hlt, hget⟩ := Array.getElem?_eq_some_iff.mp hG
    simp [Array.setIfInBounds, hlt, ← hget]
  | cons e es ih =>
    intro ps s stT stT' hG hG0 hsrc0 hst
    rw [List.map_cons] at hst
    rw [wp_forM_cons]
    obtain ⟨stT1, h1, hst⟩ := addEdges_cons_ok hst
    unfold noopEdge
    wp_simp
    refine wp_groupOfEdge_src hsrc0 ?_
    intro o hsrc hok
    unfold edgeStep at h1
    rw [hsrc] at h1
    cases o with
    | none =>
      simp only [Except.ok.injEq] at h1
      subst h1
      simp only [Option.map_none]
      wp_simp
      exact ih ps s stT stT' hG hG0 hsrc0 hst
    | some j =>
      simp only [Except.ok.injEq] at h1
      subst h1
      simp only [Option.map_some]
      wp_simp [wp_getGrp]
      intro grp hgrp
      rw [hG] at hgrp; injection hgrp with hgrp; subst hgrp
      simp only
      wp_simp [wp_setGrp]
      obtain ⟨hj, cj, hcj, hnj⟩ := hok j rfl
      have hGlt : G < s.groups.size := lt_size_of_getElem? hG
      have := ih (ps ++ [(gOf rows j, e.cond)])
        { s with groups := s.groups.setIfInBounds G (.noop (ps ++ [(gOf rows j, e.cond)]) none) }
        { stT with out := { src := j, cond := (toREdge e).cond, tgt := Target.row k } :: stT.out } stT'
        (by simp [hGlt]) hG0
        (hsrc0.congr rfl (by simp only [Array.getElem?_setIfInBounds]; rw [if_neg hG0]) rfl rfl rfl) hst
      refine wp_mono this ?_
      rintro _ s' ⟨new, h1, h2, h4, h5⟩
      refine ⟨{ src := j, cond := (toREdge e).cond, tgt := Target.row k } :: new, ?_, h2, ?_, ?_⟩
      · rw [h1]; simp
      · rw [h4]
        simp only [Array.setIfInBounds_setIfInBounds, List.map_cons, List.append_assoc, List.cons_append, List.nil_append]
        rfl
      · intro e' he'
        simp only [List.mem_cons] at he'
        rcases he' with rfl | he'
        · exact ⟨rfl, hj, cj, hcj, hnj⟩
        · exact h5 e' he'

/-- ghost: the `no_op` row `k` (about to be parsed) owns no node -/
theorem Rel.mark_el {rows : List CRow} {M : Maps} {k : Nat} {s : St} {st : P1}
    (h : Rel rows M false k s st) (hk : NoopRow rows k) :
    Rel rows { M with el := fun t => if t = k then true else M.el t } false k s st :=
  h.ghost_noop hk (fun _ _ => rfl) rfl (fun _ hj => if_neg hj) (fun _ _ => rfl) (if_pos rfl)
    (fun hf => absurd (h.frel k hf).2.1 (Nat.lt_irrefl k))
    (fun e he t ht e' => (h.tgtok e he t ht).elim (fun h1 => absurd (e' ▸ h1) (Nat.lt_irrefl k)) (fun h1 => Bool.noConfusion h1.1))

/-- ghost: the `no_op` row `k` (just parsed) has not been left yet -/
theorem Rel.mark_fresh {rows : List CRow} {M : Maps} {k : Nat} {s : St} {st : P1}
    (h : Rel rows M false (k + 1) s st) (hk : NoopRow rows k) (hel : M.el k = true)
    (htk : ∀ e ∈ st.out, e.tgt ≠ .row k) :
    Rel rows { M with fr := fun t => if t = k then true else M.fr t } false (k + 1) s st :=
  h.ghost_noop hk (fun _ _ => rfl) rfl (fun _ _ => rfl) (fun _ hj => if_neg hj) hel (fun _ => Nat.lt_succ_self k)
    (fun e he _ ht e' => htk e he (e' ▸ ht))

section
variable {rows : List CRow} {outF : List OutEdge} (g : Sheet rows outF) {k : Nat} {c : CRow} (hc : rows[k]? = some c)
  {s : St} {stT stT' : P1} (h : RelN rows k s stT) (hst : pass1Row stT k (toRRow c) = .ok stT')
  (hpre : stT'.out.reverse <+: outF)
include g hc h hst hpre

theorem node_row_simN (hf : nodeRowOk c = true) (hm : (c.merged && isNamedAct c) = false) :
    wp (step (toEvent c)) s (fun _ s' => RelN rows (k + 1) s' stT') := by
  obtain ⟨M, st, pnd, h, hs⟩ := h
  have hfacts := rowFacts c hf
  have hnode := isNodeRow_of_ok c hf hm
  have hnn := isNoop_false_of_ok c hf
  obtain ⟨stT1, hst1, hst⟩ := pass1Row_of_node hfacts.node hst
  have hpre1 : stT1.out.reverse <+: outF := by rw [← hst] at hpre; exact hpre
  -- the compiler side
  unfold step toEvent
  refine wp_parseRow_new c hfacts s _ (names_none_of_unmerged g.annot h.names hc hm (namedAct_of_ok hf)) (fun _ => ?_)
  unfold newRow
  wp_simp [wp_addNode, wp_addGrp]
  refine wp_mono (rowAction_exact _ s) ?_
  rintro act s1 ⟨⟨k1, hb1⟩, hact1⟩; subst hb1
  refine wp_mono (rowNode_sim c hf _ act hact1 _ h.args) ?_
  rintro n s2 ⟨⟨k2, hb2⟩, hnrnd, hnsim⟩; subst hb2
  dsimp only
  -- the ghost map learns where the node of row `k` lives
  have r1 := h.push_node hc n hnrnd hnsim (s.next + k1 + k2) (by omega)
  obtain ⟨M', hM'⟩ : ∃ M' : Maps, M' = { M with nOf := fun x => if x = k then s.nodes.size else M.nOf x } := ⟨_, rfl⟩
  rw [← hM'] at r1
  have hMk : M'.nOf k = s.nodes.size := by rw [hM']; simp
  have hMo : ∀ x, x ≠ k → M'.nOf x = M.nOf x := by intro x hx; rw [hM']; simp [hx]
  have hs1 : Sched rows M' k { s with nodes := s.nodes.push n, next := s.next + k1 + k2 } stT st pnd :=
    hs.push h hMo (by rw [hM']) (by rw [hM']) rfl
  have hfrk : M'.fr k = false := r1.fr_false hc hnn
  have htk : TgtIs rows M' true k ({ s with nodes := s.nodes.push n, next := s.next + k1 + k2 } : St).nodes (.node n.uid)
      (Target.row k) :=
    { dest := ⟨n, by rw [hMk]; simp, rfl⟩
      ok := fun t ht => by injection ht with ht; subst ht; exact ⟨.inr ⟨rfl, rfl⟩, hfrk⟩
      row := fun t ht => by injection ht with ht; subst ht; exact ⟨c, hc, hnode⟩
      nn := tgtNoop_row_false hc hnn }
  refine wp_mono (edges_simN g _ r1 hs1 htk hst1 hpre1) ?_
  rintro _ s3 ⟨M3, st3, pnd3, hM3, r3, hs3, _⟩
  have hM3k : M3.nOf k = s.nodes.size := by rw [(hM3 k hfrk).2, hMk]
  have hM3r : M3.rOf k = none := r3.rnone k (Nat.le_refl _)
  -- the row group is created and appended to the root block
  rw [wp_appendGroup_push s3 _ _ _ r3.stack r3.root]
  wp_simp
  have hgrp1 : isNoop c = false → Grp.row [s.nodes.size] c.row.type = .row (M3.nOf k :: (M3.rOf k).toList) c.row.type := by
    intro _; rw [hM3k, hM3r]; rfl
  have hnames3 : NamesInv rows M3 (k + 1) ((c.row.nodeName, s.nodes.size) :: s3.names) := by
    have := r3.names.push hc hnode hnn (namedAct_of_ok hf)
    rw [hM3k] at this; exact this
  refine ⟨M3, _, pnd3, r3.close_row hc hnode (.inl rfl)
    (Grp.row [s.nodes.size] c.row.type) hgrp1 (fun hh => by rw [hnn] at hh; cases hh) c.row.rowId _ hnames3, ?_⟩
  rw [← hst, ← hs3.ids]
  exact hs3.close r3 hc hnn

theorem exit_row_simN (hf : exitRow c = true) : wp (step (toEvent c)) s (fun _ s' => RelN rows (k + 1) s' stT') := by
  obtain ⟨M, st, pnd, h, hs⟩ := h
  simp only [exitRow, Bool.and_eq_true, Bool.or_eq_true, decide_eq_true_eq] at hf
  obtain ⟨ht, _⟩ := hf
  have hkind : kindOf c.row.type = .hardExit ∨ kindOf c.row.type = .looseExit := ht.imp type_hard.mp type_loose.mp
  have hsp : specialTypes.contains c.row.type = true :=
    special_of_kind (by rcases hkind with h1 | h1 <;> rw [h1] <;> decide)
  have hnn : isNodeRow c = false := by
    rw [isNodeRow_of_special hsp]; rcases hkind with h1 | h1 <;> rw [h1] <;> rfl
  -- the reference side
  have hst2 : addEdges stT k ((dropTrivial c.row.edges).map (fun e => (toREdge e, Target.exit))) = .ok stT' := by
    unfold pass1Row at hst
    have hk' : (toRRow c).kind = kindOf c.row.type := rfl
    have hes := dropTrivial_ref c.row.edges
    rcases hkind with h1 | h1 <;>
      (simp only [hk', h1] at hst
       have he : (toRRow c).edges = c.row.edges.map toREdge := rfl
       rw [he, hes, List.map_map] at hst
       exact hst)
  -- the compiler side
  unfold step toEvent parseRow
  simp only
  rw [if_pos ht]
  have hd : DestIs M s.nodes (if c.row.type = "hard_exit".toList then Dest.hard else Dest.none) (some Target.exit) := by
    split
    · exact .inl rfl
    · exact .inr rfl
  refine wp_mono (edges_simN g _ h hs { dest := hd, ok := fun t ht => (nomatch ht), row := fun t ht => (nomatch ht), nn := rfl } hst2 hpre) ?_
  rintro _ s' ⟨M', st', pnd', _, r, hs', _⟩
  exact RelN.skip ⟨M', st', pnd', r, hs'⟩ hc hnn (not_named_of_special hsp)

theorem goto_row_simN (hf : gotoRow c = true) : wp (step (toEvent c)) s (fun _ s' => RelN rows (k + 1) s' stT') := by
  simp only [gotoRow, Bool.and_eq_true, decide_eq_true_eq] at hf
  obtain ⟨ht, _⟩ := hf
  have hkind : kindOf c.row.type = .goTo := type_goto.mp ht
  have hsp : specialTypes.contains c.row.type = true := special_of_kind (by rw [hkind]; decide)
  have hnn : isNodeRow c = false := by rw [isNodeRow_of_special hsp, hkind]; rfl
  have hlenE : ((dropTrivial c.row.edges).map toREdge).length = (dropTrivial c.row.edges).length := by simp
  -- the reference side
  unfold pass1Row at hst
  have hk' : (toRRow c).kind = kindOf c.row.type := rfl
  have he : (toRRow c).edges = c.row.edges.map toREdge := rfl
  have hd' : (toRRow c).dests = c.row.dests := rfl
  simp only [hk', hkind, he, dropTrivial_ref, hd', hlenE, bind, Except.bind, pure, Except.pure] at hst
  -- the compiler side
  unfold step toEvent parseRow
  simp only
  simp only [type_hard, type_loose, type_goto, hkind, reduceCtorEq, or_self, if_false, if_true]
  unfold parseGoto
  simp only
  generalize hds : (if c.row.dests.length = 1 then List.replicate (dropTrivial c.row.edges).length (c.row.dests.headD [])
    else c.row.dests) = ds at hst ⊢
  by_cases hlen : ds.length = (dropTrivial c.row.edges).length
  · rw [if_neg (by simpa using hlen)] at hst
    simp only [hlen, ne_eq, not_true_eq_false, if_false]
    split at hst
    · cases hst
    · rename_i tgts hm
      exact wp_mono (goto_edges_simN g _ h hlen hm hst hpre) fun _ _ r => r.skip hc hnn (not_named_of_special hsp)
  · simp only [hlen, ne_eq, not_false_eq_true, if_true]
    wp_simp

theorem noop_row_simN (hf : noopRow c = true) : wp (step (toEvent c)) s (fun _ s' => RelN rows (k + 1) s' stT') := by
  obtain ⟨M, st, pnd, h, hs⟩ := h
  simp only [noopRow, Bool.and_eq_true] at hf
  obtain ⟨⟨hnn, _⟩, _⟩ := hf
  have hkind : kindOf c.row.type = .noOp := kind_of_noop hnn
  have hnode : isNodeRow c = true := isNodeRow_of_noop hnn
  have hNr : NoopRow rows k := ⟨c, hc, hnn⟩
  obtain ⟨stT1, hst1, hst⟩ := pass1Row_of_node (by rw [hkind]; rfl) hst
  -- the compiler side
  unfold step toEvent parseRow
  simp only
  simp only [type_hard, type_loose, type_goto, type_noop, hkind, reduceCtorEq, or_self, if_false, if_true]
  unfold parseNoop
  wp_simp [wp_addGrp]
  have hsz : s.groups.size = gOf rows k := h.gsize
  have hpos := gOf_pos rows k
  refine wp_mono (noop_edges_loop rows k s.groups.size (dropTrivial c.row.edges) [] _ stT stT1 (by simp) (by omega)
    ((hs.src h).congr rfl (by rw [Array.getElem?_push, if_neg (by omega)]) rfl rfl rfl) hst1) ?_
  rintro _ s1 ⟨new, ho1, hi1, hs1, hnew⟩
  subst hs1
  simp only [List.nil_append]
  rw [set_push_last]
  -- the group is appended to the root block
  rw [wp_appendGroup_push s _ _ _ h.stack h.root]
  have hM1el : ({ M with el := fun t => if t = k then true else M.el t } : Maps).el k = true := if_pos rfl
  have hfinal :=
    ((h.mark_el hNr).close_row hc hnode (.inr hM1el)
      (Grp.noop (new.map (encP rows)) none) (fun hh => by rw [hnn] at hh; cases hh)
      (fun _ => ⟨_, _, rfl, fun hh => Bool.noConfusion (hh.symm.trans hM1el)⟩) c.row.rowId s.names
      ((h.mark_el hNr).names.step_noop hc hnn)).mark_fresh hNr hM1el
      (fun e he hte => (h.tgtok e he k hte).elim (fun h1 => absurd h1 (Nat.lt_irrefl k)) (fun h1 => Bool.noConfusion h1.1))
  refine ⟨enterM M k, _, pnd ++ new, hfinal, ?_⟩
  rw [← hst, hi1, ← hs.ids]
  exact sched_into hs h hNr hnew ho1 (g.pre (by rw [← hst] at hpre; exact hpre))

end

end Rpft.CoreSheet
