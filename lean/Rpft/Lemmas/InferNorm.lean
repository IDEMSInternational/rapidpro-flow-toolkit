/-
C18: "the same model up to the order of the fields" made explicit.

`Ty.norm` / `Val.norm` sort the fields of every record (type and default value), at every
depth, by field name (code-point order, a structural insertion sort so that the kernel can
evaluate it).  Two types are *equivalent* (`TyEquiv`) iff their normal forms are equal — the
same canonical form the harness compares on the real code (`canon_schema`).  `Ty.beq` is equality
(`Ty.eq_of_beq`), so `TyEquiv` is decidable by evaluation.  Core Lean only.
-/
import Rpft.Lemmas.InferNested
import Rpft.Lemmas.DataOps
namespace Rpft.Infer
open Rpft

/-- lexicographic order by code point (Python's `str` order) -/
def strLe : Str → Str → Bool
  | [], _ => true
  | _ :: _, [] => false
  | a :: as, b :: bs =>
    if a.toNat < b.toNat then true else if a.toNat = b.toNat then strLe as bs else false

/-- the order of the data-sheet model (`DataOps.strLe`), written with `=` in the middle case -/
theorem strLe_eq : ∀ (a b : Str), strLe a b = DataOps.strLe a b
  | [], _ => by simp [strLe, DataOps.strLe]
  | _ :: _, [] => by simp [strLe, DataOps.strLe]
  | a :: as, b :: bs => by
    simp only [strLe, DataOps.strLe, strLe_eq as bs]
    by_cases h1 : a.toNat < b.toNat
    · simp [h1]
    · by_cases h2 : b.toNat < a.toNat
      · have : a.toNat ≠ b.toNat := by omega
        simp [h1, h2, this]
      · have : a.toNat = b.toNat := by omega
        simp [this]

theorem strLe_total (a b : Str) : strLe a b = true ∨ strLe b a = true := by
  rw [strLe_eq, strLe_eq]; exact DataOps.strLe_total a b

theorem strLe_trans (a b c : Str) : strLe a b = true → strLe b c = true → strLe a c = true := by
  rw [strLe_eq, strLe_eq, strLe_eq]; exact DataOps.strLe_trans a b c

theorem strLe_antisymm (a b : Str) : strLe a b = true → strLe b a = true → a = b := by
  rw [strLe_eq, strLe_eq]; exact DataOps.strLe_antisymm a b

def insertK {α : Type} (key : α → Str) (a : α) : List α → List α
  | [] => [a]
  | b :: l => if strLe (key a) (key b) then a :: b :: l else b :: insertK key a l

/-- stable insertion sort by key -/
def isortK {α : Type} (key : α → Str) : List α → List α
  | [] => []
  | a :: l => insertK key a (isortK key l)

section
variable {α : Type} (key : α → Str)

theorem insertK_perm (a : α) : ∀ (l : List α), (insertK key a l).Perm (a :: l)
  | [] => List.Perm.refl _
  | b :: l => by
    simp only [insertK]
    split
    · exact List.Perm.refl _
    · exact ((insertK_perm a l).cons b).trans (List.Perm.swap a b l)

theorem isortK_perm : ∀ (l : List α), (isortK key l).Perm l
  | [] => List.Perm.refl _
  | a :: l => (insertK_perm key a _).trans ((isortK_perm l).cons a)

theorem insertK_sorted (a : α) : ∀ (l : List α),
    l.Pairwise (fun x y => strLe (key x) (key y) = true) →
    (insertK key a l).Pairwise (fun x y => strLe (key x) (key y) = true)
  | [], _ => by simp [insertK]
  | b :: l, h => by
    have h' := List.pairwise_cons.mp h
    simp only [insertK]
    split
    · next hab =>
      refine List.pairwise_cons.mpr ⟨?_, h⟩
      intro y hy
      rcases List.mem_cons.mp hy with e | e
      · subst e; exact hab
      · exact strLe_trans _ _ _ hab (h'.1 y e)
    · next hab =>
      have hba : strLe (key b) (key a) = true := by
        rcases strLe_total (key a) (key b) with h0 | h0
        · exact absurd h0 hab
        · exact h0
      refine List.pairwise_cons.mpr ⟨?_, insertK_sorted a l h'.2⟩
      intro y hy
      rcases List.mem_cons.mp ((insertK_perm key a l).subset hy) with e | e
      · subst e; exact hba
      · exact h'.1 y e

theorem isortK_sorted : ∀ (l : List α),
    (isortK key l).Pairwise (fun x y => strLe (key x) (key y) = true)
  | [] => by simp [isortK]
  | a :: l => insertK_sorted key a _ (isortK_sorted l)

theorem isortK_eq_of_perm {l₁ l₂ : List α} (hp : l₁.Perm l₂) (hd : (l₁.map key).Nodup) :
    isortK key l₁ = isortK key l₂ := by
  apply List.Perm.eq_of_pairwise (le := fun x y => strLe (key x) (key y) = true)
  · intro a b ha hb h1 h2
    have ha' : a ∈ l₁ := (isortK_perm key l₁).subset ha
    have hb' : b ∈ l₁ := hp.symm.subset ((isortK_perm key l₂).subset hb)
    exact eq_of_nodup_map hd ha' hb' (strLe_antisymm _ _ h1 h2)
  · exact isortK_sorted key l₁
  · exact isortK_sorted key l₂
  · exact (isortK_perm key l₁).trans (hp.trans (isortK_perm key l₂).symm)

end

mutual
/-- defaults with the fields of every record sorted by name -/
def Val.norm : Val → Val
  | .list vs => .list (Val.normL vs)
  | .record kvs => .record (isortK (fun p => p.1) (Val.normR kvs))
  | v => v
def Val.normL : List Val → List Val
  | [] => []
  | v :: vs => v.norm :: Val.normL vs
def Val.normR : List (Str × Val) → List (Str × Val)
  | [] => []
  | (k, v) :: kvs => (k, v.norm) :: Val.normR kvs
end

mutual
/-- types with the fields of every record sorted by name (defaults normalised as well) -/
def Ty.norm : Ty → Ty
  | .list t => .list t.norm
  | .model fs => .model (isortK (fun f => f.1) (Ty.normF fs))
  | t => t
def Ty.normF : List (Str × Ty × Val) → List (Str × Ty × Val)
  | [] => []
  | (k, t, d) :: fs => (k, t.norm, d.norm) :: Ty.normF fs
end

/-- **Equivalence up to field order**: equal after sorting the fields of every record. -/
def TyEquiv (a b : Ty) : Prop := a.norm = b.norm
def ValEquiv (a b : Val) : Prop := a.norm = b.norm

mutual
theorem Ty.eq_of_beq : ∀ (a b : Ty), Ty.beq a b = true → a = b
  | .str, b, h | .int, b, h | .float, b, h | .bool, b, h | .anyList, b, h => by
    cases b <;> simp_all [Ty.beq]
  | .list a, b, h => by
    cases b with
    | list b => rw [Ty.eq_of_beq a b (by simpa [Ty.beq] using h)]
    | _ => simp [Ty.beq] at h
  | .model as, b, h => by
    cases b with
    | model bs => rw [Ty.eqF_of_beqF as bs (by simpa [Ty.beq] using h)]
    | _ => simp [Ty.beq] at h
theorem Ty.eqF_of_beqF : ∀ (a b : List (Str × Ty × Val)), Ty.beqF a b = true → a = b
  | [], b, h => by cases b <;> simp_all [Ty.beqF]
  | (k, t, d) :: as, b, h => by
    cases b with
    | nil => simp [Ty.beqF] at h
    | cons y bs =>
      obtain ⟨k', t', d'⟩ := y
      simp only [Ty.beqF, Bool.and_eq_true, beq_iff_eq] at h
      rw [h.1.1.1, Ty.eq_of_beq t t' h.1.1.2, Val.eq_of_beq d d' h.1.2, Ty.eqF_of_beqF as bs h.2]
end

mutual
theorem Ty.beq_refl : ∀ (a : Ty), Ty.beq a a = true
  | .str | .int | .float | .bool | .anyList => rfl
  | .list a => by simp [Ty.beq, Ty.beq_refl a]
  | .model as => by simp [Ty.beq, Ty.beqF_refl as]
theorem Ty.beqF_refl : ∀ (a : List (Str × Ty × Val)), Ty.beqF a a = true
  | [] => rfl
  | (k, t, d) :: as => by simp [Ty.beqF, Ty.beq_refl t, Val.beq_refl d, Ty.beqF_refl as]
end

theorem tyEquiv_iff_beq (a b : Ty) : TyEquiv a b ↔ Ty.beq a.norm b.norm = true :=
  ⟨fun h => by rw [show a.norm = b.norm from h]; exact Ty.beq_refl _, Ty.eq_of_beq _ _⟩

instance (a b : Ty) : Decidable (TyEquiv a b) := decidable_of_iff _ (tyEquiv_iff_beq a b).symm

/-- `infer hs` succeeded with a model equivalent to `t` -/
def inferEquivB (hs : List Str) (t : Ty) : Bool :=
  match infer hs with
  | .ok t' => decide (TyEquiv t' t)
  | .error _ => false

def normField (f : Field) : Field := (f.1, f.2.1.norm, f.2.2.norm)

theorem Val.normL_eq_map : ∀ (vs : List Val), Val.normL vs = vs.map Val.norm
  | [] => rfl
  | v :: vs => by simp [Val.normL, Val.normL_eq_map vs]

theorem Val.normR_eq_map : ∀ (kvs : List (Str × Val)),
    Val.normR kvs = kvs.map (fun p => (p.1, p.2.norm))
  | [] => rfl
  | (k, v) :: kvs => by simp [Val.normR, Val.normR_eq_map kvs]

theorem Ty.normF_eq_map : ∀ (fs : List Field), Ty.normF fs = fs.map normField
  | [] => rfl
  | (k, t, d) :: fs => by simp [Ty.normF, Ty.normF_eq_map fs, normField]

end Rpft.Infer
