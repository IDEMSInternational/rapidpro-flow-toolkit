/-
Row types and their kinds.  `kindOf` (the table `KIND` of the checks) is read backwards by `typeOf`; the
one fact that needs the row types spelt out is that they are pairwise different (`types_nodup`).
Everything that dispatches on the type of a row — `operandOf`, `timeoutOf`, the compiler's `rowNode` —
is then a dispatch on its kind.  A row with a node name that counts (`isNamedAct`) is an action row.
-/
import Rpft.CoreSheet
import Rpft.Lemmas.ListFacts
namespace Rpft.CoreSheet
open Rpft Rpft.Compile Rpft.RefFlow

/-- the row type of kind `K` (every other row type is an action) -/
def typeOf : Kind → Str
  | .wait => "wait_for_response".toList
  | .splitValue => "split_by_value".toList
  | .splitGroup => "split_by_group".toList
  | .splitRandom => "split_random".toList
  | .enterFlow => "start_new_flow".toList
  | .webhook => "call_webhook".toList
  | .airtime => "transfer_airtime".toList
  | .noOp => "no_op".toList
  | .goTo => "go_to".toList
  | .hardExit => "hard_exit".toList
  | .looseExit => "loose_exit".toList
  | .action => []

/-- the kinds that have a row type of their own, in the order `kindOf` asks for them -/
def kinds : List Kind :=
  [.wait, .splitValue, .splitGroup, .splitRandom, .enterFlow, .webhook, .airtime, .noOp, .goTo, .hardExit, .looseExit]

theorem mem_kinds {K : Kind} : K ∈ kinds ↔ K ≠ .action := by
  cases K <;> simp [kinds]

theorem specialTypes_eq : specialTypes = kinds.map typeOf ++ ["insert_as_block".toList] := rfl

theorem types_nodup : (specialTypes ++ basicTypes).Nodup := by decide +kernel

theorem typeOf_nodup : (kinds.map typeOf).Nodup := by
  have := (List.nodup_append.mp types_nodup).1
  rw [specialTypes_eq] at this
  exact (List.nodup_append.mp this).1

theorem find?_getD_cons {α} (p : α → Prop) [DecidablePred p] (a d : α) (l : List α) :
    ((a :: l).find? (fun x => decide (p x))).getD d = if p a then a else (l.find? (fun x => decide (p x))).getD d := by
  rw [List.find?_cons]
  by_cases h : p a <;> simp [h]

theorem kindOf_eq_find (t : Str) : kindOf t = (kinds.find? (fun K => decide (t = typeOf K))).getD .action := by
  unfold kindOf kinds
  simp only [find?_getD_cons, List.find?_nil, Option.getD_none]
  rfl

theorem type_eq_iff {t : Str} {K : Kind} (hK : K ≠ .action) : t = typeOf K ↔ kindOf t = K := by
  rw [kindOf_eq_find]
  cases hf : kinds.find? (fun K' => decide (t = typeOf K')) with
  | none =>
    have := List.find?_eq_none.mp hf K (mem_kinds.mpr hK)
    exact ⟨fun e => absurd e (by simpa using this), fun e => absurd e.symm hK⟩
  | some K' =>
    have e : t = typeOf K' := by simpa using List.find?_some hf
    refine ⟨fun e' => ?_, fun e' => by rw [e]; exact congrArg typeOf e'⟩
    exact eq_of_nodup_map typeOf_nodup (List.mem_of_find?_eq_some hf) (mem_kinds.mpr hK) (e ▸ e')

theorem type_wait {t : Str} : t = "wait_for_response".toList ↔ kindOf t = .wait := type_eq_iff (K := .wait) (by decide)
theorem type_value {t : Str} : t = "split_by_value".toList ↔ kindOf t = .splitValue := type_eq_iff (K := .splitValue) (by decide)
theorem type_group {t : Str} : t = "split_by_group".toList ↔ kindOf t = .splitGroup := type_eq_iff (K := .splitGroup) (by decide)
theorem type_random {t : Str} : t = "split_random".toList ↔ kindOf t = .splitRandom := type_eq_iff (K := .splitRandom) (by decide)
theorem type_enter {t : Str} : t = "start_new_flow".toList ↔ kindOf t = .enterFlow := type_eq_iff (K := .enterFlow) (by decide)
theorem type_webhook {t : Str} : t = "call_webhook".toList ↔ kindOf t = .webhook := type_eq_iff (K := .webhook) (by decide)
theorem type_airtime {t : Str} : t = "transfer_airtime".toList ↔ kindOf t = .airtime := type_eq_iff (K := .airtime) (by decide)
theorem type_noop {t : Str} : t = "no_op".toList ↔ kindOf t = .noOp := type_eq_iff (K := .noOp) (by decide)
theorem type_goto {t : Str} : t = "go_to".toList ↔ kindOf t = .goTo := type_eq_iff (K := .goTo) (by decide)
theorem type_hard {t : Str} : t = "hard_exit".toList ↔ kindOf t = .hardExit := type_eq_iff (K := .hardExit) (by decide)
theorem type_loose {t : Str} : t = "loose_exit".toList ↔ kindOf t = .looseExit := type_eq_iff (K := .looseExit) (by decide)

theorem special_of_kind {t : Str} (h : kindOf t ≠ .action) : specialTypes.contains t = true := by
  rw [List.contains_iff_mem, specialTypes_eq, (type_eq_iff h).mpr rfl]
  exact List.mem_append_left _ (List.mem_map_of_mem (mem_kinds.mpr h))

theorem kindOf_action {t : Str} (h : specialTypes.contains t = false) : kindOf t = .action := by
  by_cases hk : kindOf t = .action
  · exact hk
  · rw [special_of_kind hk] at h; cases h

theorem not_basic_of_special {t : Str} (h : specialTypes.contains t = true) : basicTypes.contains t = false := by
  cases hb : basicTypes.contains t with
  | false => rfl
  | true =>
    exact absurd rfl ((List.nodup_append.mp types_nodup).2.2 t (List.contains_iff_mem.mp h) t (List.contains_iff_mem.mp hb))

theorem kindOf_wait : kindOf "wait_for_response".toList = .wait := type_wait.mp rfl
theorem kindOf_value : kindOf "split_by_value".toList = .splitValue := type_value.mp rfl
theorem kindOf_group : kindOf "split_by_group".toList = .splitGroup := type_group.mp rfl
theorem kindOf_random : kindOf "split_random".toList = .splitRandom := type_random.mp rfl
theorem kindOf_enter : kindOf "start_new_flow".toList = .enterFlow := type_enter.mp rfl
theorem kindOf_webhook : kindOf "call_webhook".toList = .webhook := type_webhook.mp rfl
theorem kindOf_airtime : kindOf "transfer_airtime".toList = .airtime := type_airtime.mp rfl
theorem kindOf_noop : kindOf "no_op".toList = .noOp := type_noop.mp rfl
theorem kindOf_goto : kindOf "go_to".toList = .goTo := type_goto.mp rfl
theorem kindOf_hard : kindOf "hard_exit".toList = .hardExit := type_hard.mp rfl
theorem kindOf_loose : kindOf "loose_exit".toList = .looseExit := type_loose.mp rfl

theorem ne_gv : ¬ ("split_by_group".toList = "split_by_value".toList) :=
  fun e => nomatch kindOf_group.symm.trans (type_value.mp e)

/-- the kinds of the deciding rows -/
abbrev isSwitchKind (K : Kind) : Prop := K = .wait ∨ K = .splitValue ∨ K = .splitGroup

theorem switch_type {t : Str} (h : switchTypes.contains t = true) :
    t = "wait_for_response".toList ∨ t = "split_by_value".toList ∨ t = "split_by_group".toList := by
  rw [List.contains_iff_mem] at h
  simp only [switchTypes, List.map_cons, List.map_nil, List.mem_cons, List.not_mem_nil, or_false] at h
  exact h

theorem kindOf_switch {t : Str}
    (h : t = "wait_for_response".toList ∨ t = "split_by_value".toList ∨ t = "split_by_group".toList) :
    isSwitchKind (kindOf t) :=
  h.imp type_wait.mp (Or.imp type_value.mp type_group.mp)

theorem switch_type_of_kind {t : Str} (hk : isSwitchKind (kindOf t)) :
    t = "wait_for_response".toList ∨ t = "split_by_value".toList ∨ t = "split_by_group".toList :=
  hk.imp type_wait.mpr (Or.imp type_value.mpr type_group.mpr)

/-- the kinds of the rows with fixed outcomes -/
def isFixedKind (K : Kind) : Prop := K = .enterFlow ∨ K = .webhook ∨ K = .airtime

theorem fixed_type {t : Str} (h : fixedTypes.contains t = true) :
    t = "start_new_flow".toList ∨ t = "call_webhook".toList ∨ t = "transfer_airtime".toList := by
  rw [List.contains_iff_mem] at h
  simp only [fixedTypes, List.map_cons, List.map_nil, List.mem_cons, List.not_mem_nil, or_false] at h
  exact h

theorem kindOf_fixed {t : Str}
    (h : t = "start_new_flow".toList ∨ t = "call_webhook".toList ∨ t = "transfer_airtime".toList) :
    isFixedKind (kindOf t) :=
  h.imp type_enter.mp (Or.imp type_webhook.mp type_airtime.mp)

theorem ne_insert_of_plain {t : Str} (h : specialTypes.contains t = false) : t ≠ "insert_as_block".toList := by
  rintro rfl
  rw [specialTypes_eq, List.contains_iff_mem.mpr (List.mem_append_right _ (List.mem_singleton_self _))] at h
  cases h

/-- `insert_as_block` is the one special type without a kind of its own -/
theorem kindOf_insert : kindOf "insert_as_block".toList = .action := by
  by_cases hk : kindOf "insert_as_block".toList = .action
  · exact hk
  · have hn := (List.nodup_append.mp types_nodup).1
    rw [specialTypes_eq] at hn
    refine absurd rfl ((List.nodup_append.mp hn).2.2 _ ?_ _ (List.mem_singleton_self _))
    rw [(type_eq_iff hk).mpr rfl]
    exact List.mem_map_of_mem (mem_kinds.mpr hk)

theorem ne_insert_of_kind {t : Str} (h : kindOf t ≠ .action) : t ≠ "insert_as_block".toList :=
  fun e => h (e ▸ kindOf_insert)

theorem kindOf_of_named {c : CRow} (h : isNamedAct c = true) : kindOf c.row.type = .action := by
  unfold isNamedAct at h
  simp only [Bool.and_eq_true, Bool.not_eq_true'] at h
  exact kindOf_action h.1

theorem not_named_of_kind {c : CRow} (hk : kindOf c.row.type ≠ .action) : isNamedAct c = false :=
  Bool.eq_false_iff.mpr (fun h => hk (kindOf_of_named h))

theorem name_ne_of_named {c : CRow} (h : isNamedAct c = true) : c.row.nodeName ≠ [] := by
  unfold isNamedAct at h
  simp only [Bool.and_eq_true, Bool.not_eq_true', List.isEmpty_eq_false_iff] at h
  exact h.2

theorem not_named_of_special {c : CRow} (h : specialTypes.contains c.row.type = true) :
    (c.merged && isNamedAct c) = false := by
  unfold isNamedAct; rw [h]; simp

theorem operandOf_eq (r : Row) : operandOf r =
    match kindOf r.type with
    | .enterFlow => "@child.run.status".toList
    | .webhook => "@results.".toList ++ r.resultKey.getD [] ++ ".category".toList
    | .airtime => "@results.".toList ++ r.resultKey.getD []
    | .wait => "@input.text".toList
    | .splitValue => r.expression
    | .splitGroup => "@contact.groups".toList
    | _ => [] := by
  simp only [operandOf, type_enter, type_webhook, type_airtime, type_wait, type_value, type_group]
  cases kindOf r.type <;> rfl

theorem timeoutOf_eq (r : Row) :
    timeoutOf r = if kindOf r.type = .wait then (parseNat? r.noResponse).getD 0 else 0 := by
  simp only [timeoutOf, type_wait]

theorem rowNode_eq (r : Row) (act : Option (Uid × Str)) : rowNode r act =
    if r.nodeOk then
      match kindOf r.type with
      | .enterFlow => enterNode r
      | .webhook | .airtime => hookNode r
      | .wait => waitNode r
      | .splitValue => splitValueNode r
      | .splitGroup => splitGroupNode r
      | .splitRandom => splitRandomNode r
      | _ => if basicTypes.contains r.type then basicNode r act else otherNode r act
    else fail (.exc "node constructor rejects its arguments") := by
  simp only [rowNode, type_enter, type_webhook, type_airtime, type_wait, type_value, type_group, type_random]
  by_cases hk : kindOf r.type = .action
  · simp only [hk, reduceCtorEq, or_self, if_false]
  · rw [not_basic_of_special (special_of_kind hk)]
    cases hK : kindOf r.type <;> first | exact absurd hK hk | simp

theorem parseRow_node (r : Row) (hn : (kindOf r.type).isNode = true) (hnn : kindOf r.type ≠ .noOp)
    (hi : r.type ≠ "insert_as_block".toList) :
    parseRow r = actionRow { r with edges := dropTrivial r.edges } := by
  simp only [parseRow, type_hard, type_loose, type_goto, type_noop, hnn, hi, if_false]
  cases hK : kindOf r.type <;> rw [hK] at hn hnn <;>
    first | (simp only [reduceCtorEq, or_self, if_false]; done) | cases hn | exact absurd rfl hnn

end Rpft.CoreSheet
