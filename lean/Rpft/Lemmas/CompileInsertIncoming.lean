/-
The edges into the block.  The twin applies them when the entry row of the template is read, through
the parents of the begin row's `no_op` group; the insert row applies them when the nested parser has
returned.  `PE` relates the twin's state at the first moment to the insert row's state at the second,
on the part of the arenas before the block (`asimE_establish`, at the nested parser's final state
`b₁`, of which it needs `B1Facts` only: the scope of `b₁` plays no part); both runs then call
`add_exit` on the same source groups in the same order, which keeps the correspondence
(`incoming_rel`).
-/
import Rpft.Lemmas.CompileInsertInside
namespace Rpft.Compile
open Rpft Function

noncomputable def PE (na nt : List Str) (s₀ : St) (kk : Nat) (b₁ t₂ : St) : Params :=
  { ρ := rhoOf (shiftFrom (s₀.next + kk) (b₁.next - (s₀.next + kk))),
    ν := shiftFrom (s₀.nodes.size + 1) (b₁.nodes.size - (s₀.nodes.size + 1)),
    γ := shiftFrom (s₀.groups.size + 2) (b₁.groups.size - (s₀.groups.size + 2)),
    DN := fun i => i ≠ s₀.nodes.size,
    DG := fun j => j < s₀.groups.size ∨ s₀.groups.size + 2 ≤ j,
    T := fun j => j = s₀.groups.size, bx := s₀.groups.size, gx := s₀.groups.size + 1,
    base₁ := t₂, base₂ := b₁, hb := False, sp := true, na := na, nt := nt }

theorem PE_ok (na nt : List Str) (s₀ : St) (kk : Nat) (b₁ t₂ : St) : (PE na nt s₀ kk b₁ t₂).Ok :=
  ⟨rhoOf_injective (shiftFrom_injective _ _), shiftFrom_injective _ _, shiftFrom_injective _ _, fun _ _ => rfl,
    fun _ hx => rhoOf_plain _ hx, fun h => Bool.noConfusion h⟩

/-- what is known of the nested parser's final state about the part before the block -/
structure B1Facts (na nt : List Str) (s₀ : St) (kk : Nat) (b₁ : St) : Prop where
  nodes : ∀ i, i < s₀.nodes.size → b₁.nodes[i]? = s₀.nodes[i]?
  groups : ∀ j, j < s₀.groups.size → b₁.groups[j]? = s₀.groups[j]?
  hna : b₁.noArgs = na
  hnt : b₁.testTypes = nt
  next : s₀.next + kk ≤ b₁.next
  nsz : s₀.nodes.size + 1 ≤ b₁.nodes.size
  gsz : s₀.groups.size + 2 ≤ b₁.groups.size

theorem B1Facts.of_sim {na nt : List Str} {s₀ : St} {kk : Nat} {e₂ b₁ b₂ : St} {r₁ : Row} {n : NodeM}
    (h : ASim (PR na nt s₀ kk e₂ r₁ n) b₁ b₂) : B1Facts na nt s₀ kk b₁ where
  nodes j hj := (h.fr1n j (Nat.not_le_of_lt hj)).trans (insA_nodes_lt hj)
  groups j hj := (h.fr1g j (Nat.not_le_of_lt hj)).trans (insA_groups_lt hj)
  hna := h.na₁
  hnt := h.nt₁
  next := h.mono₁.1
  nsz := insA_nodes_size ▸ h.mono₁.2.1
  gsz := insA_groups_size ▸ h.mono₁.2.2

section
variable {na nt : List Str} {s₀ : St} (hg : Good na nt s₀)

include hg in
theorem asimE_establish {ps : List (Nat × Cond)} {r₁ : Row} {n : NodeM} {kk : Nat} {e₂ b₁ : St}
    (hids0 : IdsOk s₀) (en : AtEntry na nt s₀ ps r₁ n kk e₂) (hb : B1Facts na nt s₀ kk b₁) :
    ASim (PE na nt s₀ kk b₁ (twT s₀ ps n kk)) (twT s₀ ps n kk) b₁ where
  na₁ := hg.hna
  na₂ := hb.hna
  nt₁ := hg.hnt
  nt₂ := hb.hnt
  mono₁ := ⟨Nat.le_refl _, Nat.le_refl _, Nat.le_refl _⟩
  mono₂ := ⟨Nat.le_refl _, Nat.le_refl _, Nat.le_refl _⟩
  idsync k := by
    show rhoOf _ (tid (s₀.next + kk + k)) = tid (b₁.next + k)
    rw [rhoOf_tid, shiftFrom_sync (Nat.le_refl _) (Nat.add_sub_cancel' hb.next).symm]
  nsync k := by
    show shiftFrom _ _ ((twT s₀ ps n kk).nodes.size + k) = b₁.nodes.size + k
    rw [twT_nodes_size, shiftFrom_sync (Nat.le_refl _) (Nat.add_sub_cancel' hb.nsz).symm]
  gsync k := by
    show shiftFrom _ _ ((twT s₀ ps n kk).groups.size + k) = b₁.groups.size + k
    rw [twT_groups_size, shiftFrom_sync (Nat.le_refl _) (Nat.add_sub_cancel' hb.gsz).symm]
  ndom i hi := by rw [twT_nodes_size] at hi; exact Nat.ne_of_gt hi
  gdom j hj := by rw [twT_groups_size] at hj; exact ⟨.inr hj, Nat.ne_of_gt (Nat.lt_of_succ_lt hj)⟩
  bxlt := twT_groups_size ▸ Nat.lt_add_of_pos_right (by decide)
  bne h := h.elim
  wf := twT_wf hg en.psv
  dex := twT_dex hg (en.ids _ (List.mem_cons_of_mem _ (List.mem_cons_self ..)))
  -- on the part before the block the maps are the identity and `b₁` holds what `s₀` held
  nodes i m hd hm := by
    obtain ⟨hi, hm⟩ := twT_nodes_old hd hm
    show b₁.nodes[shiftFrom _ _ i]? = some (rnNode (rhoOf _) m)
    rw [shiftFrom_lt (Nat.lt_succ_of_lt hi), hb.nodes i hi, hm,
      rnNode_fix (B := s₀.next) (fun k hk => shiftFrom_lt (Nat.lt_add_right kk hk)) (hids0 i m hm)]
  groups j g hd hgj := by
    obtain ⟨hj, hgj⟩ := twT_groups_old hd hgj
    have hwf := hg.wf j g hgj
    show b₁.groups[shiftFrom _ _ j]? = _
    rw [shiftFrom_lt (Nat.lt_add_right 2 hj), hb.groups j hj, hgj, mapGrpAt_fix (.inl (Nat.ne_of_lt hj))
      (fun i hi => shiftFrom_lt (Nat.lt_succ_of_lt (hwf.1 i hi)))
      (fun x hx => shiftFrom_lt (Nat.lt_add_right 2 (hwf.2 x hx)))]
  closed j g hd hgj :=
    have hwf := hg.wf j g (twT_groups_old hd hgj).2
    ⟨fun i hi => Nat.ne_of_lt (hwf.1 i hi), fun x hx => .inl (hwf.2 x hx)⟩
  ra j g hd _ hgj x hx := Nat.ne_of_lt ((hg.wf j g (twT_groups_old hd hgj).2).2 x hx)
  fr1n _ _ := rfl
  fr1g _ _ := rfl
  fr2n _ _ := rfl
  fr2g _ _ := rfl
  pl h := Bool.noConfusion h

end

theorem incoming_rel {P : Params} (ok : P.Ok) {s₀ : St} {d : Dest} (hd : rnDest P.ρ d = d)
    (hdn : P.op = true → d ≠ Dest.none) {f₁ : Nat}
    (hsrc : ∀ src, src < s₀.groups.size → P.γ src = src ∧ P.DG src ∧ ¬ P.T src)
    (hval : ∀ (e : Edge) (src : Nat) (s' : St), (groupOfEdge e).run s₀ = .ok (some src, s') → src < s₀.groups.size)
    {es : List Edge} {ps : List (Nat × Cond)} (hp : psOf s₀ es = some ps) {t w : St} (h : ASim P t w) (hsl : ScopeLike s₀ w) :
    rwp (ps.forM (fun p => addExit f₁ p.1 d p.2)) (es.forM (addRowEdge d)) t w
      (fun _ t' _ w' => ASim P t' w' ∧ SEq w w') := by
  induction es generalizing ps t w with
  | nil =>
    simp only [psOf, Option.some.injEq] at hp
    subst hp
    show rwp (pure PUnit.unit) (pure PUnit.unit) t w _
    rw [rwp_pure]
    exact ⟨h, SEq.refl _⟩
  | cons e es ih =>
    have hgw := groupOfEdge_scopeLike hsl e
    show rwp _ (addRowEdge d e >>= fun _ => es.forM (addRowEdge d)) t w _
    rcases psOf_cons hp with ⟨s', hg, hp⟩ | ⟨src, s', ps', hg, hps, rfl⟩
    · rw [hg] at hgw
      -- an edge without source does nothing on the right
      intro a t' b w' k1 k2
      rw [run_bind_of (addRowEdge_run_none hgw)] at k2
      exact ih hp h hsl a t' b w' k1 k2
    · rw [hg] at hgw
      have hlt := hval e src s' hg
      obtain ⟨hγ, hdg, hnt⟩ := hsrc src hlt
      show rwp (addExit f₁ src d e.cond >>= fun _ => ps'.forM (fun p => addExit f₁ p.1 d p.2)) _ t w _
      -- on the right the source is looked up first, then it is the same `add_exit`
      intro a t' b w' k1 k2
      rw [run_bind_congr (addRowEdge_run_some hgw)] at k2
      revert a t' b w' k1 k2
      change rwp _ _ t w _
      rw [rwp_bind]
      have hae := addExit_rel ok (f₁ := f₁) (f₂ := 2 * w.groups.size + 8) (c := e.cond) h ⟨hdg, hnt⟩ hdn
      rw [hγ, hd] at hae
      refine rwp_of_wp_right (addExit_blk (2 * w.groups.size + 8) src d e.cond w) ?_
      refine rwp_mono hae ?_
      rintro _ u₁ _ u₂ ⟨_, hu, _, e2⟩ hb2
      refine rwp_mono (ih hps hu (hsl.of_blkEq e2 hb2)) ?_
      rintro _ t' _ w' ⟨ht, e2'⟩
      exact ⟨ht, e2.trans e2'⟩

end Rpft.Compile
