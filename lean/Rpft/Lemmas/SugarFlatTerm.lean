/-
Termination of the flat machine, for ANY interface.  No law is used: row kinds may be templated, lists and
context operations arbitrary.  One invariant of every call (`Fine`, `parseBlock_fine`), proved in one pass
over `_parse_block`: a call that returns has moved the iterator forwards only and left the bookmarks of the
enclosing loops alone (`Shrinks`), and a call started with fewer rows left than fuel does not fail for lack of
fuel.  The second needs the first: an iteration restarts at the bookmark of its own loop, which the calls in
between did not touch.
-/
import Rpft.Lemmas.SugarFlatRun
namespace Rpft.SugarFlat
open Rpft Rpft.Sugar
open Rpft.Cli (RowType BlockType Fault isEndOfBlock blockEndMap)

variable {Raw Inst Ctx Val Hdr Err S : Type}

/-- a call returns with no more rows left than it started with, and with the bookmarks of the
enclosing loops (depth < `d`) untouched -/
def Shrinks (d : Nat) (s s' : St Raw Inst Ctx Hdr) : Prop :=
  s'.pos.length ≤ s.pos.length ∧ ∀ k, k < d → getMark k s'.marks = getMark k s.marks

theorem Shrinks.refl (d : Nat) (s : St Raw Inst Ctx Hdr) : Shrinks d s s := ⟨Nat.le_refl _, fun _ _ => rfl⟩

theorem Shrinks.trans {d d' : Nat} {s1 s2 s3 : St Raw Inst Ctx Hdr} (h1 : Shrinks d s1 s2)
    (h2 : Shrinks d' s2 s3) (hd : d ≤ d') : Shrinks d s1 s3 :=
  ⟨Nat.le_trans h2.1 h1.1, fun k hk => by rw [h2.2 k (Nat.lt_of_lt_of_le hk hd), h1.2 k hk]⟩

/-- `r` is acceptable as the outcome of a call started in `t` at depth `d` with fuel `n` -/
def FineAt (n d : Nat) (t : St Raw Inst Ctx Hdr) : Res Err (St Raw Inst Ctx Hdr) → Prop
  | .ok t' => Shrinks d t t'
  | .error e => t.pos.length < n → e ≠ .fuel

def Fine (n d : Nat) (f : St Raw Inst Ctx Hdr → Res Err (St Raw Inst Ctx Hdr)) : Prop :=
  ∀ t, FineAt n d t (f t)

/-- an outcome that is fine after a step that shrinks (and leaves enough fuel) is fine for the whole -/
theorem FineAt.step {n n' d d1 : Nat} {t t1 : St Raw Inst Ctx Hdr} {r : Res Err (St Raw Inst Ctx Hdr)}
    (h : FineAt n d1 t1 r) (hd : d ≤ d1) (hs : Shrinks d t t1) (hn : t.pos.length < n' → t1.pos.length < n) :
    FineAt n' d t r := by
  cases r with
  | ok t2 => exact hs.trans h hd
  | error e => exact fun hlt => h (hn hlt)

theorem Fine.mono {n d d' : Nat} {f : St Raw Inst Ctx Hdr → Res Err (St Raw Inst Ctx Hdr)} (h : Fine n d' f)
    (hd : d ≤ d') : Fine n d f :=
  fun t => (h t).step hd (Shrinks.refl d t) id

theorem FineAt.bind {n d : Nat} {t : St Raw Inst Ctx Hdr} {r : Res Err (St Raw Inst Ctx Hdr)}
    {g : St Raw Inst Ctx Hdr → Res Err (St Raw Inst Ctx Hdr)} (h : FineAt n d t r)
    (hg : ∀ t1, Shrinks d t t1 → FineAt n d t1 (g t1)) :
    FineAt n d t (match r with | .error e => .error e | .ok t1 => g t1) := by
  cases r with
  | error e => exact h
  | ok t1 => exact (hg t1 h).step (Nat.le_refl d) h (Nat.lt_of_le_of_lt h.1)

theorem skipTurn_fine {n d : Nat} (k : RowKind) {f g : St Raw Inst Ctx Hdr → Res Err (St Raw Inst Ctx Hdr)}
    (hf : Fine n d f) (hg : Fine n d g) : Fine n d (skipTurn k f g) := by
  intro s
  cases k
  · exact hf s
  · exact hg s
  all_goals exact Shrinks.refl d s

variable (I : FIface Raw Inst Ctx Val Hdr Err S)

/-- the iterations of a loop whose bookmark is `p`: each restarts at `p` and ends at or after it, so they
are fine as one call started at `p` -/
theorem iterate_fine (n d : Nat) (v : Str) (idx : Option Str)
    (body : St Raw Inst Ctx Hdr → Res Err (St Raw Inst Ctx Hdr)) (hb : Fine n (d + 1) body) (p : List Raw) :
    ∀ (xs : List (Val × Nat)) (s : St Raw Inst Ctx Hdr), getMark d s.marks = some p →
      s.pos.length ≤ p.length → FineAt n (d + 1) { s with pos := p } (iterate I d v idx body xs s) := by
  intro xs
  induction xs with
  | nil => intro s hm hp; exact ⟨hp, fun _ _ => rfl⟩
  | cons q xs ih =>
    intro s hm hp
    obtain ⟨x, k⟩ := q
    have hbody := hb { s with pos := p, ctx := bindVars I s.ctx v idx x k }
    simp only [iterate, hm]
    cases hB : body { s with pos := p, ctx := bindVars I s.ctx v idx x k } with
    | error e => rw [hB] at hbody; exact hbody
    | ok t =>
      rw [hB] at hbody
      exact (ih t ((hbody.2 d (Nat.lt_succ_self d)).trans hm) hbody.1).step (Nat.le_refl _) ⟨Nat.le_refl _, hbody.2⟩ id

theorem endLoopCtx_ne_fuel (c0 : Ctx) (v : Str) (idx : Option Str) (c : Ctx) :
    endLoopCtx I c0 v idx c ≠ .error .fuel := by
  unfold endLoopCtx popCtx
  cases I.get c v with
  | none => simp
  | some a =>
    simp only []
    cases idx with
    | none => simp
    | some i =>
      simp only []
      cases I.get (I.del c v) i <;> simp

theorem beginFor_fine {n d : Nat} (i : Inst)
    {body skip : St Raw Inst Ctx Hdr → Res Err (St Raw Inst Ctx Hdr)}
    (hb : Fine n (d + 1) body) (hs : Fine n (d + 1) skip) : Fine n d (beginFor I d i body skip) := by
  intro s
  unfold beginFor
  cases hv : I.loopVars i with
  | none => exact fun _ => nofun
  | some vi =>
    obtain ⟨v, idx⟩ := vi
    -- the group is closed and the bookmark removed: the bookmarks of the enclosing loops stay
    have fin : ∀ (s3 : St Raw Inst Ctx Hdr) (c : Ctx),
        FineAt n d s3 (match getMark d s3.marks with
          | none => (Except.error Stop.noBookmark : Res Err (St Raw Inst Ctx Hdr))
          | some _ => .ok { s3 with ctx := c, evs := s3.evs ++ [Ev.close (I.hdr i)], marks := delMark d s3.marks }) := by
      intro s3 c
      cases getMark d s3.marks with
      | none => exact fun _ => nofun
      | some _ => exact ⟨Nat.le_refl _, fun k hk => getMark_delMark_ne d k _ (Nat.ne_of_lt hk)⟩
    -- the iterations, seen from outside: the bookmark set at depth `d` is not one of the enclosing loops'
    refine ((iterate_fine I n d v idx body hb s.pos (I.iterList i).zipIdx
      { s with marks := setMark d s.pos s.marks, evs := s.evs ++ [.open_ (I.hdr i)] }
      (getMark_setMark d s.pos s.marks) (Nat.le_refl _)).step (t := s) (Nat.le_succ d)
      ⟨Nat.le_refl _, fun k hk => getMark_setMark_ne d k _ _ (Nat.ne_of_lt hk)⟩ id).bind fun s2 _ => ?_
    cases hl : I.iterList i with
    | nil =>
      simp only [List.isEmpty_nil, if_true]
      exact (hs.mono (Nat.le_succ d) s2).bind fun s3 _ => fin s3 _
    | cons a as =>
      simp only [List.isEmpty_cons, Bool.false_eq_true, if_false]
      cases hc : endLoopCtx I s.ctx v idx s2.ctx with
      | error e => exact fun _ he => endLoopCtx_ne_fuel I _ _ _ _ (he ▸ hc)
      | ok c => exact fin s2 c

theorem turnRest_fine (F d : Nat) (k : RowKind) (oi : Option Inst)
    (ih : ∀ (d : Nat) (bt : BlockType) (om : Bool), Fine F d (parseBlock I F d bt om)) :
    Fine F d (turnRest I F d k oi) := by
  intro s
  unfold turnRest
  cases oi with
  | none =>
    exact skipTurn_fine _ ((ih _ _ _).mono (Nat.le_succ d)) ((ih _ _ _).mono (Nat.le_succ d)) s
  | some i =>
    cases k <;> simp only []
    · exact beginFor_fine I i (ih (d + 1) .for_ false) (ih (d + 1) .for_ true) s
    · exact ((ih (d + 1) .block false).mono (Nat.le_succ d) { s with evs := s.evs ++ [.open_ (I.hdr i)] }).bind
        fun s2 _ => Shrinks.refl d s2
    all_goals exact Shrinks.refl d s

theorem parseBlock_fine :
    ∀ (F d : Nat) (bt : BlockType) (om : Bool), Fine F d (parseBlock I F d bt om) := by
  intro F
  induction F with
  | zero => intro d bt om s; exact fun h => absurd h (Nat.not_lt_zero _)
  | succ F ih =>
    intro d bt om s
    obtain ⟨pos, m, c, ev⟩ := s
    cases pos with
    | nil =>
      rw [parseBlock_eof]
      cases isEndOfBlock bt none with
      | error f => exact fun _ => nofun
      | ok b => exact Shrinks.refl _ _
    | cons r rest =>
      have htail : Shrinks d ⟨r :: rest, m, c, ev⟩ (⟨rest, m, c, ev⟩ : St Raw Inst Ctx Hdr) :=
        ⟨Nat.le_succ _, fun _ _ => rfl⟩
      rw [parseBlock_turn]
      cases readRow I om c r with
      | error e => exact fun _ => nofun
      | ok p =>
        dsimp only
        cases isEndOfBlock bt (some p.1) with
        | error f => exact fun _ => nofun
        | ok b =>
          cases b with
          | true => exact htail
          | false =>
            -- what the turn does is fine with fuel `F`; then the loop goes on
            exact ((turnRest_fine I F d p.1 p.2 ih ⟨rest, m, c, ev⟩).bind fun s2 _ => ih d bt om s2).step
              (Nat.le_refl d) htail Nat.lt_of_succ_lt_succ

theorem parseBlock_nofuel (F d : Nat) (bt : BlockType) (om : Bool)
    (s : St Raw Inst Ctx Hdr) (hs : s.pos.length < F) : parseBlock I F d bt om s ≠ .error .fuel := by
  intro h
  have := parseBlock_fine I F d bt om s
  rw [h] at this
  exact this hs rfl

end Rpft.SugarFlat
