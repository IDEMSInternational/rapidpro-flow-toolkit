/-
Arena invariant, the parser.  `AStep h d m`: the operation `m` keeps the invariant and the identifiers of the arena
nodes, given that `d` is a valid destination; for `add_exit` and the operations under it this is the instance
`AKept.gens` of the one walk of `Lemmas/CompileExitSteps.lean`.  Every event (row, open / close group, inserted
block) is such a step, under what the flags assume of the sheet's `_nodeId` column (`Event.noIds`, `Event.okIds`).
-/
import Rpft.Lemmas.CompileExitSteps
namespace Rpft.Compile
open Rpft

/-! "no identifiers are given in the sheet": every row, also inside inserted blocks, has an
empty `_nodeId` -/
mutual
def Event.noIds : Event → Bool
  | .row r => r.nodeUuid.isEmpty
  | .openGroup _ _ => true
  | .closeGroup _ => true
  | .insert _ body => noIdsL body
def noIdsL : List Event → Bool
  | [] => true
  | e :: es => e.noIds && noIdsL es
end

/-! "given identifiers do not look like invented ones": no `_nodeId` starts with `~` -/
mutual
def Event.okIds : Event → Bool
  | .row r => decide (¬ Invented r.nodeUuid)
  | .openGroup _ _ => true
  | .closeGroup _ => true
  | .insert _ body => okIdsL body
def okIdsL : List Event → Bool
  | [] => true
  | e :: es => e.okIds && okIdsL es
end

/-- what the flags assume of one `_nodeId` -/
def GivenOk (h : Flags) (given : Str) : Prop := (h.ids → ¬ Invented given) ∧ (h.noGiven → given = [])

/-- what the flags assume of an event / of the event sequence -/
def EvOk (h : Flags) (e : Event) : Prop := (h.ids → e.okIds = true) ∧ (h.noGiven → e.noIds = true)
def EvsOk (h : Flags) (es : List Event) : Prop := (h.ids → okIdsL es = true) ∧ (h.noGiven → noIdsL es = true)

/-- an operation that keeps the invariant, and the identifiers of the arena nodes, provided `d` is a valid
destination -/
def AStep (h : Flags) (d : Dest) (m : M PUnit) : Prop :=
  ∀ s, AInv h s → DestOk s.nodes d → wp m s (fun _ s' => AInv h s' ∧ NExt s.nodes s'.nodes)

variable {h : Flags} {d : Dest} {g ex b : Nat} {e : Edge} {edges : List Edge} {rowId nodeName act : Str}
  {ed : Edge × Str} {r : Row} {starting : Bool} {s0 : St}

theorem EvOk.row (hid : EvOk h (.row r)) : GivenOk h r.nodeUuid :=
  ⟨fun hh => by simpa [Event.okIds] using hid.1 hh, fun hh => by simpa [Event.noIds, List.isEmpty_iff] using hid.2 hh⟩

theorem EvOk.body {body : List Event} (hid : EvOk h (.insert r body)) : EvsOk h body :=
  ⟨fun hh => by simpa [Event.okIds] using hid.1 hh, fun hh => by simpa [Event.noIds] using hid.2 hh⟩

theorem EvsOk.cons {ev : Event} {es : List Event} (hid : EvsOk h (ev :: es)) : EvOk h ev ∧ EvsOk h es := by
  simp only [EvsOk, EvOk, okIdsL, noIdsL, Bool.and_eq_true] at hid ⊢
  exact ⟨⟨fun hh => (hid.1 hh).1, fun hh => (hid.2 hh).1⟩, fun hh => (hid.1 hh).2, fun hh => (hid.2 hh).2⟩

/-- the arena invariant is carried from `s` to `t`, provided `d` is a valid destination in `s` -/
def AKept (h : Flags) (d : Dest) (s t : St) : Prop :=
  AInv h s → DestOk s.nodes d → AInv h t ∧ NExt s.nodes t.nodes

theorem AKept.gens (h : Flags) : Gens (AKept h) where
  pre _ := ⟨fun _ a _ => ⟨a, NExt.refl _⟩, fun h1 h2 a hd =>
    have ⟨a1, e1⟩ := h1 a hd
    have ⟨a2, e2⟩ := h2 a1 (hd.ext e1)
    ⟨a2, e1.trans e2⟩⟩
  set hn c a hd := ⟨AInvC.set a hn c.uid (c.ok _ hd (a.ok _ _ hn)) c.grow c.le, NExt.set hn c.uid⟩
  att _ _ w a _ := ⟨AInvC.push a ((w.ok a.ok).ext (NExt.push _ _)) (fun _ => w.grow)
    (fun _ => w.uid ▸ invented_tid _) w.le, NExt.push _ _⟩
  par _ a _ := ⟨a, NExt.refl _⟩
  via hu h1 a _ := h1 a hu

theorem Frame.astep {m : M PUnit} (hm : Frame (AKept h d) m) : AStep h d m :=
  fun s a hd => wp_mono (hm s) fun _ _ r => r a hd

theorem AStep.frame {m : M PUnit} (hm : AStep h d m) : Frame (AKept h d) m :=
  fun s => (wp_def _ _ _).mpr fun _ _ hr a hd => wp_of_run (hm s a hd) hr

theorem AStep.forM {β : Type} {l : List β} {f : β → M PUnit} (hf : ∀ x ∈ l, AStep h d (f x)) : AStep h d (l.forM f) :=
  (Frame.forM ((AKept.gens h).pre d) fun x hx => (hf x hx).frame).astep

theorem AStep.pure : AStep h d (pure ()) := (Frame.pure ((AKept.gens h).pre d)).astep

theorem addRowEdge_spec : AStep h d (addRowEdge d e) := (addRowEdge_chg (AKept.gens h) e).astep

theorem noopEdge_spec : AStep h .none (noopEdge g e) := (noopEdge_chg (AKept.gens h) e).astep

theorem parseGoto_spec : AStep h .none (parseGoto r) := (parseGoto_chg (AKept.gens h) r).astep

theorem appendGroup_spec : AStep h d (appendGroup g rowId) :=
  fun s a _ => (wp_appendGroup g rowId s _).mpr fun _ _ _ _ _ => ⟨a, NExt.refl _⟩

theorem parseNoop_spec : AStep h .none (parseNoop edges rowId) := by
  intro s a _
  unfold parseNoop
  wp_simp [wp_addGrp]
  have a' : AInv h { s with groups := s.groups.push (Grp.noop [] none) } := a
  refine wp_mono (AStep.forM (fun x _ => noopEdge_spec) _ a' trivial) ?_
  rintro _ s1 ⟨a1, e1⟩
  refine wp_mono (appendGroup_spec (d := .none) s1 a1 trivial) ?_
  rintro _ s2 ⟨a2, e2⟩
  exact ⟨a2, e1.trans e2⟩

/-- what a merging row does: one action, with a fresh identifier, is added to the node `ex`; the row id, if
there is one, is recorded for some group -/
theorem mergeRow_eff (s : St) :
    wp (mergeRow r ex act) s (fun _ s' => ∃ n ids, s.nodes[ex]? = some n ∧
      (ids = s.rowIds ∨ ∃ g0, ¬ r.rowId.isEmpty = true ∧ ids = (r.rowId, g0) :: s.rowIds) ∧
      s' = { s with nodes := s.nodes.setIfInBounds ex { n with actions := n.actions ++ [(tid s.next, act)] },
                    next := s.next + 1, rowIds := ids }) := by
  unfold mergeRow
  split
  · rename_i e _
    wp_simp
    refine ⟨fun _ => trivial, fun _ => ?_⟩
    refine wp_ro (ro_predGroup e) fun pred => ?_
    split
    · wp_simp
    · wp_simp
      refine wp_ro ro_fuelOf fun fuel => ?_
      refine wp_ro (ro_entryNode _ _) fun en => ⟨fun _ => trivial, fun _ => ?_⟩
      wp_simp [wp_fresh, wp_getNode, wp_setNode]
      intro n hn
      refine ⟨fun _ => ⟨n, _, hn, .inl rfl, rfl⟩, fun hid => ?_⟩
      refine wp_ro (ro_lookupRow _) fun og => ?_
      split
      · wp_simp; exact ⟨n, _, hn, .inr ⟨_, hid, rfl⟩, rfl⟩
      · wp_simp
  · wp_simp

theorem mergeRow_spec : AStep h .none (mergeRow r ex act) := by
  intro s a _
  refine wp_mono (mergeRow_eff s) ?_
  rintro _ _ ⟨n, ids, hn, _, rfl⟩
  refine ⟨AInvC.set (b' := s.next + 1) a hn rfl ⟨(a.ok ex n hn).dests, (a.ok ex n hn).dexit, (a.ok ex n hn).cases⟩
    ?_ (by omega), NExt.set hn rfl⟩
  simp only [NodeM.fids, NodeM.innerIds, NodeM.tailIds]
  grow_new [tid s.next]

theorem rowAction_spec (r : Row) (s : St) :
    wp (rowAction r) s (fun act s' => Drew s s' [] (act.toList.map (·.1))) := by
  unfold rowAction
  split
  · wp_simp [wp_fresh]
    exact .fresh s
  · wp_simp
    exact .refl

theorem newRow_spec (hid : GivenOk h r.nodeUuid) :
    AStep h .none (newRow r nodeName) := by
  intro s a _
  unfold newRow
  wp_simp [wp_addNode, wp_addGrp]
  refine wp_mono (rowAction_spec r s) ?_
  intro act s1 h1
  refine wp_mono (rowNode_spec r act _) ?_
  intro n s2 hn
  obtain ⟨k1, rfl⟩ := h1.bump
  obtain ⟨k2, rfl⟩ := hn.drew.bump
  have a1 : AInvC h (s.nodes.push n) (s.next + k1 + k2) := by
    refine AInvC.push a ⟨fun d hd => ?_, ?_, hn.cases⟩ (fun hh => ?_) (fun hh => hn.inv (hid.2 hh))
      (Nat.le_trans h1.le hn.drew.le)
    · rw [hn.loose d hd]; trivial
    · rw [hn.dexit]; trivial
    · -- a given identifier that does not look invented is not among the identifiers the counter accounts for
      have := hn.drew
      rw [uidPart, if_neg (hid.1 hh)] at this
      exact (h1.trans this).grow
  have e1 : NExt s.nodes (s.nodes.push n) := NExt.push _ _
  refine wp_mono (AStep.forM (fun x _ => addRowEdge_spec) _ a1 DestOk.push_self) ?_
  rintro _ s3 ⟨a3, e3⟩
  have a4 : AInv h { s3 with groups := s3.groups.push (Grp.row [s.nodes.size] r.type) } := a3
  refine wp_mono (appendGroup_spec (d := .none) _ a4 trivial) ?_
  rintro _ s5 ⟨a5, e5⟩
  exact ⟨a5, (e1.trans e3).trans e5⟩

theorem actionRow_spec (hid : GivenOk h r.nodeUuid) : AStep h .none (actionRow r) := by
  intro s a _
  unfold actionRow
  wp_simp
  refine ⟨fun _ => trivial, fun _ => ?_⟩
  split
  · exact mergeRow_spec s a trivial
  · exact newRow_spec hid s a trivial

theorem parseRow_spec (h : Flags) (r : Row) (hid : GivenOk h r.nodeUuid) : AStep h .none (parseRow r) := by
  intro s a _
  unfold parseRow
  wp_simp
  -- `by exact`: the row at work is `{ r with edges := … }`, known from the goal only; its `_nodeId` is that of `r`
  refine ⟨fun _ => ?_, fun _ => ⟨fun _ => parseGoto_spec s a trivial, fun _ =>
    ⟨fun _ => parseNoop_spec s a trivial, fun _ => ⟨fun _ => trivial, fun _ =>
      actionRow_spec (by exact hid) s a trivial⟩⟩⟩⟩
  refine AStep.forM (fun x _ => addRowEdge_spec) s a ?_
  split <;> trivial

theorem openGroup_spec :
    AStep h .none (openGroup edges starting) := by
  intro s a _
  unfold openGroup
  wp_simp [wp_addGrp]
  refine ⟨fun _ => ⟨a, NExt.refl _⟩, fun _ => ?_⟩
  have a' : AInv h { s with groups := s.groups.push (Grp.block []), stack := s.groups.size :: s.stack } := a
  exact parseNoop_spec _ a' trivial

theorem closeGroup_spec : AStep h .none (closeGroup rowId) := by
  intro s a _
  rw [wp_closeGroup]
  intro b c rest _
  exact appendGroup_spec (d := .none) _ a trivial

theorem insertLeave_spec : AStep h .none (insertLeave s0 b r) := by
  intro s a _
  unfold insertLeave
  wp_simp
  refine ⟨fun _ => trivial, fun _ => ?_⟩
  refine wp_ro ro_fuelOf ?_
  intro fuel
  refine wp_ro (ro_entryNode _ _) ?_
  intro i
  wp_simp [wp_getNode]
  intro n hn
  have a' : AInv h { s with stack := s0.stack, rowIds := s0.rowIds, names := s0.names } := a
  refine wp_mono (AStep.forM (fun x _ => addRowEdge_spec) _ a' ⟨i, n, hn, rfl⟩) ?_
  rintro _ s1 ⟨a1, e1⟩
  refine wp_mono (appendGroup_spec (d := .none) _ a1 trivial) ?_
  rintro _ s2 ⟨a2, e2⟩
  exact ⟨a2, e1.trans e2⟩

mutual
theorem step_spec (h : Flags) : ∀ e : Event, EvOk h e → AStep h .none (step e)
  | .row r, hid => by unfold step; exact parseRow_spec h r hid.row
  | .openGroup edges starting, _ => by unfold step; exact openGroup_spec
  | .closeGroup rowId, _ => by unfold step; exact closeGroup_spec
  | .insert r body, hid => by
    intro s a _
    unfold step
    wp_simp [wp_insertEnter]
    refine wp_mono (steps_spec h body hid.body _ a trivial) ?_
    rintro _ s2 ⟨a2, e2⟩
    refine wp_mono (insertLeave_spec s2 a2 trivial) ?_
    rintro _ s3 ⟨a3, e3⟩
    exact ⟨a3, e2.trans e3⟩
theorem steps_spec (h : Flags) : ∀ es : List Event, EvsOk h es → AStep h .none (steps es)
  | [], _ => by unfold steps; exact AStep.pure
  | e :: es, hid => by
    intro s a _
    unfold steps
    wp_simp
    refine wp_mono (step_spec h e hid.cons.1 s a trivial) ?_
    rintro _ s1 ⟨a1, e1⟩
    refine wp_mono (steps_spec h es hid.cons.2 s1 a1 trivial) ?_
    rintro _ s2 ⟨a2, e2⟩
    exact ⟨a2, e1.trans e2⟩
end

mutual
theorem Event.okIds_of_noIds : ∀ e : Event, e.noIds = true → e.okIds = true
  | .row r, h => by
    simp only [Event.noIds, List.isEmpty_iff] at h
    simp [Event.okIds, h, Invented]
  | .openGroup _ _, _ => rfl
  | .closeGroup _, _ => rfl
  | .insert _ body, h => by
    simp only [Event.noIds] at h
    simp only [Event.okIds]; exact okIdsL_of_noIdsL body h
theorem okIdsL_of_noIdsL : ∀ es : List Event, noIdsL es = true → okIdsL es = true
  | [], _ => rfl
  | e :: es, h => by
    simp only [noIdsL, Bool.and_eq_true] at h
    simp only [okIdsL, Bool.and_eq_true]
    exact ⟨Event.okIds_of_noIds e h.1, okIdsL_of_noIdsL es h.2⟩
end

end Rpft.Compile
