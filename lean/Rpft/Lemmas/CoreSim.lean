/-
Lock-step simulation between the compiler machine (`Compile.step` on `toEvent c`) and pass 1 of the
reference interpretation (`RefFlow.pass1Row` on `toRRow c`) for the rows of the fragment.  Rows need
not produce exactly one node: `gOf rows j` is the group of a node-producing row `j` (static), the
ghost maps `M.nOf` / `M.rOf` give the arena index of its node (and of the router node the compiler
may create behind it).  After the same prefix of the sheet, the node of row `j` is the compiled form
of row `j` with the out-edges recorded for `j` so far.  Here: the relation (`NodeSim`, `RowSim`, `Rel`;
`RouterSim`: what the kinds with a switch say alike), its transport along the arena and the ghost maps
(`mapDest`), and what a step has to show (`Rel.local`, for the part `Arena` of `Rel`; `Rel.update_at`;
`Rel.update`; `Rel.set_node`, for an edge from a row that owns its node, `EdgeFrom`, to a target that is ready,
`EdgeTo`).
-/
import Rpft.Lemmas.CoreBase
namespace Rpft.CoreSheet
open Rpft Rpft.Compile Rpft.RefFlow

/-! ### where the rows live -/

/-- a row that produces a node (and a node group) -/
def isNodeRow (c : CRow) : Bool := (kindOf c.row.type).isNode && !(c.merged && isNamedAct c)

theorem isNodeRow_kind {c : CRow} (h : isNodeRow c = true) : (kindOf c.row.type).isNode = true := by
  unfold isNodeRow at h
  simp only [Bool.and_eq_true] at h
  exact h.1

theorem unmerged_of_node {c : CRow} (h : isNodeRow c = true) : (c.merged && isNamedAct c) = false := by
  unfold isNodeRow at h
  simp only [Bool.and_eq_true, Bool.not_eq_true'] at h
  exact h.2

theorem isNodeRow_of_special {c : CRow} (h : specialTypes.contains c.row.type = true) :
    isNodeRow c = (kindOf c.row.type).isNode := by
  unfold isNodeRow
  rw [not_named_of_special h]; simp

theorem isNodeRow_of_unmerged {c : CRow} (h : c.merged = false) : isNodeRow c = (kindOf c.row.type).isNode := by
  unfold isNodeRow
  rw [h]; simp

theorem isNodeRow_of_merged {c : CRow} (hmg : c.merged = true) (hna : isNamedAct c = true) : isNodeRow c = false := by
  unfold isNodeRow
  rw [hmg, hna]
  exact Bool.and_false _

/-- the node group of a node-producing row: groups are created in row order, group 0 is the root -/
def gOf (rows : List CRow) (j : Nat) : Nat := ((rows.take j).filter isNodeRow).length + 1

theorem gOf_zero (rows : List CRow) : gOf rows 0 = 1 := by simp [gOf]

theorem gOf_pos (rows : List CRow) (j : Nat) : 1 ≤ gOf rows j := by unfold gOf; omega

theorem gOf_succ (rows : List CRow) (j : Nat) (c : CRow) (h : rows[j]? = some c) :
    gOf rows (j + 1) = gOf rows j + (if isNodeRow c then 1 else 0) := by
  unfold gOf
  rw [List.take_add_one, h]
  simp only [Option.toList, List.filter_append, List.length_append]
  by_cases hn : isNodeRow c = true
  · simp [hn]
  · simp [hn]

theorem gOf_mono (rows : List CRow) {j k : Nat} (h : j ≤ k) : gOf rows j ≤ gOf rows k := by
  unfold gOf
  have : (rows.take j).Sublist (rows.take k) := (List.take_sublist_take_left h)
  have := (this.filter isNodeRow).length_le
  omega

theorem gOf_lt (rows : List CRow) {j k : Nat} {c : CRow} (h : j < k) (hc : rows[j]? = some c)
    (hn : isNodeRow c = true) : gOf rows j < gOf rows k := by
  have h1 := gOf_succ rows j c hc
  rw [hn] at h1
  have h2 := gOf_mono rows (show j + 1 ≤ k from h)
  simp at h1; omega

theorem gOf_inj (rows : List CRow) {j j' : Nat} {c c' : CRow} (hc : rows[j]? = some c) (hc' : rows[j']? = some c')
    (hn : isNodeRow c = true) (hn' : isNodeRow c' = true) (h : gOf rows j = gOf rows j') : j = j' := by
  rcases Nat.lt_trichotomy j j' with h1 | h1 | h1
  · have := gOf_lt rows h1 hc hn; omega
  · exact h1
  · have := gOf_lt rows h1 hc' hn'; omega

theorem lookup_ids (rows : List CRow) (ids : List (Str × Nat)) (id : Str) :
    ((ids.map (fun p => (p.1, gOf rows p.2))).find? (·.1 = id)).map (·.2) = (lookupId ids id).map (gOf rows) := by
  unfold lookupId
  rw [List.find?_map]
  simp [Option.map_map, Function.comp_def]

theorem isNoop_of_kind {c : CRow} (h : kindOf c.row.type = .noOp) : isNoop c = true :=
  decide_eq_true (type_noop.mpr h)

theorem kind_of_noop {c : CRow} (h : isNoop c = true) : kindOf c.row.type = .noOp :=
  type_noop.mp (of_decide_eq_true h)

theorem isNodeRow_of_noop {c : CRow} (h : isNoop c = true) : isNodeRow c = true := by
  have hk := kind_of_noop h
  rw [isNodeRow_of_special (special_of_kind (by rw [hk]; decide)), hk]
  rfl

theorem action_not_noop {c : CRow} (h : kindOf c.row.type = .action) : isNoop c = false :=
  decide_eq_false (fun e => by rw [type_noop.mp e] at h; cases h)

theorem isNoop_of_named {c : CRow} (h : isNamedAct c = true) : isNoop c = false :=
  action_not_noop (kindOf_of_named h)

/-! ### the nodes of a row, kind by kind -/

/-- ghost maps: arena index of the node of a row, and of the router node behind it (if any) -/
structure Maps where
  nOf : Nat → Nat
  rOf : Nat → Option Nat
  /-- the row owns no node: a `no_op` row that has not been left yet, or that has been left
  unconditionally (then `nOf` is the node its sources lead to) -/
  el : Nat → Bool := fun _ => false
  /-- a `no_op` row that has not been left yet -/
  fr : Nat → Bool := fun _ => false

/-- destination `d` of a compiled exit is what the reference target means -/
def DestIs (M : Maps) (ns : Array NodeM) (d : Dest) : Option Target → Prop
  | none => d = Dest.none
  | some (.row t) => ∃ m : NodeM, ns[M.nOf t]? = some m ∧ d = Dest.node m.uid
  | some .exit => d = Dest.hard ∨ d = Dest.none

/-- from `(M, ns)` to `(M', ns')` the node of row `k` keeps its identifier -/
def Keeps (M : Maps) (ns : Array NodeM) (M' : Maps) (ns' : Array NodeM) (k : Nat) : Prop :=
  ∀ m, ns[M.nOf k]? = some m → ∃ m', ns'[M'.nOf k]? = some m' ∧ m'.uid = m.uid

theorem DestIs.map {M M' : Maps} {ns ns' : Array NodeM} {d : Dest} {t : Option Target}
    (h : ∀ k, t = some (Target.row k) → Keeps M ns M' ns' k) (hd : DestIs M ns d t) : DestIs M' ns' d t := by
  cases t with
  | none => exact hd
  | some t =>
    cases t with
    | exit => exact hd
    | row k =>
      obtain ⟨m, hm, e⟩ := hd
      obtain ⟨m', hm', hu⟩ := h k rfl m hm
      exact ⟨m', hm', by rw [e, hu]⟩

theorem DestIs.ext {M : Maps} {ns ns' : Array NodeM} (h : NExt ns ns') {d : Dest} {t : Option Target}
    (hd : DestIs M ns d t) : DestIs M ns' d t :=
  hd.map (fun _ _ m hm => h _ m hm)

theorem DestIs.congrM {M M' : Maps} {ns : Array NodeM} {d : Dest} {t : Option Target}
    (h : ∀ k, t = some (Target.row k) → M'.nOf k = M.nOf k) (hd : DestIs M ns d t) : DestIs M' ns d t :=
  hd.map (fun k hk m hm => ⟨m, by rw [h k hk]; exact hm, rfl⟩)

theorem DestIs.congrN {M M' : Maps} (hM : ∀ t, M'.nOf t = M.nOf t) {ns : Array NodeM} {d : Dest} {t : Option Target}
    (hd : DestIs M ns d t) : DestIs M' ns d t :=
  hd.congrM (fun k _ => hM k)

/-- an action row without conditional out-edges: one node, one exit -/
structure PlainSim (M : Maps) (ns : Array NodeM) (n : NodeM) (act : Option Str) (post : List Str) (es : List OutEdge) :
    Prop where
  kind : n.kind = NodeKind.basic
  router : n.router = none
  /-- its own action, then the actions of the rows merged into the node -/
  acts : n.actions.map (·.2) = act.toList ++ post
  dest : DestIs M ns n.dexitDest ((es.getLast?).map (·.tgt))
  blank : ∀ e ∈ es, e.cond.blank = true

/-- the `wait` attribute of the router of a deciding row -/
def waitOf (c : CRow) : Option Nat :=
  if c.row.type = "wait_for_response".toList then some (timeoutOf c.row) else none

/-- a deciding row: one node with a switch router; case `i` selects category `i`, whose exit leads
where the `i`-th test edge leads; the default category follows the last unconditional edge, the
"No Response" category (when there is a timeout) the last "no response" edge -/
structure SwitchSim (M : Maps) (ns : Array NodeM) (n : NodeM) (c : CRow) (es : List OutEdge) (r : SwitchR) : Prop where
  kind : n.kind = NodeKind.switch
  acts : n.actions = []
  router : n.router = some (.sw r)
  operand : r.operand = operandOf c.row
  rname : r.resultName = some c.row.saveName
  wait : r.wait = waitOf c
  nrSome : r.noResp.isSome = true ↔ ∃ m, r.wait = some (m + 1)
  cases : r.cases.map (fun k => (k.type, k.args.map (·.getD []))) =
    (testsOf (kindOf c.row.type) es).map (fun e => refTest (kindOf c.row.type) e.cond)
  casecat : r.cases.map (·.catUid) = r.cats.map (·.uid)
  catd : List.Forall₂ (fun (cat : Cat) (e : OutEdge) => DestIs M ns cat.dest (some e.tgt)) r.cats
    (testsOf (kindOf c.row.type) es)
  dflt : DestIs M ns r.dflt.dest (((es.filter (·.cond.blank)).getLast?).map (·.tgt))
  nr : ∀ nr, r.noResp = some nr →
    DestIs M ns nr.dest ((((es.filter (fun e => !e.cond.blank)).filter (fun e => isNR e.cond)).getLast?).map (·.tgt))
  names : r.cats.map (·.name) = namesFrom (kindOf c.row.type) (timeoutOf c.row) [] (testsOf (kindOf c.row.type) es) ∧
    ([r.dflt] ++ r.noResp.toList).map (·.name) = baseNames (kindOf c.row.type) (timeoutOf c.row)

/-- the edges that set the first outcome (Complete / Success) of a fixed-outcome row -/
def isSucc (K : Kind) (e : OutEdge) : Bool :=
  if K = .enterFlow then
    (decide (RefFlow.lower e.cond.value = "complete".toList) || decide (RefFlow.lower e.cond.value = "completed".toList))
  else decide (RefFlow.lower e.cond.value = "success".toList)

/-- the edges that set the other outcome (Expired / Failure) -/
def isFail (K : Kind) (e : OutEdge) : Bool :=
  if K = .enterFlow then decide (RefFlow.lower e.cond.value = "expired".toList)
  else (e.cond.blank || decide (RefFlow.lower e.cond.value = "failure".toList))

def fixKind : Kind → NodeKind
  | .enterFlow => .enter
  | .webhook => .webhook
  | _ => .airtime

def succName (K : Kind) : Str := if K = .enterFlow then "Complete".toList else "Success".toList

/-- the (fixed) cases of such a row: test type, arguments, category -/
def fixCases (K : Kind) (su du : Uid) : List (Str × List Str × Uid) :=
  match K with
  | .enterFlow => [("has_only_text".toList, ["completed".toList], su), ("has_only_text".toList, ["expired".toList], du)]
  | .webhook => [("has_only_text".toList, ["Success".toList], su)]
  | _ => [("has_category".toList, ["Success".toList], su)]

/-- a `start_new_flow` / `call_webhook` / `transfer_airtime` row: one node performing the row's own
action, with a switch whose cases are fixed; category `sc` (Complete / Success) follows the last
edge naming that outcome, the default category (Expired / Failure) the last edge naming the other -/
structure FixSim (M : Maps) (ns : Array NodeM) (n : NodeM) (c : CRow) (es : List OutEdge) (r : SwitchR) (sc : Cat) : Prop where
  kind : n.kind = fixKind (kindOf c.row.type)
  acts : n.actions.map (·.2) = [c.row.ownAction.getD []]
  router : n.router = some (.sw r)
  operand : r.operand = operandOf c.row
  rname : r.resultName = none
  wait : r.wait = none
  noResp : r.noResp = none
  cats : r.cats = [sc]
  sname : sc.name = succName (kindOf c.row.type)
  uidne : sc.uid ≠ r.dflt.uid
  cases : r.cases.map (fun k => (k.type, k.args.map (·.getD []), k.catUid)) = fixCases (kindOf c.row.type) sc.uid r.dflt.uid
  succ : DestIs M ns sc.dest (((es.filter (isSucc (kindOf c.row.type))).getLast?).map (·.tgt))
  dflt : DestIs M ns r.dflt.dest (((es.filter (isFail (kindOf c.row.type))).getLast?).map (·.tgt))

theorem isSucc_enter (e : OutEdge) : isSucc .enterFlow e = true ↔
    (RefFlow.lower e.cond.value = "complete".toList ∨ RefFlow.lower e.cond.value = "completed".toList) := by
  unfold isSucc
  rw [if_pos rfl, Bool.or_eq_true, decide_eq_true_iff, decide_eq_true_iff]

theorem isFail_enter (e : OutEdge) : isFail .enterFlow e = true ↔ RefFlow.lower e.cond.value = "expired".toList := by
  unfold isFail
  rw [if_pos rfl, decide_eq_true_iff]

theorem isSucc_hook (K : Kind) (hK : K ≠ .enterFlow) (e : OutEdge) :
    isSucc K e = true ↔ RefFlow.lower e.cond.value = "success".toList := by
  unfold isSucc
  rw [if_neg hK, decide_eq_true_iff]

theorem isFail_hook (K : Kind) (hK : K ≠ .enterFlow) (e : OutEdge) :
    isFail K e = true ↔ (e.cond.blank = true ∨ RefFlow.lower e.cond.value = "failure".toList) := by
  unfold isFail
  rw [if_neg hK, Bool.or_eq_true, decide_eq_true_iff]

theorem isFail_of_isSucc {K : Kind} {e : OutEdge} (h : isSucc K e = true) : isFail K e = false := by
  refine eq_false_of_ne_true (fun hf => ?_)
  by_cases hK : K = .enterFlow
  · subst hK
    have hx := (isFail_enter e).mp hf
    rcases (isSucc_enter e).mp h with hv | hv <;> rw [hv] at hx <;> exact absurd hx (by decide)
  · have hv := (isSucc_hook K hK e).mp h
    rcases (isFail_hook K hK e).mp hf with hb | hx
    · unfold RefFlow.Cond.blank at hb
      simp only [Bool.and_eq_true, List.isEmpty_iff] at hb
      rw [hb.1.1.1] at hv
      exact absurd hv (by decide)
    · rw [hv] at hx; exact absurd hx (by decide)

/-- a `split_random` row: one node with a random router; its categories are the buckets of the
leaving edges, in order of first appearance, each leading where its last edge leads -/
structure RandSim (M : Maps) (ns : Array NodeM) (n : NodeM) (c : CRow) (es : List OutEdge) (r : RandomR) : Prop where
  kind : n.kind = NodeKind.random
  acts : n.actions = []
  router : n.router = some (.rnd r)
  rname : r.resultName = some c.row.saveName
  uids : (r.cats.map (·.uid)).Nodup
  names : (r.cats.map (·.name)).Nodup
  rel : List.Forall₂ (fun (cat : Cat) (b : Str × Target) => DestIs M ns cat.dest (some b.2) ∧ NameRel cat.name b.1)
    r.cats (bucketsOf es).1
  gen : ∀ cat ∈ r.cats, ∀ k, cat.name = "Bucket ".toList ++ Compile.natStr k → k < r.cats.length + 2

/-- a `no_op` row with conditional out-edges: one node with a switch router on the variable the edges
name, no action, no wait -/
structure NopSim (M : Maps) (ns : Array NodeM) (n : NodeM) (c : CRow) (es : List OutEdge) (r : SwitchR) : Prop where
  kind : n.kind = NodeKind.switch
  acts : n.actions = []
  router : n.router = some (.sw r)
  operand : r.operand ≠ [] ∧ (testsOf .noOp es ≠ [] → r.operand = implVar es)
  rname : r.resultName = none
  wait : r.wait = none
  noResp : r.noResp = none
  cases : r.cases.map (fun k => (k.type, k.args.map (·.getD []))) =
    (testsOf .noOp es).map (fun e => refTest .noOp e.cond)
  casecat : r.cases.map (·.catUid) = r.cats.map (·.uid)
  catd : List.Forall₂ (fun (cat : Cat) (e : OutEdge) => DestIs M ns cat.dest (some e.tgt)) r.cats (testsOf .noOp es)
  dflt : DestIs M ns r.dflt.dest (((es.filter (·.cond.blank)).getLast?).map (·.tgt))
  names : r.cats.map (·.name) = namesFrom .noOp (timeoutOf c.row) [] (testsOf .noOp es) ∧
    r.dflt.name = "Other".toList

inductive NodeSim (M : Maps) (ns : Array NodeM) (n : NodeM) (c : CRow) (post : List Str) (es : List OutEdge) : Prop
  | plain : kindOf c.row.type = .action → PlainSim M ns n c.row.action post es → NodeSim M ns n c post es
  | sw (r : SwitchR) : (kindOf c.row.type = .wait ∨ kindOf c.row.type = .splitValue ∨ kindOf c.row.type = .splitGroup) →
      SwitchSim M ns n c es r → NodeSim M ns n c post es
  | fix (r : SwitchR) (sc : Cat) : isFixedKind (kindOf c.row.type) → FixSim M ns n c es r sc → NodeSim M ns n c post es
  | rnd (r : RandomR) : kindOf c.row.type = .splitRandom → RandSim M ns n c es r → NodeSim M ns n c post es
  | nop (r : SwitchR) : kindOf c.row.type = .noOp → NopSim M ns n c es r → NodeSim M ns n c post es

/-! #### transport along the arena and the ghost maps -/

theorem DestIs.map_last {M M' : Maps} {ns ns' : Array NodeM} {es : List OutEdge}
    (h : ∀ e ∈ es, ∀ k, e.tgt = Target.row k → Keeps M ns M' ns' k) {l : List OutEdge} (hl : ∀ e ∈ l, e ∈ es) {d : Dest}
    (hd : DestIs M ns d ((l.getLast?).map (·.tgt))) : DestIs M' ns' d ((l.getLast?).map (·.tgt)) := by
  refine hd.map (fun k hk => ?_)
  cases hg : l.getLast? with
  | none => rw [hg] at hk; cases hk
  | some e =>
    rw [hg] at hk
    exact h e (hl e (List.mem_of_getLast? hg)) k (by simpa using hk)

/-- What `SwitchSim`, `NopSim` and the router half of `ImplSim` say alike: the switch `r` mirrors the out-edges `es` of a row
of kind `K`.  Case `i` selects category `i`, whose exit leads where the `i`-th test edge leads; the default category follows
the last unconditional edge, the "No Response" category the last "no response" edge; the categories are named as the
reference names them. -/
structure RouterSim (M : Maps) (ns : Array NodeM) (K : Kind) (tmo : Nat) (es : List OutEdge) (r : SwitchR) : Prop where
  cases : r.cases.map (fun k => (k.type, k.args.map (·.getD []))) = (testsOf K es).map (fun e => refTest K e.cond)
  casecat : r.cases.map (·.catUid) = r.cats.map (·.uid)
  catd : List.Forall₂ (fun (cat : Cat) (e : OutEdge) => DestIs M ns cat.dest (some e.tgt)) r.cats (testsOf K es)
  dflt : DestIs M ns r.dflt.dest (((es.filter (·.cond.blank)).getLast?).map (·.tgt))
  nr : ∀ nr, r.noResp = some nr →
    DestIs M ns nr.dest ((((es.filter (fun e => !e.cond.blank)).filter (fun e => isNR e.cond)).getLast?).map (·.tgt))
  names : r.cats.map (·.name) = namesFrom K tmo [] (testsOf K es) ∧
    ([r.dflt] ++ r.noResp.toList).map (·.name) = baseNames K tmo

theorem SwitchSim.rsim {M : Maps} {ns : Array NodeM} {n : NodeM} {c : CRow} {es : List OutEdge} {r : SwitchR}
    (hp : SwitchSim M ns n c es r) : RouterSim M ns (kindOf c.row.type) (timeoutOf c.row) es r :=
  ⟨hp.cases, hp.casecat, hp.catd, hp.dflt, hp.nr, hp.names⟩

theorem NopSim.rsim {M : Maps} {ns : Array NodeM} {n : NodeM} {c : CRow} {es : List OutEdge} {r : SwitchR}
    (hp : NopSim M ns n c es r) : RouterSim M ns .noOp (timeoutOf c.row) es r :=
  ⟨hp.cases, hp.casecat, hp.catd, hp.dflt, fun nr h => (by rw [hp.noResp] at h; cases h), hp.names.1,
    by rw [hp.noResp, baseNames_plain .noOp (by decide), ← hp.names.2]; rfl⟩

namespace RouterSim
variable {M M' : Maps} {ns ns' : Array NodeM} {K : Kind} {tmo : Nat} {es : List OutEdge} {r : SwitchR}

theorem allNames (hp : RouterSim M ns K tmo es r) :
    r.allCats.map (·.name) = namesFrom K tmo [] (testsOf K es) ++ baseNames K tmo := by
  unfold SwitchR.allCats
  rw [List.append_assoc, List.map_append, hp.names.1, hp.names.2]

/-- a `RouterSim` speaks of the arena and of the ghost maps through the targets of `es` only; so do `NodeSim` and
`RowSim` -/
theorem mapDest (h : ∀ e ∈ es, ∀ k, e.tgt = Target.row k → Keeps M ns M' ns' k) (hp : RouterSim M ns K tmo es r) :
    RouterSim M' ns' K tmo es r :=
  ⟨hp.cases, hp.casecat,
    forall2_imp_mem hp.catd (fun _ e he hd => hd.map (fun k hk => h e (mem_of_mem_tests he) k (by simpa using hk))),
    hp.dflt.map_last h (fun e he => (List.mem_filter.mp he).1),
    fun nr hnr => (hp.nr nr hnr).map_last h (fun e he => (List.mem_filter.mp (List.mem_filter.mp he).1).1), hp.names⟩

theorem ext (hp : RouterSim M ns K tmo es r) (h : NExt ns ns') : RouterSim M ns' K tmo es r :=
  hp.mapDest (fun _ _ _ _ m hm => h _ m hm)

end RouterSim

theorem NodeSim.mapDest {M M' : Maps} {ns ns' : Array NodeM} {n : NodeM} {c : CRow} {post : List Str} {es : List OutEdge}
    (h : ∀ e ∈ es, ∀ k, e.tgt = Target.row k → Keeps M ns M' ns' k) (hs : NodeSim M ns n c post es) :
    NodeSim M' ns' n c post es := by
  cases hs with
  | plain hk hp =>
    exact .plain hk ⟨hp.kind, hp.router, hp.acts, hp.dest.map_last h (fun e he => he), hp.blank⟩
  | sw r hk hp =>
    have hr := hp.rsim.mapDest h
    exact .sw r hk ⟨hp.kind, hp.acts, hp.router, hp.operand, hp.rname, hp.wait, hp.nrSome, hr.cases, hr.casecat, hr.catd,
      hr.dflt, hr.nr, hr.names⟩
  | fix r sc hk hp =>
    exact .fix r sc hk ⟨hp.kind, hp.acts, hp.router, hp.operand, hp.rname, hp.wait, hp.noResp, hp.cats, hp.sname,
      hp.uidne, hp.cases, hp.succ.map_last h (fun e he => (List.mem_filter.mp he).1),
      hp.dflt.map_last h (fun e he => (List.mem_filter.mp he).1)⟩
  | rnd r hk hp =>
    refine .rnd r hk ⟨hp.kind, hp.acts, hp.router, hp.rname, hp.uids, hp.names, ?_, hp.gen⟩
    refine forall2_imp_mem hp.rel (fun cat b hb hd => ⟨hd.1.map (fun k hk => ?_), hd.2⟩)
    obtain ⟨e, he, het⟩ := buckets_tgt es b hb
    exact h e he k (by rw [het]; simpa using hk)
  | nop r hk hp =>
    have hr := hp.rsim.mapDest h
    exact .nop r hk ⟨hp.kind, hp.acts, hp.router, hp.operand, hp.rname, hp.wait, hp.noResp, hr.cases, hr.casecat, hr.catd,
      hr.dflt, hr.names.1, hp.names.2⟩

/-! #### an action row with conditional out-edges: the compiler puts a router node behind its node -/

/-- what the router behind the node of an action row decides on: the variable its conditional edges
name, or the reply -/
def implOperand (es : List OutEdge) : Str := if (implVar es).isEmpty then "@input.text".toList else implVar es

/-- that router waits for a reply iff the edges name no variable -/
def implWait (es : List OutEdge) : Option Nat := if (implVar es).isEmpty then some 0 else none

/-- node `n` performs the action and leads to node `n'` (arena index `i'`), which decides -/
structure ImplSim (M : Maps) (ns : Array NodeM) (n : NodeM) (c : CRow) (post : List Str) (es : List OutEdge) (i' : Nat)
    (n' : NodeM) (r : SwitchR) : Prop where
  kind : n.kind = NodeKind.basic
  router : n.router = none
  acts : n.actions.map (·.2) = c.row.action.toList ++ post
  link : n.dexitDest = Dest.node n'.uid
  rnode : ns[i']? = some n'
  kind' : n'.kind = NodeKind.switch
  acts' : n'.actions = []
  router' : n'.router = some (.sw r)
  operand : r.operand = implOperand es
  rname : r.resultName = none
  wait : r.wait = implWait es
  noResp : r.noResp = none
  cases : r.cases.map (fun k => (k.type, k.args.map (·.getD []))) =
    (testsOf .action es).map (fun e => refTest .action e.cond)
  casecat : r.cases.map (·.catUid) = r.cats.map (·.uid)
  catd : List.Forall₂ (fun (cat : Cat) (e : OutEdge) => DestIs M ns cat.dest (some e.tgt)) r.cats (testsOf .action es)
  dflt : DestIs M ns r.dflt.dest (((es.filter (·.cond.blank)).getLast?).map (·.tgt))
  some : testsOf .action es ≠ []
  names : r.cats.map (·.name) = namesFrom .action (timeoutOf c.row) [] (testsOf .action es) ∧
    r.dflt.name = "Other".toList

/-- the nodes of a row: one node, or (action row with conditional out-edges) two -/
inductive RowSim (M : Maps) (ns : Array NodeM) (n : NodeM) (c : CRow) (post : List Str) (es : List OutEdge) :
    Option Nat → Prop
  | one : NodeSim M ns n c post es → RowSim M ns n c post es none
  | impl (i' : Nat) (n' : NodeM) (r : SwitchR) : kindOf c.row.type = .action → ImplSim M ns n c post es i' n' r →
      RowSim M ns n c post es (some i')

theorem ImplSim.rsim {M : Maps} {ns : Array NodeM} {n : NodeM} {c : CRow} {post : List Str} {es : List OutEdge} {i' : Nat}
    {n' : NodeM} {r : SwitchR} (hp : ImplSim M ns n c post es i' n' r) : RouterSim M ns .action (timeoutOf c.row) es r :=
  ⟨hp.cases, hp.casecat, hp.catd, hp.dflt, fun nr h => (by rw [hp.noResp] at h; cases h), hp.names.1,
    by rw [hp.noResp, baseNames_plain .action (by decide), ← hp.names.2]; rfl⟩

section
variable {M M' : Maps} {ns ns' : Array NodeM} {n : NodeM} {c : CRow} {post : List Str} {es : List OutEdge} {ro : Option Nat}

theorem RowSim.mapDest (h : ∀ e ∈ es, ∀ k, e.tgt = Target.row k → Keeps M ns M' ns' k)
    (hro : ∀ i ∈ ro.toList, ns'[i]? = ns[i]?) (hs : RowSim M ns n c post es ro) : RowSim M' ns' n c post es ro := by
  cases hs with
  | one hn => exact .one (hn.mapDest h)
  | impl i' n' r hk hp =>
    have hr := hp.rsim.mapDest h
    exact .impl i' n' r hk ⟨hp.kind, hp.router, hp.acts, hp.link, by rw [hro i' (by simp)]; exact hp.rnode, hp.kind',
      hp.acts', hp.router', hp.operand, hp.rname, hp.wait, hp.noResp, hr.cases, hr.casecat, hr.catd, hr.dflt, hp.some,
      hr.names.1, hp.names.2⟩

theorem RowSim.transfer (h : NExt ns ns') (hro : ∀ i ∈ ro.toList, ns'[i]? = ns[i]?) (hs : RowSim M ns n c post es ro) :
    RowSim M ns' n c post es ro :=
  hs.mapDest (fun _ _ _ _ m hm => h _ m hm) hro

theorem RowSim.congrM (h : ∀ e ∈ es, ∀ k, e.tgt = Target.row k → M'.nOf k = M.nOf k) (hs : RowSim M ns n c post es ro) :
    RowSim M' ns n c post es ro :=
  hs.mapDest (fun e he k hk m hm => ⟨m, by rw [h e he k hk]; exact hm, rfl⟩) (fun _ _ => rfl)

theorem RowSim.congrN (hM : ∀ t, M'.nOf t = M.nOf t) (hs : RowSim M ns n c post es ro) : RowSim M' ns n c post es ro :=
  hs.congrM (fun _ _ k _ => hM k)

end

/-! ### the relation -/

/-- the arena indices of the nodes of row `j` -/
def idxs (M : Maps) (j : Nat) : List Nat := M.nOf j :: (M.rOf j).toList

/-- the category identifiers of the random routers in the arena were drawn from the counter -/
def RFresh (nodes : Array NodeM) (next : Nat) : Prop :=
  ∀ (i : Nat) (n : NodeM) (r : RandomR), nodes[i]? = some n → n.router = some (RouterM.rnd r) →
    ∀ cat ∈ r.cats, ∃ k, k < next ∧ cat.uid = tid k

theorem RFresh.step {ns ns' : Array NodeM} {nx nx' : Nat} (h : RFresh ns nx) (hnx : nx ≤ nx')
    (hnodes : ∀ (i : Nat) (n : NodeM), ns'[i]? = some n → (∃ m : NodeM, ns[i]? = some m ∧ m.router = n.router) ∨
      ∀ r, n.router = some (RouterM.rnd r) → ∀ cat ∈ r.cats, ∃ k, k < nx' ∧ cat.uid = tid k) :
    RFresh ns' nx' := by
  intro i n r hn hr cat hcat
  rcases hnodes i n hn with ⟨m, hm, e⟩ | hnew
  · obtain ⟨k, hk, e'⟩ := h i m r hm (e.trans hr) cat hcat
    exact ⟨k, by omega, e'⟩
  · exact hnew r hr cat hcat

/-- the actions the rows before row `kg` have merged into the node of row `j` (they carry its node
name and the mark) -/
def postUpTo (rows : List CRow) (kg j : Nat) : List Str :=
  match rows[j]? with
  | some c =>
    if !isNamedAct c then []
    else ((rows.take kg).drop (j + 1)).filterMap fun c' =>
      if c'.merged && isNamedAct c' && decide (c'.row.nodeName = c.row.nodeName) then c'.row.action else none
  | none => []

theorem postUpTo_le (rows : List CRow) {kg j : Nat} (h : kg ≤ j + 1) : postUpTo rows kg j = [] := by
  unfold postUpTo
  cases rows[j]? with
  | none => rfl
  | some c =>
    simp only
    split
    · rfl
    · have : (rows.take kg).drop (j + 1) = [] := by
        rw [List.drop_eq_nil_iff]; simp; omega
      rw [this]; rfl

theorem postUpTo_skip (rows : List CRow) (k j : Nat) (cj : CRow) (hcj : rows[j]? = some cj)
    (hm : mergedNamed rows cj.row.nodeName k = false) : postUpTo rows (k + 1) j = postUpTo rows k j := by
  unfold postUpTo
  rw [hcj]
  simp only
  split
  · rfl
  · rw [List.take_add_one]
    unfold mergedNamed at hm
    cases hk : rows[k]? with
    | none => simp
    | some c =>
      rw [hk] at hm
      simp only at hm
      simp only [Option.toList, List.drop_append, List.filterMap_append]
      have : ([c].drop (j + 1 - (rows.take k).length)).filterMap (fun c' =>
          if c'.merged && isNamedAct c' && decide (c'.row.nodeName = cj.row.nodeName) then c'.row.action else none) = [] := by
        cases hd : (j + 1 - (rows.take k).length) with
        | zero => simp only [List.drop_zero, List.filterMap_cons, List.filterMap_nil, hm]; rfl
        | succ m => simp
      rw [this, List.append_nil]

theorem postUpTo_succ (rows : List CRow) (k j : Nat) (c : CRow) (hc : rows[k]? = some c)
    (hm : (c.merged && isNamedAct c) = false) : postUpTo rows (k + 1) j = postUpTo rows k j := by
  cases hcj : rows[j]? with
  | none => unfold postUpTo; rw [hcj]
  | some cj =>
    refine postUpTo_skip rows k j cj hcj ?_
    unfold mergedNamed
    rw [hc]
    simp only [hm, Bool.false_and]

theorem postUpTo_merge (rows : List CRow) (k R : Nat) (c cR : CRow) (hc : rows[k]? = some c) (hcR : rows[R]? = some cR)
    (hR : R < k) (hmg : c.merged = true) (hna : isNamedAct c = true) (hnaR : isNamedAct cR = true)
    (hnm : c.row.nodeName = cR.row.nodeName) :
    postUpTo rows (k + 1) R = postUpTo rows k R ++ c.row.action.toList := by
  unfold postUpTo
  rw [hcR]
  simp only [hnaR, Bool.not_true, Bool.false_eq_true, if_false]
  rw [List.take_add_one, hc]
  have hk : k < rows.length := lt_length_of_getElem? hc
  have hlen : (rows.take k).length = k := by rw [List.length_take]; omega
  simp only [Option.toList, List.drop_append, List.filterMap_append, hlen]
  have : R + 1 - k = 0 := by omega
  rw [this]
  simp only [List.drop_zero, List.filterMap_cons, List.filterMap_nil, hmg, hna, hnm, Bool.and_self, decide_true,
    if_true]
  cases c.row.action <;> rfl

theorem postUpTo_other (rows : List CRow) (k j : Nat) (c : CRow) (hc : rows[k]? = some c)
    (hj : ∀ cj, rows[j]? = some cj → isNamedAct cj = true → c.row.nodeName ≠ cj.row.nodeName) :
    postUpTo rows (k + 1) j = postUpTo rows k j := by
  cases hcj : rows[j]? with
  | none => unfold postUpTo; rw [hcj]
  | some cj =>
    cases hn : isNamedAct cj with
    | false => unfold postUpTo; rw [hcj]; simp [hn]
    | true =>
      refine postUpTo_skip rows k j cj hcj ?_
      unfold mergedNamed
      rw [hc]
      simp [hj cj hcj hn]

/-- the mark is what `mergeAt` says -/
def Annot (rows : List CRow) : Prop := ∀ j c, rows[j]? = some c → c.merged = mergeAt rows j

theorem Annot.merged_iff {rows : List CRow} (ha : Annot rows) {j : Nat} {c : CRow} (hc : rows[j]? = some c)
    (hna : isNamedAct c = true) :
    c.merged = true ↔ ∃ i ci, i < j ∧ rows[i]? = some ci ∧ isNamedAct ci = true ∧ ci.row.nodeName = c.row.nodeName := by
  rw [ha j c hc]
  unfold mergeAt
  simp only [hc, hna, Bool.true_and, List.any_eq_true, Bool.and_eq_true, decide_eq_true_eq, List.mem_iff_getElem?,
    List.getElem?_take]
  constructor
  · rintro ⟨ci, ⟨i, hi⟩, h1, h2⟩
    split at hi
    · exact ⟨i, ci, by assumption, hi, h1, h2⟩
    · cases hi
  · rintro ⟨i, ci, hi, hci, h1, h2⟩
    exact ⟨ci, ⟨i, by rw [if_pos hi]; exact hci⟩, h1, h2⟩

/-- the node names in use are those of the rows that created a node, and lead to these nodes -/
def NamesInv (rows : List CRow) (M : Maps) (kg : Nat) (names : List (Str × Nat)) : Prop :=
  (∀ p ∈ names, p.1 ≠ [] → ∃ i c, i < kg ∧ rows[i]? = some c ∧ isNodeRow c = true ∧ isNoop c = false ∧
      isNamedAct c = true ∧ c.row.nodeName = p.1 ∧ p.2 = M.nOf i) ∧
  (∀ i c, i < kg → rows[i]? = some c → isNodeRow c = true → isNoop c = false → c.row.nodeName ≠ [] →
      (c.row.nodeName, M.nOf i) ∈ names)

theorem NamesInv.congr {rows : List CRow} {M M' : Maps} {kg : Nat} {names : List (Str × Nat)}
    (h : NamesInv rows M kg names)
    (hM : ∀ i c, i < kg → rows[i]? = some c → isNodeRow c = true → isNoop c = false → M'.nOf i = M.nOf i) :
    NamesInv rows M' kg names := by
  refine ⟨fun p hp hne => ?_, fun i c hi hc hn hnn hne => ?_⟩
  · obtain ⟨i, c, hi, hc, hn, hnn, hna, he, hp2⟩ := h.1 p hp hne
    exact ⟨i, c, hi, hc, hn, hnn, hna, he, by rw [hM i c hi hc hn hnn]; exact hp2⟩
  · rw [hM i c hi hc hn hnn]; exact h.2 i c hi hc hn hnn hne

/-- row `j` has been parsed (or is the row being parsed, its node in the arena already) and owns a node -/
def Valid (rows : List CRow) (M : Maps) (pd : Bool) (kg j : Nat) (c : CRow) : Prop :=
  (j < kg ∨ (pd = true ∧ j = kg)) ∧ rows[j]? = some c ∧ (isNodeRow c = true ∧ M.el j = false)

/-- `kg` rows fully processed; `pd`: the node of row `kg` is in the arena already (its edges are being
added, its group does not exist yet) -/
structure Rel (rows : List CRow) (M : Maps) (pd : Bool) (kg : Nat) (s : St) (st : P1) : Prop where
  gsize : s.groups.size = gOf rows kg
  /-- the children of the root block: the groups of the rows so far, in order -/
  root : s.groups[0]? = some (.block (List.range' 1 (gOf rows kg - 1)))
  /-- the group of an ordinary row: its node, then the router node behind it -/
  grp : ∀ j c, j < kg → rows[j]? = some c → isNodeRow c = true → isNoop c = false →
    s.groups[gOf rows j]? = some (.row (M.nOf j :: (M.rOf j).toList) c.row.type)
  /-- the group of a `no_op` row: a junction; when the row has a node of its own, that node is its router node -/
  grpN : ∀ j c, j < kg → rows[j]? = some c → isNoop c = true →
    ∃ ps ro, s.groups[gOf rows j]? = some (.noop ps ro) ∧ (M.el j = false → ro = some (M.nOf j))
  /-- only `no_op` rows go without a node of their own -/
  elno : ∀ j c, rows[j]? = some c → isNoop c = false → M.el j = false
  /-- a row that waits to be left has no node, has been parsed, and is a `no_op` row -/
  frel : ∀ j, M.fr j = true → M.el j = true ∧ j < kg ∧ ∃ c, rows[j]? = some c ∧ isNoop c = true
  /-- no recorded edge leads into a `no_op` row that waits to be left: `st` records such an edge when it takes effect -/
  tgtfr : ∀ e ∈ st.out, ∀ t, e.tgt = Target.row t → M.fr t = false
  stack : s.stack = [0]
  /-- the compiler knows the row ids pass 1 knows, each for the group of its row -/
  ids : s.rowIds = st.ids.map (fun p => (p.1, gOf rows p.2))
  idok : ∀ p ∈ st.ids, p.2 < kg ∧ ∃ c, rows[p.2]? = some c ∧ isNodeRow c = true
  /-- the previous row of pass 1 is the row of the last group -/
  prev : match st.prev with
    | none => gOf rows kg = 1
    | some p => p < kg ∧ (∃ c, rows[p]? = some c ∧ isNodeRow c = true) ∧ gOf rows p + 1 = gOf rows kg
  srcok : ∀ e ∈ st.out, e.src < kg ∧ ∃ c, rows[e.src]? = some c ∧ isNodeRow c = true
  /-- recorded edges lead to rows that have been parsed, or to the row being parsed -/
  tgtok : ∀ e ∈ st.out, ∀ t, e.tgt = Target.row t → t < kg ∨ (pd = true ∧ t = kg)
  args : s.noArgs = RefFlow.noArgsTests
  /-- every row that owns a node has it (and the router node behind it) in the arena, compiled from the out-edges
  recorded for the row and the actions merged into it so far -/
  node : ∀ j c, Valid rows M pd kg j c →
    ∃ n : NodeM, s.nodes[M.nOf j]? = some n ∧ RowSim M s.nodes n c (postUpTo rows kg j) (outOf st j) (M.rOf j)
  /-- rows share no arena index -/
  disj : ∀ j c j' c', Valid rows M pd kg j c → Valid rows M pd kg j' c' → ∀ x, x ∈ idxs M j → x ∈ idxs M j' → j = j'
  rne : ∀ j i', M.rOf j = some i' → i' ≠ M.nOf j
  /-- no router node behind a row that has not been parsed -/
  rnone : ∀ j, kg ≤ j → M.rOf j = none
  /-- no router node behind a `no_op` row, ever: its router node is its node -/
  rnoop : ∀ j c, rows[j]? = some c → isNoop c = true → M.rOf j = none
  rfresh : RFresh s.nodes s.next
  names : NamesInv rows M kg s.names

theorem Rel.inj {rows : List CRow} {M : Maps} {pd : Bool} {kg : Nat} {s : St} {st : P1} (h : Rel rows M pd kg s st)
    (j : Nat) (c : CRow) (j' : Nat) (c' : CRow) (hv : Valid rows M pd kg j c) (hv' : Valid rows M pd kg j' c')
    (e : M.nOf j = M.nOf j') : j = j' :=
  h.disj j c j' c' hv hv' (M.nOf j) (by simp [idxs]) (by rw [e]; simp [idxs])

theorem Rel.fr_false {rows : List CRow} {M : Maps} {pd : Bool} {kg : Nat} {s : St} {st : P1} (h : Rel rows M pd kg s st)
    {j : Nat} {c : CRow} (hc : rows[j]? = some c) (hnn : isNoop c = false) : M.fr j = false := by
  cases hf : M.fr j with
  | false => rfl
  | true => have := (h.frel j hf).1; rw [h.elno j c hc hnn] at this; cases this

theorem Rel.idx_lt {rows : List CRow} {M : Maps} {pd : Bool} {kg : Nat} {s : St} {st : P1} (h : Rel rows M pd kg s st)
    {j0 : Nat} {c0 : CRow} (hv : Valid rows M pd kg j0 c0) : ∀ x ∈ idxs M j0, x < s.nodes.size := by
  intro x hx
  obtain ⟨m, hm, hsim⟩ := h.node j0 c0 hv
  simp only [idxs, List.mem_cons] at hx
  rcases hx with rfl | hx
  · exact lt_size_of_getElem? hm
  · generalize hro : M.rOf j0 = ro at hsim hx
    cases hsim with
    | one _ => cases hx
    | impl i' n' r _ hp =>
      simp only [Option.toList, List.mem_singleton] at hx
      rw [hx]
      exact lt_size_of_getElem? hp.rnode

/-! ### what a step has to show -/

/-- the fields `node` and `disj` of `Rel`, of an arena `ns`: every row that owns a node has its nodes there, compiled from its
out-edges and merged actions so far; rows share no arena index -/
structure Arena (rows : List CRow) (M : Maps) (pd : Bool) (kg : Nat) (ns : Array NodeM) (st : P1) : Prop where
  node : ∀ j c, Valid rows M pd kg j c →
    ∃ n : NodeM, ns[M.nOf j]? = some n ∧ RowSim M ns n c (postUpTo rows kg j) (outOf st j) (M.rOf j)
  disj : ∀ j c j' c', Valid rows M pd kg j c → Valid rows M pd kg j' c' → ∀ x, x ∈ idxs M j → x ∈ idxs M j' → j = j'

/-- A step of the simulation changes the footprint of one row `j0` — its arena indices, its ghost entries, its
out-edges, its merged actions.  The other rows keep their validity, their arena indices and the nodes there, their
out-edges and merged actions; all nodes keep their identifiers; no recorded edge leads to a row whose node moved.  Row
`j0` is accounted for by the caller; its arena indices are its own earlier ones or lie beyond the earlier arena. -/
theorem Rel.local {rows : List CRow} {M M' : Maps} {pd pd' : Bool} {kg kg' : Nat} {s : St} {st : P1}
    (h : Rel rows M pd kg s st) (j0 : Nat) (ns' : Array NodeM) (st' : P1)
    (hval : ∀ j c, Valid rows M' pd' kg' j c → j ≠ j0 → Valid rows M pd kg j c)
    (hn : ∀ j, j ≠ j0 → M'.nOf j = M.nOf j) (hr : ∀ j, j ≠ j0 → M'.rOf j = M.rOf j)
    (hext : NExt s.nodes ns')
    (hns : ∀ j c, Valid rows M pd kg j c → j ≠ j0 → ∀ i ∈ idxs M j, ns'[i]? = s.nodes[i]?)
    (htg : ∀ e ∈ st.out, ∀ t, e.tgt = Target.row t → M'.nOf t = M.nOf t)
    (hout : ∀ j, j ≠ j0 → outOf st' j = outOf st j)
    (hpost : ∀ j c, Valid rows M pd kg j c → j ≠ j0 → postUpTo rows kg' j = postUpTo rows kg j)
    (h0 : ∀ c, Valid rows M' pd' kg' j0 c → ∃ n, ns'[M'.nOf j0]? = some n ∧
      RowSim M' ns' n c (postUpTo rows kg' j0) (outOf st' j0) (M'.rOf j0))
    (hnew : ∀ c, Valid rows M' pd' kg' j0 c → ∀ x ∈ idxs M' j0,
      (Valid rows M pd kg j0 c ∧ x ∈ idxs M j0) ∨ s.nodes.size ≤ x) :
    Arena rows M' pd' kg' ns' st' := by
  have hidx : ∀ j, j ≠ j0 → idxs M' j = idxs M j := fun j hj => by simp only [idxs, hn j hj, hr j hj]
  have apart : ∀ c j c', Valid rows M' pd' kg' j0 c → Valid rows M' pd' kg' j c' → j ≠ j0 →
      ∀ x, x ∈ idxs M' j0 → x ∈ idxs M' j → False := by
    intro c j c' hv0 hv hj x hx0 hx
    rw [hidx j hj] at hx
    have hvj := hval j c' hv hj
    rcases hnew c hv0 x hx0 with ⟨hv0', hx0'⟩ | hge
    · exact hj (h.disj j c' j0 c hvj hv0' x hx hx0')
    · have := h.idx_lt hvj x hx; omega
  refine ⟨fun j c hv => ?_, fun j c j' c' hv hv' x hx hx' => ?_⟩
  · by_cases hj : j = j0
    · subst hj; exact h0 c hv
    · have hvj := hval j c hv hj
      obtain ⟨n, hn', hsim⟩ := h.node j c hvj
      refine ⟨n, by rw [hn j hj, hns j c hvj hj _ (by simp [idxs])]; exact hn', ?_⟩
      rw [hr j hj, hout j hj, hpost j c hvj hj]
      refine hsim.mapDest (fun e he t ht m hm => ?_)
        (fun i hi => hns j c hvj hj i (by simp only [idxs, List.mem_cons]; exact .inr hi))
      rw [htg e (mem_out_of_outOf he) t ht]
      exact hext _ m hm
  · by_cases hj : j = j0
    · by_cases hj' : j' = j0
      · rw [hj, hj']
      · subst hj; exact (apart c j' c' hv hv' hj' x hx hx').elim
    · by_cases hj' : j' = j0
      · subst hj'; exact (apart c' j c hv' hv hj x hx' hx).elim
      · rw [hidx j hj] at hx; rw [hidx j' hj'] at hx'
        exact h.disj j c j' c' (hval j c hv hj) (hval j' c' hv' hj') x hx hx'

/-- one node (arena index `x`) of row `j` is replaced, keeping its identifier, so that the row accounts
for the new out-edge -/
theorem Rel.update_at {rows : List CRow} {M : Maps} {pd : Bool} {kg : Nat} {s s' : St} {st : P1}
    (h : Rel rows M pd kg s st)
    {j : Nat} {c : CRow} (new : OutEdge) (hsrc : new.src = j) (hj : j < kg)
    (hc : rows[j]? = some c) (hnr : isNodeRow c = true ∧ M.el j = false)
    (htg : ∀ t, new.tgt = Target.row t → (t < kg ∨ (pd = true ∧ t = kg)) ∧ M.fr t = false)
    (x : Nat) (hx : x ∈ idxs M j) (hext : NExt s.nodes s'.nodes)
    (hoth : ∀ i, i ≠ x → s'.nodes[i]? = s.nodes[i]?)
    (hg : s'.groups = s.groups) (hst : s'.stack = s.stack)
    (hri : s'.rowIds = s.rowIds) (hna : s'.noArgs = s.noArgs) (hnx : s.next ≤ s'.next)
    (hrow : ∃ n', s'.nodes[M.nOf j]? = some n' ∧
      RowSim M s'.nodes n' c (postUpTo rows kg j) (outOf st j ++ [new]) (M.rOf j))
    {mx : NodeM} (hmx : s'.nodes[x]? = some mx)
    (hfr : ∀ r, mx.router = some (.rnd r) → ∀ cat ∈ r.cats, ∃ k, k < s'.next ∧ cat.uid = tid k)
    (hnm : s'.names = s.names := by rfl) :
    Rel rows M pd kg s' { st with out := new :: st.out } := by
  exact { h with
    gsize := by rw [hg]; exact h.gsize
    root := by rw [hg]; exact h.root
    grp := by rw [hg]; exact h.grp
    grpN := by rw [hg]; exact h.grpN
    tgtfr := List.forall_mem_cons.mpr ⟨fun t ht => (htg t ht).2, h.tgtfr⟩
    stack := by rw [hst]; exact h.stack
    ids := by rw [hri]; exact h.ids
    srcok := List.forall_mem_cons.mpr ⟨by rw [hsrc]; exact ⟨hj, c, hc, hnr.1⟩, h.srcok⟩
    tgtok := List.forall_mem_cons.mpr ⟨fun t ht => (htg t ht).1, h.tgtok⟩
    args := by rw [hna]; exact h.args
    names := by rw [hnm]; exact h.names
    node := fun j' c' hv => by
      by_cases hjj : j' = j
      · subst hjj
        obtain rfl : c = c' := Option.some.inj (hc.symm.trans hv.2.1)
        rw [← hsrc, outOf_cons_same st new, hsrc]; exact hrow
      · obtain ⟨m, hm, hp'⟩ := h.node j' c' hv
        have hnotin : ∀ y, y ∈ idxs M j' → y ≠ x :=
          fun y hy e => hjj (h.disj j' c' j c hv ⟨.inl hj, hc, hnr⟩ y hy (e ▸ hx))
        refine ⟨m, by rw [hoth _ (hnotin _ (by simp [idxs]))]; exact hm, ?_⟩
        rw [outOf_cons_other st new j' (fun e1 => hjj (by rw [← e1, hsrc]))]
        exact hp'.transfer hext (fun i hi => hoth i (hnotin i (by simp only [idxs, List.mem_cons]; exact .inr hi)))
    rfresh := RFresh.step h.rfresh hnx fun i m hm => by
      by_cases hij : i = x
      · subst hij; obtain rfl : mx = m := Option.some.inj (hmx.symm.trans hm); exact .inr hfr
      · exact .inl ⟨m, by rw [← hoth i hij]; exact hm, rfl⟩ }

/-- the only node of row `j` is replaced (same identifier) by one that accounts for the new out-edge -/
theorem Rel.update {rows : List CRow} {M : Maps} {pd : Bool} {kg : Nat} {s s' : St} {st : P1}
    (h : Rel rows M pd kg s st)
    {j : Nat} {n n' : NodeM} {c : CRow} (new : OutEdge) (hsrc : new.src = j) (hj : j < kg)
    (hn : s.nodes[M.nOf j]? = some n) (hc : rows[j]? = some c) (hnr : isNodeRow c = true ∧ M.el j = false)
    (hro : M.rOf j = none) (hu : n'.uid = n.uid)
    (htg : ∀ t, new.tgt = Target.row t → (t < kg ∨ (pd = true ∧ t = kg)) ∧ M.fr t = false)
    (hn' : s'.nodes[M.nOf j]? = some n') (hoth : ∀ i, i ≠ M.nOf j → s'.nodes[i]? = s.nodes[i]?)
    (hg : s'.groups = s.groups) (hst : s'.stack = s.stack)
    (hri : s'.rowIds = s.rowIds) (hna : s'.noArgs = s.noArgs)
    (hsim : NodeSim M s'.nodes n' c (postUpTo rows kg j) (outOf st j ++ [new]))
    (hnx : s.next ≤ s'.next := by first | exact Nat.le_refl _ | exact Nat.le_add_right _ _)
    (hfr : ∀ r, n'.router = some (.rnd r) → ∀ cat ∈ r.cats, ∃ k, k < s'.next ∧ cat.uid = tid k := by
      intro r hr; cases hr)
    (hnm : s'.names = s.names := by rfl) :
    Rel rows M pd kg s' { st with out := new :: st.out } ∧ NExt s.nodes s'.nodes ∧ s'.groups = s.groups := by
  have hext : NExt s.nodes s'.nodes := by
    intro i m hm
    by_cases hij : i = M.nOf j
    · subst hij; rw [hn] at hm; injection hm with hm; subst hm; exact ⟨n', hn', hu⟩
    · exact ⟨m, by rw [hoth i hij]; exact hm, rfl⟩
  refine ⟨Rel.update_at h new hsrc hj hc hnr htg (M.nOf j) (by simp [idxs]) hext hoth hg hst hri hna hnx
    ⟨n', hn', by rw [hro]; exact .one hsim⟩ hn' hfr hnm, hext, hg⟩

/-- an edge may be recorded as leaving row `j`: the row has been parsed, is row `c` of the sheet and owns the node `n` -/
structure EdgeFrom (rows : List CRow) (M : Maps) (kg : Nat) (s : St) (j : Nat) (n : NodeM) (c : CRow) : Prop where
  lt : j < kg
  node : s.nodes[M.nOf j]? = some n
  row : rows[j]? = some c
  owns : isNodeRow c = true ∧ M.el j = false

/-- an edge may be recorded as leading to `tgt`, which the destination `d` means: the end of the path, or a row that has
been parsed (or is being parsed) and is not a `no_op` row waiting to be left -/
structure EdgeTo (M : Maps) (pd : Bool) (kg : Nat) (ns : Array NodeM) (d : Dest) (tgt : Target) : Prop where
  dest : DestIs M ns d (some tgt)
  ok : ∀ t, tgt = Target.row t → (t < kg ∨ (pd = true ∧ t = kg)) ∧ M.fr t = false

section
variable (rows : List CRow) (M : Maps) (pd : Bool) (kg : Nat) (tgt : Target) (cond : Compile.Cond) (s : St) (st : P1) (j : Nat)

/-- the out-edge the reference records -/
abbrev newEdge : OutEdge := { src := j, cond := toRCond cond, tgt := tgt }

/-- what the state must look like afterwards -/
abbrev EdgePost : PUnit → St → Prop := fun _ s' =>
  Rel rows M pd kg s' { st with out := newEdge tgt cond j :: st.out } ∧ NExt s.nodes s'.nodes ∧ s'.groups = s.groups

end

/-- `Rel.update` when the node of row `j` is overwritten in the arena -/
theorem Rel.set_node {rows : List CRow} {M : Maps} {pd : Bool} {kg : Nat} {s : St} {st : P1} (h : Rel rows M pd kg s st)
    (cond : Compile.Cond) {j : Nat} {n : NodeM} {c : CRow} (a : EdgeFrom rows M kg s j n c) (hro : M.rOf j = none)
    {d : Dest} {tgt : Target} (t : EdgeTo M pd kg s.nodes d tgt) (n' : NodeM) (hu : n'.uid = n.uid) (k : Nat)
    (hsim : NExt s.nodes (s.nodes.setIfInBounds (M.nOf j) n') →
      NodeSim M (s.nodes.setIfInBounds (M.nOf j) n') n' c (postUpTo rows kg j) (outOf st j ++ [newEdge tgt cond j]))
    (hfr : ∀ r, n'.router = some (.rnd r) → ∀ cat ∈ r.cats, ∃ i, i < s.next + k ∧ cat.uid = tid i := by
      intro r hr; cases hr) :
    EdgePost rows M pd kg tgt cond s st j PUnit.unit.{1}
      { s with nodes := s.nodes.setIfInBounds (M.nOf j) n', next := s.next + k } :=
  Rel.update h (newEdge tgt cond j) rfl a.lt a.node a.row a.owns hro hu t.ok (getElem?_set_self_of_some _ a.node)
    (fun i hi => Array.getElem?_setIfInBounds_ne hi.symm) rfl rfl rfl rfl (hsim (NExt.set a.node hu)) (Nat.le_add_right _ _) hfr

end Rpft.CoreSheet
