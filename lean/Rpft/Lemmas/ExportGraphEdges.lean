/-
Helper lemmas for C04 (graph level): READING a sheet as a graph.  The graph of a renamed sheet is the renamed
graph; the graph read from the rendered skeleton (`edgesOfT ∘ renderAll`) is the list `skelEdges`, its node rows
are the rows of the completed nodes; the edges the flow prescribes for the exits of a node (`exitsEdges`: the images
of its transitions `flowOut` / `FlowStep`); splitting the skeleton at the block of a completed node.
-/
import Rpft.Lemmas.ExportGraphInv
set_option linter.unusedSectionVars false
namespace Rpft.Export
open Function

variable {U : Type} [DecidableEq U]

abbrev GEdge (U : Type) := SEdge (TempId U)

/-! ### reading a renamed sheet -/

def SEdge.map {I J : Type} (σ : I → J) (e : SEdge I) : SEdge J := ⟨e.src.map σ, e.label, σ e.dst⟩

theorem gotoTargets_map {I J : Type} (σ : I → J) (n : Nat) (ts : List I) :
    gotoTargets n (ts.map σ) = (gotoTargets n ts).map σ := by
  match ts with
  | [] => rfl
  | [t] => simp [gotoTargets]
  | t1 :: t2 :: ts => simp [gotoTargets]

theorem readRow_map {I J : Type} (σ : I → J) (id : I) (cells : List (Option I × Label)) (goto : List I) :
    readRow (σ id) (cells.map (fun c => (c.1.map σ, c.2))) (goto.map σ) = (readRow id cells goto).map (SEdge.map σ) := by
  cases goto with
  | nil => simp [readRow, SEdge.map, List.map_map, Function.comp_def]
  | cons t ts =>
    simp only [readRow, List.map_cons, List.length_map]
    rw [← List.map_cons, gotoTargets_map]
    simp [List.zip_map, List.map_map, Function.comp_def, SEdge.map]

theorem cells_renameRow (σ : TempId U → Str) (r : RowT U)
    (h : ∀ e ∈ r.edges, ∀ k, e.from_ = some k → σ k ≠ startStr) :
    (renameRow σ r).cells = r.cells.map (fun c => (c.1.map σ, c.2)) := by
  simp only [RowS.cells, renameRow, RowT.cells, List.map_map]
  apply List.map_congr_left
  intro e he
  cases hf : e.from_ with
  | none => simp [fromStr, hf]
  | some k => simp [fromStr, hf, h e he k hf]

theorem edgesOfS_rename (σ : TempId U → Str) (rows : List (RowT U))
    (h : ∀ r ∈ rows, ∀ e ∈ r.edges, ∀ k, e.from_ = some k → σ k ≠ startStr) :
    edgesOfS (rows.map (renameRow σ)) = (edgesOfT rows).map (SEdge.map σ) := by
  induction rows with
  | nil => rfl
  | cons r rows ih =>
    have ih' := ih (fun r' hr' => h r' (List.mem_cons_of_mem _ hr'))
    simp only [edgesOfS, edgesOfT, List.map_cons, List.flatMap_cons, List.map_append] at ih' ⊢
    rw [ih', cells_renameRow σ r (h r (List.mem_cons_self ..))]
    congr 1
    exact readRow_map σ r.id r.cells r.goto

theorem nodeRowsS_rename (σ : TempId U → Str) (rows : List (RowT U)) :
    nodeRowsS (rows.map (renameRow σ)) = (nodeRowsT rows).map (fun x => (σ x.1, x.2.2.2)) := by
  simp only [nodeRowsS, nodeRowsT, List.filter_map, List.map_map]
  have : ((fun r : RowS => r.goto.isEmpty) ∘ renameRow σ) = (fun r : RowT U => r.goto.isEmpty) := by
    funext r
    simp [renameRow]
  rw [this]
  rfl

theorem outOf_map_of_inj (σ : TempId U → Str) (ids : List (TempId U)) (es : List (GEdge U)) (s : TempId U)
    (hs : s ∈ ids) (hsrc : ∀ e ∈ es, ∀ k, e.src = some k → k ∈ ids)
    (hinj : ∀ a ∈ ids, ∀ b ∈ ids, σ a = σ b → a = b) :
    outOf (σ s) (es.map (SEdge.map σ)) = (outOf s es).map (SEdge.map σ) := by
  simp only [outOf, List.filter_map]
  congr 1
  apply List.filter_congr
  intro e he
  simp only [Function.comp, SEdge.map]
  have key : (Option.map σ e.src = some (σ s)) ↔ (e.src = some s) := by
    rcases hsr : e.src with _ | k
    · simp
    · simp only [Option.map_some, Option.some.injEq]
      have hk := hsrc e he k hsr
      exact ⟨fun heq => hinj k hk s hs heq, fun heq => heq ▸ rfl⟩
  exact decide_eq_decide.2 key

/-! ### reading the rendered skeleton -/

/-- the blank edges chaining rows `i, i+1, …, i+k` of one node -/
def chainFrom (n : NodeX U) : Nat → Nat → List (GEdge U)
  | _, 0 => []
  | i, k + 1 => ⟨some (rowId n i), blankLabel, rowId n (i + 1)⟩ :: chainFrom n (i + 1) k

/-- the edges inside a node: row `i+1` hangs off row `i` by a blank edge -/
def chain (n : NodeX U) : List (GEdge U) := chainFrom n 0 (n.rows.length - 1)

theorem chainFrom_eq (n : NodeX U) : ∀ i k, chainFrom n i k =
    (List.range' i k).map (fun j => (⟨some (rowId n j), blankLabel, rowId n (j + 1)⟩ : GEdge U))
  | _, 0 => rfl
  | i, k + 1 => by rw [chainFrom, chainFrom_eq n (i + 1) k, List.range'_succ, List.map_cons]

theorem mem_chain {n : NodeX U} {e : GEdge U} :
    e ∈ chain n ↔ ∃ j, j + 1 < n.rows.length ∧ e = ⟨some (rowId n j), blankLabel, rowId n (j + 1)⟩ := by
  simp only [chain, chainFrom_eq, List.mem_map, List.mem_range'_1]
  exact ⟨fun ⟨j, hj, e⟩ => ⟨j, by omega, e.symm⟩, fun ⟨j, hj, e⟩ => ⟨j, by omega, e.symm⟩⟩

def inEdge (n : NodeX U) (e : EdgeT U) : GEdge U := ⟨e.from_, e.label, firstId n⟩

def itemEdges : Item U → List (GEdge U)
  | .goto _ c e => [inEdge c e]
  | .block n es => es.map (inEdge n) ++ chain n

def skelEdges (items : List (Item U)) : List (GEdge U) := items.flatMap itemEdges

theorem edgesOfT_cons (r : RowT U) (rows : List (RowT U)) :
    edgesOfT (r :: rows) = readRow r.id r.cells r.goto ++ edgesOfT rows := by
  simp [edgesOfT]

theorem edgesOfT_append (a b : List (RowT U)) : edgesOfT (a ++ b) = edgesOfT a ++ edgesOfT b := by
  simp [edgesOfT]

theorem edgesOfT_blockRows (n : NodeX U) (es : List (EdgeT U)) (h : n.rows ≠ []) :
    edgesOfT (blockRows n es) = es.map (inEdge n) ++ chain n := by
  cases hr : n.rows with
  | nil => exact absurd hr h
  | cons x rest =>
    have hc : edgesOfT ((rest.zipIdx 1).map (chainRow n)) = chain n := by
      have : edgesOfT ((rest.zipIdx 1).map (chainRow n)) = (rest.zipIdx 1).flatMap
          (fun x => [(⟨some (rowId n (x.2 - 1)), blankLabel, rowId n x.2⟩ : GEdge U)]) := by
        simp [edgesOfT, List.flatMap_map, readRow, RowT.cells, chainRow]
      -- both sides as a map over `rest.zipIdx`: row `j + 1` hangs off row `j`
      rw [this, ← List.map_eq_flatMap, chain, chainFrom_eq, hr, List.length_cons, Nat.add_sub_cancel,
        ← List.zipIdx_map_snd 0 rest, List.map_map, List.zipIdx_succ, List.map_map]
      rfl
    rw [blockRows_cons hr, edgesOfT_cons, hc]
    simp [readRow, RowT.cells, inEdge, firstId, List.map_map, Function.comp_def]

theorem edgesOfT_gotoRow (k : Nat) (c : NodeX U) (e : EdgeT U) :
    edgesOfT [gotoRow k c e] = [inEdge c e] := by
  simp [edgesOfT, gotoRow, readRow, RowT.cells, gotoTargets, inEdge, firstId]

theorem edgesOfT_renderAll (items : List (Item U)) (h : ∀ n es, Item.block n es ∈ items → n.rows ≠ []) :
    edgesOfT (renderAll items) = skelEdges items := by
  induction items with
  | nil => rfl
  | cons it items ih =>
    have ih' := ih (fun n es hm => h n es (List.mem_cons_of_mem _ hm))
    simp only [renderAll, skelEdges, List.flatMap_cons, edgesOfT_append] at ih' ⊢
    rw [ih']
    congr 1
    cases it with
    | goto k c e => exact edgesOfT_gotoRow k c e
    | block n es => exact edgesOfT_blockRows n es (h n es (List.mem_cons_self ..))

theorem skelEdges_cons (it : Item U) (items : List (Item U)) : skelEdges (it :: items) = itemEdges it ++ skelEdges items := by
  simp [skelEdges]

theorem skelEdges_append (a b : List (Item U)) : skelEdges (a ++ b) = skelEdges a ++ skelEdges b := by
  simp [skelEdges]

/-! ### node rows of the rendered skeleton -/

/-- the rows of node `n` as the sheet shows them: id, `_nodeId`, `obj_id`, content -/
def nodeSig (n : NodeX U) : List (TempId U × Option U × Option U × Payload) :=
  n.rows.zipIdx.map (fun x => (rowId n x.2, some n.uuid, x.1.2, x.1.1))

theorem nodeRowsT_append (a b : List (RowT U)) : nodeRowsT (a ++ b) = nodeRowsT a ++ nodeRowsT b := by
  simp [nodeRowsT]

theorem nodeRowsT_blockRows (n : NodeX U) (es : List (EdgeT U)) : nodeRowsT (blockRows n es) = nodeSig n := by
  unfold nodeSig
  cases hr : n.rows with
  | nil => simp [blockRows, hr, nodeRowsT]
  | cons x rest =>
    simp [blockRows_cons hr, nodeRowsT, List.filter_map, chainRow, Function.comp_def]
    rw [List.filter_eq_self.2 fun _ _ => rfl]

theorem nodeRowsT_renderAll (items : List (Item U)) : nodeRowsT (renderAll items) = (blockNodes items).flatMap nodeSig := by
  induction items with
  | nil => rfl
  | cons it items ih =>
    simp only [renderAll, List.flatMap_cons, nodeRowsT_append] at ih ⊢
    rw [ih]
    cases it with
    | goto k c e => simp [Item.render, nodeRowsT, gotoRow, blockNodes_cons_goto]
    | block n es => simp [Item.render, nodeRowsT_blockRows, blockNodes_cons_block]

/-! ### the edges the flow prescribes -/

/-- the sheet edge the flow prescribes for one exit: from the LAST row of `n` to the FIRST row of the
node `find_node` returns for the destination; nothing for an exit that leads nowhere -/
def exitEdge (f : FlowX U) (n : NodeX U) (le : Label × Option U) : Option (GEdge U) :=
  match le.2 with
  | none => none
  | some d => (findNode f d).map (fun c => ⟨some (lastId n), le.1, firstId c⟩)

def loopEdges (f : FlowX U) (n : NodeX U) (es : List (Label × Option U)) : List (GEdge U) :=
  es.filterMap (exitEdge f n)

/-- the edges leaving node `n`, in EXIT ORDER -/
def exitsEdges (f : FlowX U) (n : NodeX U) : List (GEdge U) := loopEdges f n n.edges

/-- everything a completed node contributes besides its incoming edges -/
def nodeOut (f : FlowX U) (n : NodeX U) : List (GEdge U) := chain n ++ exitsEdges f n

/-- the connected exits of node `n`, in EXIT ORDER: label and the node `find_node` returns for the
destination.  (An exit `(ℓ, none)` leads nowhere: it is not a transition — see `FlowEnds`.) -/
def flowOut (f : FlowX U) (n : NodeX U) : List (Label × NodeX U) :=
  n.edges.filterMap (fun le => match le.2 with
    | none => none
    | some d => (findNode f d).map (fun c => (le.1, c)))

/-- a step of the flow: `n` has an exit `(ℓ, some d)` and `find_node d = m` -/
def FlowStep (f : FlowX U) (n : NodeX U) (ℓ : Label) (m : NodeX U) : Prop := (ℓ, m) ∈ flowOut f n

theorem flowStep_iff {f : FlowX U} {n m : NodeX U} {ℓ : Label} :
    FlowStep f n ℓ m ↔ ∃ d, (ℓ, some d) ∈ n.edges ∧ findNode f d = some m := by
  simp only [FlowStep, flowOut, List.mem_filterMap]
  constructor
  · rintro ⟨⟨lab, d⟩, hm, he⟩
    cases d with
    | none => simp at he
    | some d =>
      cases hf : findNode f d with
      | none => simp [hf] at he
      | some c =>
        simp only [hf, Option.map_some, Option.some.injEq, Prod.mk.injEq] at he
        obtain ⟨rfl, rfl⟩ := he
        exact ⟨d, hm, hf⟩
  · rintro ⟨d, hm, hf⟩
    exact ⟨(ℓ, some d), hm, by simp [hf]⟩

theorem exitsEdges_eq_flowOut (f : FlowX U) (n : NodeX U) :
    exitsEdges f n = (flowOut f n).map (fun p => ⟨some (lastId n), p.1, firstId p.2⟩) := by
  simp only [exitsEdges, loopEdges, flowOut, List.map_filterMap]
  congr 1
  funext ⟨lab, d⟩
  cases d with
  | none => rfl
  | some d => simp only [exitEdge]; cases findNode f d <;> rfl

theorem mem_exitsEdges {f : FlowX U} {n : NodeX U} {e : GEdge U} :
    e ∈ exitsEdges f n ↔
      ∃ lab d c, (lab, some d) ∈ n.edges ∧ findNode f d = some c ∧ e = ⟨some (lastId n), lab, firstId c⟩ := by
  rw [exitsEdges_eq_flowOut, List.mem_map]
  constructor
  · rintro ⟨⟨ℓ, m⟩, hp, rfl⟩
    obtain ⟨d, hd, hf⟩ := flowStep_iff.1 hp
    exact ⟨ℓ, d, m, hd, hf, rfl⟩
  · rintro ⟨lab, d, c, hd, hf, rfl⟩
    exact ⟨(lab, c), flowStep_iff.2 ⟨d, hd, hf⟩, rfl⟩

theorem loopEdges_snoc (f : FlowX U) (n : NodeX U) (es : List (Label × Option U)) (x : Label × Option U) :
    loopEdges f n (es ++ [x]) = loopEdges f n es ++ (exitEdge f n x).toList := by
  simp only [loopEdges, List.filterMap_append]
  cases h : exitEdge f n x <;> simp [h]

theorem exitEdge_none (f : FlowX U) (n : NodeX U) (lab : Label) : exitEdge f n (lab, none) = none := rfl

theorem exitEdge_some {f : FlowX U} (n : NodeX U) (lab : Label) {d : U} {c : NodeX U} (h : findNode f d = some c) :
    exitEdge f n (lab, some d) = some (inEdge c ⟨some (lastId n), lab⟩) := by
  simp [exitEdge, h, inEdge]

/-! ### splitting at the block of a completed node -/

theorem map_prepend_of_not_mem (cu : U) (e : EdgeT U) (items : List (Item U)) (h : cu ∉ blockUuids items) :
    items.map (prependItem cu e) = items := by
  induction items with
  | nil => rfl
  | cons it items ih =>
    cases it with
    | goto k c e' =>
      rw [blockUuids_cons_goto] at h
      simp only [List.map_cons, prependItem, ih h]
    | block n es =>
      simp only [blockUuids_cons_block, List.mem_cons, not_or] at h
      have : n.uuid ≠ cu := fun e => h.1 e.symm
      simp only [List.map_cons, prependItem, this, if_false, ih h.2]

/-- a completed node has exactly one block -/
theorem split_block {f : FlowX U} {vis : List U} {items : List (Item U)} (hi : Inv f vis items) {c : NodeX U}
    (hc : Canon f c) (hm : c.uuid ∈ blockUuids items) :
    ∃ A es B, items = A ++ Item.block c es :: B ∧ c.uuid ∉ blockUuids A ∧ c.uuid ∉ blockUuids B := by
  obtain ⟨m, hm1, hm2⟩ := List.mem_map.1 hm
  obtain ⟨es, hes⟩ := mem_blockNodes.1 hm1
  have : m = c := Canon.eq (hi.canonB m es hes).1 hc hm2
  subst this
  obtain ⟨A, B, hAB⟩ := List.append_of_mem hes
  have hnd := hi.nodup
  rw [hAB, blockUuids_append, blockUuids_cons_block, List.perm_middle.nodup_iff, List.nodup_cons, List.mem_append, not_or] at hnd
  exact ⟨A, es, B, hAB, hnd.1.1, hnd.1.2⟩

end Rpft.Export
