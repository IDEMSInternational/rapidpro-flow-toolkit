/-
Lemmas for the cell syntax (C08): `escape_string` is a single pass, escaped pieces are
transparent for the splitter, `cleanse` undoes the escaping, both levels of `join_from_lists` are the
same join at their separator (`join1`, split again by `split_join1`), and a well-formed two-level value
is read back from its joined text (`splitIntoLists_joinCell`).  The property theorems are stated
in `Rpft/Props/C08.lean`.
-/
import Rpft.Cell
import Rpft.Lemmas.Str
namespace Rpft.Cell
open Rpft

/-! ### escape_string is a single pass -/

theorem replace1_nil (c : Char) (r : Str) : replace1 c r [] = [] := rfl

theorem replace1_cons (c : Char) (r : Str) (x : Char) (s : Str) :
    replace1 c r (x :: s) = (if x = c then r else [x]) ++ replace1 c r s := by
  simp [replace1]

theorem replace1_append (c : Char) (r : Str) (s t : Str) :
    replace1 c r (s ++ t) = replace1 c r s ++ replace1 c r t := by
  simp [replace1]

theorem esc_nil : esc [] = [] := rfl
theorem esc_cons (c : Char) (s : Str) : esc (c :: s) = escChar c ++ esc s := by
  simp [esc]
theorem esc_append (s t : Str) : esc (s ++ t) = esc s ++ esc t := by
  simp [esc]

theorem escapeString_eq_esc (s : Str) : escapeString s = esc s := by
  induction s with
  | nil => rfl
  | cons c s ih =>
    unfold escapeString at ih ⊢
    rw [esc_cons, ← ih]
    by_cases h1 : c = escC
    · subst h1
      simp [replace1_cons, escChar, escC, sep0, sep1]
    · by_cases h2 : c = sep0
      · subst h2
        simp [replace1_cons, escChar, escC, sep0, sep1]
      · by_cases h3 : c = sep1
        · subst h3
          simp [replace1_cons, escChar, escC, sep0, sep1]
        · simp [replace1_cons, escChar, h1, h2, h3]

theorem escChar_ne_nil (c : Char) : escChar c ≠ [] := by
  unfold escChar; split <;> simp

theorem esc_eq_nil {s : Str} : esc s = [] ↔ s = [] := by
  cases s with
  | nil => simp [esc_nil]
  | cons c s =>
    simp only [esc_cons, List.append_eq_nil_iff, reduceCtorEq, iff_false, not_and]
    intro h; exact absurd h (escChar_ne_nil c)

/-! ### splitting: transparent pieces -/

/-- prepend a whole prefix to the first piece -/
def headApp (p : Str) : List Str → List Str
  | [] => [p]
  | x :: xs => (p ++ x) :: xs

theorem headApp_nil (xs : List Str) (h : xs ≠ []) : headApp [] xs = xs := by
  cases xs with
  | nil => exact absurd rfl h
  | cons x xs => simp [headApp]

theorem headCons_eq_headApp (c : Char) (xs : List Str) : headCons c xs = headApp [c] xs := by
  cases xs <;> rfl

theorem headApp_headApp (p q : Str) (xs : List Str) :
    headApp p (headApp q xs) = headApp (p ++ q) xs := by
  cases xs <;> simp [headApp]

theorem headApp_ne_nil (p : Str) (xs : List Str) : headApp p xs ≠ [] := by
  cases xs <;> simp [headApp]

theorem headCons_ne_nil (c : Char) (xs : List Str) : headCons c xs ≠ [] := by
  cases xs <;> simp [headCons]

theorem splitAux_ne_nil (sep : Char) (b : Bool) (s : Str) : splitAux sep b s ≠ [] := by
  fun_cases splitAux sep b s <;> simp [headCons_ne_nil]

theorem splitRaw_ne_nil (sep : Char) (s : Str) : splitRaw sep s ≠ [] :=
  splitAux_ne_nil sep false s

/-- A piece is transparent for `sep` when scanning it from the unescaped state neither
finds a separator nor leaves a dangling escape. -/
def Transparent (sep : Char) (p : Str) : Prop :=
  ∀ rest, splitAux sep false (p ++ rest) = headApp p (splitAux sep false rest)

theorem transparent_nil (sep : Char) : Transparent sep [] := by
  intro rest; simp [headApp_nil _ (splitAux_ne_nil sep false rest)]

theorem transparent_append {sep : Char} {p q : Str}
    (hp : Transparent sep p) (hq : Transparent sep q) : Transparent sep (p ++ q) := by
  intro rest
  rw [List.append_assoc, hp, hq, headApp_headApp]

theorem transparent_plain {sep c : Char} (h1 : c ≠ escC) (h2 : c ≠ sep) :
    Transparent sep [c] := by
  intro rest
  simp [splitAux, h1, h2, headCons_eq_headApp]

theorem transparent_escaped (sep c : Char) : Transparent sep [escC, c] := by
  intro rest
  simp only [List.cons_append, List.nil_append, splitAux, if_true]
  rw [headCons_eq_headApp, headCons_eq_headApp, headApp_headApp]
  rfl

theorem transparent_escChar {sep : Char} (hs : sep = sep0 ∨ sep = sep1) (c : Char) :
    Transparent sep (escChar c) := by
  unfold escChar
  split
  · exact transparent_escaped sep c
  · rename_i h
    simp only [not_or] at h
    apply transparent_plain h.1
    rcases hs with hs | hs <;> subst hs
    · exact h.2.1
    · exact h.2.2

theorem transparent_esc {sep : Char} (hs : sep = sep0 ∨ sep = sep1) (s : Str) :
    Transparent sep (esc s) := by
  induction s with
  | nil => exact transparent_nil sep
  | cons c s ih =>
    rw [esc_cons]
    exact transparent_append (transparent_escChar hs c) ih

theorem transparent_escapeString {sep : Char} (hs : sep = sep0 ∨ sep = sep1) (s : Str) :
    Transparent sep (escapeString s) :=
  escapeString_eq_esc s ▸ transparent_esc hs s

theorem splitRaw_transparent {sep : Char} {p : Str} (h : Transparent sep p) :
    splitRaw sep p = [p] := by
  have := h []
  simpa [splitRaw, splitAux, headApp] using this

theorem splitRaw_joinWith {sep : Char} (hse : sep ≠ escC) :
    ∀ (ps : List Str), ps ≠ [] → (∀ p ∈ ps, Transparent sep p) →
      splitRaw sep (joinWith [sep] ps) = ps
  | [], h, _ => absurd rfl h
  | [p], _, hp => by
    simpa [joinWith] using splitRaw_transparent (hp p (by simp))
  | p :: q :: ps, _, hp => by
    have ih := splitRaw_joinWith hse (q :: ps) (by simp) (fun x hx => hp x (by simp [hx]))
    have hpp := hp p (by simp)
    unfold splitRaw at ih ⊢
    simp only [joinWith, List.append_assoc]
    rw [hpp]
    simp only [List.cons_append, List.nil_append, splitAux, hse, if_false, if_true]
    rw [ih]; simp [headApp]

theorem splitRaw_single {sep : Char} (hse : sep ≠ escC) {p : Str} (hp : Transparent sep p) :
    splitRaw sep (p ++ [sep]) = [p, []] := by
  unfold splitRaw
  rw [hp]
  simp [splitAux, hse, headApp]

/-! ### the two levels of the syntax are one construction at two separators -/

/-- `sep.join(parts)`, a one-element list marked by a trailing separator -/
def join1 (sep : Char) : List Str → Str
  | [p] => p ++ [sep]
  | ps => joinWith [sep] ps

theorem joinElem_list : ∀ xs : List Str, joinElem (.list xs) = join1 sep1 (xs.map escapeString)
  | [] | [_] | _ :: _ :: _ => rfl

theorem joinCell_list : ∀ es : List Elem, joinCell (.list es) = join1 sep0 (es.map joinElem)
  | [] | [_] | _ :: _ :: _ => rfl

section closed
/-! A property of strings that holds of the empty string and is closed under `++` passes from the
pieces and the separator to the joined text (used for "transparent", "not changed by `strip`", "does not
contain the character `c`"). -/
variable {P : Str → Prop} (hnil : P []) (happ : ∀ {a b : Str}, P a → P b → P (a ++ b))
include hnil happ

theorem joinWith_closed {sep : Str} (hs : P sep) : ∀ (ps : List Str), (∀ p ∈ ps, P p) →
    P (joinWith sep ps)
  | [], _ => hnil
  | [p], h => by simpa [joinWith] using h p (by simp)
  | p :: q :: ps, h => by
    simp only [joinWith]
    exact happ (happ (h p (by simp)) hs)
      (joinWith_closed hs (q :: ps) (fun x hx => h x (List.mem_cons_of_mem _ hx)))

theorem join1_closed {sep : Char} (hs : P [sep]) : ∀ (ps : List Str), (∀ p ∈ ps, P p) →
    P (join1 sep ps)
  | [p], h => happ (h p (by simp)) hs
  | [], h | _ :: _ :: _, h => joinWith_closed hnil happ hs _ h

end closed

theorem join1_eq_nil {sep : Char} : ∀ {ps : List Str}, join1 sep ps = [] ↔ ps = []
  | [] => by simp [join1, joinWith]
  | [p] => by simp [join1]
  | p :: q :: ps => by simp [join1, joinWith]

theorem split_join1 {sep : Char} (hse : sep ≠ escC) : ∀ {ps : List Str}, ps ≠ [] →
    (∀ p ∈ ps, Transparent sep p) → (2 ≤ ps.length → ps.getLast? ≠ some []) →
    splitBySeparator sep (join1 sep ps) = .inr ps
  | [], h, _, _ => absurd rfl h
  | [p], _, hp, _ => by
    simp [join1, splitBySeparator, splitRaw_single hse (hp p (by simp))]
  | p :: q :: ps, _, hp, hl => by
    simp only [join1, splitBySeparator, splitRaw_joinWith hse _ (by simp) hp]
    rw [if_neg (by simp), if_neg (hl (by simp))]

theorem unescape_cons_ne {c : Char} (t : Str) (h : c ≠ escC) : unescape (c :: t) = c :: unescape t := by
  cases t with
  | nil => simp [unescape]
  | cons d rest => simp [unescape, h]

theorem unescape_pair (d : Char) (t : Str) (h : d = escC ∨ d = sep0 ∨ d = sep1) :
    unescape (escC :: d :: t) = d :: unescape t := by
  simp [unescape, h]

theorem unescape_esc (s : Str) : unescape (esc s) = s := by
  induction s with
  | nil => rfl
  | cons c s ih =>
    rw [esc_cons]
    unfold escChar
    split
    · rename_i h
      simp only [List.cons_append, List.nil_append]
      rw [unescape_pair c _ h, ih]
    · rename_i h
      simp only [not_or] at h
      simp only [List.cons_append, List.nil_append]
      rw [unescape_cons_ne _ h.1, ih]

theorem splitBySeparator_escapeString {sep : Char} (hs : sep = sep0 ∨ sep = sep1) (s : Str) :
    splitBySeparator sep (escapeString s) = .inl (escapeString s) := by
  unfold splitBySeparator
  simp [splitRaw_transparent (transparent_escapeString hs s)]

/-! ### strip commutes with escaping -/

/-- whitespace predicate assumptions shared by all C08 theorems -/
structure WsOk (ws : Char → Bool) : Prop where
  esc : ws escC = false
  s0 : ws sep0 = false
  s1 : ws sep1 = false

theorem wsOk_pyWs : WsOk pyWs := by constructor <;> decide +kernel

theorem WsOk.not_reserved {ws : Char → Bool} (h : WsOk ws) {c : Char}
    (hc : c = escC ∨ c = sep0 ∨ c = sep1) : ws c = false := by
  rcases hc with rfl | rfl | rfl
  · exact h.esc
  · exact h.s0
  · exact h.s1

section
variable {ws : Char → Bool} (hw : WsOk ws)
include hw

theorem escChar_of_ws {c : Char} (hc : ws c = true) : escChar c = [c] :=
  if_neg fun hr => by simp [hw.not_reserved hr] at hc

theorem lstrip_esc (s : Str) : lstrip ws (esc s) = esc (lstrip ws s) := by
  induction s with
  | nil => rfl
  | cons c s ih =>
    unfold lstrip at ih ⊢
    by_cases hc : ws c = true
    · simp [esc_cons, escChar_of_ws hw hc, hc, ih]
    · simp only [Bool.not_eq_true] at hc
      rw [esc_cons, List.dropWhile_cons, hc]
      simp only [Bool.false_eq_true, if_false]
      unfold escChar
      split
      · simp [hw.esc, esc_cons, escChar, *]
      · simp [esc_cons, escChar, *]

theorem rstrip_escChar (c : Char) :
    rstrip ws (escChar c) = if ws c then [] else escChar c := by
  unfold escChar
  split
  · simp [rstrip, hw.not_reserved ‹_›]
  · simp [rstrip]

theorem rstrip_esc (s : Str) : rstrip ws (esc s) = esc (rstrip ws s) := by
  induction s with
  | nil => rfl
  | cons c s ih =>
    rw [esc_cons, rstrip_append, ih, rstrip_cons, rstrip_escChar hw]
    simp only [esc_eq_nil]
    split
    · split <;> simp [esc_cons, esc_nil]
    · rw [esc_cons]

theorem strip_esc (s : Str) : strip ws (esc s) = esc (strip ws s) := by
  unfold strip; rw [lstrip_esc hw, rstrip_esc hw]

theorem cleanseStr_esc (s : Str) : cleanseStr ws (esc s) = strip ws s := by
  unfold cleanseStr
  rw [strip_esc hw, unescape_esc]

theorem splitIntoLists_joinCell_atom (s : Str) :
    splitIntoLists ws (joinCell (.atom s)) = .atom (strip ws s) := by
  unfold splitIntoLists splitIntoListsRaw
  simp only [joinCell]
  rw [splitBySeparator_escapeString (Or.inl rfl), splitBySeparator_escapeString (Or.inr rfl)]
  simp [Cell.map, escapeString_eq_esc, cleanseStr_esc hw s]

end

end Rpft.Cell

/-! ### well-formed two-level values -/

namespace Rpft.Props.C08
open Rpft Rpft.Cell

def WFElem : Elem → Prop
  | .atom _ => True
  | .list xs => xs ≠ [] ∧ (2 ≤ xs.length → xs.getLast? ≠ some [])

def WFCell : Cell → Prop
  | .atom _ => True
  | .list es => es ≠ [] ∧ (∀ e ∈ es, WFElem e) ∧
      (2 ≤ es.length → es.getLast? ≠ some (.atom []))

def normElem (ws : Char → Bool) (e : Elem) : Elem := e.map (strip ws)
def normalize (ws : Char → Bool) (v : Cell) : Cell := v.map (strip ws)

end Rpft.Props.C08

namespace Rpft.Cell
open Rpft Rpft.Props.C08

theorem getLast?_map_ne {α β : Type} {f : α → β} {b : β} {xs : List α} (h : ∀ a ∈ xs, f a ≠ b) :
    (xs.map f).getLast? ≠ some b := by
  rw [List.getLast?_map]
  cases hg : xs.getLast? with
  | none => simp
  | some a => simpa using h a (List.mem_of_getLast? hg)

theorem wfElem_map {α : Type} {g : α → Str} {ys : List α} (hne : ys ≠ [])
    (h : ∀ a ∈ ys, g a ≠ []) : WFElem (.list (ys.map g)) :=
  ⟨by simpa using hne, fun _ => getLast?_map_ne h⟩

theorem wfCell_map {α : Type} {f : α → Elem} {xs : List α} (hne : xs ≠ [])
    (hwf : ∀ a ∈ xs, WFElem (f a)) (hb : ∀ a ∈ xs, f a ≠ .atom []) : WFCell (.list (xs.map f)) :=
  ⟨by simpa using hne,
    fun e he => by obtain ⟨a, ha, rfl⟩ := List.mem_map.mp he; exact hwf a ha,
    fun _ => getLast?_map_ne hb⟩

theorem transparent0_joinElem : ∀ e : Elem, Transparent sep0 (joinElem e)
  | .atom s => transparent_escapeString (Or.inl rfl) s
  | .list xs => joinElem_list xs ▸
      join1_closed (transparent_nil _) transparent_append (transparent_plain (by decide) (by decide)) _
        (List.forall_mem_map.mpr fun a _ => transparent_escapeString (Or.inl rfl) a)

theorem getLast?_map_esc (xs : List Str) :
    (xs.map escapeString).getLast? = some [] ↔ xs.getLast? = some [] := by
  rw [List.getLast?_map]
  cases h : xs.getLast? with
  | none => simp
  | some a => simp [escapeString_eq_esc, esc_eq_nil]

theorem split1_joinElem : ∀ (e : Elem), WFElem e →
    elemOfSplit (splitBySeparator sep1 (joinElem e)) = e.map escapeString
  | .atom s, _ => by
    simp [joinElem, splitBySeparator_escapeString (Or.inr rfl), elemOfSplit, Elem.map]
  | .list xs, h => by
    rw [joinElem_list, split_join1 (by decide) (by simpa using h.1)
      (List.forall_mem_map.mpr fun a _ => transparent_escapeString (Or.inr rfl) a)
      (fun h2 => by rw [Ne, getLast?_map_esc]; exact h.2 (by simpa using h2))]
    rfl

theorem joinElem_eq_nil : ∀ {e : Elem}, WFElem e → (joinElem e = [] ↔ e = .atom [])
  | .atom s, _ => by simp [joinElem, escapeString_eq_esc, esc_eq_nil]
  | .list xs, h => by simp [joinElem_list, join1_eq_nil, h.1]

theorem cleanse_elem {ws : Char → Bool} (hw : WsOk ws) (e : Elem) :
    (e.map escapeString).map (cleanseStr ws) = e.map (strip ws) := by
  match e with
  | .atom s => simp [Elem.map, escapeString_eq_esc, cleanseStr_esc hw s]
  | .list xs =>
    simp only [Elem.map, List.map_map, Elem.list.injEq]
    apply List.map_congr_left
    intro x hx
    simp [escapeString_eq_esc, cleanseStr_esc hw x]

theorem split0_joinCell_list (es : List Elem) (h : WFCell (.list es)) :
    splitBySeparator sep0 (joinCell (.list es)) = .inr (es.map joinElem) := by
  rw [joinCell_list]
  refine split_join1 (by decide) (by simpa using h.1)
    (List.forall_mem_map.mpr fun a _ => transparent0_joinElem a) (fun h2 hc => ?_)
  rw [List.getLast?_map] at hc
  obtain ⟨a, hg, ha⟩ := Option.map_eq_some_iff.mp hc
  obtain rfl := (joinElem_eq_nil (h.2.1 a (List.mem_of_getLast? hg))).mp ha
  exact h.2.2 (by simpa using h2) hg

theorem splitIntoLists_joinCell {ws : Char → Bool} (hw : WsOk ws) (v : Cell) (h : WFCell v) :
    splitIntoLists ws (joinCell v) = normalize ws v := by
  match v, h with
  | .atom s, h => exact splitIntoLists_joinCell_atom hw s
  | .list es, h =>
    unfold splitIntoLists splitIntoListsRaw
    rw [split0_joinCell_list es h]
    simp only [Cell.map, normalize, List.map_map, Cell.list.injEq]
    apply List.map_congr_left
    intro e he
    simp only [Function.comp]
    rw [split1_joinElem e (h.2.1 e he), cleanse_elem hw e]

end Rpft.Cell
