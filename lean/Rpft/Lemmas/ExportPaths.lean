/-
Helper definitions and lemmas for C04 (path level): two labelled transition systems over exit labels —
the FLOW (`flowOut`, `FlowStep` of `ExportGraphEdges.lean`; here `FlowEnds`, `nodePayloads`) and the SHEET as
the compiler reads it with node merging (`Sheet`, `Sheet.out`, `Sheet.Step`) — label paths (`LPath`; `lpath_of_step_iff` lifts a one-step correspondence to
paths), and the one-step correspondence on the skeleton of a successful export.  Last section: the flow
with every node expanded into the chain of its row models (`RowStepF`) against the row graph of the sheet
(`EdgeStep`), which is what the compiler reads when the sheet has no `_nodeId` column (`--strip_uuids`).
-/
import Rpft.Lemmas.ExportGraphGroups
namespace Rpft.Export

/-! ### label paths through a step relation -/

/-- `LPath step s ℓs ts`: following the labels `ℓs` from state `s` visits the states `ts` (one per label,
the last one is the state reached).  `step` may be non-deterministic: the statement is relational. -/
def LPath {S : Type} (step : S → Label → S → Prop) : S → List Label → List S → Prop
  | _, [], [] => True
  | s, ℓ :: ℓs, t :: ts => step s ℓ t ∧ LPath step t ℓs ts
  | _, _, _ => False

instance LPath.dec {S : Type} (step : S → Label → S → Prop) [∀ s ℓ t, Decidable (step s ℓ t)] :
    ∀ s ℓs ts, Decidable (LPath step s ℓs ts)
  | _, [], [] => isTrue trivial
  | s, ℓ :: ℓs, t :: ts =>
    match (inferInstance : Decidable (step s ℓ t)), LPath.dec step t ℓs ts with
    | isTrue a, isTrue b => isTrue ⟨a, b⟩
    | isFalse a, _ => isFalse (fun h => a h.1)
    | _, isFalse b => isFalse (fun h => b h.2)
  | _, [], _ :: _ => isFalse (fun h => h)
  | _, _ :: _, [] => isFalse (fun h => h)

/-- the state a path ends in -/
def endOf {S : Type} (s : S) (ts : List S) : S := (s :: ts).getLast (List.cons_ne_nil _ _)

/-- what is performed along a path: the content of the start state, then of every state entered -/
def traceOf {S : Type} (pay : S → List Payload) (s : S) (ts : List S) : List Payload := (s :: ts).flatMap pay

theorem LPath.length_eq {S : Type} {step : S → Label → S → Prop} :
    ∀ {s : S} {ℓs : List Label} {ts : List S}, LPath step s ℓs ts → ts.length = ℓs.length
  | _, [], [], _ => rfl
  | _, _ :: _, _ :: _, h => by simp [LPath.length_eq h.2]
  | _, [], _ :: _, h => h.elim
  | _, _ :: _, [], h => h.elim

/-- a functional bisimulation `φ` on the states `Good` (closed under steps) lifts from steps to label paths -/
theorem lpath_of_step_iff {S T : Type} (stepS : S → Label → S → Prop) (stepT : T → Label → T → Prop) (φ : S → T)
    (Good : S → Prop) (hstep : ∀ s, Good s → ∀ ℓ t, stepT (φ s) ℓ t ↔ ∃ s', stepS s ℓ s' ∧ t = φ s')
    (hgood : ∀ s ℓ s', Good s → stepS s ℓ s' → Good s') :
    ∀ (ℓs : List Label) (s : S) (ts : List T), Good s →
      (LPath stepT (φ s) ℓs ts ↔ ∃ ss, LPath stepS s ℓs ss ∧ ts = ss.map φ) := by
  intro ℓs
  induction ℓs with
  | nil =>
    intro s ts _
    cases ts with
    | nil => exact ⟨fun _ => ⟨[], trivial, rfl⟩, fun _ => trivial⟩
    | cons t ts =>
      constructor
      · intro hp; exact hp.elim
      · rintro ⟨ss, hp, he⟩
        cases ss with
        | nil => cases he
        | cons _ _ => exact hp.elim
  | cons ℓ ℓs ih =>
    intro s ts hs
    cases ts with
    | nil =>
      constructor
      · intro hp; exact hp.elim
      · rintro ⟨ss, hp, he⟩
        cases ss with
        | nil => exact hp.elim
        | cons _ _ => cases he
    | cons t ts =>
      constructor
      · rintro ⟨h1, h2⟩
        obtain ⟨s', hs', rfl⟩ := (hstep s hs ℓ t).1 h1
        obtain ⟨ss, hss, rfl⟩ := (ih s' ts (hgood s ℓ s' hs hs')).1 h2
        exact ⟨s' :: ss, ⟨hs', hss⟩, rfl⟩
      · rintro ⟨ss, hp, he⟩
        cases ss with
        | nil => exact hp.elim
        | cons s' ss =>
          simp only [List.map_cons, List.cons.injEq] at he
          obtain ⟨rfl, rfl⟩ := he
          exact ⟨(hstep s hs ℓ _).2 ⟨s', hp.1, rfl⟩, (ih s' _ (hgood s ℓ s' hs hp.1)).2 ⟨ss, hp.2, rfl⟩⟩

theorem endOf_map {S T : Type} (φ : S → T) (s : S) (ss : List S) : endOf (φ s) (ss.map φ) = φ (endOf s ss) := by
  simp only [endOf, ← List.map_cons]
  rw [List.getLast_map]

theorem traceOf_map {S T : Type} (φ : S → T) (payS : S → List Payload) (payT : T → List Payload) (s : S) (ss : List S)
    (h : ∀ x ∈ s :: ss, payT (φ x) = payS x) : traceOf payT (φ s) (ss.map φ) = traceOf payS s ss := by
  simp only [traceOf, ← List.map_cons, List.flatMap_map]
  exact congrArg List.flatten (List.map_congr_left h)

/-! ### the flow as a transition system -/

section flow
variable {U : Type} [DecidableEq U]

/-- the flow ends at `n` under label `ℓ`: an exit `(ℓ, none)` -/
def FlowEnds (n : NodeX U) (ℓ : Label) : Prop := (ℓ, none) ∈ n.edges

/-- what a node performs: the content of its row models (actions, or the router), in order -/
def nodePayloads (n : NodeX U) : List Payload := n.rows.map (·.1)

theorem Reach.flowStep {f : FlowX U} {n m : NodeX U} {ℓ : Label} (hn : Reach f n) (h : FlowStep f n ℓ m) : Reach f m := by
  obtain ⟨d, hd, hf⟩ := flowStep_iff.1 h
  exact Reach.step hn hd hf

theorem Reach.lpath {f : FlowX U} : ∀ {n : NodeX U} {ℓs : List Label} {ms : List (NodeX U)}, Reach f n →
    LPath (FlowStep f) n ℓs ms → ∀ m ∈ n :: ms, Reach f m
  | _, [], [], hn, _ => fun m hm => List.mem_singleton.1 hm ▸ hn
  | n, ℓ :: ℓs, t :: ts, hn, h => by
    intro m hm
    rcases List.mem_cons.1 hm with rfl | hm
    · exact hn
    · exact Reach.lpath (hn.flowStep h.1) h.2 m hm
  | _, [], _ :: _, _, h => h.elim
  | _, _ :: _, [], _, h => h.elim

end flow

/-! ### the sheet as a transition system (the compiler's reading, with node merging) -/

section sheet
variable {I : Type} [DecidableEq I]

/-- what the compiler reads from a sheet: `group` = row ↦ first row of its node (`groupRows`, the merge rule
of `_parse_row`), `nodeRows` = the node rows top to bottom with their content, `edges` = the resolved
edges (`readRow`: an edge on a `go_to` row enters the row named there) in resolution order -/
structure Sheet (I : Type) where
  group : List (I × I)
  nodeRows : List (I × Payload)
  edges : List (SEdge I)

namespace Sheet

/-- the rows of the node whose first row is `i`, top to bottom -/
def groupOf (S : Sheet I) (i : I) : List (I × Payload) :=
  S.nodeRows.filter (fun x => decide (repOf S.group x.1 = i))

/-- the LAST row of the node: the row its router / last action lives in, the one the exits leave -/
def lastRow (S : Sheet I) (i : I) : Option I := (S.groupOf i).getLast?.map (·.1)

/-- what the node performs: the content of its rows, top to bottom -/
def payloads (S : Sheet I) (i : I) : List Payload := (S.groupOf i).map (·.2)

/-- inside a node the walk goes row to row along blank edges: consecutive rows of the group are linked -/
def Linked (S : Sheet I) (i : I) : Prop :=
  ∀ p ∈ ((S.groupOf i).map (·.1)).zip ((S.groupOf i).map (·.1)).tail, (⟨some p.1, blankLabel, p.2⟩ : SEdge I) ∈ S.edges

/-- the transitions leaving node `i` IN SHEET ORDER (= the order in which the compiler appends the cases
of the node's router): the edges that leave the last row of the node, each with its label and the node of
the row it enters -/
def out (S : Sheet I) (i : I) : List (Label × I) :=
  match S.lastRow i with
  | none => []
  | some s => (outOf s S.edges).map (fun e => (e.label, repOf S.group e.dst))

/-- a step of the sheet: an edge labelled `ℓ` leaves the last row of node `i` and enters a row of node `j` -/
def Step (S : Sheet I) (i : I) (ℓ : Label) (j : I) : Prop := (ℓ, j) ∈ S.out i

instance (S : Sheet I) (i : I) (ℓ : Label) (j : I) : Decidable (S.Step i ℓ j) := by unfold Step; infer_instance

/-- where the sheet starts: the node(s) of the row(s) the `"start"` edge enters -/
def start (S : Sheet I) : List I := (S.edges.filter (fun e => e.src.isNone)).map (fun e => repOf S.group e.dst)

/-- the nodes of the sheet (each by its first row) -/
def nodes (S : Sheet I) : List I := (S.nodeRows.map (fun x => repOf S.group x.1)).eraseDups

theorem step_iff {S : Sheet I} {i j : I} {ℓ : Label} :
    S.Step i ℓ j ↔ ∃ s, S.lastRow i = some s ∧ ∃ e ∈ S.edges, e.src = some s ∧ e.label = ℓ ∧ repOf S.group e.dst = j := by
  unfold Step out
  cases h : S.lastRow i with
  | none => simp
  | some s =>
    simp only [List.mem_map, outOf, List.mem_filter, decide_eq_true_eq, Option.some.injEq, Prod.mk.injEq]
    constructor
    · rintro ⟨e, ⟨he, hs⟩, hl, hd⟩
      exact ⟨s, rfl, e, he, hs, hl, hd⟩
    · rintro ⟨s', rfl, e, he, hs, hl, hd⟩
      exact ⟨e, ⟨he, hs⟩, hl, hd⟩

end Sheet
end sheet

/-! ### the exported sheet -/

section exported
variable {U : Type} [DecidableEq U]

/-- the exported temp-id sheet as the compiler reads it (`_nodeId` present: rows are merged by `groupsT`) -/
def sheetT (rows : List (RowT U)) : Sheet (TempId U) :=
  ⟨groupsT rows, (nodeRowsT rows).map (fun x => (x.1, x.2.2.2)), edgesOfT rows⟩

/-- the rows of node `n` as the sheet shows them: id and content -/
def nodeSigP (n : NodeX U) : List (TempId U × Payload) := n.rows.zipIdx.map (fun x => (rowId n x.2, x.1.1))

omit [DecidableEq U] in
theorem mem_nodeSigP {n : NodeX U} {x : TempId U × Payload} (h : x ∈ nodeSigP n) : ∃ j, j < n.rows.length ∧ x.1 = rowId n j := by
  simp only [nodeSigP, List.mem_map] at h
  obtain ⟨⟨po, j⟩, hm, rfl⟩ := h
  obtain ⟨hj, _⟩ := List.getElem?_eq_some_iff.1 (List.mk_mem_zipIdx_iff_getElem?.1 hm)
  exact ⟨j, hj, rfl⟩

namespace Skeleton
variable {f : FlowX U} {rows : List (RowT U)} {n0 : NodeX U} {items : List (Item U)} {vis : List U}

section
variable (sk : Skeleton f rows n0 items vis)
include sk

theorem nodeRowsP : (sheetT rows).nodeRows = (blockNodes items).flatMap nodeSigP := by
  simp only [sheetT, sk.nodeRows, List.map_flatMap]
  refine congrArg List.flatten (List.map_congr_left fun m _ => ?_)
  simp [nodeSig, nodeSigP]

theorem groupOf_eq {n : NodeX U} (hn : n ∈ blockNodes items) :
    (sheetT rows).groupOf (firstId n) = nodeSigP n := by
  unfold Sheet.groupOf
  rw [sk.nodeRowsP]
  rw [filter_flatMap_single nodeSigP _ (sk.nodup.of_map _ fun _ _ hne e => hne (congrArg _ e)) hn]
  · refine List.filter_eq_self.2 fun x hx => ?_
    obtain ⟨j, hj, hxj⟩ := mem_nodeSigP hx
    simp only [decide_eq_true_eq, hxj]
    exact sk.repOf_row hn hj
  · intro m hm hne x hx
    obtain ⟨j, hj, hxj⟩ := mem_nodeSigP hx
    simp only [decide_eq_false_iff_not, hxj]
    show ¬ repOf (groupsT rows) (rowId m j) = firstId n
    rw [sk.repOf_row hm hj]
    intro heq
    exact hne (eq_of_nodup_map sk.nodup hm hn (rowId_eq_uuid heq))

theorem lastRow_eq {n : NodeX U} (hn : n ∈ blockNodes items) :
    (sheetT rows).lastRow (firstId n) = some (lastId n) := by
  have hpos := sk.rows_pos hn
  unfold Sheet.lastRow
  rw [sk.groupOf_eq hn, nodeSigP, List.getLast?_eq_getElem?]
  simp only [List.length_map, List.length_zipIdx, List.getElem?_map, List.getElem?_zipIdx]
  rw [List.getElem?_eq_getElem (by omega)]
  simp [lastId]

theorem payloads_eq {n : NodeX U} (hn : n ∈ blockNodes items) :
    (sheetT rows).payloads (firstId n) = nodePayloads n := by
  unfold Sheet.payloads
  rw [sk.groupOf_eq hn, nodeSigP, nodePayloads, List.map_map]
  have : ((fun x : TempId U × Payload => x.2) ∘ fun x : (Payload × Option U) × Nat => (rowId n x.2, x.1.1))
      = (fun po : Payload × Option U => po.1) ∘ Prod.fst := rfl
  rw [this, ← List.map_map, List.zipIdx_map_fst]

/-- every edge that leaves the last row of `n` enters the FIRST row of a node, so `repOf` does nothing to its target -/
theorem out_eq {n : NodeX U} (hn : n ∈ blockNodes items) :
    (sheetT rows).out (firstId n) = (outOf (lastId n) (edgesOfT rows)).map (fun e => (e.label, e.dst)) := by
  unfold Sheet.out
  rw [sk.lastRow_eq hn]
  apply List.map_congr_left
  intro e he
  have := (sk.outOf_perm hn).mem_iff.1 he
  rw [exitsEdges_eq_flowOut] at this
  obtain ⟨p, hp, rfl⟩ := List.mem_map.1 this
  have hc := (sk.reach p.2).2 (((sk.reach n).1 hn).flowStep hp)
  exact congrArg (Prod.mk _) (sk.repOf_row hc (sk.rows_pos hc))

theorem out_perm {n : NodeX U} (hn : n ∈ blockNodes items) :
    ((sheetT rows).out (firstId n)).Perm ((flowOut f n).map (fun p => (p.1, firstId p.2))) := by
  rw [sk.out_eq hn]
  have := (sk.outOf_perm hn).map (fun e => (e.label, e.dst))
  rw [exitsEdges_eq_flowOut, List.map_map] at this
  exact this

theorem start_eq : (sheetT rows).start = [firstId n0] := by
  unfold Sheet.start
  have hp := (sk.perm.filter (fun e => e.src.isNone)).map (fun e => repOf (groupsT rows) e.dst)
  have hnil : ((blockNodes items).flatMap (nodeOut f)).filter (fun e => e.src.isNone) = [] := by
    simp only [List.filter_eq_nil_iff, List.mem_flatMap]
    rintro e ⟨m, _, he⟩
    obtain ⟨j, hj⟩ := src_nodeOut he
    simp [hj]
  have hm0 : n0 ∈ blockNodes items := (sk.reach n0).2 (Reach.start sk.head)
  rw [List.filter_cons, hnil] at hp
  simp only [startEdge, Option.isNone_none, if_true, List.map_cons, List.map_nil] at hp
  have := List.perm_singleton.1 hp
  rw [show (sheetT rows).edges = edgesOfT rows from rfl, show (sheetT rows).group = groupsT rows from rfl, this]
  rw [show firstId n0 = rowId n0 0 from rfl, sk.repOf_row hm0 (sk.rows_pos hm0)]
  rfl

end

theorem linked (sk : Skeleton f rows n0 items vis) {n : NodeX U} (hn : n ∈ blockNodes items) :
    (sheetT rows).Linked (firstId n) := by
  unfold Sheet.Linked
  rw [sk.groupOf_eq hn]
  have hids : (nodeSigP n).map (·.1) = (List.range n.rows.length).map (rowId n) := by
    rw [List.range_eq_range', ← List.zipIdx_map_snd 0 n.rows, nodeSigP, List.map_map, List.map_map]; rfl
  rw [hids]
  intro p hp
  obtain ⟨k, hk⟩ := List.mem_iff_getElem?.1 hp
  simp only [List.getElem?_zip_eq_some, List.getElem?_map, List.getElem?_tail] at hk
  obtain ⟨h1, h2⟩ := hk
  have hk1 : k + 1 < n.rows.length := by
    apply Nat.lt_of_not_le
    intro hlt
    rw [List.getElem?_eq_none (by simpa using hlt)] at h2
    cases h2
  rw [List.getElem?_range (by omega)] at h1
  rw [List.getElem?_range hk1] at h2
  simp only [Option.map_some, Option.some.injEq] at h1 h2
  rw [← h1, ← h2]
  exact sk.mem_edges.2 (.inr ⟨n, hn, .inl (mem_chain.2 ⟨_, hk1, rfl⟩)⟩)

end Skeleton
end exported

/-! ### the ROW graph: the flow with every node expanded into the chain of its row models -/

section rowgraph

/-- the row graph as a transition system: an edge labelled `ℓ` from row `a` to row `b` -/
def EdgeStep {I : Type} (es : List (SEdge I)) (a : I) (ℓ : Label) (b : I) : Prop := (⟨some a, ℓ, b⟩ : SEdge I) ∈ es

instance {I : Type} [DecidableEq I] (es : List (SEdge I)) (a : I) (ℓ : Label) (b : I) : Decidable (EdgeStep es a ℓ b) := by
  unfold EdgeStep; infer_instance

theorem edgeStep_map_iff {I J : Type} [DecidableEq I] [DecidableEq J] (σ : I → J) {es : List (SEdge I)}
    {es' : List (SEdge J)} {s : I} (h : outOf (σ s) es' = (outOf s es).map (SEdge.map σ)) (ℓ : Label) (c : J) :
    EdgeStep es' (σ s) ℓ c ↔ ∃ b, EdgeStep es s ℓ b ∧ c = σ b := by
  have hiff : EdgeStep es' (σ s) ℓ c ↔ (⟨some (σ s), ℓ, c⟩ : SEdge J) ∈ outOf (σ s) es' := by simp [EdgeStep, outOf]
  rw [hiff, h, List.mem_map]
  constructor
  · rintro ⟨⟨src, l, d⟩, he, heq⟩
    obtain ⟨he1, he2⟩ := List.mem_filter.1 he
    cases of_decide_eq_true he2
    cases heq
    exact ⟨d, he1, rfl⟩
  · rintro ⟨b, hb, rfl⟩
    exact ⟨⟨some s, ℓ, b⟩, List.mem_filter.2 ⟨hb, by simp⟩, rfl⟩

variable {U : Type} [DecidableEq U]

/-- **the flow with every node expanded into the chain of its row models** (one action per state): a state
is (node, index of a row model); inside a node the only step is the blank one to the next row model; from
the last row model the steps are the steps of the node, into the FIRST row model of the target -/
def RowStepF (f : FlowX U) (p : NodeX U × Nat) (ℓ : Label) (q : NodeX U × Nat) : Prop :=
  (q.1 = p.1 ∧ q.2 = p.2 + 1 ∧ q.2 < p.1.rows.length ∧ ℓ = blankLabel) ∨
  (p.2 + 1 = p.1.rows.length ∧ q.2 = 0 ∧ FlowStep f p.1 ℓ q.1)

/-- a state of the expanded flow: a reachable node and one of its row models -/
def RowState (f : FlowX U) (p : NodeX U × Nat) : Prop := Reach f p.1 ∧ p.2 < p.1.rows.length

/-- the row exported for a state -/
def rowOf (p : NodeX U × Nat) : TempId U := rowId p.1 p.2

/-- what a state performs: the content of its row model -/
def rowPayload (p : NodeX U × Nat) : List Payload := (p.1.rows[p.2]?.map (·.1)).toList

theorem rowOf_inj {f : FlowX U} {p q : NodeX U × Nat} (hp : RowState f p) (hq : RowState f q) (h : rowOf p = rowOf q) : p = q := by
  obtain ⟨n, j⟩ := p
  obtain ⟨m, k⟩ := q
  have hu := rowId_eq_uuid h
  have := Canon.eq hp.1.canon hq.1.canon hu
  simp only at this
  subst this
  have := rowId_inj n h
  subst this
  rfl

namespace Skeleton
variable {f : FlowX U} {rows : List (RowT U)} {n0 : NodeX U} {items : List (Item U)} {vis : List U}
variable (sk : Skeleton f rows n0 items vis)
include sk

theorem row_edge_iff {n : NodeX U} (hn : n ∈ blockNodes items) {j : Nat}
    (hj : j < n.rows.length) (ℓ : Label) (b : TempId U) :
    (⟨some (rowId n j), ℓ, b⟩ : GEdge U) ∈ edgesOfT rows ↔
      (j + 1 < n.rows.length ∧ ℓ = blankLabel ∧ b = rowId n (j + 1)) ∨
      (j + 1 = n.rows.length ∧ ∃ m, FlowStep f n ℓ m ∧ b = firstId m) := by
  rw [sk.mem_edges]
  constructor
  · rintro (he | ⟨m, hm, hem | hem⟩)
    · cases he
    · obtain ⟨j', hj', heq⟩ := mem_chain.1 hem
      injection heq with h1 h2 h3
      have h1 := Option.some.inj h1
      cases eq_of_nodup_map sk.nodup hn hm (rowId_eq_uuid h1)
      cases rowId_inj n h1
      exact Or.inl ⟨hj', h2, h3⟩
    · obtain ⟨lab, d, c, hd, hc, heq⟩ := mem_exitsEdges.1 hem
      injection heq with h1 h2 h3
      have h1 := Option.some.inj h1
      cases eq_of_nodup_map sk.nodup hn hm (rowId_eq_uuid h1)
      have := rowId_inj n h1
      exact Or.inr ⟨by omega, c, flowStep_iff.2 ⟨d, h2 ▸ hd, hc⟩, h3⟩
  · rintro (⟨h1, rfl, rfl⟩ | ⟨h1, m, hm, rfl⟩)
    · exact .inr ⟨n, hn, .inl (mem_chain.2 ⟨_, h1, rfl⟩)⟩
    · obtain ⟨d, hd, hc⟩ := flowStep_iff.1 hm
      have : rowId n j = lastId n := by simp only [lastId]; congr 1; omega
      exact .inr ⟨n, hn, .inr (mem_exitsEdges.2 ⟨ℓ, d, m, hd, hc, by rw [this]⟩)⟩

theorem row_step (p : NodeX U × Nat) (hp : RowState f p) (ℓ : Label) (b : TempId U) :
    EdgeStep (edgesOfT rows) (rowOf p) ℓ b ↔ ∃ q, RowStepF f p ℓ q ∧ b = rowOf q := by
  obtain ⟨n, j⟩ := p
  have hn := (sk.reach n).2 hp.1
  unfold EdgeStep rowOf
  rw [sk.row_edge_iff hn hp.2]
  constructor
  · rintro (⟨h1, h2, h3⟩ | ⟨h1, m, hm, h3⟩)
    · exact ⟨(n, j + 1), Or.inl ⟨rfl, rfl, h1, h2⟩, h3⟩
    · exact ⟨(m, 0), Or.inr ⟨h1, rfl, hm⟩, h3⟩
  · rintro ⟨⟨m, k⟩, (⟨h1, h2, h3, h4⟩ | ⟨h1, h2, h3⟩), hb⟩
    · simp only at h1 h2 h3
      subst h1 h2
      exact Or.inl ⟨h3, h4, hb⟩
    · simp only at h1 h2 h3
      subst h2
      exact Or.inr ⟨h1, m, h3, hb⟩

theorem rowState_step (p : NodeX U × Nat) (ℓ : Label) (q : NodeX U × Nat)
    (hp : RowState f p) (hs : RowStepF f p ℓ q) : RowState f q := by
  rcases hs with ⟨h1, h2, h3, _⟩ | ⟨_, h2, h3⟩
  · exact ⟨h1 ▸ hp.1, h1 ▸ h3⟩
  · have hr := hp.1.flowStep h3
    exact ⟨hr, h2 ▸ sk.rows_pos ((sk.reach q.1).2 hr)⟩

end Skeleton

end rowgraph

end Rpft.Export
