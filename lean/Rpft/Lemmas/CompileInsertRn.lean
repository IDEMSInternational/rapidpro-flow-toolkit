/-
Renaming of the identifiers stored in the values of the compiler model (categories, cases,
routers, nodes), equivariance of the pure router / node functions, and: rendering commutes with
renaming (`renderNode (rnNode ρ n) = (renderNode n).rename ρ`).
-/
import Rpft.Lemmas.CompileWp
import Rpft.Lemmas.CompileConnect
import Rpft.Lemmas.FlowRename
import Rpft.CompileRender
namespace Rpft.Compile
open Rpft Function

variable (ρ : Uid → Uid)

def rnDest : Dest → Dest
  | .none => .none
  | .hard => .hard
  | .node u => .node (ρ u)

def rnCat (c : Cat) : Cat := { uid := ρ c.uid, name := c.name, exitUid := ρ c.exitUid, dest := rnDest ρ c.dest }

def rnCase (k : Case) : Case := { uid := ρ k.uid, type := k.type, args := k.args, catUid := ρ k.catUid }

def rnSw (r : SwitchR) : SwitchR :=
  { operand := r.operand, cases := r.cases.map (rnCase ρ), cats := r.cats.map (rnCat ρ), dflt := rnCat ρ r.dflt,
    noResp := r.noResp.map (rnCat ρ), wait := r.wait, resultName := r.resultName }

def rnRnd (r : RandomR) : RandomR := { cats := r.cats.map (rnCat ρ), resultName := r.resultName }

def rnRouter : RouterM → RouterM
  | .sw r => .sw (rnSw ρ r)
  | .rnd r => .rnd (rnRnd ρ r)

def rnAct (a : Uid × Str) : Uid × Str := (ρ a.1, a.2)

def rnNode (n : NodeM) : NodeM :=
  { uid := ρ n.uid, kind := n.kind, actions := n.actions.map (rnAct ρ), router := n.router.map (rnRouter ρ),
    dexitUid := ρ n.dexitUid, dexitDest := rnDest ρ n.dexitDest }

variable {ρ}

@[simp] theorem rnDest_none : rnDest ρ .none = .none := rfl
@[simp] theorem rnDest_hard : rnDest ρ .hard = .hard := rfl
@[simp] theorem rnDest_node (u : Uid) : rnDest ρ (.node u) = .node (ρ u) := rfl

theorem rnDest_eq_none {d : Dest} : rnDest ρ d = .none ↔ d = .none := by
  cases d <;> simp [rnDest]

theorem rnDest_beq_none (d : Dest) : (rnDest ρ d == Dest.none) = (d == Dest.none) := by
  cases d <;> rfl

@[simp] theorem rnCat_uid (c : Cat) : (rnCat ρ c).uid = ρ c.uid := rfl
@[simp] theorem rnCat_name (c : Cat) : (rnCat ρ c).name = c.name := rfl
@[simp] theorem rnCat_exitUid (c : Cat) : (rnCat ρ c).exitUid = ρ c.exitUid := rfl
@[simp] theorem rnCat_dest (c : Cat) : (rnCat ρ c).dest = rnDest ρ c.dest := rfl
@[simp] theorem rnCase_uid (k : Case) : (rnCase ρ k).uid = ρ k.uid := rfl
@[simp] theorem rnCase_type (k : Case) : (rnCase ρ k).type = k.type := rfl
@[simp] theorem rnCase_args (k : Case) : (rnCase ρ k).args = k.args := rfl
@[simp] theorem rnCase_catUid (k : Case) : (rnCase ρ k).catUid = ρ k.catUid := rfl
@[simp] theorem rnSw_operand (r : SwitchR) : (rnSw ρ r).operand = r.operand := rfl
@[simp] theorem rnSw_cases (r : SwitchR) : (rnSw ρ r).cases = r.cases.map (rnCase ρ) := rfl
@[simp] theorem rnSw_cats (r : SwitchR) : (rnSw ρ r).cats = r.cats.map (rnCat ρ) := rfl
@[simp] theorem rnSw_dflt (r : SwitchR) : (rnSw ρ r).dflt = rnCat ρ r.dflt := rfl
@[simp] theorem rnSw_noResp (r : SwitchR) : (rnSw ρ r).noResp = r.noResp.map (rnCat ρ) := rfl
@[simp] theorem rnSw_wait (r : SwitchR) : (rnSw ρ r).wait = r.wait := rfl
@[simp] theorem rnSw_resultName (r : SwitchR) : (rnSw ρ r).resultName = r.resultName := rfl
@[simp] theorem rnRnd_cats (r : RandomR) : (rnRnd ρ r).cats = r.cats.map (rnCat ρ) := rfl
@[simp] theorem rnRnd_resultName (r : RandomR) : (rnRnd ρ r).resultName = r.resultName := rfl
@[simp] theorem rnNode_uid (n : NodeM) : (rnNode ρ n).uid = ρ n.uid := rfl
@[simp] theorem rnNode_kind (n : NodeM) : (rnNode ρ n).kind = n.kind := rfl
@[simp] theorem rnNode_actions (n : NodeM) : (rnNode ρ n).actions = n.actions.map (rnAct ρ) := rfl
@[simp] theorem rnNode_router (n : NodeM) : (rnNode ρ n).router = n.router.map (rnRouter ρ) := rfl
@[simp] theorem rnNode_dexitUid (n : NodeM) : (rnNode ρ n).dexitUid = ρ n.dexitUid := rfl
@[simp] theorem rnNode_dexitDest (n : NodeM) : (rnNode ρ n).dexitDest = rnDest ρ n.dexitDest := rfl

theorem rnSw_allCats (r : SwitchR) : (rnSw ρ r).allCats = r.allCats.map (rnCat ρ) := by
  unfold SwitchR.allCats
  cases h : r.noResp <;> simp [rnSw, h]

theorem rnSw_mapCats (r : SwitchR) (f f' : Cat → Cat) (hf : ∀ c, f' (rnCat ρ c) = rnCat ρ (f c)) :
    (rnSw ρ r).mapCats f' = rnSw ρ (r.mapCats f) := by
  unfold SwitchR.mapCats rnSw
  cases h : r.noResp <;> simp [hf, List.map_map, Function.comp_def]

theorem find?_map_rnCat (p p' : Cat → Bool) (hp : ∀ c, p' (rnCat ρ c) = p c) (l : List Cat) :
    (l.map (rnCat ρ)).find? p' = (l.find? p).map (rnCat ρ) := by
  rw [List.find?_map, show p' ∘ rnCat ρ = p from funext hp]

theorem rnSw_catByName (r : SwitchR) (name : Str) :
    (rnSw ρ r).catByName name = (r.catByName name).map (rnCat ρ) := by
  unfold SwitchR.catByName
  rw [rnSw_allCats]
  exact find?_map_rnCat _ _ (fun c => rfl) _

theorem rnSw_findCatUid (h : Injective ρ) (r : SwitchR) (u : Uid) :
    (rnSw ρ r).allCats.find? (·.uid = ρ u) = (r.allCats.find? (·.uid = u)).map (rnCat ρ) := by
  rw [rnSw_allCats]
  exact find?_map_rnCat _ _ (fun c => decide_eq_decide.mpr ⟨fun e => h e, congrArg ρ⟩) _

theorem rnSw_setDest (h : Injective ρ) (r : SwitchR) (u : Uid) (d : Dest) :
    (rnSw ρ r).setDest (ρ u) (rnDest ρ d) = rnSw ρ (r.setDest u d) := by
  unfold SwitchR.setDest
  apply rnSw_mapCats
  intro c
  simp only [rnCat_uid]
  by_cases hc : c.uid = u
  · simp [hc, rnCat]
  · have : ρ c.uid ≠ ρ u := fun e => hc (h e)
    simp [hc, this]

theorem rnSw_setDflt (r : SwitchR) (d : Dest) : (rnSw ρ r).setDflt (rnDest ρ d) = rnSw ρ (r.setDflt d) := rfl

theorem rnSw_findCase (r : SwitchR) (p : Case → Bool) (p' : Case → Bool) (hp : ∀ k, p' (rnCase ρ k) = p k) :
    (rnSw ρ r).cases.find? p' = (r.cases.find? p).map (rnCase ρ) := by
  rw [rnSw_cases, List.find?_map, show p' ∘ rnCase ρ = p from funext hp]

theorem genCatName_go_rn (r : SwitchR) : ∀ (fuel : Nat) (n : Str),
    genCatName.go (rnSw ρ r) fuel n = genCatName.go r fuel n := by
  intro fuel
  induction fuel with
  | zero => intro n; rfl
  | succ f ih =>
    intro n
    simp only [genCatName.go, rnSw_catByName, Option.isSome_map, ih]

theorem rnSw_genCatName (r : SwitchR) (args : List (Option Str)) :
    genCatName (rnSw ρ r) args = genCatName r args := by
  unfold genCatName
  simp only [genCatName_go_rn, rnSw_allCats, List.length_map]

theorem rnNode_exitDests (n : NodeM) : (rnNode ρ n).exitDests = n.exitDests.map (rnDest ρ) := by
  unfold NodeM.exitDests
  cases h : n.router with
  | none => simp [h]
  | some rt =>
    cases rt with
    | sw r => simp [h, rnRouter, rnSw_allCats, List.map_map, Function.comp_def]
    | rnd r => simp [h, rnRouter, List.map_map, Function.comp_def]

theorem rnNode_hasLoose (n : NodeM) : (rnNode ρ n).hasLoose = n.hasLoose := by
  unfold NodeM.hasLoose
  rw [rnNode_exitDests, List.any_map]
  congr 1
  funext d
  exact rnDest_beq_none d

theorem rnNode_mapDests (n : NodeM) {f f' : Dest → Dest} (hf : ∀ x, f' (rnDest ρ x) = rnDest ρ (f x)) :
    (rnNode ρ n).mapDests f' = rnNode ρ (n.mapDests f) := by
  have hc : ∀ c, Cat.mapDest f' (rnCat ρ c) = rnCat ρ (Cat.mapDest f c) := fun c => by
    simp [Cat.mapDest, rnCat, hf]
  rcases hr : n.router with _ | r | r
  · simp [NodeM.mapDests, rnNode, hr, hf]
  · simp only [NodeM.mapDests, rnNode_router, hr, Option.map_some, rnRouter, rnSw_mapCats r _ _ hc]
    simp [rnNode, hr, rnRouter]
  · simp [NodeM.mapDests, rnNode, hr, rnRouter, rnRnd, List.map_map, Function.comp_def, hc]

theorem rnNode_connectLoose (n : NodeM) (d : Dest) :
    (rnNode ρ n).connectLoose (rnDest ρ d) = rnNode ρ (n.connectLoose d) := by
  rw [connectLoose_eq, connectLoose_eq]
  exact rnNode_mapDests n fun x => by unfold fillLoose; rw [rnDest_beq_none]; split <;> rfl

theorem rnNode_withAct (n : NodeM) (a : Option (Uid × Str)) :
    (rnNode ρ n).withAct (a.map (rnAct ρ)) = rnNode ρ (n.withAct a) := by
  cases a <;> simp [NodeM.withAct, rnNode]

theorem rnNode_operandOf (n : NodeM) : operandOf (rnNode ρ n) = operandOf n := by
  unfold operandOf
  cases h : n.router with
  | none => simp [h]
  | some rt => cases rt <;> simp [h, rnRouter]

theorem rnAct_id (a : Uid × Str) : rnAct id a = a := rfl

theorem rnNode_id (n : NodeM) : rnNode id n = n := by
  have hd : rnDest id = id := funext fun d => by cases d <;> rfl
  have hc : rnCat id = id := funext fun c => by unfold rnCat; rw [hd]; rfl
  have hk : rnCase id = id := funext fun _ => rfl
  have ha : rnAct id = id := funext rnAct_id
  have hr : rnRouter id = id := funext fun r => by
    cases r <;> simp only [rnRouter, rnSw, rnRnd, hc, hk, List.map_id, Option.map_id, id]
  unfold rnNode
  rw [hd, ha, hr, List.map_id, Option.map_id]
  rfl

theorem renderDest_rn (d : Dest) : renderDest (rnDest ρ d) = (renderDest d).map ρ := by
  cases d <;> rfl

theorem renderNode_rn (n : NodeM) : renderNode (rnNode ρ n) = (renderNode n).rename ρ := by
  unfold renderNode Flow.Node.rename
  cases h : n.router with
  | none =>
    simp [h, renderDest_rn, Flow.Exit.rename, Flow.Action.rename, List.map_map, Function.comp_def, rnAct]
  | some rt =>
    cases rt with
    | sw r =>
      simp only [rnNode_uid, rnNode_actions, rnNode_router, h, Option.map_some, rnRouter, renderRouter,
        rnSw_allCats, List.map_map, Function.comp_def, Flow.Router.rename, rnSw_operand, rnSw_cases,
        rnSw_dflt, rnCat_uid, rnSw_wait, rnSw_noResp, rnSw_resultName]
      refine congr (congr (congr (congr rfl rfl) ?_) ?_) ?_
      · simp [Flow.Action.rename, rnAct]
      · have e1 : List.map (fun x => renderCase (rnCase ρ x)) r.cases =
            List.map (fun x => Flow.Case.rename ρ (renderCase x)) r.cases := by
          apply List.map_congr_left; intro k _; rfl
        have e2 : List.map (fun x => renderCat (rnCat ρ x)) r.allCats =
            List.map (fun x => Flow.Category.rename ρ (renderCat x)) r.allCats := by
          apply List.map_congr_left; intro k _; rfl
        rw [e1, e2]
        congr 1
        rcases r.wait with _ | _ | w <;> rcases r.noResp with _ | nr <;> rfl
      · simp [renderExit, Flow.Exit.rename, renderDest_rn]
    | rnd r =>
      simp [h, rnRouter, renderRouter, Flow.Router.rename, List.map_map, Function.comp_def,
        renderCat, Flow.Category.rename, renderExit, Flow.Exit.rename, renderDest_rn, Flow.Action.rename, rnAct]

theorem renderOut_rn (ns : List NodeM) :
    renderOut { nodes := ns.map (rnNode ρ) } = (renderOut { nodes := ns }).rename ρ := by
  simp [renderOut, Flow.Flow.rename, List.map_map, Function.comp_def, renderNode_rn]

end Rpft.Compile
