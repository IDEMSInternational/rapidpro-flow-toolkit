/-
`do` blocks in `Except`, read backwards: a block that returned `.ok b` ran every statement
successfully.  With these as `simp only` lemmas a hypothesis `(do …) = .ok b` turns into the chain
of its intermediate results, without a case split per statement.  `List.foldlM` in `Except` unfolds
element by element (`foldlM_cons'`, `foldlM_append'`), depends on its step only at the members of the list
(`foldlM_congr_mem`) and is monotone in it (`foldlM_mono`).
Core Lean only.
-/
namespace Rpft

theorem Except.bind_eq_ok {ε α β : Type} {x : Except ε α} {f : α → Except ε β} {b : β} :
    (x >>= f) = .ok b ↔ ∃ a, x = .ok a ∧ f a = .ok b := by
  cases x <;> simp [bind, Except.bind]

theorem Except.pure_eq_ok {ε α : Type} {a b : α} : (pure a : Except ε α) = .ok b ↔ a = b := by
  simp [pure, Except.pure]

theorem Except.throw_eq_ok {ε α : Type} {e : ε} {b : α} : (throw e : Except ε α) = .ok b ↔ False := by
  simp [throw, throwThe, MonadExceptOf.throw]

theorem foldlM_cons' {σ α ε : Type} (f : σ → α → Except ε σ) (s : σ) (a : α) (l : List α) :
    List.foldlM f s (a :: l) = (f s a).bind (fun s' => List.foldlM f s' l) := by
  simp only [List.foldlM_cons]
  rfl

theorem foldlM_append' {σ α ε : Type} (f : σ → α → Except ε σ) (s : σ) (l₁ l₂ : List α) :
    List.foldlM f s (l₁ ++ l₂) = (List.foldlM f s l₁).bind (fun s' => List.foldlM f s' l₂) := by
  simp only [List.foldlM_append]
  rfl

theorem foldlM_congr_mem {σ α ε : Type} {f g : σ → α → Except ε σ} : ∀ (l : List α) (s : σ),
    (∀ s, ∀ a ∈ l, f s a = g s a) → l.foldlM f s = l.foldlM g s
  | [], _, _ => rfl
  | a :: l, s, h => by
    rw [foldlM_cons', foldlM_cons', h s a (by simp)]
    exact congrArg _ (funext fun s' => foldlM_congr_mem l s' fun s x hx => h s x (by simp [hx]))

theorem foldlM_mono {σ α ε : Type} (f g : σ → α → Except ε σ)
    (h : ∀ s a out, f s a = .ok out → g s a = .ok out) :
    ∀ (l : List α) (s out : σ), List.foldlM f s l = .ok out → List.foldlM g s l = .ok out := by
  intro l
  induction l with
  | nil => intro s out hs; exact hs
  | cons a l ih =>
    intro s out hs
    rw [foldlM_cons'] at hs ⊢
    obtain ⟨s', hf, hs⟩ := Except.bind_eq_ok.1 hs
    exact Except.bind_eq_ok.2 ⟨s', h s a s' hf, ih s' out hs⟩

end Rpft
