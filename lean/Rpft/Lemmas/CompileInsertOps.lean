/-
Arena-level operations on related states: the postcondition `RPost` (results related, `ASim` kept,
scope untouched) with its sequencing rules, a step that only draws identifiers (`rwp_bind_id`,
`rwp_bind_fresh`, `rwp_bind_newRouterNode`), reading (`getNode`, `getGrp`, `has_loose_exits`, the
entry node of a group), `setNode` and `connect_loose_exits`.  Run on related states with related arguments —
and any two amounts of fuel — they give related results and states whenever both succeed.
-/
import Rpft.Lemmas.CompileInsertSim
import Rpft.Lemmas.CompileInsertInert
import Rpft.Lemmas.CompileExitSteps
namespace Rpft.Compile
open Rpft Function

/-- the parser's scope (stack of open blocks, row ids, node names) did not change -/
def SEq (s t : St) : Prop := t.stack = s.stack ∧ t.rowIds = s.rowIds ∧ t.names = s.names

theorem SEq.refl (s : St) : SEq s s := ⟨rfl, rfl, rfl⟩

theorem seq3 (s : St) : SEq s s := SEq.refl s

theorem SEq.trans {s t u : St} (h : SEq s t) (h' : SEq t u) : SEq s u :=
  ⟨h'.1.trans h.1, h'.2.1.trans h.2.1, h'.2.2.trans h.2.2⟩

variable {P : Params}

/-- postcondition of an arena-level operation -/
def RPost (P : Params) (s₁ s₂ : St) {α β : Type} (V : α → β → Prop) : α → St → β → St → Prop :=
  fun a t₁ b t₂ => V a b ∧ ASim P t₁ t₂ ∧ SEq s₁ t₁ ∧ SEq s₂ t₂

theorem RPost.mono {s₁ s₂ : St} {α β : Type} {V W : α → β → Prop} (hv : ∀ a b, V a b → W a b)
    {a : α} {t₁ : St} {b : β} {t₂ : St} (h : RPost P s₁ s₂ V a t₁ b t₂) : RPost P s₁ s₂ W a t₁ b t₂ :=
  ⟨hv _ _ h.1, h.2⟩

theorem arel_bind {α β α' β' : Type} {m₁ : M α} {m₂ : M β} {f₁ : α → M α'} {f₂ : β → M β'} {s₁ s₂ : St}
    {V : α → β → Prop} {W : α' → β' → Prop}
    (hm : rwp m₁ m₂ s₁ s₂ (RPost P s₁ s₂ V))
    (hf : ∀ a b u₁ u₂, V a b → ASim P u₁ u₂ → SEq s₁ u₁ → SEq s₂ u₂ →
      rwp (f₁ a) (f₂ b) u₁ u₂ (RPost P u₁ u₂ W)) :
    rwp (m₁ >>= f₁) (m₂ >>= f₂) s₁ s₂ (RPost P s₁ s₂ W) := by
  rw [rwp_bind]
  refine rwp_mono hm ?_
  rintro a u₁ b u₂ ⟨hv, hs, e1, e2⟩
  refine rwp_mono (hf a b u₁ u₂ hv hs e1 e2) ?_
  rintro a' t₁ b' t₂ ⟨hw, hs', e1', e2'⟩
  exact ⟨hw, hs', e1.trans e1', e2.trans e2'⟩

theorem arel_pure {α β : Type} {a : α} {b : β} {s₁ s₂ : St} (h : ASim P s₁ s₂) :
    rwp (pure a) (pure b) s₁ s₂ (RPost P s₁ s₂ (fun _ _ => True)) :=
  (rwp_pure a b s₁ s₂ _).mpr ⟨trivial, h, SEq.refl _, SEq.refl _⟩

theorem arel_of_id {α : Type} {rn : α → α} {m₁ m₂ : M α} (hm : IdRel P.ρ rn m₁ m₂) {s₁ s₂ : St}
    (h : ASim P s₁ s₂) : rwp m₁ m₂ s₁ s₂ (RPost P s₁ s₂ (fun a b => b = rn a)) := by
  refine rwp_mono (hm s₁ s₂ h.idSync) ?_
  rintro a u₁ b u₂ ⟨hb, k, e1, e2⟩
  subst u₁; subst u₂
  exact ⟨hb, h.bump k, SEq.refl _, SEq.refl _⟩

theorem arel_forM {β γ : Type} (φ : β → γ) (l : List β) (f₁ : β → M PUnit) (f₂ : γ → M PUnit) {s₁ s₂ : St}
    (h : ASim P s₁ s₂)
    (hf : ∀ x ∈ l, ∀ u₁ u₂, ASim P u₁ u₂ → rwp (f₁ x) (f₂ (φ x)) u₁ u₂ (RPost P u₁ u₂ (fun _ _ => True))) :
    rwp (l.forM f₁) ((l.map φ).forM f₂) s₁ s₂ (RPost P s₁ s₂ (fun _ _ => True)) := by
  -- loop invariant: simulation, scope unchanged w.r.t. the start
  refine rwp_mono (rwp_forM (fun t₁ t₂ => ASim P t₁ t₂ ∧ SEq s₁ t₁ ∧ SEq s₂ t₂) φ l f₁ f₂ ?_ s₁ s₂
    ⟨h, SEq.refl _, SEq.refl _⟩) fun _ _ _ _ hh => ⟨trivial, hh⟩
  rintro x hx u₁ u₂ ⟨hu, e1, e2⟩
  refine rwp_mono (hf x hx u₁ u₂ hu) ?_
  rintro _ t₁ _ t₂ ⟨_, ht, e1', e2'⟩
  exact ⟨ht, e1.trans e1', e2.trans e2'⟩

/-- read-only results in correspondence -/
def RO {α β : Type} (V : α → β → Prop) (s₁ s₂ : St) : α → St → β → St → Prop :=
  fun a t₁ b t₂ => V a b ∧ t₁ = s₁ ∧ t₂ = s₂

theorem rwp_bind_ro {α β α' β' : Type} {V : α → β → Prop} {m₁ : M α} {m₂ : M β} {f₁ : α → M α'} {f₂ : β → M β'}
    {s₁ s₂ : St} {Q : α' → St → β' → St → Prop} (hm : rwp m₁ m₂ s₁ s₂ (RO V s₁ s₂))
    (hf : ∀ a b, V a b → rwp (f₁ a) (f₂ b) s₁ s₂ Q) : rwp (m₁ >>= f₁) (m₂ >>= f₂) s₁ s₂ Q := by
  rw [rwp_bind]
  refine rwp_mono hm ?_
  rintro a t₁ b t₂ ⟨hv, rfl, rfl⟩
  exact hf a b hv

theorem rwp_anyM {β γ : Type} (φ : β → γ) {l : List β} {f₁ : β → M Bool} {f₂ : γ → M Bool} {s₁ s₂ : St}
    (h : ∀ x ∈ l, rwp (f₁ x) (f₂ (φ x)) s₁ s₂ (RO (fun a b => b = a) s₁ s₂)) :
    rwp (l.anyM f₁) ((l.map φ).anyM f₂) s₁ s₂ (RO (fun a b => b = a) s₁ s₂) := by
  induction l with
  | nil =>
    show rwp (pure false) (pure false) s₁ s₂ _
    rw [rwp_pure]; exact ⟨rfl, rfl, rfl⟩
  | cons x l ih =>
    simp only [List.map_cons, List.anyM]
    refine rwp_bind_ro (h x (by simp)) ?_
    rintro _ a rfl
    cases a with
    | true => rw [rwp_pure]; exact ⟨rfl, rfl, rfl⟩
    | false => exact ih (fun y hy => h y (by simp [hy]))

/-- the node `newRouterNode` builds -/
def mkRouterNode (u : Uid) (kind : NodeKind) (r : RouterM) (e : Uid) : NodeM :=
  { uid := u, kind := kind, actions := [], router := some r, dexitUid := e, dexitDest := .none }

section
variable {s₁ s₂ : St} (h : ASim P s₁ s₂)
include h

section
variable {β γ : Type} {Q : β → St → γ → St → Prop}

/-- `U`: what is known of the left result -/
theorem rwp_bind_id_wp {α : Type} {rn : α → α} {m₁ m₂ : M α} {f₁ : α → M β} {f₂ : α → M γ} {U : α → St → Prop}
    (hu : wp m₁ s₁ U) (hm : IdRel P.ρ rn m₁ m₂)
    (hf : ∀ a k, ASim P { s₁ with next := s₁.next + k } { s₂ with next := s₂.next + k } →
      U a { s₁ with next := s₁.next + k } →
      rwp (f₁ a) (f₂ (rn a)) { s₁ with next := s₁.next + k } { s₂ with next := s₂.next + k } Q) :
    rwp (m₁ >>= f₁) (m₂ >>= f₂) s₁ s₂ Q := by
  rw [rwp_bind]
  intro a u₁ b u₂ h1 h2
  obtain ⟨hb, k, e1, e2⟩ := hm s₁ s₂ h.idSync a u₁ b u₂ h1 h2
  have hua := wp_of_run hu h1
  subst b; subst u₁; subst u₂
  exact hf a k (h.bump k) hua

theorem rwp_bind_id {α : Type} {rn : α → α} {m₁ m₂ : M α} {f₁ : α → M β} {f₂ : α → M γ} (hm : IdRel P.ρ rn m₁ m₂)
    (hf : ∀ a k, ASim P { s₁ with next := s₁.next + k } { s₂ with next := s₂.next + k } →
      rwp (f₁ a) (f₂ (rn a)) { s₁ with next := s₁.next + k } { s₂ with next := s₂.next + k } Q) :
    rwp (m₁ >>= f₁) (m₂ >>= f₂) s₁ s₂ Q :=
  rwp_bind_id_wp h (wp_true _ _) hm fun a k hk _ => hf a k hk

theorem rwp_bind_fresh {f₁ : Uid → M β} {f₂ : Uid → M γ}
    (hf : ASim P { s₁ with next := s₁.next + 1 } { s₂ with next := s₂.next + 1 } →
      rwp (f₁ (tid s₁.next)) (f₂ (P.ρ (tid s₁.next))) { s₁ with next := s₁.next + 1 }
        { s₂ with next := s₂.next + 1 } Q) :
    rwp (fresh >>= f₁) (fresh >>= f₂) s₁ s₂ Q := by
  refine rwp_bind_run (a := tid s₁.next) (b := tid s₂.next) rfl rfl ?_
  have e : P.ρ (tid s₁.next) = tid s₂.next := h.idsync 0
  rw [← e]
  exact hf (h.bump 1)

theorem rwp_bind_newRouterNode (u : Uid) (kind : NodeKind) (r : RouterM) {f₁ : NodeM → M β} {f₂ : NodeM → M γ}
    (hf : ASim P { s₁ with next := s₁.next + 1 } { s₂ with next := s₂.next + 1 } →
      Below (s₁.next + 1) (mkRouterNode u kind r (tid s₁.next)).dexitUid →
      rwp (f₁ (mkRouterNode u kind r (tid s₁.next)))
        (f₂ (rnNode P.ρ (mkRouterNode u kind r (tid s₁.next))))
        { s₁ with next := s₁.next + 1 } { s₂ with next := s₂.next + 1 } Q) :
    rwp (newRouterNode u kind r >>= f₁) (newRouterNode (P.ρ u) kind (rnRouter P.ρ r) >>= f₂) s₁ s₂ Q := by
  refine rwp_bind_run (a := mkRouterNode u kind r (tid s₁.next))
    (b := mkRouterNode (P.ρ u) kind (rnRouter P.ρ r) (tid s₂.next)) rfl rfl ?_
  have e : P.ρ (tid s₁.next) = tid s₂.next := h.idsync 0
  rw [← e]
  exact hf (h.bump 1) ⟨s₁.next, Nat.lt_succ_self _, rfl⟩

theorem rwp_getNode_bind {i : Nat} (hd : P.DN i) {f₁ : NodeM → M β} {f₂ : NodeM → M γ}
    (hf : ∀ n, s₁.nodes[i]? = some n → rwp (f₁ n) (f₂ (rnNode P.ρ n)) s₁ s₂ Q) :
    rwp (getNode i >>= f₁) (getNode (P.ν i) >>= f₂) s₁ s₂ Q := by
  rw [rwp_bind, rwp_iff_wp, wp_getNode]
  intro n hn
  rw [wp_getNode, h.nodes i n hd hn]
  intro n' hn'
  cases hn'
  exact hf n hn

theorem rwp_getGrp_bind {j : Nat} (hd : P.DG j) {f₁ : Grp → M β} {f₂ : Grp → M γ}
    (hf : ∀ g, s₁.groups[j]? = some g → rwp (f₁ g) (f₂ (mapGrpAt P j g)) s₁ s₂ Q) :
    rwp (getGrp j >>= f₁) (getGrp (P.γ j) >>= f₂) s₁ s₂ Q := by
  rw [rwp_bind, rwp_iff_wp, wp_getGrp]
  intro g hg
  rw [wp_getGrp, h.groups j g hd hg]
  intro g' hg'
  cases hg'
  exact hf g hg

end

theorem nodeHasLoose_rel {i : Nat} (hd : P.DN i) :
    rwp (do pure (← getNode i).hasLoose) (do pure (← getNode (P.ν i)).hasLoose) s₁ s₂
      (RO (fun a b => b = a) s₁ s₂) := by
  refine rwp_getNode_bind h hd fun n _ => ?_
  rw [rwp_pure]
  exact ⟨rnNode_hasLoose n, rfl, rfl⟩

end

section
variable (ok : P.Ok) {s₁ s₂ : St} (h : ASim P s₁ s₂)
include ok h

theorem hasLoose_rel {f₁ f₂ j : Nat} (lv : P.Live j) :
    rwp (hasLoose f₁ j) (hasLoose f₂ (P.γ j)) s₁ s₂ (RO (fun a b => b = a) s₁ s₂) := by
  induction f₁ generalizing f₂ j with
  | zero => exact rwp_fail_left
  | succ f₁ ih =>
    cases f₂ with
    | zero => exact rwp_fail_right
    | succ f₂ =>
      unfold hasLoose
      refine rwp_getGrp_bind h lv.1 fun g hg => ?_
      cases g with
      | row nodes t =>
        simp only [mapGrpAt_row, List.getLast?_map]
        cases hl : nodes.getLast? with
        | none => simp only [Option.map_none]; rw [rwp_pure]; exact ⟨rfl, rfl, rfl⟩
        | some i =>
          simp only [Option.map_some]
          exact nodeHasLoose_rel h (h.row_nodes lv.1 hg i (List.mem_of_getLast? hl))
      | noop ps router =>
        simp only [mapGrpAt_noop]
        cases router with
        | some i =>
          simp only [Option.map_some]
          exact nodeHasLoose_rel h (h.noop_router lv.1 hg)
        | none =>
          simp only [Option.map_none]
          refine rwp_anyM (fun p : Nat × Cond => (P.γ p.1, p.2)) ?_
          intro p hp
          exact ih (h.noop_parents lv hg p hp)
      | block cs =>
        have main : rwp (cs.anyM fun c => hasLoose f₁ c) ((cs.map P.γ).anyM fun c => hasLoose f₂ c) s₁ s₂
            (RO (fun a b => b = a) s₁ s₂) := by
          refine rwp_anyM P.γ ?_
          intro c hc
          exact ih (h.live_refs lv hg c hc)
        rcases h.block_image ok lv.2 cs with e | ⟨_, e, hi⟩
        · rw [e]; exact main
        · rw [e]
          simp only [List.anyM]
          refine rwp_skip_right (inert_hasLoose hi f₂) ?_
          simp only
          exact main

theorem entryNode_rel {f₁ f₂ j : Nat} (lv : P.Live j) :
    rwp (entryNode f₁ j) (entryNode f₂ (P.γ j)) s₁ s₂ (RO (fun a b => b = P.ν a ∧ P.DN a) s₁ s₂) := by
  induction f₁ generalizing f₂ j with
  | zero => exact rwp_fail_left
  | succ f₁ ih =>
    cases f₂ with
    | zero => exact rwp_fail_right
    | succ f₂ =>
      unfold entryNode
      refine rwp_getGrp_bind h lv.1 fun g hg => ?_
      cases g with
      | row nodes t =>
        simp only [mapGrpAt_row, List.head?_map]
        cases hh : nodes.head? with
        | none => exact rwp_fail_left
        | some i =>
          simp only [Option.map_some]
          rw [rwp_pure]
          exact ⟨⟨rfl, h.row_nodes lv.1 hg i (List.mem_of_mem_head? hh)⟩, rfl, rfl⟩
      | noop ps router => exact rwp_fail_left
      | block cs =>
        rcases h.block_image ok lv.2 cs with e | ⟨_, e, ps, hgx, _⟩
        · rw [e]
          simp only [List.head?_map]
          cases hh : cs.head? with
          | none => exact rwp_fail_left
          | some c =>
            simp only [Option.map_some]
            exact ih (h.live_refs lv hg c (List.mem_of_mem_head? hh))
        · -- the twin's block starts with its begin row, a `no_op` group: no entry node
          rw [e]
          simp only [List.head?_cons]
          have hw : wp (entryNode f₂ P.gx) s₂ (fun _ _ => False) := by
            cases f₂ with
            | zero => exact wp_entryNode_zero ..
            | succ f₂ => simp only [wp_entryNode, hgx, Option.some.injEq, forall_eq']
          intro a t₁ b t₂ _ h2
          exact (wp_of_run hw h2).elim

theorem setNode_rel {i : Nat} {old n' : NodeM} (hd : P.DN i) (ho : s₁.nodes[i]? = some old)
    (hdx : n'.dexitUid = old.dexitUid ∨ Below s₁.next n'.dexitUid) (hpl : P.op = true → NoLoose old → NoLoose n') :
    rwp (setNode i n') (setNode (P.ν i) (rnNode P.ρ n')) s₁ s₂ (RPost P s₁ s₂ (fun _ _ => True)) := by
  rw [rwp_iff_wp, wp_setNode, wp_setNode]
  exact ⟨trivial, h.setNode ok hd ho hdx hpl, SEq.refl _, SEq.refl _⟩

theorem connectNode_rel {i : Nat} (hd : P.DN i) {d : Dest} (hdn : P.op = true → d ≠ Dest.none) :
    rwp (connectNode i d) (connectNode (P.ν i) (rnDest P.ρ d)) s₁ s₂ (RPost P s₁ s₂ (fun _ _ => True)) := by
  unfold connectNode
  refine rwp_getNode_bind h hd fun n hn => ?_
  rw [rnNode_connectLoose]
  exact setNode_rel ok h hd hn (.inl (connectLoose_dexitUid n d)) fun hop hl => noLoose_connectLoose n d (hdn hop) hl

end

theorem connectLoose_rel (ok : P.Ok) {d : Dest} (hdn : P.op = true → d ≠ Dest.none) {f₁ f₂ j : Nat} {s₁ s₂ : St}
    (h : ASim P s₁ s₂) (lv : P.Live j) :
    rwp (connectLoose f₁ j d) (connectLoose f₂ (P.γ j) (rnDest P.ρ d)) s₁ s₂ (RPost P s₁ s₂ (fun _ _ => True)) := by
  induction f₁ generalizing f₂ j s₁ s₂ with
  | zero => exact rwp_fail_left
  | succ f₁ ih =>
    cases f₂ with
    | zero => exact rwp_fail_right
    | succ f₂ =>
      unfold connectLoose
      refine rwp_getGrp_bind h lv.1 fun g hg => ?_
      cases g with
      | row nodes t =>
        simp only [mapGrpAt_row, List.getLast?_map]
        cases hl : nodes.getLast? with
        | none =>
          simp only [Option.map_none]
          exact arel_pure h
        | some i =>
          simp only [Option.map_some]
          exact connectNode_rel ok h (h.row_nodes lv.1 hg i (List.mem_of_getLast? hl)) hdn
      | noop ps router =>
        simp only [mapGrpAt_noop]
        cases router with
        | some i =>
          simp only [Option.map_some]
          exact connectNode_rel ok h (h.noop_router lv.1 hg) hdn
        | none =>
          simp only [Option.map_none]
          refine arel_forM (fun p : Nat × Cond => (P.γ p.1, p.2)) ps _ _ h ?_
          intro p hp u₁ u₂ hu
          exact ih hu (h.noop_parents lv hg p hp)
      | block cs =>
        have main : rwp (cs.forM fun c => connectLoose f₁ c d)
            ((cs.map P.γ).forM fun c => connectLoose f₂ c (rnDest P.ρ d)) s₁ s₂ (RPost P s₁ s₂ (fun _ _ => True)) := by
          refine arel_forM P.γ cs _ _ h ?_
          intro c hc u₁ u₂ hu
          exact ih hu (h.live_refs lv hg c hc)
        rcases h.block_image ok lv.2 cs with e | ⟨_, e, hi⟩
        · rw [e]; exact main
        · rw [e]
          exact rwp_forM_skip (inert_connectLoose hi f₂ _) main

end Rpft.Compile
