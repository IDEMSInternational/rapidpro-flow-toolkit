/-
Lemmas for C06 (model `Rpft/Uuid.lean`; the property theorems are in `Rpft/Props/C06.lean`).

The dictionaries are `Rpft.Dict` (`dget_eq`, `dset_eq`) and an accepted `_record_uuid` is `Dict.Recorded`
(`recordDict_ok`).  From that, recording is two iffs at each level — one record, one occurrence, a whole pass: the
truthy entries afterwards are those before and the uuids given (`…_truthy_iff`), the keys are those before and the
names seen (`…_isSome_iff`, `…_hasKey_iff`); distinct keys stay distinct (`…_wf`), and an occurrence that is `Known`
records nothing.  `generate_missing_uuids` keeps truthy entries and keys and leaves no falsy entry.  A successful
`runOccs` is taken apart by `runOccs_ok` and the lemmas after it; `occsOf_validated` flattens the validated container.
-/
import Rpft.Uuid
import Rpft.Lemmas.Record
set_option linter.unusedSectionVars false
-- the examples and witnesses of `Props/C06.lean` compare whole runs by `decide`
deriving instance DecidableEq for Except

namespace Rpft.Uuid

variable {N U : Type} [DecidableEq N] [DecidableEq U]

/-! ### dict: `dget`, `dset`, `dkeys` are `get`, `set`, `keys` of `Rpft.Dict` -/

theorem dget_eq (d : Dict N U) (n : N) : dget d n = Rpft.Dict.get d n := by
  induction d with
  | nil => rfl
  | cons p t ih => simp only [dget, Rpft.Dict.get, ih]

theorem dset_eq (d : Dict N U) (n : N) (v : Option U) : dset d n v = Rpft.Dict.set d n v := by
  induction d with
  | nil => rfl
  | cons p t ih => simp only [dset, Rpft.Dict.set, ih]; split <;> simp [*]

theorem dget_dset (d : Dict N U) (n m : N) (v : Option U) :
    dget (dset d n v) m = if n = m then some v else dget d m := by
  simp only [dget_eq, dset_eq, Dict.get_set, eq_comm]

theorem dget_isSome_iff (d : Dict N U) (n : N) : (dget d n).isSome ↔ n ∈ dkeys d :=
  dget_eq d n ▸ Dict.get_isSome_iff

theorem dget_none_iff (d : Dict N U) (n : N) : dget d n = none ↔ n ∉ dkeys d :=
  dget_eq d n ▸ Dict.get_eq_none_iff

theorem dget_of_mem {d : Dict N U} (h : (dkeys d).Nodup) {n : N} {v : Option U}
    (hm : (n, v) ∈ d) : dget d n = some v := dget_eq d n ▸ Dict.get_of_mem h hm

theorem mem_of_dget {d : Dict N U} {n : N} {v : Option U} (h : dget d n = some v) : (n, v) ∈ d :=
  Dict.mem_of_get (dget_eq d n ▸ h)

section
variable {k : Kind} {d d' : Dict N U} {n : N} {g : Option U} (h : recordDict k d n g = .ok d')
include h

theorem recordDict_ok : Rpft.Dict.Recorded Option.isSome d n g d' := by
  unfold recordDict at h
  rw [dget_eq, dset_eq] at h
  split at h
  · next r hr =>
    refine Or.inl ⟨some r, hr, rfl, ?_⟩
    cases g with
    | none => exact ⟨nofun, by cases h; rfl⟩
    | some u =>
      simp only at h
      split at h
      · cases h
      · next hne => cases h; exact ⟨fun _ => by rw [Decidable.not_not.1 hne], rfl⟩
  · next hn =>
    cases h
    refine Or.inr ⟨fun r hr => ?_, rfl⟩
    cases r with
    | none => rfl
    | some r => exact absurd hr (hn r)

theorem recordDict_truthy_iff {m : N} {u : U} :
    dget d' m = some (some u) ↔ dget d m = some (some u) ∨ (m = n ∧ g = some u) := by
  simp only [dget_eq]
  exact (recordDict_ok h).truthy_iff rfl

theorem recordDict_isSome_iff {m : N} : (dget d' m).isSome ↔ (dget d m).isSome ∨ m = n := by
  simp only [dget_isSome_iff]
  exact (recordDict_ok h).mem_keys_iff

end

theorem recordDict_noop {k : Kind} {d : Dict N U} {n : N} {g : Option U} {r : U}
    (hr : dget d n = some (some r)) (hg : g = none ∨ g = some r) : recordDict k d n g = .ok d := by
  unfold recordDict
  rw [hr]
  rcases hg with rfl | rfl <;> simp

theorem recordDict_conflict {k : Kind} {d : Dict N U} {n : N} {u r : U}
    (hr : dget d n = some (some r)) (hne : u ≠ r) :
    recordDict k d n (some u) = .error (.conflict k n u r) := by
  unfold recordDict
  rw [hr]
  simp [hne]

theorem recordDict_error {k : Kind} {d : Dict N U} {n : N} {g : Option U} {e : Err N U}
    (h : recordDict k d n g = .error e) :
    ∃ u r, g = some u ∧ dget d n = some (some r) ∧ u ≠ r ∧ e = .conflict k n u r := by
  unfold recordDict at h
  split at h
  · rename_i r hr
    cases g with
    | none => simp at h
    | some u =>
      simp only at h
      split at h
      · rename_i hne
        cases h
        exact ⟨u, r, rfl, hr, hne, rfl⟩
      · cases h
  · cases h

@[simp] theorem St.get_put_same (st : St N U) (k : Kind) (d : Dict N U) : (st.put k d).get k = d := by
  cases k <;> rfl

theorem St.get_put_ne (st : St N U) {k k' : Kind} (d : Dict N U) (h : k' ≠ k) :
    (st.put k d).get k' = st.get k' := by
  cases k <;> cases k' <;> first | rfl | exact absurd rfl h

theorem St.put_get (st : St N U) (k : Kind) : st.put k (st.get k) = st := by
  cases k <;> rfl

def Truthy (st : St N U) (k : Kind) (n : N) (u : U) : Prop := dget (st.get k) n = some (some u)
def HasKey (st : St N U) (k : Kind) (n : N) : Prop := (dget (st.get k) n).isSome = true
def WF (st : St N U) : Prop := (dkeys st.flows).Nodup ∧ (dkeys st.groups).Nodup
def AllSome (d : Dict N U) : Prop := ∀ p ∈ d, p.2.isSome = true
/-- what makes recording `o` a no-op (`recordOcc_noop`) -/
def Known (st : St N U) (o : Occ N U) : Prop :=
  ∃ r, Truthy st o.kind o.name r ∧ (o.given = none ∨ o.given = some r)

theorem lookup_of_truthy {st : St N U} {k : Kind} {n : N} {u : U} (h : Truthy st k n u) :
    lookup st k n = some u := by
  unfold lookup; unfold Truthy at h; rw [h]; rfl

theorem WF.get {st : St N U} (h : WF st) (k : Kind) : (dkeys (st.get k)).Nodup := by
  cases k
  · exact h.2
  · exact h.1

theorem WF_empty : WF (St.empty : St N U) := by simp [WF, St.empty, dkeys]

section
variable {st st' : St N U} {o : Occ N U} (h : recordOcc st o = .ok st')
include h

theorem recordOcc_ok : ∃ d, recordDict o.kind (st.get o.kind) o.name o.given = .ok d ∧ st' = st.put o.kind d := by
  unfold recordOcc at h
  split at h
  · cases h
  · split at h
    · next d hd => cases h; exact ⟨d, hd, rfl⟩
    · cases h

theorem recordOcc_truthy_iff {k : Kind} {n : N} {u : U} :
    Truthy st' k n u ↔ Truthy st k n u ∨ (o.kind = k ∧ o.name = n ∧ o.given = some u) := by
  obtain ⟨d, hd, rfl⟩ := recordOcc_ok h
  unfold Truthy
  by_cases hk : k = o.kind
  · subst hk
    rw [St.get_put_same, recordDict_truthy_iff hd, eq_comm (a := n)]
    simp
  · rw [St.get_put_ne _ _ hk]
    simp [Ne.symm hk]

theorem recordOcc_hasKey_iff {k : Kind} {n : N} : HasKey st' k n ↔ HasKey st k n ∨ (o.kind = k ∧ o.name = n) := by
  obtain ⟨d, hd, rfl⟩ := recordOcc_ok h
  unfold HasKey
  by_cases hk : k = o.kind
  · subst hk
    rw [St.get_put_same, recordDict_isSome_iff hd, eq_comm (a := n)]
    simp
  · rw [St.get_put_ne _ _ hk]
    simp [Ne.symm hk]

theorem recordOcc_wf (hw : WF st) : WF st' := by
  obtain ⟨d, hd, rfl⟩ := recordOcc_ok h
  have := (recordDict_ok hd).nodup (hw.get o.kind)
  generalize o.kind = k at this hd
  cases k <;> simp only [WF, St.put]
  · exact ⟨hw.1, this⟩
  · exact ⟨this, hw.2⟩

end

theorem recordOcc_noop {st : St N U} {o : Occ N U} (h : Known st o) : recordOcc st o = .ok st := by
  obtain ⟨r, hr, hg⟩ := h
  unfold recordOcc
  have hc : ¬ (o.site = .trigFlow ∧ (dget st.flows o.name).isNone = true) := by
    rintro ⟨hs, hn⟩
    have hk : o.kind = .flow := by simp [Occ.kind, hs, Site.kind]
    unfold Truthy at hr; rw [hk] at hr
    simp only [St.get] at hr
    rw [hr] at hn; simp at hn
  rw [if_neg hc, recordDict_noop hr hg]
  simp only [St.put_get]

theorem recordAll_append {st : St N U} {a b : List (Occ N U)} :
    recordAll st (a ++ b) =
      match recordAll st a with
      | .ok st' => recordAll st' b
      | .error e => .error e := by
  induction a generalizing st with
  | nil => simp [recordAll]
  | cons o os ih =>
    simp only [List.cons_append, recordAll]
    cases recordOcc st o with
    | error e => simp
    | ok st1 => simp [ih]

theorem recordAll_cons_ok {st st' : St N U} {o : Occ N U} {os : List (Occ N U)}
    (h : recordAll st (o :: os) = .ok st') : ∃ st1, recordOcc st o = .ok st1 ∧ recordAll st1 os = .ok st' := by
  simp only [recordAll] at h
  cases h1 : recordOcc st o with
  | error e => rw [h1] at h; cases h
  | ok st1 => rw [h1] at h; exact ⟨st1, rfl, h⟩

section
variable {st st' : St N U} {occs : List (Occ N U)} (h : recordAll st occs = .ok st')
include h

theorem recordAll_truthy_iff {k : Kind} {n : N} {u : U} :
    Truthy st' k n u ↔ Truthy st k n u ∨ ∃ o ∈ occs, o.kind = k ∧ o.name = n ∧ o.given = some u := by
  induction occs generalizing st with
  | nil => simp [recordAll] at h; subst h; simp
  | cons p os ih =>
    obtain ⟨st1, h1, h2⟩ := recordAll_cons_ok h
    rw [ih h2, recordOcc_truthy_iff h1]
    simp only [List.mem_cons, exists_eq_or_imp, or_assoc]

theorem recordAll_hasKey_iff {k : Kind} {n : N} : HasKey st' k n ↔ HasKey st k n ∨ ∃ o ∈ occs, o.kind = k ∧ o.name = n := by
  induction occs generalizing st with
  | nil => simp [recordAll] at h; subst h; simp
  | cons p os ih =>
    obtain ⟨st1, h1, h2⟩ := recordAll_cons_ok h
    rw [ih h2, recordOcc_hasKey_iff h1]
    simp only [List.mem_cons, exists_eq_or_imp, or_assoc]

theorem recordAll_wf (hw : WF st) : WF st' := by
  induction occs generalizing st with
  | nil => simp [recordAll] at h; subst h; exact hw
  | cons o os ih =>
    obtain ⟨st1, h1, h2⟩ := recordAll_cons_ok h
    exact ih h2 (recordOcc_wf h1 hw)

end

theorem recordAll_keys_bound {st st' : St N U} {occs : List (Occ N U)}
    (h : recordAll st occs = .ok st') {k : Kind} {n : N} (ht : HasKey st' k n) :
    HasKey st k n ∨ ∃ o ∈ occs, o.kind = k ∧ o.name = n :=
  (recordAll_hasKey_iff h).1 ht

theorem recordAll_truthy_bound {st st' : St N U} {occs : List (Occ N U)}
    (h : recordAll st occs = .ok st') {k : Kind} {n : N} {u : U} (ht : Truthy st' k n u) :
    Truthy st k n u ∨ ∃ o ∈ occs, o.kind = k ∧ o.name = n ∧ o.given = some u :=
  (recordAll_truthy_iff h).1 ht

theorem recordAll_noop {st : St N U} {occs : List (Occ N U)} (h : ∀ o ∈ occs, Known st o) :
    recordAll st occs = .ok st := by
  induction occs with
  | nil => rfl
  | cons p os ih =>
    simp only [recordAll, recordOcc_noop (h p List.mem_cons_self)]
    exact ih (fun o ho => h o (List.mem_cons_of_mem _ ho))

/-- the records made on the container's own dictionary -/
def ownOccs (pre : List (PreItem N U)) : List (Occ N U) :=
  pre.filterMap fun
    | .own o => some o
    | .scratch _ => none

/-- a throw-away block can only fail: when the parse-time records succeed, they are the `own` ones -/
theorem recordPre_ok {st st' : St N U} {pre : List (PreItem N U)} (h : recordPre st pre = .ok st') :
    recordAll st (ownOccs pre) = .ok st' := by
  induction pre generalizing st with
  | nil => exact h
  | cons p t ih =>
    cases p with
    | own o =>
      simp only [recordPre] at h
      cases h1 : recordOcc st o with
      | error e => rw [h1] at h; cases h
      | ok st1 => rw [h1] at h; simp only [ownOccs, List.filterMap_cons, recordAll, h1]; exact ih h
    | scratch os =>
      simp only [recordPre] at h
      cases h1 : recordAll (St.empty : St N U) os with
      | error e => rw [h1] at h; cases h
      | ok st1 => rw [h1] at h; exact ih h

theorem recordPre_inv {st st' : St N U} {pre : List (PreItem N U)}
    (h : recordPre st pre = .ok st') (hw : WF st) :
    WF st' ∧ ∀ o, PreItem.own o ∈ pre → ∀ u, o.given = some u → Truthy st' o.kind o.name u :=
  have h' := recordPre_ok h
  ⟨recordAll_wf h' hw, fun o ho _ hu =>
    (recordAll_truthy_iff h').2 (Or.inr ⟨o, List.mem_filterMap.2 ⟨.own o, ho, rfl⟩, rfl, rfl, hu⟩)⟩

theorem genDict_truthy (fresh : Nat → U) (d : Dict N U) (c : Nat) {n : N} {u : U}
    (h : dget d n = some (some u)) : dget (genDict fresh d c).1 n = some (some u) := by
  induction d generalizing c with
  | nil => simp [dget] at h
  | cons p t ih =>
    obtain ⟨k, w⟩ := p
    by_cases hk : k = n
    · simp only [dget, hk, if_true, Option.some.injEq] at h
      simp [h, genDict, dget, hk]
    · simp only [dget, hk, if_false] at h
      cases w <;> simp [genDict, dget, hk, ih _ h]

theorem genDict_keys (fresh : Nat → U) (d : Dict N U) (c : Nat) :
    dkeys (genDict fresh d c).1 = dkeys d := by
  induction d generalizing c with
  | nil => rfl
  | cons p t ih =>
    obtain ⟨k, w⟩ := p
    cases w <;> exact congrArg (k :: ·) (ih _)

theorem genDict_allSome (fresh : Nat → U) (d : Dict N U) (c : Nat) :
    AllSome (genDict fresh d c).1 := by
  induction d generalizing c with
  | nil => intro p hp; cases hp
  | cons p t ih =>
    obtain ⟨k, w⟩ := p
    cases w <;> exact List.forall_mem_cons.2 ⟨rfl, ih _⟩

theorem genDict_of_allSome (fresh : Nat → U) (d : Dict N U) (c : Nat) (h : AllSome d) :
    genDict fresh d c = (d, c) := by
  induction d generalizing c with
  | nil => rfl
  | cons p t ih =>
    obtain ⟨k, w⟩ := p
    have hw := h (k, w) List.mem_cons_self
    cases w with
    | none => simp at hw
    | some x =>
      simp only [genDict]
      rw [ih c (fun q hq => h q (List.mem_cons_of_mem _ hq))]

theorem allSome_dget {d : Dict N U} (h : AllSome d) {n : N} (hk : (dget d n).isSome = true) :
    ∃ u, dget d n = some (some u) := by
  cases hd : dget d n with
  | none => rw [hd] at hk; cases hk
  | some v =>
    have := h (n, v) (mem_of_dget hd)
    cases v with
    | none => cases this
    | some u => exact ⟨u, rfl⟩

theorem generateMissing_get (fresh : Nat → U) (st : St N U) (c : Nat) (k : Kind) :
    ∃ c', (generateMissing fresh st c).1.get k = (genDict fresh (st.get k) c').1 := by
  cases k
  · exact ⟨(genDict fresh st.flows c).2, rfl⟩
  · exact ⟨c, rfl⟩

theorem generateMissing_truthy (fresh : Nat → U) {st : St N U} (c : Nat) {k : Kind} {n : N} {u : U}
    (h : Truthy st k n u) : Truthy (generateMissing fresh st c).1 k n u := by
  obtain ⟨c', hc⟩ := generateMissing_get fresh st c k
  unfold Truthy; rw [hc]; exact genDict_truthy fresh _ _ h

theorem generateMissing_keys (fresh : Nat → U) (st : St N U) (c : Nat) (k : Kind) :
    dkeys ((generateMissing fresh st c).1.get k) = dkeys (st.get k) := by
  obtain ⟨c', hc⟩ := generateMissing_get fresh st c k
  rw [hc]; exact genDict_keys fresh _ _

theorem generateMissing_allSome (fresh : Nat → U) (st : St N U) (c : Nat) (k : Kind) :
    AllSome ((generateMissing fresh st c).1.get k) := by
  obtain ⟨c', hc⟩ := generateMissing_get fresh st c k
  rw [hc]; exact genDict_allSome fresh _ _

theorem generateMissing_hasKey (fresh : Nat → U) {st : St N U} (c : Nat) {k : Kind} {n : N} :
    HasKey (generateMissing fresh st c).1 k n ↔ HasKey st k n := by
  unfold HasKey
  rw [dget_isSome_iff, dget_isSome_iff, generateMissing_keys]

theorem generateMissing_wf (fresh : Nat → U) {st : St N U} (c : Nat) (h : WF st) :
    WF (generateMissing fresh st c).1 := by
  have hf := generateMissing_keys fresh st c .flow
  have hg := generateMissing_keys fresh st c .group
  simp only [St.get] at hf hg
  exact ⟨by rw [hf]; exact h.1, by rw [hg]; exact h.2⟩

theorem generateMissing_fix (fresh : Nat → U) (st : St N U) (c : Nat)
    (hf : AllSome st.flows) (hg : AllSome st.groups) : generateMissing fresh st c = (st, c) := by
  unfold generateMissing
  simp [genDict_of_allSome fresh _ _ hf, genDict_of_allSome fresh _ _ hg]

theorem assignOcc_site (st : St N U) (o : Occ N U) : (assignOcc st o).site = o.site := by
  unfold assignOcc; split <;> rfl

theorem assignOcc_name (st : St N U) (o : Occ N U) : (assignOcc st o).name = o.name := by
  unfold assignOcc; split <;> rfl

theorem assignOcc_kind (st : St N U) (o : Occ N U) : (assignOcc st o).kind = o.kind :=
  congrArg Site.kind (assignOcc_site st o)

theorem assignOcc_eq_self {st : St N U} {o : Occ N U}
    (h : assignable o.site = true → o.given = lookup st o.kind o.name) : assignOcc st o = o := by
  unfold assignOcc
  split
  · next hs => rw [← h hs]
  · rfl

section
variable {fresh : Nat → U} {st : St N U} {nx : Nat} {occs : List (Occ N U)} {out : Out N U}
  (h : runOccs fresh st nx occs = .ok out)
include h

theorem runOccs_ok : ∃ st1, recordAll st occs = .ok st1 ∧ out.st = (generateMissing fresh st1 nx).1 := by
  unfold runOccs at h
  split at h
  · cases h
  · next st1 h1 => cases h; exact ⟨st1, h1, rfl⟩

theorem runOccs_groups : out.groups = out.st.groups := by
  unfold runOccs at h
  split at h <;> cases h
  rfl

theorem runOccs_occs : out.occs = (occs.filter (fun o => inOutput o.site)).map (assignOcc out.st) := by
  unfold runOccs at h
  split at h <;> cases h
  rfl

theorem runOccs_allSome (k : Kind) : AllSome (out.st.get k) := by
  obtain ⟨st1, _, hst⟩ := runOccs_ok h
  rw [hst]
  exact generateMissing_allSome fresh st1 nx k

theorem runOccs_wf (hw : WF st) : WF out.st := by
  obtain ⟨st1, h1, hst⟩ := runOccs_ok h
  rw [hst]
  exact generateMissing_wf fresh nx (recordAll_wf h1 hw)

theorem runOccs_mem {o : Occ N U} (ho : o ∈ out.occs) :
    ∃ o0 ∈ occs, inOutput o0.site = true ∧ o = assignOcc out.st o0 := by
  rw [runOccs_occs h] at ho
  obtain ⟨o0, ho0, rfl⟩ := List.mem_map.1 ho
  exact ⟨o0, (List.mem_filter.1 ho0).1, (List.mem_filter.1 ho0).2, rfl⟩

theorem runOccs_inOutput {o : Occ N U} (ho : o ∈ out.occs) : inOutput o.site = true := by
  obtain ⟨o0, _, hio, rfl⟩ := runOccs_mem h ho
  rw [assignOcc_site]
  exact hio

end

theorem run_ok {fresh : Nat → U} {pre : List (PreItem N U)} {c : Container N U} {out : Out N U}
    (h : run fresh pre c = .ok out) :
    ∃ st, recordPre St.empty pre = .ok st ∧ runOccs fresh st 0 (occsOf c) = .ok out := by
  unfold run at h
  cases hp : recordPre (St.empty : St N U) pre with
  | error e => rw [hp] at h; cases h
  | ok st => rw [hp] at h; exact ⟨st, rfl, h⟩

theorem runStage_ok {fresh : Nat → U} {kept : U → Bool} {prev out : Out N U} {pre : List (PreItem N U)}
    {c : Container N U} (h : runStage fresh kept prev pre c = .ok out) :
    ∃ st, recordPre prev.st pre = .ok st ∧ runOccs fresh st prev.next (occsOf (c.settle kept prev)) = .ok out := by
  unfold runStage at h
  cases hp : recordPre prev.st pre with
  | error e => rw [hp] at h; cases h
  | ok st => rw [hp] at h; exact ⟨st, rfl, h⟩

/-! ### the validated container re-flattens to `reOccs` -/

theorem filter_const_true {α : Type} (l : List α) : l.filter (fun _ => true) = l :=
  List.filter_eq_self.2 (fun _ _ => rfl)

theorem filter_inOutput_of_not {α : Type} {f : α → Occ N U} (l : List α) (h : ∀ a, inOutput (f a).site = false) :
    (l.map f).filter (fun o => inOutput o.site) = [] :=
  List.filter_eq_nil_iff.2 (fun o ho => by
    obtain ⟨a, _, rfl⟩ := List.mem_map.1 ho
    simp [h a])

theorem filter_map_nodeOccs (st : St N U) (nd : NodeRefs N U) :
    ((nodeOccs nd).filter (fun o => inOutput o.site)).map (assignOcc st) =
    nodeOccs { actions := nd.actions.map (fun a => (a.1, a.2.assign st a.1))
               cases := nd.cases.map (fun r => r.assign st .group) } := by
  simp [nodeOccs, List.filter_append, List.filter_map, List.map_append, Function.comp_def,
    inOutput, assignOcc, assignable, Ref.assign, Occ.kind, Site.kind, filter_const_true]

theorem filter_map_campaignOccs (st : St N U) (cp : CampaignC N U) :
    ((campaignOccs cp).filter (fun o => inOutput o.site)).map (assignOcc st) =
    campaignOccs { events := cp.events.map (fun e => { e with flow := e.flow.assign st .flow })
                   group := cp.group.assign st .group } := by
  simp [campaignOccs, List.filter_append, List.filter_map, List.map_append, Function.comp_def,
    inOutput, assignOcc, assignable, Ref.assign, Occ.kind, Site.kind, filter_const_true]

theorem filter_map_triggerOccs (st : St N U) (t : TriggerC N U) :
    ((triggerOccs t).filter (fun o => inOutput o.site)).map (assignOcc st) =
    triggerOccs { flow := t.flow.assign st .flow
                  groups := t.groups.map (fun r => r.assign st .group)
                  exclude := t.exclude.map (fun r => r.assign st .group) } := by
  simp [triggerOccs, List.filter_append, List.filter_map, List.map_append, Function.comp_def,
    inOutput, assignOcc, assignable, Ref.assign, Occ.kind, Site.kind, filter_const_true]

theorem filter_map_flatMap {α : Type} (st : St N U) (l : List α) (f g : α → List (Occ N U))
    (h : ∀ a, ((f a).filter (fun o => inOutput o.site)).map (assignOcc st) = g a) :
    ((l.flatMap f).filter (fun o => inOutput o.site)).map (assignOcc st) = l.flatMap g := by
  induction l with
  | nil => rfl
  | cons a t ih => simp [List.flatMap_cons, List.filter_append, h, ih]

theorem occsOf_validated (st : St N U) (c : Container N U) :
    occsOf (c.validated st) =
      (groupList st).map (fun p => (⟨p.1, p.2, .groupList⟩ : Occ N U)) ++
      ((occsOf c).filter (fun o => inOutput o.site)).map (assignOcc st) := by
  unfold occsOf Container.validated
  simp only [List.filter_append, List.map_append, List.append_assoc]
  have e1 : ((c.groups.map (fun r => (⟨r.name, r.given, .groupList⟩ : Occ N U))).filter
      (fun o => inOutput o.site)).map (assignOcc st) = [] := by
    rw [filter_inOutput_of_not _ (fun _ => rfl), List.map_nil]
  have e2 : ((c.flows.map (fun f => (⟨f.name, f.uuid, .flowDef⟩ : Occ N U))).filter
      (fun o => inOutput o.site)).map (assignOcc st) =
      c.flows.map (fun f => (⟨f.name, f.uuid, .flowDef⟩ : Occ N U)) := by
    simp [List.filter_map, Function.comp_def, inOutput, assignOcc, assignable, filter_const_true]
  rw [e1, e2]
  rw [filter_map_flatMap st c.flows _ _ (fun f => filter_map_flatMap st f.nodes _ _ (filter_map_nodeOccs st))]
  rw [filter_map_flatMap st c.campaigns _ _ (filter_map_campaignOccs st)]
  rw [filter_map_flatMap st c.triggers _ _ (filter_map_triggerOccs st)]
  simp [List.map_map, List.flatMap_map, Function.comp_def]
end Rpft.Uuid
