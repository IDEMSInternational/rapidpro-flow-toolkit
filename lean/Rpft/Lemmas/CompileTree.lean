/-
The tree invariant of the compiler machine: which group holds which node and which block holds which group.
* `NInv` — every arena node that is not pending is held by exactly one group, exactly once;
* `GInv` — every group that is not a root (open block, hidden enclosing block, group about to be
  appended) is a child of exactly one block, exactly once; children have larger indices than
  their parent;
* `SInv` — the stack of open blocks is strictly decreasing, its bottom is the parser's root.
Stated over abstract "held nodes of group g" / "children of group g" functions.  `GInv` is `NInv` with the
order clause (`ginv_iff`), and every update of the machine is composed of three moves on `NInv`: a new pending
element (`NInv.pending`), a new group holding nothing (`NInv.newEmpty`), a pending element put at the end of a
group (`NInv.put`).  Then on machine states: `BInv` under the updates of the machine.
-/
import Rpft.Lemmas.CompileWp
namespace Rpft.Compile
open Rpft

section
def upd (f : Nat → Option (List Nat)) (g : Nat) (l : List Nat) : Nat → Option (List Nat) :=
  fun x => if x = g then some l else f x

theorem upd_same (f : Nat → Option (List Nat)) (g : Nat) (l : List Nat) (h : f g = some l) :
    upd f g l = f := by
  funext x; unfold upd; split
  · rename_i e; rw [e, h]
  · rfl

theorem upd_upd (f : Nat → Option (List Nat)) (g : Nat) (a b : List Nat) : upd (upd f g a) g b = upd f g b := by
  funext x; unfold upd; split <;> rfl

variable {P P' R R' : Nat → Prop} {nsz gsz g gn i x : Nat} {hf kf f : Nat → Option (List Nat)} {l m : List Nat}

theorem upd_eq_some (h : upd f g l x = some m) : (x = g ∧ m = l) ∨ (x ≠ g ∧ f x = some m) := by
  unfold upd at h
  split at h
  · rename_i e; injection h with h; exact .inl ⟨e, h.symm⟩
  · rename_i e; exact .inr ⟨e, h⟩

/-- `P`: pending nodes (created, not yet in a group); `nsz`: size of the node arena;
`hf g`: the nodes held by group `g` -/
structure NInv (P : Nat → Prop) (nsz : Nat) (hf : Nat → Option (List Nat)) : Prop where
  nheld : ∀ i, i < nsz → P i ∨ ∃ g l, hf g = some l ∧ i ∈ l
  hnodup : ∀ g l, hf g = some l → l.Nodup
  hlt : ∀ g l i, hf g = some l → i ∈ l → i < nsz ∧ ¬ P i
  huniq : ∀ g g' l l' i, hf g = some l → hf g' = some l' → i ∈ l → i ∈ l' → g = g'
  plt : ∀ i, P i → i < nsz

theorem NInv.congr {P P' : Nat → Prop} {nsz : Nat} {hf : Nat → Option (List Nat)} (h : NInv P nsz hf)
    (hp : ∀ x, P x ↔ P' x) : NInv P' nsz hf := by
  refine ⟨?_, h.hnodup, ?_, h.huniq, ?_⟩
  · intro i hi; rcases h.nheld i hi with h1 | h1
    · exact .inl ((hp i).mp h1)
    · exact .inr h1
  · intro g l i hg hi; have := h.hlt g l i hg hi; exact ⟨this.1, fun hp' => this.2 ((hp i).mpr hp')⟩
  · intro i hi; exact h.plt i ((hp i).mpr hi)

theorem NInv.pending {P : Nat → Prop} {nsz : Nat} {hf : Nat → Option (List Nat)} (h : NInv P nsz hf) :
    NInv (fun x => x = nsz ∨ P x) (nsz + 1) hf := by
  refine ⟨?_, h.hnodup, ?_, h.huniq, ?_⟩
  · intro i hi
    by_cases hin : i = nsz
    · exact .inl (.inl hin)
    · rcases h.nheld i (by omega) with h1 | h1
      · exact .inl (.inr h1)
      · exact .inr h1
  · intro g l i hg hi
    have := h.hlt g l i hg hi
    refine ⟨by omega, ?_⟩
    rintro (e | e)
    · omega
    · exact this.2 e
  · rintro i (e | e)
    · omega
    · have := h.plt i e; omega

theorem NInv.newEmpty (h : NInv P nsz hf) (hgn : hf gn = none) : NInv P nsz (upd hf gn []) := by
  have hne : ∀ g' l', hf g' = some l' → g' ≠ gn := by
    intro g' l' h1 e; rw [e, hgn] at h1; cases h1
  refine ⟨?_, ?_, ?_, ?_, h.plt⟩
  · intro j hj
    rcases h.nheld j hj with h1 | ⟨g', l', hg', hj'⟩
    · exact .inl h1
    · exact .inr ⟨g', l', by simp [upd, hne g' l' hg', hg'], hj'⟩
  · intro g' l' hg'
    rcases upd_eq_some hg' with ⟨_, rfl⟩ | ⟨_, h2⟩
    · simp
    · exact h.hnodup g' l' h2
  · intro g' l' j hg' hj
    rcases upd_eq_some hg' with ⟨_, rfl⟩ | ⟨_, h2⟩
    · simp at hj
    · exact h.hlt g' l' j h2 hj
  · intro g1 g2 l1 l2 j h1 h2 hj1 hj2
    rcases upd_eq_some h1 with ⟨e1, rfl⟩ | ⟨e1, k1⟩ <;> rcases upd_eq_some h2 with ⟨e2, rfl⟩ | ⟨e2, k2⟩
    · rw [e1, e2]
    · simp at hj1
    · simp at hj2
    · exact h.huniq g1 g2 l1 l2 j k1 k2 hj1 hj2

theorem NInv.empty (hl : ∀ g l, hf g = some l → l = []) (hp : ∀ i, P i ↔ i < nsz) : NInv P nsz hf := by
  refine ⟨fun i hi => .inl ((hp i).mpr hi), fun g l h => ?_, fun g l i h hi => ?_, fun g _ l _ i h _ hi => ?_,
    fun i => (hp i).mp⟩
  · rw [hl g l h]; exact List.nodup_nil
  · rw [hl g l h] at hi; cases hi
  · rw [hl g l h] at hi; cases hi

theorem NInv.put (h : NInv (fun x => x = i ∨ P x) nsz hf) (hg : hf g = some l) (hpi : ¬ P i) :
    NInv P nsz (upd hf g (l ++ [i])) := by
  have hfree : ∀ g' l', hf g' = some l' → i ∉ l' := fun g' l' h1 hm => (h.hlt g' l' i h1 hm).2 (.inl rfl)
  have mem : ∀ {j}, j ∈ l ++ [i] ↔ j ∈ l ∨ j = i := by simp
  refine ⟨fun j hj => ?_, fun g' l' hg' => ?_, fun g' l' j hg' hj => ?_, fun g1 g2 l1 l2 j h1 h2 hj1 hj2 => ?_,
    fun j hp => h.plt j (.inr hp)⟩
  · rcases h.nheld j hj with (h1 | h1) | ⟨g', l', hg', hj'⟩
    · exact .inr ⟨g, _, by simp [upd], mem.mpr (.inr h1)⟩
    · exact .inl h1
    · by_cases hgg : g' = g
      · subst hgg; rw [hg] at hg'; cases hg'
        exact .inr ⟨g', _, by simp [upd], mem.mpr (.inl hj')⟩
      · exact .inr ⟨g', l', by simp [upd, hgg, hg'], hj'⟩
  · rcases upd_eq_some hg' with ⟨_, rfl⟩ | ⟨_, h2⟩
    · rw [List.nodup_append]
      exact ⟨h.hnodup g l hg, by simp, fun a ha b hb e => hfree g l hg (by simp at hb; rw [← hb, ← e]; exact ha)⟩
    · exact h.hnodup g' l' h2
  · rcases upd_eq_some hg' with ⟨_, rfl⟩ | ⟨_, h2⟩
    · rcases mem.mp hj with hj | rfl
      · have := h.hlt g l j hg hj; exact ⟨this.1, fun hp => this.2 (.inr hp)⟩
      · exact ⟨h.plt j (.inl rfl), hpi⟩
    · have := h.hlt g' l' j h2 hj; exact ⟨this.1, fun hp => this.2 (.inr hp)⟩
  · rcases upd_eq_some h1 with ⟨e1, rfl⟩ | ⟨e1, k1⟩ <;> rcases upd_eq_some h2 with ⟨e2, rfl⟩ | ⟨e2, k2⟩
    · rw [e1, e2]
    · rcases mem.mp hj1 with hj1 | rfl
      · rw [e1]; exact h.huniq g g2 l l2 j hg k2 hj1 hj2
      · exact absurd hj2 (hfree g2 l2 k2)
    · rcases mem.mp hj2 with hj2 | rfl
      · rw [e2]; exact h.huniq g1 g l1 l j k1 hg hj1 hj2
      · exact absurd hj1 (hfree g1 l1 k1)
    · exact h.huniq g1 g2 l1 l2 j k1 k2 hj1 hj2

/-- a new node is created and put at the end of group `g` (a row group gets the router node
created behind its node; a `no_op` group gets its router node) -/
theorem NInv.attach (h : NInv P nsz hf) (hg : hf g = some l) : NInv P (nsz + 1) (upd hf g (l ++ [nsz])) :=
  h.pending.put hg fun hp => Nat.lt_irrefl _ (h.plt _ hp)

theorem NInv.newRow (h : NInv (fun x => x = i ∨ P x) nsz hf) (hgn : hf gn = none) (hpi : ¬ P i) :
    NInv P nsz (upd hf gn [i]) := by
  have := (h.newEmpty hgn).put (g := gn) (l := []) (by simp [upd]) hpi
  rwa [upd_upd] at this

/-- `R`: the roots; `gsz`: size of the group arena; `kf p`: the children of group `p` -/
structure GInv (R : Nat → Prop) (gsz : Nat) (kf : Nat → Option (List Nat)) : Prop where
  gparent : ∀ g, g < gsz → R g ∨ ∃ p l, kf p = some l ∧ g ∈ l
  knodup : ∀ p l, kf p = some l → l.Nodup
  klt : ∀ p l c, kf p = some l → c ∈ l → p < c ∧ c < gsz ∧ ¬ R c
  kuniq : ∀ p p' l l' c, kf p = some l → kf p' = some l' → c ∈ l → c ∈ l' → p = p'
  rlt : ∀ g, R g → g < gsz

theorem ginv_iff : GInv R gsz kf ↔ NInv R gsz kf ∧ ∀ p l c, kf p = some l → c ∈ l → p < c :=
  ⟨fun h => ⟨⟨h.gparent, h.knodup, fun p l c hp hc => (h.klt p l c hp hc).2, h.kuniq, h.rlt⟩,
      fun p l c hp hc => (h.klt p l c hp hc).1⟩,
   fun ⟨h, lt⟩ => ⟨h.nheld, h.hnodup, fun p l c hp hc => ⟨lt p l c hp hc, h.hlt p l c hp hc⟩, h.huniq, h.plt⟩⟩

theorem GInv.congr (h : GInv R gsz kf)
    (hr : ∀ x, R x ↔ R' x) : GInv R' gsz kf :=
  ginv_iff.mpr ⟨(ginv_iff.mp h).1.congr hr, (ginv_iff.mp h).2⟩

theorem GInv.new (h : GInv R gsz kf)
    (hgn : kf gsz = none) : GInv (fun x => x = gsz ∨ R x) (gsz + 1) (upd kf gsz []) := by
  obtain ⟨hn, lt⟩ := ginv_iff.mp h
  refine ginv_iff.mpr ⟨hn.pending.newEmpty hgn, fun p l c hp hc => ?_⟩
  rcases upd_eq_some hp with ⟨_, rfl⟩ | ⟨_, h2⟩
  · cases hc
  · exact lt p l c h2 hc

theorem GInv.append {R : Nat → Prop} {gsz : Nat} {kf : Nat → Option (List Nat)} {b g : Nat} {ch : List Nat}
    (h : GInv R gsz kf) (hb : kf b = some ch) (hg : R g) (hbg : b < g) :
    GInv (fun x => x ≠ g ∧ R x) gsz (upd kf b (ch ++ [g])) := by
  obtain ⟨hn, lt⟩ := ginv_iff.mp h
  have hn' : NInv (fun x => x = g ∨ (x ≠ g ∧ R x)) gsz kf :=
    hn.congr fun x => ⟨fun hx => (Classical.em (x = g)).imp id fun e => ⟨e, hx⟩, fun hx => hx.elim (· ▸ hg) (·.2)⟩
  refine ginv_iff.mpr ⟨hn'.put hb fun hx => hx.1 rfl, fun p l c hp hc => ?_⟩
  rcases upd_eq_some hp with ⟨e, rfl⟩ | ⟨_, h2⟩
  · rcases List.mem_append.mp hc with hc | hc
    · exact e ▸ lt b ch c hb hc
    · rw [List.mem_singleton.mp hc, e]; exact hbg
  · exact lt p l c h2 hc

/-- `H`: hidden roots (open blocks of enclosing parsers, groups about to be appended) -/
structure SInv (H : Nat → Prop) (root : Nat) (st : List Nat) : Prop where
  sorted : st.Pairwise (· > ·)
  notH : ∀ b ∈ st, ¬ H b
  last : st.getLast? = some root

theorem SInv.ne_nil {H : Nat → Prop} {root : Nat} {st : List Nat} (h : SInv H root st) : st ≠ [] := by
  intro e; have := h.last; rw [e] at this; simp at this

theorem SInv.eq_singleton {H : Nat → Prop} {root : Nat} {st : List Nat} (h : SInv H root st)
    (hl : st.length = 1) : st = [root] := eq_singleton_of_getLast? hl h.last
end

/-! ### on machine states: `BInv` under the updates of the machine -/

/-- the nodes a group holds itself (what `add_nodes_to_flow` emits for it) -/
def held : Grp → List Nat
  | .row ns _ => ns
  | .noop _ (some j) => [j]
  | .noop _ none => []
  | .block _ => []

def kids : Grp → List Nat
  | .block ch => ch
  | _ => []

def heldF (gs : Array Grp) : Nat → Option (List Nat) := fun g => (gs[g]?).map held
def kidsF (gs : Array Grp) : Nat → Option (List Nat) := fun g => (gs[g]?).map kids

variable {P P' H H' : Nat → Prop} {root root' nsz g : Nat} {gs : Array Grp} {st st' : List Nat} {grp : Grp} {s s' : St}

theorem mapF_set (f : Grp → List Nat) (grp' : Grp)
    (hg : gs[g]? = some grp) :
    (fun x => ((gs.setIfInBounds g grp')[x]?).map f) = upd (fun x => (gs[x]?).map f) g (f grp') := by
  have hlt : g < gs.size := lt_size_of_getElem? hg
  funext x
  simp only [upd, Array.getElem?_setIfInBounds]
  by_cases hx : x = g
  · subst hx; simp [hlt]
  · have : ¬ g = x := fun e => hx e.symm
    simp [hx, this]

theorem mapF_push (f : Grp → List Nat) (gs : Array Grp) (grp : Grp) :
    (fun x => ((gs.push grp)[x]?).map f) = upd (fun x => (gs[x]?).map f) gs.size (f grp) := by
  funext x
  simp only [upd, Array.getElem?_push]
  split <;> simp

theorem heldF_set (grp' : Grp) (hg : gs[g]? = some grp) :
    heldF (gs.setIfInBounds g grp') = upd (heldF gs) g (held grp') := mapF_set held grp' hg

theorem kidsF_set (grp' : Grp) (hg : gs[g]? = some grp) :
    kidsF (gs.setIfInBounds g grp') = upd (kidsF gs) g (kids grp') := mapF_set kids grp' hg

theorem heldF_push (gs : Array Grp) (grp : Grp) : heldF (gs.push grp) = upd (heldF gs) gs.size (held grp) :=
  mapF_push held gs grp

theorem kidsF_push (gs : Array Grp) (grp : Grp) : kidsF (gs.push grp) = upd (kidsF gs) gs.size (kids grp) :=
  mapF_push kids gs grp

theorem heldF_size (gs : Array Grp) : heldF gs gs.size = none := by simp [heldF]
theorem kidsF_size (gs : Array Grp) : kidsF gs gs.size = none := by simp [kidsF]

/-- `P` pending nodes, `H` hidden roots, `root` the bottom of the stack (ghost parameters) -/
structure BInvC (P H : Nat → Prop) (root : Nat) (nsz : Nat) (gs : Array Grp) (st : List Nat) : Prop where
  n : NInv P nsz (heldF gs)
  g : GInv (fun x => x ∈ st ∨ H x) gs.size (kidsF gs)
  st : SInv H root st

def BInv (P H : Nat → Prop) (root : Nat) (s : St) : Prop := BInvC P H root s.nodes.size s.groups s.stack

/-- a group created next lies above every root: it is no hidden root, and the open blocks are below it -/
theorem BInvC.above (b : BInvC P H root nsz gs st) : ¬ H gs.size ∧ ∀ x ∈ st, x < gs.size :=
  ⟨fun h => Nat.lt_irrefl _ (b.g.rlt _ (.inr h)), fun x hx => b.g.rlt x (.inl hx)⟩

theorem BInv.frame (b : BInv P H root s)
    (h1 : s'.groups = s.groups) (h2 : s'.stack = s.stack) (h3 : s'.nodes.size = s.nodes.size) :
    BInv P H root s' := by
  unfold BInv at *; rw [h1, h2, h3]; exact b

theorem BInvC.setSame (grp' : Grp) (b : BInvC P H root nsz gs st) (hg : gs[g]? = some grp)
    (hh : held grp' = held grp) (hk : kids grp' = kids grp) :
    BInvC P H root nsz (gs.setIfInBounds g grp') st := by
  refine ⟨?_, ?_, b.st⟩
  · rw [heldF_set grp' hg, hh, upd_same]; exact b.n
    simp [heldF, hg]
  · rw [kidsF_set grp' hg, hk, upd_same, Array.size_setIfInBounds]; exact b.g
    simp [kidsF, hg]

theorem BInvC.attach (grp' : Grp) (b : BInvC P H root nsz gs st) (hg : gs[g]? = some grp)
    (hh : held grp' = held grp ++ [nsz]) (hk : kids grp' = kids grp) :
    BInvC P H root (nsz + 1) (gs.setIfInBounds g grp') st := by
  refine ⟨?_, ?_, b.st⟩
  · rw [heldF_set grp' hg, hh]
    exact b.n.attach (by simp [heldF, hg])
  · rw [kidsF_set grp' hg, hk, upd_same, Array.size_setIfInBounds]; exact b.g
    simp [kidsF, hg]

theorem BInvC.pending {P H : Nat → Prop} {root nsz : Nat} {gs : Array Grp} {st : List Nat}
    (b : BInvC P H root nsz gs st) : BInvC (fun x => x = nsz ∨ P x) H root (nsz + 1) gs st :=
  ⟨b.n.pending, b.g, b.st⟩

theorem BInvC.congrH {P H H' : Nat → Prop} {root nsz : Nat} {gs : Array Grp} {st : List Nat}
    (b : BInvC P H root nsz gs st) (hh : ∀ x, H x ↔ H' x) : BInvC P H' root nsz gs st := by
  refine ⟨b.n, b.g.congr (fun x => by rw [hh x]), ⟨b.st.sorted, ?_, b.st.last⟩⟩
  intro x hx hx'; exact b.st.notH x hx ((hh x).mpr hx')

/-- a new group, not yet appended anywhere: it becomes a hidden root -/
theorem BInvC.newGrp (b : BInvC P' H root nsz gs st) (hk : kids grp = [])
    (hn : NInv P' nsz (heldF gs) → NInv P nsz (upd (heldF gs) gs.size (held grp))) :
    BInvC P (fun x => x = gs.size ∨ H x) root nsz (gs.push grp) st := by
  refine ⟨?_, ?_, ⟨b.st.sorted, ?_, b.st.last⟩⟩
  · rw [heldF_push]; exact hn b.n
  · rw [kidsF_push, hk, Array.size_push]
    refine (b.g.new (kidsF_size gs)).congr ?_
    exact fun x => or_left_comm
  · intro x hx
    rintro (h | h)
    · have := b.g.rlt x (.inl hx); omega
    · exact b.st.notH x hx h

/-- `append_node_group`: the hidden root `g` becomes the last child of the innermost open block -/
theorem BInvC.append {P H H' : Nat → Prop} {root nsz : Nat} {gs : Array Grp} {b0 g : Nat} {rest ch : List Nat}
    (b : BInvC P H' root nsz gs (b0 :: rest)) (hb : gs[b0]? = some (.block ch)) (hg : H' g) (hbg : b0 < g)
    (hh : ∀ x, H x ↔ (x ≠ g ∧ H' x)) :
    BInvC P H root nsz (gs.setIfInBounds b0 (.block (ch ++ [g]))) (b0 :: rest) := by
  have hgs : g ∉ b0 :: rest := fun hm => b.st.notH g hm hg
  refine ⟨?_, ?_, ⟨b.st.sorted, ?_, b.st.last⟩⟩
  · rw [heldF_set _ hb, upd_same]; exact b.n
    simp [heldF, hb, held]
  · rw [kidsF_set _ hb, Array.size_setIfInBounds]
    have := b.g.append (b := b0) (g := g) (ch := ch) (by simp [kidsF, hb, kids]) (.inr hg) hbg
    refine this.congr ?_
    intro x; rw [hh x]; constructor
    · rintro ⟨h1, h2 | h2⟩
      · exact .inl h2
      · exact .inr ⟨h1, h2⟩
    · rintro (h | ⟨h1, h2⟩)
      · exact ⟨fun e => hgs (e ▸ h), .inl h⟩
      · exact ⟨h1, .inr h2⟩
  · intro x hx hx'; exact b.st.notH x hx ((hh x).mp hx').2

/-- the stack and the hidden roots are rearranged (push, pop, entering / leaving an inserted
block): the set of roots stays the same -/
theorem BInvC.reroot (b : BInvC P H root nsz gs st) (hr : ∀ x, (x ∈ st ∨ H x) ↔ (x ∈ st' ∨ H' x))
    (hs : SInv H' root' st') : BInvC P H' root' nsz gs st' :=
  ⟨b.n, b.g.congr hr, hs⟩

end Rpft.Compile
