/-
The insert row and its twin block compile to the same nodes up to an injective renaming of
identifiers (`Renamed`): the theorem on the compiler model (`insert_twin_nodes`, in two modes; `hidden`
is the list `F` the property file gives the first mode, `TightAt` what the second asks of the twin's run).
-/
import Rpft.Lemmas.CompileInsertBlock
namespace Rpft.Compile
open Rpft Function

/-- the row ids the rows after the block must not use: the block's own and those of the template -/
def hidden (r : Row) (body : List Event) : List Str := r.rowId :: defsL body

/-- the rows leading into the twin block have no unconnected exit left once the template's first
row is read: the begin row's `no_op` group (first child of the open block) has row groups as parents,
all of whose nodes have no loose exit (and, if basic, a connected default exit) -/
def TightAt (a₂ : St) : Prop := ∃ b, a₂.stack.head? = some b ∧ Inert (b + 1) a₂

def Renamed (o₁ o₂ : Out) : Prop := ∃ ρ : Uid → Uid, Injective ρ ∧ o₂.nodes = o₁.nodes.map (rnNode ρ)

theorem twin_names_kept {r r₁ : Row} {rest : List Event} (he : EntryRow r₁) (hnn : noNamesL rest = true) {s₀ o₂ b₂ : St}
    (hO : (openGroup r.edges false).run s₀ = .ok ((), o₂))
    (hT : (steps (.row (retargetRow r₁) :: rest)).run o₂ = .ok ((), b₂)) :
    ∀ x, x ≠ [] → lookupIn b₂.names x = lookupIn s₀.names x := by
  intro x hx
  have e1 := (wp_of_run (openGroup_eff r.edges false s₀) hO).1.nm rfl x hx
  have hn : noNamesL (.row (retargetRow r₁) :: rest) = true := by
    have a1 : (retargetRow r₁).nodeUuid = [] := he.nodeUuid_eq
    have a2 : (retargetRow r₁).nodeName = [] := he.nodeName_eq
    simp only [noNamesL, List.all_cons, Event.noNames, a1, a2, List.isEmpty_nil, Bool.and_self, Bool.true_and]
    exact hnn
  rw [(wp_of_run (steps_eff _ o₂) hT).1.nm hn x hx, e1]

/-- **the insert row and its twin block compile to the same flow up to an injective renaming of
identifiers**, on the compiler model.  `md = false`: the insert row is at top level and the rows after the block
stay away from it and from the row ids `F`; `md = true`: at any depth, the rows after the block may continue from
it, provided the twin block is tight and none of them is a `loose_exit` row -/
theorem insert_twin_nodes (md : Bool) {na nt : List Str} {pre post rest : List Event} {r r₁ : Row}
    (he : EntryRow r₁) (hns : noStartL rest = true) (hnn : noNamesL rest = true)
    (hid : okIdsL (pre ++ [Event.insert r (Event.row r₁ :: rest)] ++ post) = true)
    (hbal : md = false → opens pre = closes pre)
    (F : List Str) (hFr : md = false → r.rowId ∈ F) (hF : ∀ x ∈ defsL (.row r₁ :: rest), x ∈ F)
    (htight : md = true → ∀ a₂, (steps (pre ++ [Event.openGroup r.edges false, Event.row (retargetRow r₁)])).run
      (initSt na nt) = .ok ((), a₂) → TightAt a₂)
    (hnl : md = true → noLooseL post = true)
    (havA : md = false → avoids F true 0 post = true)
    (havB : md = true → avoidsOpen F post = true)
    {o₁ o₂ : Out}
    (h₁ : compile na nt (pre ++ [Event.insert r (Event.row r₁ :: rest)] ++ post) = .ok o₁)
    (h₂ : compile na nt (pre ++ twin r (Event.row r₁ :: rest) ++ post) = .ok o₂) :
    Renamed o₁ o₂ := by
  obtain ⟨f₁, hr₁, hl₁, ho₁⟩ := compile_ok h₁
  obtain ⟨f₂, hr₂, hl₂, ho₂⟩ := compile_ok h₂
  -- identifiers given in the sheet are plain, in every part
  have hid' : okIdsL pre = true ∧ ((decide (¬ Invented r₁.nodeUuid) = true ∧ okIdsL rest = true) ∧
      okIdsL post = true) := by
    simpa [okIdsL_append, okIdsL, Event.okIds] using hid
  obtain ⟨hid_pre, hid_body, hid_post⟩ := hid'
  rw [List.append_assoc] at hr₁ hr₂
  obtain ⟨s₀, hp₁, hq₁⟩ := steps_append_run hr₁
  obtain ⟨s₀', hp₂, hq₂⟩ := steps_append_run hr₂
  obtain ⟨_, hs0⟩ := run_det hp₁ hp₂
  subst hs0
  rw [List.singleton_append] at hq₁
  obtain ⟨z₁, hi₁, hpost₁⟩ := steps_cons_run hq₁
  obtain ⟨b₁, hB₁, hL₁⟩ := insert_run hi₁
  obtain ⟨a₁, hF₁, hR₁⟩ := steps_cons_run hB₁
  unfold step at hF₁
  obtain ⟨o₂', a₂, b₂, z₂, hO₂, hF₂, hR₂, hC₂, hpost₂⟩ := twin_run hns hq₂
  have st := start_of_run hid_pre hp₁
  have hg := st.good
  obtain ⟨ps, hps, ho⟩ := wp_of_run (openGroup_twin s₀ hg.sb r.edges) hO₂
  subst ho
  have hid_ins : okIdsL [Event.insert r (Event.row r₁ :: rest)] = true := by
    simpa [okIdsL, Event.okIds] using hid_body
  have hrun_ins := steps_cons_run_of hi₁ (steps_nil_run z₁)
  have hgz : Good na nt z₁ := good_steps hg hid_ins hrun_ins
  have haz : AInv plainIds z₁ := (ainv_steps st.ainv hid_ins hrun_ins).1
  have hF₂' : (step (.row (retargetRow r₁))).run (twO s₀ ps) = .ok ((), a₂) := by unfold step; exact hF₂
  -- the open block of the twin is the one just created, so tightness speaks of its first child
  have hPL : md = true → Inert (s₀.groups.size + 1) a₂ := fun hm => by
    obtain ⟨b, hb, hin⟩ := htight hm a₂ (by
      rw [steps_append, run_bind_of hp₁]
      exact steps_cons_run_of (by unfold step; exact hO₂) (steps_cons_run_of hF₂' (steps_nil_run a₂)))
    rw [(wp_of_run (parseRow_eff (retargetRow r₁) (twO s₀ ps)) hF₂).2] at hb
    cases hb
    exact hin
  obtain ⟨kk, e₂, x₁, okF, hSZ, hgxb⟩ := block_sim md st he hid_body.2 hnn hps
    hF₁ hR₁ hL₁ hF₂ hR₂ hC₂ (.of_good hgz haz) (fun hm => top_of_balanced hp₁ (hbal hm)) hFr
    hPL (fun p hp => hF _ (nested_keys hB₁ p hp)) (twin_names_kept he hnn hO₂ (steps_cons_run_of hF₂' hR₂))
  have hSF : Sim (PFm md na nt s₀ kk e₂ b₁ x₁ b₂) ⟨[], F, true, b₂.rowIds⟩ f₁ f₂ := by
    cases hmd : md with
    | false =>
      have hTop : TopInv (PFm md na nt s₀ kk e₂ b₁ x₁ b₂) true 0 z₁ :=
        ⟨fun hm => Bool.noConfusion hm, fun b hb => by simp at hb, hgz.sb, hgz.rv⟩
      have := steps_top okF (X := ⟨[], F, true, b₂.rowIds⟩) rfl post true 0 z₁ z₂ (havA hmd) hid_post hSZ hTop
        (fun hop => by rw [hmd] at hop; exact Bool.noConfusion hop) () f₁ () f₂ hpost₁ hpost₂
      rw [hmd] at this; exact this
    | true =>
      have := steps_open okF (X := ⟨[], F, true, b₂.rowIds⟩) rfl
        (fun j hj => by rw [hmd] at hj; exact Bool.noConfusion hj.1) post z₁ z₂ (havB hmd) hid_post hSZ hgz.sb hgz.rv
        (fun _ => hnl hmd) () f₁ () f₂ hpost₁ hpost₂
      rw [hmd] at this; exact this
  -- the begin row's `no_op` group is the image of no group: the rows after the block left it as it was
  have hgx : ∃ ps', f₂.groups[s₀.groups.size + 1]? = some (.noop ps' none) :=
    ⟨ps, (hSF.1.fr2g (s₀.groups.size + 1) fun _ _ => shiftFrom_one_ne).trans hgxb⟩
  have hout := out_sim hSF.1 (fun _ => trivial) (fun _ => trivial) (fun _ => hgx)
    (kidsUp_of_ginv (final_ginv (final_binv hr₁) hl₁)) (kidsUp_of_ginv (final_ginv (final_binv hr₂) hl₂))
    (show shiftFrom (s₀.groups.size + 1) 1 0 = 0 from shiftFrom_lt (Nat.succ_pos _))
  exact ⟨_, okF.hρ, by rw [ho₁, ho₂]; exact hout⟩

end Rpft.Compile
