/-
Renamings defined on the counter (`rhoOf π` maps the invented identifier `~k` to `~π(k)` and leaves
every other identifier alone), the map `shiftFrom a c` that makes room for `c` indices at `a`, all
identifiers stored in a node (`NodeM.allIds`: a renaming acts on a node through them only, `rnNode_congr`),
and: under the arena invariant every identifier stored in a node is below the counter or was given in
the sheet (`allIds_range`).
-/
import Rpft.Lemmas.CompileInsertSim
import Rpft.Lemmas.CompileArenaParse
namespace Rpft.Compile
open Rpft Function

open Classical in
/-- the counter value of an invented identifier -/
noncomputable def untid (x : Uid) : Option Nat :=
  if h : ∃ k, x = tid k then some (Classical.choose h) else none

theorem untid_tid (k : Nat) : untid (tid k) = some k := by
  unfold untid
  have h : ∃ j, tid k = tid j := ⟨k, rfl⟩
  rw [dif_pos h]
  have := Classical.choose_spec h
  exact congrArg some (tid_inj.mp this).symm

theorem untid_some {x : Uid} {k : Nat} (h : untid x = some k) : x = tid k := by
  unfold untid at h
  split at h
  · rename_i hx
    injection h with h
    rw [← h]; exact Classical.choose_spec hx
  · cases h

theorem untid_none_of_plain {x : Uid} (h : ¬ Invented x) : untid x = none := by
  cases hu : untid x with
  | none => rfl
  | some k => exact absurd (by rw [untid_some hu]; exact invented_tid k) h

/-- the renaming of identifiers induced by a map on counter values -/
noncomputable def rhoOf (π : Nat → Nat) (x : Uid) : Uid :=
  match untid x with
  | some k => tid (π k)
  | none => x

theorem rhoOf_tid (π : Nat → Nat) (k : Nat) : rhoOf π (tid k) = tid (π k) := by
  unfold rhoOf; rw [untid_tid]

theorem rhoOf_plain (π : Nat → Nat) {x : Uid} (h : ¬ Invented x) : rhoOf π x = x := by
  unfold rhoOf; rw [untid_none_of_plain h]

theorem rhoOf_injective {π : Nat → Nat} (hπ : Injective π) : Injective (rhoOf π) := by
  intro x y e
  unfold rhoOf at e
  cases hx : untid x with
  | some k =>
    cases hy : untid y with
    | some j =>
      rw [hx, hy] at e
      have := hπ (tid_inj.mp e)
      rw [untid_some hx, untid_some hy, this]
    | none =>
      rw [hx, hy] at e
      simp only [] at e
      rw [← e, untid_tid] at hy; cases hy
  | none =>
    cases hy : untid y with
    | some j =>
      rw [hx, hy] at e
      simp only [] at e
      rw [e, untid_tid] at hx; cases hx
    | none => rw [hx, hy] at e; exact e

theorem rhoOf_leftInv {π π' : Nat → Nat} (h : ∀ k, π' (π k) = k) (x : Uid) : rhoOf π' (rhoOf π x) = x := by
  cases hx : untid x with
  | some k => rw [untid_some hx, rhoOf_tid, rhoOf_tid, h]
  | none =>
    have : rhoOf π x = x := by unfold rhoOf; rw [hx]
    rw [this]; unfold rhoOf; rw [hx]

theorem rhoOf_congr {π π' : Nat → Nat} {x : Uid} (h : ∀ k, x = tid k → π k = π' k) : rhoOf π x = rhoOf π' x := by
  cases hx : untid x with
  | some k => rw [untid_some hx, rhoOf_tid, rhoOf_tid, h k (untid_some hx)]
  | none => unfold rhoOf; rw [hx]

theorem rhoOf_tid_inv {π : Nat → Nat} {x : Uid} {k : Nat} (h : rhoOf π x = tid k) : ∃ k₀, x = tid k₀ ∧ k = π k₀ := by
  cases hu : untid x with
  | none =>
    have e : rhoOf π x = x := by unfold rhoOf; rw [hu]
    rw [← e, h, untid_tid] at hu
    cases hu
  | some k₀ =>
    rw [untid_some hu, rhoOf_tid] at h
    exact ⟨k₀, untid_some hu, (tid_inj.mp h).symm⟩

def shiftFrom (a c : Nat) (i : Nat) : Nat := if i < a then i else i + c

/-- left inverse of `shiftFrom a c` -/
def unshiftFrom (a c : Nat) (i : Nat) : Nat := if i < a then i else i - c

theorem shiftFrom_injective (a c : Nat) : Injective (shiftFrom a c) := by
  intro x y e
  unfold shiftFrom at e
  split at e <;> split at e <;> omega

theorem unshift_shift (a c i : Nat) : unshiftFrom a c (shiftFrom a c i) = i := by
  unfold unshiftFrom shiftFrom
  by_cases h : i < a
  · simp [h]
  · have h2 : ¬ i + c < a := by omega
    simp [h, h2]

theorem shiftFrom_lt {a c i : Nat} (h : i < a) : shiftFrom a c i = i := by simp [shiftFrom, h]
theorem shiftFrom_ge {a c i : Nat} (h : a ≤ i) : shiftFrom a c i = i + c := by
  have : ¬ i < a := by omega
  simp [shiftFrom, this]

theorem shiftFrom_eq_cases {a c i x : Nat} (h : shiftFrom a c i = x) : (i < a ∧ x = i) ∨ (a ≤ i ∧ x = i + c) := by
  unfold shiftFrom at h
  split at h
  · exact .inl ⟨‹_›, h.symm⟩
  · exact .inr ⟨Nat.le_of_not_lt ‹_›, h.symm⟩

theorem shiftFrom_sync {a c x y : Nat} (h1 : a ≤ x) (h2 : y = x + c) (k : Nat) : shiftFrom a c (x + k) = y + k := by
  rw [shiftFrom_ge (Nat.le_trans h1 (Nat.le_add_right _ _)), h2, Nat.add_right_comm]

theorem shiftFrom_gap {a c i x : Nat} (h : shiftFrom a c i = x) (hx : x < a + c) : x < a ∧ i = x := by
  rcases shiftFrom_eq_cases h with ⟨h1, rfl⟩ | ⟨h1, rfl⟩
  · exact ⟨h1, rfl⟩
  · exact absurd hx (Nat.not_lt.mpr (Nat.add_le_add_right h1 c))

theorem shiftFrom_one_ne {a i : Nat} : shiftFrom a 1 i ≠ a :=
  fun e => Nat.lt_irrefl _ (shiftFrom_gap e (Nat.lt_succ_self _)).1

theorem shiftFrom_gap_sub {a b i x : Nat} (h : shiftFrom a (b - a) i = x) (hx : x < b) : x < a ∧ i = x :=
  shiftFrom_gap h (Nat.lt_of_lt_of_le hx (by omega))

def destIds : Dest → List Uid
  | .node u => [u]
  | _ => []

def Cat.allIds (c : Cat) : List Uid := c.uid :: c.exitUid :: destIds c.dest

def Case.allIds (k : Case) : List Uid := [k.uid, k.catUid]

def RouterM.allIds : RouterM → List Uid
  | .sw r => r.cats.flatMap Cat.allIds ++ r.dflt.allIds ++ (r.noResp.toList.flatMap Cat.allIds) ++
      r.cases.flatMap Case.allIds
  | .rnd r => r.cats.flatMap Cat.allIds

def NodeM.allIds (n : NodeM) : List Uid :=
  n.uid :: n.dexitUid :: (destIds n.dexitDest ++ n.actions.map (·.1) ++ (n.router.toList.flatMap RouterM.allIds))

variable {ρ ρ' : Uid → Uid}

theorem rnDest_congr {d : Dest} (h : ∀ x ∈ destIds d, ρ x = ρ' x) : rnDest ρ d = rnDest ρ' d := by
  cases d with
  | none => rfl
  | hard => rfl
  | node u => simp [rnDest, h u (by simp [destIds])]

theorem rnCat_congr {c : Cat} (h : ∀ x ∈ c.allIds, ρ x = ρ' x) : rnCat ρ c = rnCat ρ' c := by
  unfold rnCat
  rw [h c.uid (by simp [Cat.allIds]), h c.exitUid (by simp [Cat.allIds]),
    rnDest_congr (fun x hx => h x (by simp [Cat.allIds, hx]))]

theorem rnCase_congr {k : Case} (h : ∀ x ∈ k.allIds, ρ x = ρ' x) : rnCase ρ k = rnCase ρ' k := by
  unfold rnCase
  rw [h k.uid (by simp [Case.allIds]), h k.catUid (by simp [Case.allIds])]

theorem map_rnCat_congr {l : List Cat} (h : ∀ x ∈ l.flatMap Cat.allIds, ρ x = ρ' x) :
    l.map (rnCat ρ) = l.map (rnCat ρ') := by
  apply List.map_congr_left
  intro c hc
  exact rnCat_congr (fun x hx => h x (List.mem_flatMap.mpr ⟨c, hc, hx⟩))

theorem rnRouter_congr {r : RouterM} (h : ∀ x ∈ r.allIds, ρ x = ρ' x) : rnRouter ρ r = rnRouter ρ' r := by
  cases r with
  | sw r =>
    simp only [RouterM.allIds, List.mem_append] at h
    simp only [rnRouter, rnSw]
    rw [map_rnCat_congr (fun x hx => h x (.inl (.inl (.inl hx)))),
      rnCat_congr (fun x hx => h x (.inl (.inl (.inr hx))))]
    have h3 : r.noResp.map (rnCat ρ) = r.noResp.map (rnCat ρ') := by
      cases hnr : r.noResp with
      | none => rfl
      | some c =>
        simp only [Option.map_some]
        rw [rnCat_congr (fun x hx => h x (.inl (.inr (by simp [hnr, hx]))))]
    have h4 : r.cases.map (rnCase ρ) = r.cases.map (rnCase ρ') := by
      apply List.map_congr_left
      intro k hk
      exact rnCase_congr (fun x hx => h x (.inr (List.mem_flatMap.mpr ⟨k, hk, hx⟩)))
    rw [h3, h4]
  | rnd r =>
    simp only [rnRouter, rnRnd]
    rw [map_rnCat_congr (fun x hx => h x (by simpa [RouterM.allIds] using hx))]

theorem NodeM.mem_allIds {n : NodeM} {x : Uid} : x ∈ n.allIds ↔ x = n.uid ∨ x = n.dexitUid ∨
    x ∈ destIds n.dexitDest ∨ (∃ a ∈ n.actions, a.1 = x) ∨ ∃ r, n.router = some r ∧ x ∈ r.allIds := by
  simp only [NodeM.allIds, List.mem_cons, List.mem_append, List.mem_map, List.mem_flatMap, Option.mem_toList,
    or_assoc]

theorem rnNode_congr {n : NodeM} (h : ∀ x ∈ n.allIds, ρ x = ρ' x) : rnNode ρ n = rnNode ρ' n := by
  have h' := fun x hx => h x (NodeM.mem_allIds.mpr hx)
  unfold rnNode
  have h3 : rnDest ρ n.dexitDest = rnDest ρ' n.dexitDest := rnDest_congr fun x hx => h' x (.inr (.inr (.inl hx)))
  have h4 : n.actions.map (rnAct ρ) = n.actions.map (rnAct ρ') :=
    List.map_congr_left fun a ha => congrArg (·, a.2) (h' a.1 (.inr (.inr (.inr (.inl ⟨a, ha, rfl⟩)))))
  have h5 : n.router.map (rnRouter ρ) = n.router.map (rnRouter ρ') := by
    cases hr : n.router with
    | none => rfl
    | some r => exact congrArg some (rnRouter_congr fun x hx => h' x (.inr (.inr (.inr (.inr ⟨r, hr, hx⟩)))))
  rw [h' n.uid (.inl rfl), h' n.dexitUid (.inr (.inl rfl)), h3, h4, h5]

theorem rnDest_inv (h : ∀ x, ρ' (ρ x) = x) (d : Dest) : rnDest ρ' (rnDest ρ d) = d := by
  cases d <;> simp [rnDest, h]

theorem rnCat_inv (h : ∀ x, ρ' (ρ x) = x) (c : Cat) : rnCat ρ' (rnCat ρ c) = c := by
  simp [rnCat, h, rnDest_inv h]

theorem rnNode_inv (h : ∀ x, ρ' (ρ x) = x) (n : NodeM) : rnNode ρ' (rnNode ρ n) = n := by
  have hc : ∀ l : List Cat, (l.map (rnCat ρ)).map (rnCat ρ') = l := by
    intro l; simp [List.map_map, Function.comp_def, rnCat_inv h]
  have hr : ∀ r : RouterM, rnRouter ρ' (rnRouter ρ r) = r := by
    intro r
    cases r with
    | sw r =>
      simp only [rnRouter, rnSw, hc, rnCat_inv h]
      have h3 : (r.noResp.map (rnCat ρ)).map (rnCat ρ') = r.noResp := by
        cases r.noResp <;> simp [rnCat_inv h]
      have h4 : (r.cases.map (rnCase ρ)).map (rnCase ρ') = r.cases := by
        simp [List.map_map, Function.comp_def, rnCase, h]
      rw [h3, h4]
    | rnd r => simp only [rnRouter, rnRnd, hc]
  unfold rnNode
  have h4 : (n.actions.map (rnAct ρ)).map (rnAct ρ') = n.actions := by
    simp [List.map_map, Function.comp_def, rnAct, h]
  have h5 : (n.router.map (rnRouter ρ)).map (rnRouter ρ') = n.router := by
    cases n.router <;> simp [hr]
  simp only [h, rnDest_inv h, h4, h5]

theorem destIds_rn (d : Dest) : destIds (rnDest ρ d) = (destIds d).map ρ := by
  cases d <;> rfl

theorem Cat.allIds_rn (c : Cat) : (rnCat ρ c).allIds = c.allIds.map ρ := by
  simp [Cat.allIds, rnCat, destIds_rn]

theorem flatMap_allIds_rn (l : List Cat) :
    (l.map (rnCat ρ)).flatMap Cat.allIds = (l.flatMap Cat.allIds).map ρ := by
  induction l with
  | nil => rfl
  | cons c l ih => simp only [List.map_cons, List.flatMap_cons, List.map_append, Cat.allIds_rn, ih]

theorem RouterM.allIds_sw (r : SwitchR) :
    (RouterM.sw r).allIds = r.allCats.flatMap Cat.allIds ++ r.cases.flatMap Case.allIds := by
  simp [RouterM.allIds, SwitchR.allCats, List.flatMap_append]

theorem RouterM.allIds_rn (r : RouterM) : (rnRouter ρ r).allIds = r.allIds.map ρ := by
  cases r with
  | rnd r => exact flatMap_allIds_rn r.cats
  | sw r =>
    have hc : (r.cases.map (rnCase ρ)).flatMap Case.allIds = (r.cases.flatMap Case.allIds).map ρ := by
      induction r.cases with
      | nil => rfl
      | cons k l ih => simp only [List.map_cons, List.flatMap_cons, List.map_append, ih]; rfl
    show (RouterM.sw (rnSw ρ r)).allIds = _
    rw [RouterM.allIds_sw, RouterM.allIds_sw, rnSw_allCats, flatMap_allIds_rn, rnSw_cases, hc, List.map_append]

theorem NodeM.allIds_rn (n : NodeM) : (rnNode ρ n).allIds = n.allIds.map ρ := by
  have hr : (n.router.map (rnRouter ρ)).toList.flatMap RouterM.allIds =
      (n.router.toList.flatMap RouterM.allIds).map ρ := by
    cases n.router with
    | none => rfl
    | some r => simp only [Option.map_some, Option.toList_some, List.flatMap_cons, List.flatMap_nil,
        List.append_nil, RouterM.allIds_rn]
  simp only [NodeM.allIds, rnNode, List.map_cons, List.map_append, destIds_rn, hr, List.map_map]
  rfl

theorem allIds_rnNode (n : NodeM) : ∀ y ∈ (rnNode ρ n).allIds, ∃ x ∈ n.allIds, y = ρ x := by
  intro y hy
  rw [NodeM.allIds_rn] at hy
  obtain ⟨x, hx, e⟩ := List.mem_map.mp hy
  exact ⟨x, hx, e.symm⟩

theorem rhoOf_idOk {π : Nat → Nat} {B : Nat} (hπ : ∀ k, k < B → π k = k) {x : Uid} (h : IdOk B x) : rhoOf π x = x := by
  rcases h with ⟨k, hk, rfl⟩ | h
  · rw [rhoOf_tid, hπ k hk]
  · exact rhoOf_plain _ h

theorem rnNode_fix {π : Nat → Nat} {B : Nat} (hπ : ∀ k, k < B → π k = k) {n : NodeM}
    (h : ∀ x ∈ n.allIds, IdOk B x) : rnNode (rhoOf π) n = n :=
  (rnNode_congr (ρ' := id) fun x hx => rhoOf_idOk hπ (h x hx)).trans (rnNode_id n)

/-- the identifier flags the arena invariant `AInv` is used with: given identifiers are plain -/
def plainIds : Flags := ⟨True, False⟩

/-- every identifier in a node is a given one or was drawn from the counter -/
def IdsOk (s : St) : Prop := ∀ (i : Nat) (n : NodeM), s.nodes[i]? = some n → ∀ x ∈ n.allIds, IdOk s.next x

theorem allIds_range {s : St} (a : AInv plainIds s) (hdex : DexOk s) : IdsOk s := by
  intro i n hn
  have hI := a.ids trivial
  have hok := a.ok i n hn
  have huid : ∀ (j : Nat) (m : NodeM), s.nodes[j]? = some m → IdOk s.next m.uid := by
    intro j m hm
    by_cases hinv : Invented m.uid
    · exact .inl (hI.below j m hm m.uid (by simp [NodeM.fids, uidPart, hinv]))
    · exact .inr hinv
  have hdest : ∀ d, DestOk s.nodes d → ∀ x ∈ destIds d, IdOk s.next x := by
    intro d hd x hx
    cases d with
    | none => cases hx
    | hard => cases hx
    | node u =>
      cases List.mem_singleton.mp hx
      obtain ⟨j, m, hm, hu⟩ := hd
      exact hu ▸ huid j m hm
  have hinner : ∀ x ∈ n.innerIds, IdOk s.next x := fun x hx =>
    .inl (hI.below i n hn x (List.mem_append_right _ hx))
  -- the identifiers of a category are identifiers of the router, its destination is an exit destination
  have hcat : ∀ (ids : List Uid) (cats : List Cat), n.tailIds = ids → (∀ c ∈ cats, c.dest ∈ n.exitDests) →
      ∀ c ∈ cats, c.uid ∈ ids → c.exitUid ∈ ids → ∀ x ∈ c.allIds, IdOk s.next x := by
    intro ids cats e hd c hc h1 h2 x hx
    have hid : ∀ y ∈ ids, IdOk s.next y := fun y hy => hinner y (List.mem_append_right _ (e ▸ hy))
    rcases List.mem_cons.mp hx with rfl | hx
    · exact hid _ h1
    rcases List.mem_cons.mp hx with rfl | hx
    · exact hid _ h2
    · exact hdest c.dest (hok.dests _ (hd c hc)) x hx
  intro x hx
  rcases NodeM.mem_allIds.mp hx with rfl | rfl | hx | ⟨a, ha, rfl⟩ | ⟨rt, hr, hx⟩
  · exact huid i n hn
  · exact hdex i n hn
  · exact hdest _ hok.dexit x hx
  · exact hinner _ (List.mem_append_left _ (List.mem_map_of_mem ha))
  · cases rt with
    | rnd r =>
      obtain ⟨c, hc, hx⟩ := List.mem_flatMap.mp hx
      exact hcat r.ids r.cats (by rw [NodeM.tailIds, hr]) (fun c hc => by rw [NodeM.exitDests, hr]; exact List.mem_map_of_mem hc)
        c hc (List.mem_append_right _ (List.mem_map_of_mem hc)) (List.mem_append_left _ (List.mem_map_of_mem hc)) x hx
    | sw r =>
      have et : n.tailIds = r.ids := by rw [NodeM.tailIds, hr]
      rw [RouterM.allIds_sw] at hx
      rcases List.mem_append.mp hx with hx | hx
      · obtain ⟨c, hc, hx⟩ := List.mem_flatMap.mp hx
        exact hcat r.ids r.allCats et (fun c hc => by rw [NodeM.exitDests, hr]; exact List.mem_map_of_mem hc) c hc
          (List.mem_append_right _ (List.mem_append_left _ (List.mem_map_of_mem hc)))
          (List.mem_append_left _ (List.mem_map_of_mem hc)) x hx
      · obtain ⟨k, hk, hx⟩ := List.mem_flatMap.mp hx
        refine hinner x (List.mem_append_right _ (et ▸ ?_))
        rcases List.mem_cons.mp hx with rfl | hx
        · exact List.mem_append_right _ (List.mem_append_right _ (List.mem_map_of_mem hk))
        · cases List.mem_singleton.mp hx
          exact List.mem_append_right _ (List.mem_append_left _ (hok.cases r hr k hk))

end Rpft.Compile
