/-
The general round trip (C07 `parse_unparse`): the elements of a list or untyped list at their indices
(`list_spec_gen`), every one-cell type (`packRT`), and the main induction over the schema type
(`posAll`): every representable value of every type of the family `goodTy`, in every layout that is
`layOk` for the value, round-trips at every position.
-/
import Rpft.Lemmas.RowGenRT
namespace Rpft.Row
open Rpft

/-! ### the elements of a list -/

/-- the elements of a list-like position (`List[T]`, or the untyped `list`, whose elements are
read as strings), one after the other -/
theorem list_spec_gen (lay : Layout) (lty : Ty) (hl : isListTy lty = true) (segs : List Str) :
    ∀ (xs : List Val) (i : Nat),
      (∀ j x, xs[j]? = some x → PosRT lay (listChild lty) x (segs ++ [printNat (i + j)])) →
      ∃ (cols : List (List Str × Str)) (trs : List Tree),
        (∀ out, (∀ j, j < xs.length → Fresh (segs ++ [printNat (i + j)]) out) →
          unparseSeq (unparseRec lay (listChild lty)) (pathStr segs) i xs out =
            .ok (out ++ absCols segs cols)) ∧
        (∀ c ∈ cols, ∃ j, j < xs.length ∧ ∃ r, c.1 = printNat (i + j) :: r ∧ ∀ s ∈ r, SegOk s) ∧
        (cols.map (·.1)).Nodup ∧
        (∀ ts : List Tree, ts.length + 1 = i →
          pfold lty (.list ts) (inlCols cols) = .ok (.list (ts ++ trs))) ∧
        mapE (validate (listChild lty)) trs = .ok xs ∧ (xs ≠ [] → cols ≠ []) := by
  intro xs
  induction xs with
  | nil =>
    intro i _
    refine ⟨[], [], ?_, ?_, ?_, ?_, ?_, ?_⟩
    · intro out _; simp [unparseSeq, absCols]
    · intro c h; simp at h
    · simp
    · intro ts _; simp [inlCols, pfold, foldE]
    · simp [mapE]
    · intro h; exact absurd rfl h
  | cons x xs ih =>
    intro i h
    obtain ⟨colsX, tr, hne, hS, hN, hU, hP, hV, _⟩ := h 0 x rfl
    simp only [Nat.add_zero] at hU
    obtain ⟨cols', trs', hU', hK', hN', hP', hV', hE'⟩ := ih (i + 1)
      (fun j y hy => by
        have := h (j + 1) y (by simpa using hy)
        rwa [← Nat.succ_add_eq_add_succ i j] at this)
    refine ⟨under (printNat i) colsX ++ cols', tr :: trs', ?_, ?_, ?_, ?_, ?_, ?_⟩
    · intro out hout
      simp only [unparseSeq, idxPrefix_pathStr]
      rw [hU out (by simpa using hout 0 (by simp))]
      simp only
      rw [hU' (out ++ absCols (segs ++ [printNat i]) colsX)]
      · rw [absCols_append, absCols_under, List.append_assoc]
      · intro j hj
        apply fresh_append
        · have := hout (j + 1) (by simpa using hj)
          rwa [← Nat.succ_add_eq_add_succ i j] at this
        · exact fresh_absCols_sibling (segOk_printNat _) (segOk_printNat _)
            (printNat_ne (by omega)) colsX
    · intro c hc
      rcases List.mem_append.mp hc with h' | h'
      · obtain ⟨c0, hc0, rfl⟩ := List.mem_map.mp h'
        exact ⟨0, by simp, c0.1, rfl, hS c0 hc0⟩
      · obtain ⟨j, hj, r, e, hr⟩ := hK' c h'
        exact ⟨j + 1, by simpa using hj, r, by rw [e, ← Nat.succ_add_eq_add_succ i j], hr⟩
    · apply nodup_under_append hN hN'
      intro c hc r e
      obtain ⟨j, _, r', e', _⟩ := hK' c hc
      rw [e'] at e
      exact printNat_ne (by omega) (List.cons.inj e).1
    · intro ts hts
      subst hts
      have hblock := (focus_list hl ts).under_append (cols' := cols') hne hP
      simp only [Option.toList, List.append_nil] at hblock
      rw [hblock, hP' (ts ++ [tr]) (by simp)]
      simp
    · simp [mapE, hV, hV']
    · intro _ hc
      cases colsX with
      | nil => exact hne rfl
      | cons c cs => simp [under] at hc

theorem list_spec (lay : Layout) (t : Ty) (segs : List Str) :
    ∀ (xs : List Val) (i : Nat),
      (∀ j x, xs[j]? = some x → PosRT lay t x (segs ++ [printNat (i + j)])) →
      ∃ (cols : List (List Str × Str)) (trs : List Tree),
        (∀ out, (∀ j, j < xs.length → Fresh (segs ++ [printNat (i + j)]) out) →
          unparseSeq (unparseRec lay t) (pathStr segs) i xs out = .ok (out ++ absCols segs cols)) ∧
        (∀ c ∈ cols, ∃ j, j < xs.length ∧ ∃ r, c.1 = printNat (i + j) :: r ∧ ∀ s ∈ r, SegOk s) ∧
        (cols.map (·.1)).Nodup ∧
        (∀ ts : List Tree, ts.length + 1 = i →
          pfold (.list t) (.list ts) (inlCols cols) = .ok (.list (ts ++ trs))) ∧
        mapE (validate t) trs = .ok xs ∧ (xs ≠ [] → cols ≠ []) :=
  list_spec_gen lay (.list t) rfl segs

theorem colsRT_of_elems {lay : Layout} {lty : Ty} (hl : isListTy lty = true) {segs : List Str}
    {W : Out → Except Err Out} {v : Val} {xs : List Val} (hne : xs ≠ [])
    (hW : ∀ out, W out = unparseSeq (unparseRec lay (listChild lty)) (pathStr segs) 1 xs out)
    (hx : ∀ j x, xs[j]? = some x → PosRT lay (listChild lty) x (segs ++ [printNat (1 + j)]))
    (hv : ∀ trs, mapE (validate (listChild lty)) trs = .ok xs → validate lty (.list trs) = .ok v)
    (hnb : isBasicVal v = false) : ColsRT W segs lty v := by
  obtain ⟨cols, trs, hU, hK, hN, hP, hV, hE⟩ := list_spec_gen lay lty hl segs xs 1 hx
  have hcne := hE hne
  refine ⟨cols, .list trs, hcne, ?_, hN, ?_, ?_, hv trs hV, by simp [hnb]⟩
  · intro c hc
    obtain ⟨j, _, r, e, hr⟩ := hK c hc
    rw [e]
    exact List.forall_mem_cons.mpr ⟨segOk_printNat _, hr⟩
  · intro out hf
    rw [hW]
    exact hU out (fun j _ => fresh_child hf _)
  · rw [pfold_none (by simpa [inlCols] using hcne) (by
      intro c hc
      obtain ⟨c0, hc0, rfl⟩ := List.mem_map.mp hc
      obtain ⟨j, _, r, e, _⟩ := hK c0 hc0
      simp [e])]
    simpa [initChild, hl] using hP [] rfl

/-! ### every one-cell type -/

theorem packRT {ty : Ty} {v : Val} (hp : packTy ty = true) (hg : goodTy ty = true)
    (hr : reprOk false ty v = true) (hfo : fieldOk false ty v = true) : PackRT ty v := by
  revert hp
  fun_cases packTy ty <;> intro hp
  case case1 | case2 | case3 | case4 => exact packRT_basic rfl hr
  case case5 =>
    cases v <;> simp [reprOk] at hr
    exact packRT_any (by rintro rfl; simp [fieldOk] at hfo) hr
  case case6 =>
    cases v <;> simp [reprOk] at hr
    exact packRT_listList hp (by rintro rfl; simp [fieldOk] at hfo) hr
  case case7 =>
    cases v <;> simp [reprOk] at hr
    exact packRT_listBasic hp (by rintro rfl; simp [fieldOk] at hfo) hr
  case case8 sfs h2f f2h =>
    simp only [Bool.and_eq_true, List.all_eq_true, decide_eq_true_eq] at hp
    cases v with
    | model skvs =>
      simp only [goodTy, Bool.and_eq_true] at hg
      obtain ⟨hall, hnd, _⟩ := remapOk_iff.mp hg.1
      exact ⟨_, _, sub_cell (subFamily_iff.mpr ⟨fun f hf => ⟨(hall f hf).1, (hp f hf).1⟩, hnd⟩)
        (fun f hf => (hp f hf).2) hr hfo⟩
    | _ => simp [reprOk] at hr

/-! ### the main induction -/

/-- the statement proved for every type of the family -/
def PosAll (lay : Layout) (ty : Ty) : Prop :=
  ∀ (v : Val) (segs : List Str) (b : Bool), goodTy ty = true → (∀ s ∈ segs, SegOk s) →
    reprOk b ty v = true → fieldOk false ty v = true → layOk lay ty v (pathStr segs) = true →
    PosRT lay ty v segs

section
variable {lay : Layout} (he : lay.excluded = [])
include he

/-! unfolding `unparse_row_recurse` -/

theorem unparseRec_packed {ty : Ty} {v : Val} {pfx : Str} (hm : matchesHeaders pfx lay.targets = true)
    (out : Out) :
    unparseRec lay ty v pfx out = writeValue ty v pfx out := by
  unfold unparseRec
  simp [he, matchesHeaders_nil, hm]

theorem unparseRec_basicVal {ty : Ty} {v : Val} (hb : isBasicVal v = true) (pfx : Str) (out : Out) :
    unparseRec lay ty v pfx out = writeValue ty v pfx out := by
  unfold unparseRec
  simp [he, matchesHeaders_nil, hb]

theorem unparseRec_list {t : Ty} {xs : List Val} {pfx : Str}
    (hm : matchesHeaders pfx lay.targets = false) (out : Out) :
    unparseRec lay (.list t) (.list xs) pfx out = unparseSeq (unparseRec lay t) pfx 1 xs out := by
  conv => lhs; unfold unparseRec
  simp [he, matchesHeaders_nil, hm, isBasicVal]

theorem unparseRec_any {xs : List PV} {pfx : Str}
    (hm : matchesHeaders pfx lay.targets = false) (out : Out) :
    unparseRec lay .anyList (.any xs) pfx out = unparsePVs lay xs pfx 1 out := by
  conv => lhs; unfold unparseRec
  simp [he, matchesHeaders_nil, hm, isBasicVal]

/-- an untyped list of plain strings is written like a `List[str]` -/
theorem unparsePVs_atoms (pfx : Str) :
    ∀ (ss : List Str) (i : Nat) (out : Out),
      unparsePVs lay (ss.map PV.atom) pfx i out =
        unparseSeq (unparseRec lay .str) pfx i (ss.map Val.str) out
  | [], _, _ => rfl
  | s :: ss, i, out => by
    simp only [List.map_cons, unparsePVs, unparseSeq, unparsePV,
      unparseRec_basicVal he (v := .str s) rfl, writeValue, isBasicVal, printBasic, if_true,
      he, matchesHeaders_nil, Bool.false_eq_true, if_false]
    cases writeOut (idxPrefix pfx i) s out with
    | error e => rfl
    | ok out' => exact unparsePVs_atoms pfx ss (i + 1) out'

theorem unparseRec_model {fs : List Field} {h2f f2h : List (Str × Str)} {kvs : List (Str × Val)} {pfx : Str}
    (hm : matchesHeaders pfx lay.targets = false) (out : Out) :
    unparseRec lay (.model fs h2f f2h) (.model kvs) pfx out =
      unparseFields lay f2h pfx fs kvs out := by
  conv => lhs; unfold unparseRec
  simp [he, matchesHeaders_nil, hm, isBasicVal]

theorem posRT_basic {ty : Ty} {v : Val} (hb : isBasicTy ty = true) (hr : reprOk false ty v = true)
    (segs : List Str) : PosRT lay ty v segs :=
  colsRT_of_pack (packRT_basic hb hr) (unparseRec_basicVal he (basic_leaf hb hr).basicVal _)

theorem posAll_basic (ty : Ty) (hb : isBasicTy ty = true) : PosAll lay ty :=
  fun _ segs b _ _ hr _ _ => posRT_basic he hb (reprOk_false_of b hr) segs

theorem model_fields_spec {fs : List Field} {h2f f2h : List (Str × Str)} (ih : ∀ f ∈ fs, PosAll lay f.2.1)
    (hnd : (fs.map (·.1)).Nodup) (hgf : goodFields fs = true)
    {kvs : List (Str × Val)} {segs : List Str} (hsegs : ∀ s ∈ segs, SegOk s) {deep : Bool}
    (hnames : kvs.map Prod.fst = fs.map (·.1)) (hrf : reprFields deep fs kvs = true)
    (hlay : layOkFields lay f2h (pathStr segs) kvs fs = true)
    (H1 : (((fs.zip (kvs.map Prod.snd)).filter nonDefault).map (hdr f2h)).Nodup)
    (H2 : ∀ p ∈ fs.zip (kvs.map Prod.snd), nonDefault p = true →
      simpleName (hdr f2h p) = true ∧ remap h2f (hdr f2h p) = p.1.1) :
    ∃ cols trs, FieldsSpec lay fs h2f f2h segs kvs (fs.zip (kvs.map Prod.snd)) cols trs := by
  have hfst := zip_map_fst hnames
  have hnm := zip_map_name hnames
  apply fields_spec lay he fs h2f f2h segs hsegs kvs _ (by rw [hnm]; exact hnd) H1
  intro p hp
  have hmem : p.1 ∈ fs := (List.of_mem_zip hp).1
  obtain ⟨hx', hfr⟩ := reprFields_zip hnames hnd hrf hp
  refine ⟨hx', ?_⟩
  intro hnon
  have hdef : isDefault p.1.2.2 p.2 = false := by simpa [nonDefault] using hnon
  obtain ⟨hfo, hr⟩ := hfr hnon
  obtain ⟨hs2, hs3⟩ := H2 p hp hnon
  refine ⟨segOk_simple hs2, hs3, fieldLookup_mem hnd hmem, ?_⟩
  have hlp := (layOkFields_iff.mp hlay p.1 hmem p.2 hx').resolve_left (by simp [hdef])
  have hgt := goodFields_iff.mp hgf p.1 hmem
  by_cases hrm : remap f2h p.1.1 = p.1.1
  · have := ih p.1 hmem p.2 (segs ++ [hdr f2h p]) false hgt
      (List.forall_mem_append.mpr ⟨hsegs, List.forall_mem_singleton.mpr (segOk_simple hs2)⟩)
      hr (fieldOk_weaken deep hfo)
      (by rw [pathStr_snoc]; simpa only [hdr, hrm, if_true] using hlp)
    have hW : fieldW lay f2h segs p = unparseRec lay p.1.2.1 p.2 (pathStr (segs ++ [hdr f2h p])) := by
      funext out
      simp only [fieldW, hdr, hrm, if_true]
    unfold PosRT at this
    rw [hW]
    exact this
  · apply colsRT_of_pack (packRT (by simpa only [hrm, if_false] using hlp) hgt hr (fieldOk_weaken deep hfo))
    intro out
    have : ¬ p.1.1 = remap f2h p.1.1 := fun e => hrm e.symm
    simp only [fieldW, this, if_false, hdr]

theorem posAll_model (fs : List Field) (h2f f2h : List (Str × Str)) (ih : ∀ f ∈ fs, PosAll lay f.2.1) :
    PosAll lay (.model fs h2f f2h) := by
  intro v segs b hg hsegs hr hfo hl
  cases v with
  | model kvs =>
    cases hm : matchesHeaders (pathStr segs) lay.targets with
    | true =>
      unfold layOk at hl
      simp only [isBasicTy, Bool.false_eq_true, if_false, hm, if_true] at hl
      exact colsRT_of_pack (packRT hl hg (reprOk_false_of b hr) hfo)
        (unparseRec_packed he hm)
    | false =>
      unfold layOk at hl
      simp only [isBasicTy, Bool.false_eq_true, if_false, hm] at hl
      simp only [goodTy, Bool.and_eq_true] at hg
      have hr' := reprOk_false_of b hr
      simp only [reprOk, Bool.and_eq_true, decide_eq_true_eq, Bool.false_and, Bool.not_false] at hr'
      obtain ⟨⟨hnames, _⟩, hrf⟩ := hr'
      obtain ⟨hnd, H1, H2⟩ := remapOk_facts hg.1 hnames
      obtain ⟨cols, trs, hU, hK, hN, hP, hT, hV, hE, _⟩ :=
        model_fields_spec he ih hnd hg.2 hsegs hnames hrf hl H1
          (fun p hp _ => H2 p hp)
      have hne : cols ≠ [] := by
        intro hc
        have := allDefault_of_pairs hnames hnd (hE hc)
        simp [fieldOk, this] at hfo
      refine ⟨cols, .dict trs, hne, ?_, hN, ?_, ?_, ?_, by intro h; simp [isBasicVal] at h⟩
      · intro c hc
        obtain ⟨p, hp, hpn, r, e, hr, _⟩ := hK c hc
        rw [e]
        exact List.forall_mem_cons.mpr ⟨segOk_simple (H2 p hp).1, hr⟩
      · intro out hf
        rw [unparseRec_model he hm]
        have := hU out (fun p _ _ => fresh_child hf _)
        rwa [zip_map_fst hnames] at this
      · rw [pfold_none (by simpa [inlCols] using hne) (by
          intro c hc
          obtain ⟨c0, hc0, rfl⟩ := List.mem_map.mp hc
          obtain ⟨p, _, _, r, e, _⟩ := hK c0 hc0
          simp [e])]
        simpa [initChild, isListTy, isModelTy] using hP [] (fun _ _ => rfl)
      · simp only [validate]
        rw [validateFields_of_spec hnames hV]
  | _ => simp [reprOk] at hr

theorem posAll_list (t : Ty) (ih : PosAll lay t) : PosAll lay (.list t) := by
  intro v segs b hg hsegs hr hfo hl
  cases v with
  | list xs =>
    have hne : xs ≠ [] := by intro e; subst e; simp [fieldOk] at hfo
    cases hm : matchesHeaders (pathStr segs) lay.targets with
    | true =>
      unfold layOk at hl
      simp only [isBasicTy, Bool.false_eq_true, if_false, hm, if_true] at hl
      exact colsRT_of_pack (packRT hl hg (reprOk_false_of b hr) hfo)
        (unparseRec_packed he hm)
    | false =>
      unfold layOk at hl
      simp only [isBasicTy, Bool.false_eq_true, if_false, hm] at hl
      have hr' := reprOk_false_of b hr
      simp only [reprOk, Bool.false_and, Bool.not_false, Bool.true_and,
        List.all_eq_true] at hr'
      simp only [goodTy] at hg
      refine colsRT_of_elems (lty := .list t) rfl hne (unparseRec_list he hm) ?_
        (fun trs (hV : mapE (validate t) trs = .ok xs) => by simp only [validate, hV]) rfl
      intro j x hx
      have hmem : x ∈ xs := List.mem_of_getElem? hx
      refine ih x _ true hg ?_ (hr' x hmem) (fieldOk_of_reprOk_true (hr' x hmem)) ?_
      · exact List.forall_mem_append.mpr ⟨hsegs, List.forall_mem_singleton.mpr (segOk_printNat _)⟩
      · rw [← idxPrefix_pathStr]
        exact allIdx_get hl hx
  | _ => simp [reprOk] at hr

theorem posAll_any : PosAll lay .anyList := by
  intro v segs b hg hsegs hr hfo hl
  cases v with
  | any xs =>
    have hne : xs ≠ [] := by intro e; subst e; simp [fieldOk] at hfo
    cases hm : matchesHeaders (pathStr segs) lay.targets with
    | true =>
      exact colsRT_of_pack (packRT rfl hg (reprOk_false_of b hr) hfo)
        (unparseRec_packed he hm)
    | false =>
      unfold layOk at hl
      simp only [isBasicTy, Bool.false_eq_true, if_false, hm] at hl
      have hr' := reprOk_false_of b hr
      simp only [reprOk, Bool.false_and, Bool.not_false, Bool.true_and, List.all_eq_true] at hr'
      obtain ⟨ss, rfl, hss⟩ := atoms_of_all hl hr'
      -- the strings, as the elements of a `List[str]`
      have hW : ∀ out, unparseRec lay .anyList (.any (ss.map PV.atom)) (pathStr segs) out =
          unparseSeq (unparseRec lay .str) (pathStr segs) 1 (ss.map Val.str) out := fun out => by
        rw [unparseRec_any he hm, unparsePVs_atoms he]
      refine colsRT_of_elems (lty := .anyList) rfl (by simpa using hne) hW ?_
        (fun trs (hV : mapE (validate .str) trs = _) => by simp [validate, toPVs_of_strs trs ss hV]) rfl
      intro j x hx
      obtain ⟨s, hs, rfl⟩ := List.mem_map.mp (List.mem_of_getElem? hx)
      exact posRT_basic he rfl (by simpa [reprOk, listChild] using hss s hs) _
  | _ => simp [reprOk] at hr

/-- **Every position round-trips**: any type of the family, any representable non-empty
value, any layout that is `layOk` for it, at any position. -/
theorem posAll : ∀ ty : Ty, PosAll lay ty :=
  Ty.induct (posAll_basic he _ rfl) (posAll_basic he _ rfl) (posAll_basic he _ rfl)
    (posAll_basic he _ rfl) (posAll_any he) (posAll_list he) (posAll_model he)

end

end Rpft.Row
