/-
Unary frame facts: `add_exit` never changes which groups are blocks nor their children (its updates
overwrite nodes and attach router nodes to row / `no_op` groups), nor the stack (`BlkEq`; with the size of
the group arena `BlkSz`, an instance `BlkSz.gens` of the one walk over `add_exit`); hence the most
recent node group — in closed form through `lastKid`, `mostRecentIn_eq` — is the same before and after.
-/
import Rpft.Lemmas.CompileTreeParse
namespace Rpft.Compile
open Rpft

/-- a row group keeps its first node (nodes are only attached behind) -/
def RowHead (s s' : St) : Prop :=
  ∀ (j i : Nat) (l : List Nat) (t : Str), s.groups[j]? = some (Grp.row (i :: l) t) →
    ∃ l', s'.groups[j]? = some (Grp.row (i :: l') t)

structure BlkEq (s s' : St) : Prop where
  stack : s'.stack = s.stack
  blocks : ∀ (j : Nat) (cs : List Nat), s'.groups[j]? = some (Grp.block cs) ↔ s.groups[j]? = some (Grp.block cs)
  gsize : s.groups.size ≤ s'.groups.size
  rowHead : RowHead s s'
  nsize : s.nodes.size ≤ s'.nodes.size

theorem BlkEq.refl (s : St) : BlkEq s s :=
  ⟨rfl, fun _ _ => Iff.rfl, Nat.le_refl _, fun _ _ l _ h => ⟨l, h⟩, Nat.le_refl _⟩

theorem BlkEq.trans {s t u : St} (h : BlkEq s t) (h' : BlkEq t u) : BlkEq s u :=
  ⟨h'.stack.trans h.stack, fun j cs => (h'.blocks j cs).trans (h.blocks j cs), Nat.le_trans h.gsize h'.gsize,
    fun j i l t hg => by
      obtain ⟨l', hl'⟩ := h.rowHead j i l t hg
      exact h'.rowHead j i l' t hl', Nat.le_trans h.nsize h'.nsize⟩

theorem BlkEq.of_groups {s s' : St} (h : s'.groups = s.groups) (hs : s'.stack = s.stack)
    (hn : s.nodes.size ≤ s'.nodes.size) : BlkEq s s' :=
  ⟨hs, fun j cs => by rw [h], by rw [h]; exact Nat.le_refl _, fun j i l t hg => ⟨l, by rw [h]; exact hg⟩, hn⟩

theorem BlkEq.set {s : St} {g : Nat} {old new : Grp} (ho : s.groups[g]? = some old)
    (h1 : ∀ cs, old ≠ .block cs) (h2 : ∀ cs, new ≠ .block cs)
    (h3 : ∀ i l t, old = .row (i :: l) t → ∃ l', new = .row (i :: l') t) {s' : St}
    (hg : s'.groups = s.groups.setIfInBounds g new) (hs : s'.stack = s.stack)
    (hn : s.nodes.size ≤ s'.nodes.size) : BlkEq s s' := by
  have hlt : g < s.groups.size := lt_size_of_getElem? ho
  refine ⟨hs, fun j cs => ?_, by rw [hg]; simp, ?_, hn⟩
  · rw [hg, Array.getElem?_setIfInBounds]
    by_cases hj : g = j
    · subst hj
      simp only [hlt, if_true]
      constructor
      · intro e; injection e with e; exact absurd e (h2 cs)
      · intro e; rw [ho] at e; injection e with e; exact absurd e (h1 cs)
    · simp [hj]
  · intro j i l t hgj
    rw [hg, Array.getElem?_setIfInBounds]
    by_cases hj : g = j
    · subst hj
      rw [ho] at hgj
      injection hgj with hgj
      obtain ⟨l', hl'⟩ := h3 i l t hgj
      exact ⟨l', by simp [hlt, hl']⟩
    · exact ⟨l, by simp [hj, hgj]⟩

theorem BlkEq.push {s : St} {g : Grp} (hg : ∀ cs, g ≠ .block cs) {s' : St}
    (e1 : s'.groups = s.groups.push g) (e2 : s'.stack = s.stack) (e3 : s.nodes.size ≤ s'.nodes.size) :
    BlkEq s s' := by
  refine ⟨e2, fun j cs => ?_, by rw [e1]; simp, ?_, e3⟩
  · rw [e1, Array.getElem?_push]
    by_cases hj : j = s.groups.size
    · simp only [hj, if_true]
      constructor
      · intro e; injection e with e; exact absurd e (hg cs)
      · intro e; simp at e
    · simp [hj]
  · intro j i l t hgj
    exact ⟨l, by rw [e1]; exact getElem?_push_of_some hgj⟩

/-- the last child of block `b` (`none`: not a block, or an empty one) -/
def lastKid (gs : Array Grp) (b : Nat) : Option Nat :=
  match gs[b]? with
  | some (.block cs) => cs.getLast?
  | _ => none

theorem lastKid_eq_some {gs : Array Grp} {b x : Nat} :
    lastKid gs b = some x ↔ ∃ cs, gs[b]? = some (.block cs) ∧ cs.getLast? = some x := by
  unfold lastKid
  cases gs[b]? with
  | none => simp
  | some g => cases g <;> simp

theorem mostRecentIn_eq (gs : Array Grp) (st : List Nat) : mostRecentIn gs st = st.findSome? (lastKid gs) := by
  induction st with
  | nil => rfl
  | cons b bs ih =>
    unfold mostRecentIn
    rw [List.findSome?_cons, ← ih]
    unfold lastKid
    cases gs[b]? with
    | none => rfl
    | some g =>
      cases g with
      | block cs => dsimp only; cases cs.getLast? <;> rfl
      | row _ _ => rfl
      | noop _ _ => rfl

theorem mostRecentIn_mem' {gs : Array Grp} {st : List Nat} {x : Nat} (h : mostRecentIn gs st = some x) :
    ∃ b ∈ st, ∃ cs, gs[b]? = some (Grp.block cs) ∧ x ∈ cs := by
  rw [mostRecentIn_eq] at h
  obtain ⟨b, hb, hk⟩ := List.exists_of_findSome?_eq_some h
  obtain ⟨cs, hg, hl⟩ := lastKid_eq_some.mp hk
  exact ⟨b, hb, cs, hg, List.mem_of_getLast? hl⟩

theorem mostRecentIn_congr {gs gs' : Array Grp} (st : List Nat) (h : ∀ b ∈ st, gs'[b]? = gs[b]?) :
    mostRecentIn gs' st = mostRecentIn gs st := by
  rw [mostRecentIn_eq, mostRecentIn_eq]
  exact findSome?_congr fun b hb => by unfold lastKid; rw [h b hb]

theorem mostRecentIn_push_empty (gs : Array Grp) (st : List Nat) :
    mostRecentIn (gs.push (.block [])) st = mostRecentIn gs st := by
  rw [mostRecentIn_eq, mostRecentIn_eq]
  refine findSome?_congr fun b _ => Option.ext fun x => ?_
  simp only [lastKid_eq_some]
  constructor
  · rintro ⟨cs, hg, hl⟩
    rcases getElem?_push_some hg with ⟨_, e⟩ | ⟨_, hg⟩
    · cases e; cases hl
    · exact ⟨cs, hg, hl⟩
  · rintro ⟨cs, hg, hl⟩
    exact ⟨cs, getElem?_push_of_some hg, hl⟩

theorem mostRecentIn_blkEq {gs gs' : Array Grp}
    (h : ∀ (j : Nat) (cs : List Nat), gs'[j]? = some (Grp.block cs) ↔ gs[j]? = some (Grp.block cs)) :
    ∀ st, mostRecentIn gs' st = mostRecentIn gs st := by
  intro st
  rw [mostRecentIn_eq, mostRecentIn_eq]
  refine findSome?_congr fun b _ => Option.ext fun x => ?_
  simp only [lastKid_eq_some, h]

theorem BlkEq.mostRecent {s s' : St} (h : BlkEq s s') :
    mostRecentIn s'.groups s'.stack = mostRecentIn s.groups s.stack := by
  rw [h.stack]; exact mostRecentIn_blkEq h.blocks _

/-- `add_exit` keeps the blocks and creates no group -/
def BlkSz (s s' : St) : Prop := BlkEq s s' ∧ s'.groups.size = s.groups.size

theorem BlkSz.gens : Gens fun _ => BlkSz where
  pre _ := ⟨fun s => ⟨BlkEq.refl s, rfl⟩, fun h h' => ⟨h.1.trans h'.1, h'.2.trans h.2⟩⟩
  set _ _ := ⟨BlkEq.of_groups rfl rfl (by simp), rfl⟩
  att hg ga _ := by
    refine ⟨BlkEq.set hg ?_ ?_ ?_ rfl rfl (by simp), Array.size_setIfInBounds⟩
    · intro cs e; cases ga <;> cases e
    · intro cs e; cases ga <;> cases e
    · intro i l t e
      cases ga with
      | row nodes t' => cases e; exact ⟨_, rfl⟩
      | noop ps => cases e
  par hg := ⟨BlkEq.set hg (new := .noop _ _) (by intro cs e; cases e) (by intro cs e; cases e) (by intro i l t e; cases e)
    rfl rfl (Nat.le_refl _), Array.size_setIfInBounds⟩
  via _ h := h

theorem addExit_blkSz (fuel g : Nat) (d : Dest) (c : Cond) : Frame BlkSz (addExit fuel g d c) :=
  addExit_chg BlkSz.gens fuel g d c

theorem addExit_blk (fuel g : Nat) (d : Dest) (c : Cond) : Frame BlkEq (addExit fuel g d c) :=
  (addExit_blkSz fuel g d c).mono fun _ _ h => h.1

end Rpft.Compile
