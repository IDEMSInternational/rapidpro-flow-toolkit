/-
Tree invariant, the machine: overwriting a node does not touch the group arena; where `add_exit` creates a node (router
behind a basic node, router of a `no_op` row) the node joins its group at once; a new parent of a `no_op` group
changes neither the nodes nor the groups it holds — so every operation walked in `CompileExitSteps` keeps the tree
invariant (`BKept.gens`).  Rows, open / close group and inserted blocks keep the group tree well-formed (`BStep`: with
the stack as it was; `PStep`: the stack may change).
-/
import Rpft.Lemmas.CompileTree
import Rpft.Lemmas.CompileArenaParse
namespace Rpft.Compile
open Rpft

/-! ### the form of a step; `add_exit` and the operations under it -/

section
/-- an operation that leaves the group arena, the stack and the size of the node arena alone -/
def BFrame {α} (m : M α) : Prop :=
  ∀ s, wp m s (fun _ s' => s'.groups = s.groups ∧ s'.stack = s.stack ∧ s'.nodes.size = s.nodes.size)

theorem BFrame.of_ro {α} {m : M α} (h : ReadOnly m) : BFrame m := by
  intro s; exact wp_ro h (fun _ => ⟨rfl, rfl, rfl⟩)

/-- an operation that keeps the tree invariant and the stack -/
def BStep (m : M PUnit) : Prop :=
  ∀ {P H : Nat → Prop} {root : Nat} (s : St), BInv P H root s →
    wp m s (fun _ s' => BInv P H root s' ∧ s'.stack = s.stack)

variable {d : Dest}

theorem BFrame.bstep {m : M PUnit} (h : BFrame m) : BStep m := by
  intro P H root s b
  refine wp_mono (h s) ?_
  rintro _ s' ⟨h1, h2, h3⟩
  exact ⟨b.frame h1 h2 h3, h2⟩

/-- the tree invariant is carried from `s` to `t`, under the same stack -/
def BKept (s t : St) : Prop :=
  ∀ (P H : Nat → Prop) (root : Nat), BInv P H root s → BInv P H root t ∧ t.stack = s.stack

theorem BKept.gens : Gens fun _ => BKept where
  pre _ := ⟨fun _ _ _ _ b => ⟨b, rfl⟩, fun h1 h2 P H r b =>
    ⟨(h2 P H r (h1 P H r b).1).1, (h2 P H r (h1 P H r b).1).2.trans (h1 P H r b).2⟩⟩
  set _ _ _ _ _ b := ⟨b.frame rfl rfl (by simp), rfl⟩
  att := @fun _ _ _ _ grp' _ _ hg ga _ _ _ _ b => by
    refine ⟨?_, rfl⟩
    have := BInvC.attach grp' b hg (by cases ga <;> simp [held]) (by cases ga <;> simp [kids])
    unfold BInv
    simpa using this
  par := @fun _ _ _ _ r _ hg _ _ _ b => ⟨BInvC.setSame (.noop _ r) b hg (by cases r <;> rfl) rfl, rfl⟩
  via _ h := h

theorem Frame.bstep {m : M PUnit} (hm : Frame BKept m) : BStep m :=
  fun s b => wp_mono (hm s) fun _ _ r => r _ _ _ b

theorem BStep.frame {m : M PUnit} (hm : BStep m) : Frame BKept m :=
  fun s => (wp_def _ _ _).mpr fun _ _ hr _ _ _ b => wp_of_run (hm s b) hr

theorem BStep.forM {β : Type} {l : List β} {f : β → M PUnit} (hf : ∀ x ∈ l, BStep (f x)) : BStep (l.forM f) :=
  (Frame.forM (BKept.gens.pre .none) fun x hx => BStep.frame (show BStep (f x) from hf x hx)).bstep

theorem addRowEdge_B {e : Edge} : BStep (addRowEdge d e) := (addRowEdge_chg BKept.gens e).bstep
end

/-! ### parser events -/

variable {P P' H : Nat → Prop} {root g b0 ex : Nat} {rowId nodeName act : Str} {s s0 : St} {e : Edge}
  {edges : List Edge} {ed : Edge × Str} {r : Row} {starting : Bool}

/-- `append_node_group`: the group `g`, so far a hidden root, is appended -/
theorem appendGroup_B (b : BInv P (fun x => x = g ∨ H x) root s) (hg : ¬ H g) (hlt : ∀ x ∈ s.stack, x < g) :
    wp (appendGroup g rowId) s (fun _ s' => BInv P H root s' ∧ s'.stack = s.stack) := by
  have hh : ∀ x, H x ↔ (x ≠ g ∧ (x = g ∨ H x)) := fun x =>
    ⟨fun hx => ⟨fun e => hg (e ▸ hx), .inr hx⟩, fun h => h.2.resolve_left h.1⟩
  rw [wp_appendGroup]
  intro b0 rest ch hst hb
  have b' : BInvC P (fun x => x = g ∨ H x) root s.nodes.size s.groups (b0 :: rest) := by rw [← hst]; exact b
  refine ⟨?_, rfl⟩
  unfold BInv appended; rw [hst]
  exact BInvC.append (H := H) b' hb (.inl rfl) (hlt b0 (by simp [hst])) hh

theorem noopEdge_B : BStep (noopEdge g e) := (noopEdge_chg BKept.gens e).bstep

theorem parseGoto_B : BStep (parseGoto r) := (parseGoto_chg BKept.gens r).bstep

theorem parseNoop_B : BStep (parseNoop edges rowId) := by
  intro P H root s b
  unfold parseNoop
  wp_simp [wp_addGrp]
  have b1 : BInv P (fun x => x = s.groups.size ∨ H x) root { s with groups := s.groups.push (.noop [] none) } :=
    BInvC.newGrp b rfl fun h => h.newEmpty (heldF_size _)
  refine wp_mono (BStep.forM (fun x _ => noopEdge_B) _ b1) ?_
  rintro _ s2 ⟨b2, h2⟩
  refine wp_mono (appendGroup_B b2 b.above.1 (h2 ▸ b.above.2)) ?_
  exact fun _ _ h3 => ⟨h3.1, h3.2.trans h2⟩

theorem mergeRow_frame : BFrame (mergeRow r ex act) := fun s =>
  wp_mono (mergeRow_eff s) fun _ _ ⟨_, _, _, _, e⟩ => by rw [e]; exact ⟨rfl, rfl, by simp⟩

theorem newRow_B : BStep (newRow r nodeName) := by
  intro P H root s b
  unfold newRow
  wp_simp [wp_addNode, wp_addGrp]
  refine wp_mono (rowAction_spec r s) ?_
  intro act s1 h1
  obtain ⟨k1, rfl⟩ := h1.bump
  refine wp_mono (rowNode_spec r act _) ?_
  intro n s2 hn
  obtain ⟨k2, rfl⟩ := hn.drew.bump
  have b1 : BInv (fun x => x = s.nodes.size ∨ P x) H root
      { s with nodes := s.nodes.push n, next := s.next + k1 + k2 } := by
    unfold BInv; simpa using BInvC.pending b
  refine wp_mono (BStep.forM (fun x _ => addRowEdge_B) _ b1) ?_
  rintro _ s3 ⟨b3, h3⟩
  have b4 : BInv P (fun x => x = s3.groups.size ∨ H x) root
      { s3 with groups := s3.groups.push (.row [s.nodes.size] r.type) } :=
    BInvC.newGrp b3 rfl fun h => h.newRow (heldF_size _) fun hp => Nat.lt_irrefl _ (b.n.plt _ hp)
  refine wp_mono (appendGroup_B b4 b3.above.1 b3.above.2) ?_
  rintro _ s5 ⟨b5, h5⟩
  exact ⟨b5.frame rfl rfl rfl, by simpa using h5.trans h3⟩

theorem actionRow_B : BStep (actionRow r) := by
  intro P H root s b
  unfold actionRow
  wp_simp
  refine ⟨fun _ => trivial, fun _ => ?_⟩
  split
  · exact (mergeRow_frame).bstep s b
  · exact newRow_B s b

theorem parseRow_B : BStep (parseRow r) := by
  intro P H root s b
  unfold parseRow
  wp_simp
  exact ⟨fun _ => BStep.forM (fun x _ => addRowEdge_B) s b, fun _ =>
    ⟨fun _ => parseGoto_B s b, fun _ =>
    ⟨fun _ => parseNoop_B s b, fun _ => ⟨fun _ => trivial, fun _ =>
      actionRow_B s b⟩⟩⟩⟩

/-- parser events keep the invariant (the stack may change) -/
def PStep (m : M PUnit) : Prop :=
  ∀ {P H : Nat → Prop} {root : Nat} (s : St), BInv P H root s → wp m s (fun _ s' => BInv P H root s')

theorem BStep.pstep {m : M PUnit} (h : BStep m) : PStep m := by
  intro P H root s b
  exact wp_mono (h s b) (fun _ _ hh => hh.1)

theorem openGroup_B : PStep (openGroup edges starting) := by
  intro P H root s b
  unfold openGroup
  wp_simp [wp_addGrp]
  have b1 : BInvC P (fun x => x = s.groups.size ∨ H x) root s.nodes.size
      (s.groups.push (Grp.block [])) s.stack :=
    BInvC.newGrp b rfl (fun h => h.newEmpty (heldF_size _))
  have b2 : BInv P H root { s with groups := s.groups.push (Grp.block []), stack := s.groups.size :: s.stack } := by
    refine BInvC.reroot b1 ?_ ⟨?_, ?_, ?_⟩
    · intro x; simp only [List.mem_cons]
      exact or_left_comm.trans or_assoc.symm
    · rw [List.pairwise_cons]
      exact ⟨b.above.2, b.st.sorted⟩
    · intro x hx hH
      rcases List.mem_cons.mp hx with hx | hx
      · exact b.above.1 (hx ▸ hH)
      · exact b.st.notH x hx hH
    · rw [List.getLast?_cons_of_ne_nil b.st.ne_nil]; exact b.st.last
  refine ⟨fun _ => b2, fun _ => ?_⟩
  exact BStep.pstep parseNoop_B _ b2

theorem closeGroup_B : PStep (closeGroup rowId) := by
  intro P H root s b
  rw [wp_closeGroup]
  intro b0 x xs hst
  have b' : BInvC P H root s.nodes.size s.groups (b0 :: x :: xs) := by rw [← hst]; exact b
  have hs := b'.st.sorted
  rw [List.pairwise_cons] at hs
  have b1 : BInv P (fun y => y = b0 ∨ H y) root { s with stack := x :: xs } := by
    refine BInvC.reroot b' ?_ ⟨hs.2, ?_, ?_⟩
    · intro y; simp only [List.mem_cons]
      exact or_assoc.trans or_left_comm
    · intro y hy
      rintro (h | h)
      · have := hs.1 y hy; omega
      · exact b'.st.notH y (by simp only [List.mem_cons] at hy ⊢; exact .inr hy) h
    · have := b'.st.last
      rw [List.getLast?_cons_of_ne_nil (by simp)] at this
      exact this
  exact wp_mono (appendGroup_B b1 (b'.st.notH b0 (by simp)) hs.1) (fun _ _ hh => hh.1)

theorem insertLeave_B (b : BInv P (fun x => x ∈ s0.stack ∨ H x) b0 s) (hs0 : SInv H root s0.stack)
    (hlt : ∀ x ∈ s0.stack, x < b0) :
    wp (insertLeave s0 b0 r) s (fun _ s' => BInv P H root s') := by
  unfold insertLeave
  wp_simp
  refine ⟨fun _ => trivial, fun hl => ?_⟩
  have hst : s.stack = [b0] := b.st.eq_singleton (by simpa using hl)
  refine wp_ro ro_fuelOf ?_
  intro fuel
  refine wp_ro (ro_entryNode _ _) ?_
  intro i
  wp_simp [wp_getNode]
  intro n hn
  have b' : BInvC P (fun x => x ∈ s0.stack ∨ H x) b0 s.nodes.size s.groups [b0] := by rw [← hst]; exact b
  have hb0 : b0 ∉ s0.stack := fun hm => b'.st.notH b0 (by simp) (.inl hm)
  have b1 : BInv P (fun y => y = b0 ∨ H y) root
      { s with stack := s0.stack, rowIds := s0.rowIds, names := s0.names } := by
    refine BInvC.reroot b' ?_ ⟨hs0.sorted, ?_, hs0.last⟩
    · intro y; simp only [List.mem_singleton]
      exact or_left_comm
    · intro y hy
      rintro (h | h)
      · exact hb0 (h ▸ hy)
      · exact hs0.notH y hy h
  refine wp_mono (BStep.forM (fun x _ => addRowEdge_B) _ b1) ?_
  rintro _ s2 ⟨b2, h2⟩
  refine wp_mono (appendGroup_B b2 (fun hy => b'.st.notH b0 (by simp) (.inr hy)) ?_)
    (fun _ _ hh => hh.1)
  intro y hy; rw [h2] at hy; exact hlt y hy

mutual
theorem step_B : ∀ e : Event, PStep (step e)
  | .row r => by unfold step; exact BStep.pstep parseRow_B
  | .openGroup edges starting => by unfold step; exact openGroup_B
  | .closeGroup rowId => by unfold step; exact closeGroup_B
  | .insert r body => by
    intro s b
    rename_i P H root
    unfold step
    wp_simp [wp_insertEnter]
    have b1 : BInvC P (fun x => x = s.groups.size ∨ H x) root s.nodes.size
        (s.groups.push (Grp.block [])) s.stack :=
      BInvC.newGrp b rfl (fun h => h.newEmpty (heldF_size _))
    have b2 : BInv P (fun x => x ∈ s.stack ∨ H x) s.groups.size
        { s with groups := s.groups.push (Grp.block []), stack := [s.groups.size], rowIds := [], names := [] } := by
      refine BInvC.reroot b1 ?_ ⟨by simp, ?_, by simp⟩
      · intro x; simp only [List.mem_singleton]
        exact or_left_comm
      · intro x hx
        rw [List.mem_singleton.mp hx]
        exact fun h => h.elim (fun h => Nat.lt_irrefl _ (b.above.2 _ h)) b.above.1
    refine wp_mono (steps_B body _ b2) ?_
    intro _ s2 b3
    exact insertLeave_B b3 b.st b.above.2
theorem steps_B : ∀ es : List Event, PStep (steps es)
  | [] => by intro s b; unfold steps; wp_simp; exact b
  | e :: es => by
    intro s b
    unfold steps
    wp_simp
    refine wp_mono (step_B e s b) ?_
    intro _ s1 b1
    exact steps_B es s1 b1
end

end Rpft.Compile
