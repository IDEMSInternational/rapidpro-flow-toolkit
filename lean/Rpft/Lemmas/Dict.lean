/-
The theory of `Rpft.Dict` (Python dict as association list in insertion order): per operation, what
it does to `keys` and to `get`.  The invariant of every dict built from `[]` is `(keys d).Nodup`;
lemmas that need it take it as a hypothesis, and `nodup_set`, `nodup_pop`, `nodup_update`,
`nodup_ofList` keep it.  What a run of assignments leaves is said with `firstOcc` and `lastVal`: the
keys in order of first occurrence (`keys_foldl_set`, `keys_update`), under each key the value of its
last occurrence (`get_update`).  A model that carries a dictionary of its own proves once that its
assignment and look-up are `Dict.set` and `Dict.get` and then uses these lemmas; for that, at the end,
`List.lookup` is `get` (`lookup_eq_get`), a dictionary under an injective renaming of its keys
(`get_map_key`, `set_map_key`), and equality from equal keys and look-ups (`ext_of_keys_get`).
-/
import Rpft.Dict
import Rpft.Lemmas.ListFacts
namespace Rpft

/-- the distinct elements of a list in order of first occurrence -/
def firstOcc {κ : Type} [DecidableEq κ] : List κ → List κ
  | [] => []
  | a :: l => a :: (firstOcc l).filter (fun x => x ≠ a)

/-- the value paired with the LAST occurrence of key `k` -/
def lastVal {κ β : Type} [DecidableEq κ] : List (κ × β) → κ → Option β
  | [], _ => none
  | (k', v) :: rest, k =>
    match lastVal rest k with
    | some w => some w
    | none => if k' = k then some v else none

section
variable {κ β : Type} [DecidableEq κ]

theorem mem_firstOcc {a : κ} {l : List κ} : a ∈ firstOcc l ↔ a ∈ l := by
  induction l with
  | nil => simp [firstOcc]
  | cons b l ih =>
    simp only [firstOcc, List.mem_cons, List.mem_filter, ih]
    by_cases h : a = b <;> simp [h]

theorem nodup_firstOcc (l : List κ) : (firstOcc l).Nodup := by
  induction l with
  | nil => simp [firstOcc]
  | cons a l ih =>
    simp only [firstOcc, List.nodup_cons, List.mem_filter]
    exact ⟨by simp, ih.filter _⟩

theorem firstOcc_of_nodup {l : List κ} (h : l.Nodup) : firstOcc l = l := by
  induction l with
  | nil => rfl
  | cons a l ih =>
    rw [List.nodup_cons] at h
    rw [firstOcc, ih h.2, filter_ne_of_not_mem h.1]

theorem firstOcc_filter (p : κ → Bool) (l : List κ) :
    (firstOcc l).filter p = firstOcc (l.filter p) := by
  induction l with
  | nil => rfl
  | cons a l ih =>
    by_cases hp : p a = true
    · simp only [firstOcc, List.filter_cons, hp, if_true]
      rw [← ih, List.filter_filter, List.filter_filter]
      congr 2
      funext x
      exact Bool.and_comm _ _
    · simp only [firstOcc, List.filter_cons, hp, Bool.false_eq_true, if_false]
      rw [← ih, List.filter_filter]
      apply List.filter_congr
      intro x _
      by_cases hx : x = a
      · subst hx; simp [hp]
      · simp [hx]

theorem firstOcc_perm {l₁ l₂ : List κ} (h : l₁.Perm l₂) : (firstOcc l₁).Perm (firstOcc l₂) :=
  (List.perm_ext_iff_of_nodup (nodup_firstOcc _) (nodup_firstOcc _)).mpr fun a => by
    rw [mem_firstOcc, mem_firstOcc]; exact h.mem_iff

theorem firstOcc_append_cons_of_mem {k : κ} {l : List κ} (h : k ∈ l) (r : List κ) :
    firstOcc (l ++ k :: r) = firstOcc (l ++ r) := by
  induction l with
  | nil => simp at h
  | cons a l ih =>
    simp only [List.cons_append, firstOcc]
    by_cases hak : a = k
    · subst hak
      rw [firstOcc_filter, firstOcc_filter]
      simp
    · have : k ∈ l := by
        rcases List.mem_cons.mp h with e | e
        · exact absurd e.symm hak
        · exact e
      rw [ih this]

theorem firstOcc_append_singleton_of_not_mem {k : κ} {l : List κ} (hl : l.Nodup) (h : k ∉ l) :
    firstOcc (l ++ [k]) = l ++ [k] :=
  firstOcc_of_nodup (nodup_concat hl h)

theorem lastVal_eq_none_iff {l : List (κ × β)} {k : κ} :
    lastVal l k = none ↔ ∀ p ∈ l, p.1 ≠ k := by
  induction l with
  | nil => simp [lastVal]
  | cons p t ih =>
    simp only [lastVal, List.forall_mem_cons, ← ih]
    cases lastVal t k <;> simp

theorem mem_of_lastVal {l : List (κ × β)} {k : κ} {v : β} (h : lastVal l k = some v) :
    (k, v) ∈ l := by
  induction l with
  | nil => cases h
  | cons p t ih =>
    obtain ⟨k', w⟩ := p
    simp only [lastVal] at h
    split at h
    · next hw => exact List.mem_cons_of_mem _ (ih (hw.trans h))
    · split at h
      · next e => cases h; subst e; exact List.mem_cons_self
      · cases h

namespace Dict

theorem get_eq_find? (d : Dict κ β) (k : κ) : get d k = (d.find? (·.1 = k)).map (·.2) := by
  induction d with
  | nil => rfl
  | cons p d ih => simp only [get, List.find?_cons, ih]; split <;> simp [*]

theorem get_eq_none_iff {d : Dict κ β} {k : κ} : get d k = none ↔ k ∉ keys d := by
  induction d with
  | nil => simp [get, keys]
  | cons kv d ih =>
    obtain ⟨k', v'⟩ := kv
    simp only [keys] at ih
    by_cases h : k' = k
    · subst h; simp [get, keys]
    · have : k ≠ k' := fun e => h e.symm
      simp [get, keys, h, ih, this]

theorem get_isSome_iff {d : Dict κ β} {k : κ} : (get d k).isSome ↔ k ∈ keys d := by
  rw [Option.isSome_iff_ne_none, Ne, get_eq_none_iff, Decidable.not_not]

theorem mem_of_get {d : Dict κ β} {k : κ} {v : β} (h : get d k = some v) : (k, v) ∈ d := by
  rw [get_eq_find?, Option.map_eq_some_iff] at h
  obtain ⟨p, hp, rfl⟩ := h
  have := List.find?_some hp
  simp only [decide_eq_true_eq] at this
  exact this ▸ List.mem_of_find?_eq_some hp

theorem get_of_mem {d : Dict κ β} (hn : (keys d).Nodup) {k : κ} {v : β} (h : (k, v) ∈ d) :
    get d k = some v := by
  induction d with
  | nil => cases h
  | cons p t ih =>
    obtain ⟨k₀, v₀⟩ := p
    simp only [keys, List.map_cons, List.nodup_cons] at hn
    rcases List.mem_cons.1 h with e | h
    · cases e; simp [get]
    · have : k₀ ≠ k := fun e => hn.1 (e ▸ List.mem_map.2 ⟨(k, v), h, rfl⟩)
      simp only [get, this, if_false]
      exact ih hn.2 h

theorem get_eq_some_iff_mem {d : Dict κ β} (hn : (keys d).Nodup) {k : κ} {v : β} :
    get d k = some v ↔ (k, v) ∈ d :=
  ⟨mem_of_get, get_of_mem hn⟩

theorem get_append (d e : Dict κ β) (k : κ) : get (d ++ e) k = (get d k).or (get e k) := by
  simp only [get_eq_find?, List.find?_append]; cases d.find? _ <;> rfl

theorem get_perm {d e : Dict κ β} (hp : d.Perm e) (hn : (keys d).Nodup) (k : κ) :
    get e k = get d k := by
  have hn' : (keys e).Nodup := (hp.map _).nodup_iff.1 hn
  cases h : get d k with
  | none =>
    exact get_eq_none_iff.2 fun hm => get_eq_none_iff.1 h ((hp.map _).mem_iff.2 hm)
  | some v => exact get_of_mem hn' (hp.mem_iff.1 (mem_of_get h))

omit [DecidableEq κ] in
theorem keys_map {γ : Type} (f : β → γ) (d : Dict κ β) :
    keys (d.map fun p => (p.1, f p.2) : Dict κ γ) = keys d := by
  simp [keys, List.map_map, Function.comp_def]

theorem get_map {γ : Type} (f : β → γ) (d : Dict κ β) (k : κ) :
    get (d.map fun p => (p.1, f p.2) : Dict κ γ) k = (get d k).map f := by
  induction d with
  | nil => rfl
  | cons p d ih => simp only [List.map_cons, get, ih]; split <;> rfl

theorem keys_set (d : Dict κ β) (k : κ) (v : β) :
    keys (set d k v) = if k ∈ keys d then keys d else keys d ++ [k] := by
  induction d with
  | nil => simp [set, keys]
  | cons kv d ih =>
    obtain ⟨k', v'⟩ := kv
    simp only [set, keys] at ih ⊢
    by_cases h : k' = k
    · subst h; simp
    · have h' : k ≠ k' := fun e => h e.symm
      simp only [h, if_false, List.map_cons, ih, List.mem_cons, h', false_or]
      split <;> simp [*]

/-- `keys_set` for whatever decision procedure the caller's `if` carries: at `κ = Str = List Char`
instance search finds `List.instBEq` where `keys_set` has `instBEqOfDecidableEq` -/
theorem keys_set_inst (d : Dict κ β) (k : κ) (v : β) [Decidable (k ∈ keys d)] :
    keys (set d k v) = if k ∈ keys d then keys d else keys d ++ [k] := by
  rw [keys_set]; congr

theorem mem_keys_set {d : Dict κ β} {k k' : κ} {v : β} :
    k' ∈ keys (set d k v) ↔ k' = k ∨ k' ∈ keys d := by
  rw [keys_set]
  split
  · constructor
    · exact Or.inr
    · rintro (h | h)
      · subst h; assumption
      · exact h
  · simp [or_comm]

theorem nodup_set {d : Dict κ β} (h : (keys d).Nodup) (k : κ) (v : β) :
    (keys (set d k v)).Nodup := by
  rw [keys_set]
  split
  · exact h
  · exact nodup_concat h ‹_›

theorem get_set (d : Dict κ β) (k k' : κ) (v : β) :
    get (set d k v) k' = if k' = k then some v else get d k' := by
  induction d with
  | nil => by_cases h : k' = k <;> simp [set, get, h, Ne.symm]
  | cons kv d ih =>
    obtain ⟨k'', v''⟩ := kv
    by_cases h1 : k'' = k
    · subst h1; by_cases h : k' = k'' <;> simp [set, get, h, Ne.symm]
    · simp only [set, h1, if_false, get, ih]
      by_cases h2 : k'' = k'
      · subst h2; simp [h1]
      · simp [h2]

theorem get_set_self (d : Dict κ β) (k : κ) (v : β) : get (set d k v) k = some v := by
  rw [get_set, if_pos rfl]

theorem get_set_ne (d : Dict κ β) {k k' : κ} (v : β) (h : k' ≠ k) :
    get (set d k v) k' = get d k' := by
  rw [get_set, if_neg h]

theorem set_of_not_mem {d : Dict κ β} {k : κ} (h : k ∉ keys d) (v : β) :
    set d k v = d ++ [(k, v)] := by
  induction d with
  | nil => rfl
  | cons kv d ih =>
    obtain ⟨k', v'⟩ := kv
    simp only [keys, List.map_cons, List.mem_cons, not_or] at h
    have : k' ≠ k := fun e => h.1 e.symm
    simp only [set, this, if_false, List.cons_append]
    rw [ih (by simpa [keys] using h.2)]

theorem set_concat {d : Dict κ β} {k : κ} (h : k ∉ keys d) (v w : β) :
    set (d ++ [(k, v)]) k w = d ++ [(k, w)] := by
  induction d with
  | nil => simp [set]
  | cons p d ih =>
    simp only [keys, List.map_cons, List.mem_cons, not_or] at h
    have : p.1 ≠ k := fun e => h.1 e.symm
    simp only [List.cons_append, set, this, if_false]
    rw [ih (by simpa [keys] using h.2)]

theorem mem_set {d : Dict κ β} {k : κ} {v : β} {x : κ × β} (h : x ∈ set d k v) :
    x ∈ d ∨ x = (k, v) := by
  induction d with
  | nil => exact Or.inr (List.mem_singleton.1 h)
  | cons p d ih =>
    simp only [set] at h
    split at h
    · exact (List.mem_cons.1 h).elim Or.inr fun h => Or.inl (List.mem_cons_of_mem _ h)
    · exact (List.mem_cons.1 h).elim (fun h => Or.inl (h ▸ List.mem_cons_self ..))
        fun h => (ih h).imp_left (List.mem_cons_of_mem _)

/-- The keys after a run of assignments, whatever values are assigned (they may depend on the dict
so far, as in `d[k].append(v)`). -/
theorem keys_foldl_set {α : Type} (key : α → κ) (val : Dict κ β → α → β) {d : Dict κ β}
    (h : (keys d).Nodup) (l : List α) :
    keys (l.foldl (fun d a => set d (key a) (val d a)) d) = firstOcc (keys d ++ l.map key) := by
  induction l generalizing d with
  | nil => simp [firstOcc_of_nodup h]
  | cons a l ih =>
    rw [List.foldl_cons, ih (nodup_set h _ _), keys_set, List.map_cons]
    split
    · next hk => rw [firstOcc_append_cons_of_mem hk]
    · simp [List.append_assoc]

theorem keys_pop {d : Dict κ β} (h : (keys d).Nodup) (k : κ) :
    keys (pop d k) = (keys d).filter (fun x => x ≠ k) := by
  induction d with
  | nil => rfl
  | cons kv d ih =>
    obtain ⟨k', v'⟩ := kv
    simp only [keys, List.map_cons, List.nodup_cons] at h ih ⊢
    by_cases hk : k' = k
    · subst hk
      rw [List.filter_cons_of_neg (by simp), filter_ne_of_not_mem h.1]
      simp [pop]
    · simp [pop, hk, ih h.2]

theorem nodup_pop {d : Dict κ β} (h : (keys d).Nodup) (k : κ) : (keys (pop d k)).Nodup := by
  rw [keys_pop h]; exact h.filter _

theorem get_pop_self {d : Dict κ β} (h : (keys d).Nodup) (k : κ) : get (pop d k) k = none := by
  rw [get_eq_none_iff, keys_pop h]
  simp

theorem get_pop_ne (d : Dict κ β) {k k' : κ} (h : k' ≠ k) : get (pop d k) k' = get d k' := by
  induction d with
  | nil => rfl
  | cons kv d ih =>
    obtain ⟨k'', v''⟩ := kv
    by_cases h1 : k'' = k
    · subst h1
      simp [pop, get, Ne.symm h]
    · by_cases h2 : k'' = k'
      · subst h2; simp [pop, get, h1]
      · simp [pop, get, h1, h2, ih]

theorem update_nil (d : Dict κ β) : update d [] = d := rfl
theorem update_cons (d : Dict κ β) (kv : κ × β) (items : List (κ × β)) :
    update d (kv :: items) = update (set d kv.1 kv.2) items := rfl
theorem update_append (d : Dict κ β) (a b : List (κ × β)) :
    update d (a ++ b) = update (update d a) b := by
  simp [update, List.foldl_append]

theorem foldl_update (d : Dict κ β) (ls : List (List (κ × β))) :
    ls.foldl update d = update d ls.flatten := by
  induction ls generalizing d with
  | nil => rfl
  | cons l ls ih => simp [ih, update_append]

theorem nodup_update {d : Dict κ β} (h : (keys d).Nodup) (items : List (κ × β)) :
    (keys (update d items)).Nodup := by
  induction items generalizing d with
  | nil => exact h
  | cons kv items ih => rw [update_cons]; exact ih (nodup_set h _ _)

theorem keys_update {d : Dict κ β} (h : (keys d).Nodup) (items : List (κ × β)) :
    keys (update d items) = firstOcc (keys d ++ items.map (·.1)) :=
  keys_foldl_set (fun kv : κ × β => kv.1) (fun _ kv => kv.2) h items

theorem get_update (d : Dict κ β) (items : List (κ × β)) (k : κ) :
    get (update d items) k = (lastVal items k).or (get d k) := by
  induction items generalizing d with
  | nil => simp [update_nil, lastVal]
  | cons kv items ih =>
    obtain ⟨k', v⟩ := kv
    rw [update_cons, ih]
    simp only [lastVal]
    cases hl : lastVal items k with
    | some w => simp
    | none =>
      simp only [Option.none_or, get_set]
      by_cases h : k' = k
      · subst h; simp
      · have : k ≠ k' := fun e => h e.symm
        simp [h, this]

theorem update_of_nodup_disjoint {d : Dict κ β} {items : List (κ × β)}
    (hi : (items.map (·.1)).Nodup) (hd : ∀ k ∈ items.map (·.1), k ∉ keys d) :
    update d items = d ++ items := by
  induction items generalizing d with
  | nil => simp [update_nil]
  | cons kv items ih =>
    obtain ⟨k, v⟩ := kv
    simp only [List.map_cons, List.nodup_cons] at hi
    rw [update_cons, set_of_not_mem (hd k (by simp))]
    rw [ih hi.2]
    · simp
    · intro k' hk'
      simp only [keys, List.map_append, List.map_cons, List.map_nil, List.mem_append,
        List.mem_singleton, not_or]
      refine ⟨?_, fun e => hi.1 (e ▸ hk')⟩
      have := hd k' (by simp [hk'])
      simpa [keys] using this

theorem ofList_of_nodup {items : List (κ × β)} (h : (items.map (·.1)).Nodup) :
    ofList items = items := by
  unfold ofList
  rw [update_of_nodup_disjoint h] <;> simp [keys]

theorem nodup_ofList (items : List (κ × β)) : (keys (ofList items)).Nodup :=
  nodup_update (by simp [keys]) items

theorem keys_ofList (items : List (κ × β)) :
    keys (ofList items) = firstOcc (items.map (·.1)) := by
  unfold ofList
  rw [keys_update (by simp [keys])]
  simp [keys]

theorem get_ofList (items : List (κ × β)) (k : κ) : get (ofList items) k = lastVal items k := by
  unfold ofList
  rw [get_update]
  simp [get]

theorem lookup_eq_get [BEq κ] [LawfulBEq κ] (k : κ) (d : List (κ × β)) : d.lookup k = get d k := by
  induction d with
  | nil => rfl
  | cons a d ih =>
    obtain ⟨k', v⟩ := a
    by_cases h : k' = k
    · simp [List.lookup, get, h]
    · have h' : (k == k') = false := by simp [Ne.symm h]
      simp [List.lookup, get, h, h', ih]

theorem get_map_key {κ' : Type} [DecidableEq κ'] {f : κ → κ'} (hf : Function.Injective f) (d : Dict κ β) (k : κ) :
    get (d.map fun kv => (f kv.1, kv.2)) (f k) = get d k := by
  induction d with
  | nil => rfl
  | cons kv d ih =>
    simp only [List.map_cons, get, ih]
    by_cases hk : kv.1 = k
    · simp [hk]
    · have : f kv.1 ≠ f k := fun e => hk (hf e)
      simp [hk, this]

theorem set_map_key {κ' : Type} [DecidableEq κ'] {f : κ → κ'} (hf : Function.Injective f) (d : Dict κ β) (k : κ) (v : β) :
    set (d.map fun kv => (f kv.1, kv.2)) (f k) v = (set d k v).map fun kv => (f kv.1, kv.2) := by
  induction d with
  | nil => rfl
  | cons kv d ih =>
    simp only [List.map_cons, set, ih]
    by_cases hk : kv.1 = k
    · simp [hk]
    · have : f kv.1 ≠ f k := fun e => hk (hf e)
      simp [hk, this]

theorem ext_of_keys_get {d e : Dict κ β} (hd : (keys d).Nodup) (hk : keys d = keys e)
    (hg : ∀ k, get d k = get e k) : d = e := by
  induction d generalizing e with
  | nil =>
    cases e with
    | nil => rfl
    | cons a e => simp [keys] at hk
  | cons kv d ih =>
    cases e with
    | nil => simp [keys] at hk
    | cons kv' e =>
      obtain ⟨k, v⟩ := kv
      obtain ⟨k', v'⟩ := kv'
      simp only [keys, List.map_cons, List.cons.injEq] at hk
      obtain ⟨hkk, hrest⟩ := hk
      subst hkk
      have hv := hg k
      simp only [get, if_true, Option.some.injEq] at hv
      subst hv
      simp only [keys, List.map_cons, List.nodup_cons] at hd
      congr 1
      apply ih hd.2 hrest
      intro x
      have := hg x
      by_cases hx : k = x
      · subst hx
        have h1 : get d k = none := get_eq_none_iff.mpr hd.1
        have h2 : get e k = none := get_eq_none_iff.mpr (by rw [keys, ← hrest]; exact hd.1)
        rw [h1, h2]
      · simpa [get, hx] using this

end Dict
end
end Rpft
