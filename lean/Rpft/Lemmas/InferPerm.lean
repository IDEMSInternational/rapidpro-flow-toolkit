/-
C18, the round trip through all levels: ANY permutation of the rendered headers of a schema
(interleaved fields, column-major lists of records, split sub-records / lists, list entries out
of order) is inferred as the same model up to the order of the fields (`TyEquiv`), and the
canonical header list of an ordered schema as exactly that schema — one induction on the type
(`roundtrip`) over the closed form of one level (`Rendered.level`, `Lemmas/InferNested.lean`) and what
the family without a condition on the order of the fields says one level down (`wf_children`);
`infer_schema` reads it at the top level.  Core Lean only.
-/
import Rpft.Lemmas.InferNorm
namespace Rpft.Infer
open Rpft

theorem names_of_normPerm {F G : List Field} (h : (F.map normField).Perm (G.map normField)) :
    (F.map (fun f => f.1)).Perm (G.map (fun f => f.1)) := by
  have := h.map (fun f : Field => f.1)
  simpa [List.map_map, Function.comp_def, normField] using this

/-- a record: the created model and its default record are those of the schema up to the
order of the fields -/
theorem finish_equiv_record {fs F : List Field}
    (hF : (F.map normField).Perm (fs.map normField))
    (hr : ∀ f ∈ fs, RecName f.1) (n5 : (fs.map (fun f => f.1)).Nodup) :
    finish F = .ok (.model F, defaultRecord F) ∧ (Ty.model F).norm = (Ty.model fs).norm ∧
    (defaultRecord F).norm = (defaultRecord fs).norm := by
  have hn := names_of_normPerm hF
  have hFn : (F.map (fun f => f.1)).Nodup := hn.nodup_iff.mpr n5
  refine ⟨finish_model F fun f hf => ?_, ?_, ?_⟩
  · obtain ⟨g, hg, e⟩ := List.mem_map.mp (hn.subset (List.mem_map_of_mem hf))
    exact e ▸ hr g hg
  · simp only [Ty.norm, Ty.normF_eq_map]
    congr 1
    apply isortK_eq_of_perm _ hF
    simpa [List.map_map, Function.comp_def, normField] using hFn
  · simp only [defaultRecord, Val.norm, Val.normR_eq_map, List.map_map]
    congr 1
    have e : ∀ L : List Field, L.map ((fun p : Str × Val => (p.1, p.2.norm)) ∘ fun f => (f.1, f.2.2)) =
        (L.map normField).map (fun f => (f.1, f.2.2)) := by
      intro L; simp [List.map_map, Function.comp_def, normField]
    rw [e F, e fs]
    apply isortK_eq_of_perm _ (hF.map _)
    simpa [List.map_map, Function.comp_def, normField] using hFn

theorem sizeOf_field_lt {fs : List Field} {f : Field} (h : f ∈ fs) :
    sizeOf f.2.1 < sizeOf (Ty.model fs) := by
  have := List.sizeOf_lt_of_mem h
  obtain ⟨n, t, d⟩ := f
  simp only [Ty.model.sizeOf_spec, Prod.mk.sizeOf_spec] at this ⊢
  omega

theorem wf_children {t : Ty} {d : Val} (hf : wfTD t d = true) (hs : isSimple t d = false) :
    childFields t d ≠ [] ∧ ((childFields t d).map (fun f => f.1)).Nodup ∧
    (∀ f ∈ childFields t d,
      (NameFits f.1 ∧ wfTD f.2.1 f.2.2 = true) ∧ sizeOf f.2.1 < sizeOf t) ∧
    (∀ F, (F.map normField).Perm ((childFields t d).map normField) →
      ∃ td, finish F = .ok td ∧ td.1.norm = t.norm ∧ td.2.norm = d.norm) := by
  induction t, d, hs using complex_cases with
  | model fs d =>
    simp only [wfTD, Bool.and_eq_true, Bool.not_eq_true', List.isEmpty_eq_false_iff] at hf
    obtain ⟨⟨⟨hne, hfam⟩, hnames⟩, hd⟩ := hf
    obtain ⟨hn, n5⟩ := namesOkU_unpack hnames
    have := Val.eq_of_beq _ _ hd
    subst this
    refine ⟨hne, n5, fun f hf => ⟨⟨(hn f hf).1, wfFs_mem hfam f hf⟩, sizeOf_field_lt hf⟩,
      fun F hF => ?_⟩
    obtain ⟨e1, e2, e3⟩ := finish_equiv_record hF (fun f hf => (hn f hf).2) n5
    exact ⟨_, e1, e2, e3⟩
  | list t d ds =>
    simp only [wfTD, List.all_eq_true] at hf
    refine ⟨by simp [childFields, idxFields], idxFields_nodup t 1 _, fun f hf' => ?_, ?_⟩
    · obtain ⟨⟨j, e⟩, e1, e2⟩ := mem_idxFields t hf'
      rw [e, e1]
      exact ⟨⟨(plain_natToStr _).nameFits, hf _ e2⟩, by simp only [Ty.list.sizeOf_spec]; omega⟩
    · intro F hF
      obtain ⟨t', ds', e1, e2, e3⟩ := finish_indexed Ty.norm Val.norm t (d :: ds) (by simp) F hF
      exact ⟨_, e1, by simp only [Ty.norm, e2], by simp only [Val.norm, Val.normL_eq_map, e3]⟩

/-- **The nested round trip**, by induction on the size of the type.  Any permutation of the
headers below a complex field of the family (fields in any order) is inferred back as its type and
default up to the order of the fields; and exactly, if nothing was permuted and the field is of the
ordered family. -/
theorem roundtrip (t : Ty) (d : Val) (hf : wfTD t d = true) :
    renderTD t d ≠ [] ∧
    (isSimple t d = false → ∀ fuel hs, hs.Perm (renderFs (childFields t d)) →
      (∀ s ∈ hs, s.length < fuel) →
      ∃ td, inferRec fuel hs = .ok td ∧ td.1.norm = t.norm ∧ td.2.norm = d.norm ∧
        (famTD t d = true → hs = renderFs (childFields t d) → td = (t, d))) := by
  cases hs : isSimple t d with
  | true => rw [renderTD_simple hs]; simp
  | false =>
    obtain ⟨c1, c3, c5, c6⟩ := wf_children hf hs
    have ih : ∀ f ∈ childFields t d, _ := fun f hf' => roundtrip f.2.1 f.2.2 (c5 f hf').1.2
    have hne : renderFs (childFields t d) ≠ [] := renderFs_ne_nil c1 (fun f hf' => (ih f hf').1)
    refine ⟨by rw [renderTD_complex hs]; simpa using hne, fun _ fuel hs' hp hfuel => ?_⟩
    cases fuel with
    | zero =>
      cases hr : hs' with
      | nil => subst hr; exact absurd (List.perm_nil.mp hp.symm) hne
      | cons s _ => have := hfuel s (by simp [hr]); omega
    | succ fuel =>
      have r := Rendered.of_perm hp (fun f hf' => (c5 f hf').1) c3
        (fun f hf' hsf => subOf_ne_nil hsf (ih f hf').1)
      -- the recursive calls: under the key of a complex field stands a permutation of its sub-headers
      have hC : ∀ f ∈ complexes (childFields t d), ∃ td,
          inferRec fuel (sel f.1 (cxOf hs')) = .ok td ∧ td.1.norm = f.2.1.norm ∧
          td.2.norm = f.2.2.norm ∧
          (famTD f.2.1 f.2.2 = true → sel f.1 (cxOf hs') = subOf f → td = f.2) := by
        intro f hf
        obtain ⟨hm, hsf⟩ := mem_complexes.mp hf
        refine (ih f hm).2 hsf fuel _ (r.sel_perm hf) fun s hs'' => ?_
        have := hfuel _ (hp.symm.subset (sub_mem_renderFs hm hsf ((r.sel_perm hf).subset hs'')))
        simp at this; omega
      have e1 := r.level fuel fun f hf => (hC f hf).imp fun _ h => h.1
      -- up to field order: what the loops built is a permutation of the fields, each up to field order
      have e2 : ((simplesOf hs' ++ groupsOf fuel hs').map normField).Perm
          ((childFields t d).map normField) := by
        have e : (complexes (childFields t d)).map normField =
            ((complexes (childFields t d)).map (fun f => f.1)).map
              (normField ∘ fun k => (k, okOr (inferRec fuel (sel k (cxOf hs'))))) := by
          rw [List.map_map]
          refine List.map_congr_left fun f hf => ?_
          obtain ⟨td, t1, t2, t3, _⟩ := hC f hf
          simp only [Function.comp, t1, okOr, normField, t2, t3]
        unfold groupsOf
        rw [List.map_append, List.map_map]
        have := (r.simples_perm.map normField).append (e ▸ r.keys_perm.map _)
        rw [← List.map_append] at this
        exact this.trans ((List.filter_append_perm _ _).map normField)
      obtain ⟨td, f1, f2, f3⟩ := c6 _ e2
      refine ⟨td, by rw [e1, f1], f2, f3, fun hfam hcan => ?_⟩
      -- exactly: in the canonical order of an ordered field list the loops rebuild the list itself
      subst hcan
      obtain ⟨c4, c5', c6'⟩ := fam_children hfam hs
      have hc := classify_render _ (fun f hf' => (c5 f hf').1)
      have hx : ∀ f ∈ complexes (childFields t d),
          (f.1, okOr (inferRec fuel (subOf f))) = f := fun f hf => by
        obtain ⟨td, t1, _, _, t4⟩ := hC f hf
        rw [r.sel_canonical hc hf] at t1 t4
        rw [t1, okOr, t4 (c5' f (mem_complexes.mp hf).1) rfl]
      rw [r.canonical hc fuel, List.map_congr_left hx, List.map_id',
        show simples _ ++ complexes _ = childFields t d from simpleFirst_split _ _ c4, c6'] at f1
      exact (Except.ok.inj f1).symm
termination_by sizeOf t
decreasing_by exact (c5 f hf').2

/-- the top level is the record case: any permutation of the canonical headers of a schema
(fields in any order) is inferred as the schema up to the order of the fields, and the canonical
headers of a schema of the ordered family as the schema itself -/
theorem infer_schema (sch : Schema) (h : inFamilyUB sch = true) (hs : List Str)
    (hp : hs.Perm (renderHeaders sch)) : ∃ t, infer hs = .ok t ∧ TyEquiv t (.model sch) ∧
      (inFamilyB sch = true → hs = renderHeaders sch → t = .model sch) := by
  cases sch with
  | nil => rw [List.perm_nil.mp hp]; exact ⟨_, rfl, rfl, fun _ _ => rfl⟩
  | cons f fs =>
    simp only [inFamilyUB, Bool.and_eq_true] at h
    have nr := roundtrip (.model (f :: fs)) (defaultRecord (f :: fs))
      (by simp [wfTD, h.1, h.2, Val.beq_refl])
    obtain ⟨td, e, q, _, x⟩ := nr.2 rfl (maxLen hs + 1) hs hp
      fun s hs' => Nat.lt_succ_of_le (length_le_maxLen hs')
    refine ⟨td.1, by unfold infer; rw [e], q, fun hB hc => ?_⟩
    simp only [inFamilyB, Bool.and_eq_true] at hB
    rw [x (by simp [famTD, hB.1, hB.2, Val.beq_refl]) hc]

end Rpft.Infer
