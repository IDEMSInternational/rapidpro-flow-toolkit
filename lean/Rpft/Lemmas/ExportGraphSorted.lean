/-
Helper lemmas for C04 (graph level): ORDER, the exact criterion.  Two lists with the same
sub-list per key, both sorted by the rank of the key (injective on the keys that occur), are equal
(`eq_of_sorted_filters`); in any sheet with pairwise distinct row ids the edges that leave a row, none of
them carried by a `go_to` row, are sorted by the sheet position of their target (`outOf_sorted`).
-/
import Rpft.Lemmas.ExportGraphEdges
namespace Rpft.Export
open Function

/-- position of a row id in the sheet -/
def pos {I : Type} [DecidableEq I] (ids : List I) (x : I) : Nat := ids.idxOf x

theorem pos_cons {I : Type} [DecidableEq I] (a : I) (l : List I) (x : I) :
    pos (a :: l) x = if a = x then 0 else pos l x + 1 := by
  simp only [pos, List.idxOf_cons]
  by_cases h : a = x
  · simp [h]
  · have : (a == x) = false := by simpa using h
    simp [h, this]

theorem pos_inj {I : Type} [DecidableEq I] {l : List I} {x y : I} (hx : x ∈ l) (hy : y ∈ l) (h : pos l x = pos l y) : x = y := by
  have h1 := List.idxOf_lt_length_of_mem hx
  have h2 := List.idxOf_lt_length_of_mem hy
  have e1 := List.getElem_idxOf h1
  have e2 := List.getElem_idxOf h2
  simp only [pos] at h
  rw [← e1, ← e2]
  simp [h]

theorem pairwise_pos_self {I : Type} [DecidableEq I] : ∀ {l : List I}, l.Nodup → l.Pairwise (fun a b => pos l a ≤ pos l b)
  | [], _ => List.Pairwise.nil
  | a :: l, hnd => by
    have hnd' := List.nodup_cons.1 hnd
    refine List.pairwise_cons.2 ⟨fun b _ => by simp [pos_cons], (pairwise_pos_self hnd'.2).imp_of_mem ?_⟩
    intro x y hx hy hxy
    simp only [pos_cons, if_neg (fun e => hnd'.1 (e ▸ hx) : ¬ a = x), if_neg (fun e => hnd'.1 (e ▸ hy) : ¬ a = y)]
    omega

section Sorted
variable {α κ : Type} [DecidableEq κ]

theorem eq_of_sorted_filters (key : α → κ) (rank : κ → Nat) :
    ∀ (L X : List α), L.Pairwise (fun a b => rank (key a) ≤ rank (key b)) →
      X.Pairwise (fun a b => rank (key a) ≤ rank (key b)) →
      (∀ a ∈ X, ∀ b ∈ X, rank (key a) = rank (key b) → key a = key b) →
      (∀ t, L.filter (fun a => decide (key a = t)) = X.filter (fun a => decide (key a = t))) → L = X := by
  intro L
  induction L with
  | nil =>
    intro X _ _ _ hf
    cases X with
    | nil => rfl
    | cons b X =>
      have := hf (key b)
      simp at this
  | cons a L ih =>
    intro X hL hX hinj hf
    have hmemX : ∀ x, x ∈ a :: L ↔ x ∈ X := fun x => by
      have := congrArg (x ∈ ·) (hf (key x))
      simpa [List.mem_filter] using this
    cases X with
    | nil =>
      have := hf (key a)
      simp at this
    | cons b X =>
      rw [List.pairwise_cons] at hL hX
      have hkey : key b = key a := by
        refine Decidable.byContradiction fun hk => ?_
        have ha' : a ∈ X :=
          (List.mem_cons.1 ((hmemX a).1 (List.mem_cons_self ..))).resolve_left fun h => hk (h ▸ rfl)
        have hb' : b ∈ L :=
          (List.mem_cons.1 ((hmemX b).2 (List.mem_cons_self ..))).resolve_left fun h => hk (h ▸ rfl)
        exact hk (hinj b (List.mem_cons_self ..) a (List.mem_cons_of_mem _ ha')
          (Nat.le_antisymm (hX.1 a ha') (hL.1 b hb')))
      have h0 := hf (key a)
      simp only [List.filter_cons, hkey, decide_true, if_true, List.cons.injEq] at h0
      obtain ⟨hab, _⟩ := h0
      subst hab
      congr 1
      apply ih X hL.2 hX.2 (fun x hx y hy => hinj x (List.mem_cons_of_mem _ hx) y (List.mem_cons_of_mem _ hy))
      intro t
      have := hf t
      simp only [List.filter_cons] at this
      by_cases ht : key a = t
      · simp only [ht, decide_true, if_true, List.cons.injEq, true_and] at this
        exact this
      · simpa only [ht, decide_false, Bool.false_eq_true, if_false] using this

end Sorted

variable {U : Type} [DecidableEq U]

/-- an edge read from a node row enters that row; a `go_to` row carries no edge that leaves `s` -/
theorem dst_of_mem_outOf_row {s : TempId U} {r : RowT U} (hg : r.goto ≠ [] → ∀ e ∈ r.edges, e.from_ ≠ some s)
    {e : GEdge U} (he : e ∈ outOf s (readRow r.id r.cells r.goto)) : e.dst = r.id := by
  obtain ⟨he, hs⟩ := List.mem_filter.1 he
  cases hgt : r.goto with
  | nil =>
    simp only [readRow, hgt, List.mem_map] at he
    obtain ⟨c, _, rfl⟩ := he
    rfl
  | cons t ts =>
    exfalso
    simp only [readRow, hgt, List.mem_map] at he
    obtain ⟨p, hp, rfl⟩ := he
    have := (List.of_mem_zip hp).1
    simp only [RowT.cells, List.mem_map] at this
    obtain ⟨e0, he0, hpe⟩ := this
    exact hg (by simp [hgt]) e0 he0 (by rw [← hpe] at hs; simpa using hs)

theorem outOf_sorted (s : TempId U) (rows : List (RowT U)) (hnd : (rows.map (·.id)).Nodup)
    (hg : ∀ r ∈ rows, r.goto ≠ [] → ∀ e ∈ r.edges, e.from_ ≠ some s) :
    (outOf s (edgesOfT rows)).Pairwise (fun a b => pos (rows.map (·.id)) a.dst ≤ pos (rows.map (·.id)) b.dst) := by
  have hd : ∀ r ∈ rows, ∀ e ∈ outOf s (readRow r.id r.cells r.goto), e.dst = r.id :=
    fun r hr e he => dst_of_mem_outOf_row (hg r hr) he
  simp only [outOf, edgesOfT, List.filter_flatMap, List.pairwise_flatMap]
  constructor
  · intro r hr
    exact List.pairwise_of_forall_mem_list fun a ha b hb => by rw [hd r hr a ha, hd r hr b hb]; exact Nat.le_refl _
  · refine (List.Pairwise.of_map (·.id) (fun _ _ h => h) (pairwise_pos_self hnd)).imp_of_mem ?_
    intro r1 r2 h1 h2 h x hx y hy
    rw [hd r1 h1 x hx, hd r2 h2 y hy]
    exact h

end Rpft.Export
