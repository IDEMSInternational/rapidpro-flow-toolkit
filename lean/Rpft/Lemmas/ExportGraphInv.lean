/-
Helper lemmas for C04 (graph level): the basic invariants of the DFS relation `Run`
(completed nodes are canonical, pairwise distinct and visited; go_to rows point at visited nodes and
never stand before the block of their target; what a call adds to the completed list), and the induction
rule `Run.rec_inv` that threads them through a proof about `Run`.  First consequence: the temp ids of an exported
sheet are pairwise distinct (one block per completed node, one counter value per `go_to` row).
-/
import Rpft.Lemmas.ExportGraphRun
set_option linter.unusedSectionVars false
namespace Rpft.Export
open Function

variable {U : Type} [DecidableEq U]

/-- no `go_to` row stands before the block of its target -/
def GotoAfter : List (Item U) → Prop
  | [] => True
  | .goto _ c _ :: rest => c.uuid ∉ blockUuids rest ∧ GotoAfter rest
  | .block _ _ :: rest => GotoAfter rest

structure Inv (f : FlowX U) (vis : List U) (items : List (Item U)) : Prop where
  canonB : ∀ n es, Item.block n es ∈ items → Canon f n ∧ n.rows ≠ []
  canonG : ∀ k c e, Item.goto k c e ∈ items → Canon f c ∧ c.uuid ∈ vis
  nodup : (blockUuids items).Nodup
  sub : ∀ u ∈ blockUuids items, u ∈ vis
  gotoAfter : GotoAfter items

def TaskOk (f : FlowX U) (vis : List U) : Task U → Prop
  | .loop n _ => Canon f n ∧ n.uuid ∈ vis
  | .node n _ => Canon f n ∧ n.uuid ∉ vis

theorem inv_nil (f : FlowX U) : Inv f [] ([] : List (Item U)) :=
  { canonB := fun _ _ h => nomatch h
    canonG := fun _ _ _ h => nomatch h
    nodup := List.nodup_nil
    sub := fun _ h => nomatch h
    gotoAfter := trivial }

theorem mem_goto_map_prepend {cu : U} {e : EdgeT U} {items : List (Item U)} {k : Nat} {c : NodeX U} {e' : EdgeT U} :
    Item.goto k c e' ∈ items.map (prependItem cu e) ↔ Item.goto k c e' ∈ items := by
  constructor
  · intro h
    obtain ⟨it, hit, he⟩ := List.mem_map.1 h
    cases it with
    | goto k2 c2 e2 => simp only [prependItem] at he; rw [← he]; exact hit
    | block m es0 => simp only [prependItem] at he; split at he <;> cases he
  · intro h
    exact List.mem_map.2 ⟨_, h, rfl⟩

theorem gotoAfter_map_prepend {cu : U} {e : EdgeT U} {items : List (Item U)} (h : GotoAfter items) :
    GotoAfter (items.map (prependItem cu e)) := by
  fun_induction GotoAfter items with
  | case1 => trivial
  | case2 k c e' rest ih => exact ⟨by rw [blockUuids_map_prepend]; exact h.1, ih h.2⟩
  | case3 n es rest ih =>
    simp only [List.map_cons, prependItem]
    split <;> exact ih h

theorem Inv.prepend {f : FlowX U} {vis : List U} {items : List (Item U)} (hi : Inv f vis items) (cu : U) (e : EdgeT U) :
    Inv f vis (items.map (prependItem cu e)) := by
  refine ⟨?_, ?_, ?_, ?_, ?_⟩
  · intro m es hm
    obtain ⟨es0, h0, _⟩ := mem_map_prepend hm
    exact hi.canonB m es0 h0
  · intro k c' e' hm
    exact hi.canonG k c' e' (mem_goto_map_prepend.1 hm)
  · rw [blockUuids_map_prepend]; exact hi.nodup
  · rw [blockUuids_map_prepend]; exact hi.sub
  · exact gotoAfter_map_prepend hi.gotoAfter

theorem Inv.pushGoto {f : FlowX U} {vis : List U} {items : List (Item U)} (hi : Inv f vis items) {k : Nat}
    {c : NodeX U} {e : EdgeT U} (hcc : Canon f c) (hc : c.uuid ∉ blockUuids items) (hv : c.uuid ∈ vis) :
    Inv f vis (.goto k c e :: items) := by
  refine ⟨?_, ?_, ?_, ?_, ?_⟩
  · intro m es hm
    cases hm with
    | tail _ hm => exact hi.canonB m es hm
  · intro k' c' e' hm
    cases hm with
    | head => exact ⟨hcc, hv⟩
    | tail _ hm => exact hi.canonG k' c' e' hm
  · rw [blockUuids_cons_goto]; exact hi.nodup
  · rw [blockUuids_cons_goto]; exact hi.sub
  · exact ⟨hc, hi.gotoAfter⟩

theorem Inv.visit {f : FlowX U} {vis : List U} {items : List (Item U)} (hi : Inv f vis items) {u : U} :
    Inv f (u :: vis) items :=
  ⟨hi.canonB, fun k c e hm => ⟨(hi.canonG k c e hm).1, List.mem_cons_of_mem _ (hi.canonG k c e hm).2⟩,
    hi.nodup, fun u hu => List.mem_cons_of_mem _ (hi.sub u hu), hi.gotoAfter⟩

/-- what a call does to the completed list and the visited set -/
structure Delta (vis : List U) (items : List (Item U)) (vis' : List U) (items' : List (Item U))
    (newN : List (NodeX U)) : Prop where
  nodes : blockNodes items' = newN ++ blockNodes items
  fresh : ∀ m ∈ newN, m.uuid ∉ vis
  mono : ∀ u ∈ vis, u ∈ vis'
  visited : ∀ u ∈ vis', u ∈ vis ∨ ∃ m ∈ newN, m.uuid = u

theorem Delta.unique {vis vis' : List U} {items items' : List (Item U)} {a b : List (NodeX U)}
    (ha : Delta vis items vis' items' a) (hb : blockNodes items' = b ++ blockNodes items) : a = b :=
  List.append_cancel_right (ha.nodes.symm.trans hb)

theorem Delta.fresh_ne {vis vis' : List U} {items items' : List (Item U)} {newN : List (NodeX U)}
    (h : Delta vis items vis' items' newN) {u : U} (hu : u ∈ vis) : ∀ m ∈ newN, m.uuid ≠ u :=
  fun m hm e => h.fresh m hm (e ▸ hu)

theorem Delta.refl (vis : List U) (items : List (Item U)) : Delta vis items vis items [] :=
  ⟨rfl, fun _ h => (nomatch h), fun _ h => h, fun _ h => Or.inl h⟩

theorem Delta.congr {vis vis' : List U} {items items0 items' : List (Item U)} {newN : List (NodeX U)}
    (h : Delta vis items vis' items' newN) (e : blockNodes items = blockNodes items0) : Delta vis items0 vis' items' newN :=
  ⟨e ▸ h.nodes, h.fresh, h.mono, h.visited⟩

theorem Delta.trans {vis vis1 vis' : List U} {items items1 items' : List (Item U)} {new1 new2 : List (NodeX U)}
    (h1 : Delta vis items vis1 items1 new1) (h2 : Delta vis1 items1 vis' items' new2) :
    Delta vis items vis' items' (new2 ++ new1) := by
  refine ⟨by rw [h2.nodes, h1.nodes, List.append_assoc], ?_, fun u hu => h2.mono u (h1.mono u hu), ?_⟩
  · intro m hm
    rcases List.mem_append.1 hm with hm | hm
    · exact fun hv => h2.fresh m hm (h1.mono _ hv)
    · exact h1.fresh m hm
  · intro u hu
    rcases h2.visited u hu with h | ⟨m, hm, e⟩
    · rcases h1.visited u h with h0 | ⟨m, hm, e⟩
      · exact Or.inl h0
      · exact Or.inr ⟨m, List.mem_append_right _ hm, e⟩
    · exact Or.inr ⟨m, List.mem_append_left _ hm, e⟩

/-- the call that completes `n`: its loop ran with `n` visited and completed `new2` -/
theorem Delta.node {vis vis' : List U} {items items' : List (Item U)} {new2 : List (NodeX U)} {n : NodeX U}
    (h : Delta (n.uuid :: vis) items vis' items' new2) (hn : n.uuid ∉ vis) {es : List (EdgeT U)} :
    Delta vis items vis' (.block n es :: items') (n :: new2) := by
  refine ⟨by rw [blockNodes_cons_block, h.nodes]; rfl, ?_, fun u hu => h.mono u (List.mem_cons_of_mem _ hu), ?_⟩
  · intro m hm
    rcases List.mem_cons.1 hm with hm | hm
    · exact hm ▸ hn
    · exact fun hv => h.fresh m hm (List.mem_cons_of_mem _ hv)
  · intro u hu
    rcases h.visited u hu with h1 | ⟨m, hm, e⟩
    · rcases List.mem_cons.1 h1 with h1 | h1
      · exact Or.inr ⟨n, List.mem_cons_self .., h1.symm⟩
      · exact Or.inl h1
    · exact Or.inr ⟨m, List.mem_cons_of_mem _ hm, e⟩

theorem Delta.nodes_nil {vis vis' : List U} {items' : List (Item U)} {newN : List (NodeX U)}
    (h : Delta vis [] vis' items' newN) : newN = blockNodes items' := by
  simpa [blockNodes] using h.nodes.symm

theorem Delta.completed_of_visited {f : FlowX U} {vis' : List U} {items' : List (Item U)} {newN : List (NodeX U)}
    (hd : Delta [] [] vis' items' newN) (hi' : Inv f vis' items') {c : NodeX U} (hc : Canon f c) (hv : c.uuid ∈ vis') :
    c ∈ blockNodes items' := by
  rcases hd.visited _ hv with h0 | ⟨m, hm, e⟩
  · cases h0
  · rw [hd.nodes_nil] at hm
    obtain ⟨es, hes⟩ := mem_blockNodes.1 hm
    exact Canon.eq (hi'.canonB m es hes).1 hc e ▸ hm

theorem Inv.pushBlock {f : FlowX U} {vis vis' : List U} {items items' : List (Item U)} {new2 : List (NodeX U)} {n : NodeX U}
    (hi : Inv f vis items) (hi' : Inv f vis' items') (hd : Delta (n.uuid :: vis) items vis' items' new2)
    (hc : Canon f n) (hn : n.uuid ∉ vis) (hr : n.rows ≠ []) {es : List (EdgeT U)} :
    Inv f vis' (.block n es :: items') := by
  have hnot : n.uuid ∉ blockUuids items' := by
    intro hm
    simp only [blockUuids, hd.nodes, List.map_append, List.mem_append] at hm
    rcases hm with hm | hm
    · obtain ⟨m, hm, e⟩ := List.mem_map.1 hm
      exact hd.fresh m hm (e ▸ List.mem_cons_self ..)
    · exact hn (hi.sub _ hm)
  refine ⟨?_, ?_, ?_, ?_, hi'.gotoAfter⟩
  · intro m es' hm
    cases hm with
    | head => exact ⟨hc, hr⟩
    | tail _ hm => exact hi'.canonB m es' hm
  · intro k c e hm
    cases hm with
    | tail _ hm => exact hi'.canonG k c e hm
  · rw [blockUuids_cons_block, List.nodup_cons]
    exact ⟨hnot, hi'.nodup⟩
  · intro u hu
    rw [blockUuids_cons_block] at hu
    rcases List.mem_cons.1 hu with hu | hu
    · exact hu ▸ hd.mono _ (List.mem_cons_self ..)
    · exact hi'.sub u hu

/-- **Induction on `Run` with the invariant threaded.**  A call that starts from a state satisfying `Inv`
(with a task satisfying `TaskOk`) ends in such a state, completes a list `newN` of nodes (`Delta`), and satisfies
any `P` that holds case by case — where every case may use `Inv`/`TaskOk` at its start and the `Delta` of each
sub-call.  The nodes completed are `[]` (nil), those of the rest of the loop (skip, done, back), those of the rest
after those of the child (new), the node itself before those of its loop (node).
A statement of the shape of the conclusion is proved by `apply Run.rec_inv ?nil … h hi ht`: `apply` finds `P` (`refine`
does not: the arguments of `P` are variables of the context). -/
theorem Run.rec_inv {f : FlowX U} {D : List (Item U) → NodeX U → NodeX U → Label → Prop}
    {P : Task U → List U → List (Item U) → List U → List (Item U) → List (NodeX U) → Prop}
    (nil : ∀ {n vis items}, P (.loop n []) vis items vis items [])
    (skip : ∀ {n lab es vis items vis' items' newN}, P (.loop n es) vis items vis' items' newN →
      P (.loop n ((lab, none) :: es)) vis items vis' items' newN)
    (done : ∀ {n lab d es c vis items vis' items' newN}, findNode f d = some c → c.uuid ∈ blockUuids items →
      D items n c lab → Inv f vis items → TaskOk f vis (.loop n es) → Delta vis items vis' items' newN →
      P (.loop n es) vis (items.map (prependItem c.uuid ⟨some (lastId n), lab⟩)) vis' items' newN →
      P (.loop n ((lab, some d) :: es)) vis items vis' items' newN)
    (back : ∀ {n lab d es c k vis items vis' items' newN}, findNode f d = some c → c.uuid ∉ blockUuids items →
      c.uuid ∈ vis → Inv f vis items → TaskOk f vis (.loop n es) → Delta vis items vis' items' newN →
      P (.loop n es) vis (.goto k c ⟨some (lastId n), lab⟩ :: items) vis' items' newN →
      P (.loop n ((lab, some d) :: es)) vis items vis' items' newN)
    (new : ∀ {n lab d es c vis items vis1 items1 vis' items' new1 new2}, findNode f d = some c →
      Inv f vis items → TaskOk f vis (.loop n es) → Inv f vis1 items1 →
      Delta vis items vis1 items1 new1 → Delta vis1 items1 vis' items' new2 →
      P (.node c ⟨some (lastId n), lab⟩) vis items vis1 items1 new1 → P (.loop n es) vis1 items1 vis' items' new2 →
      P (.loop n ((lab, some d) :: es)) vis items vis' items' (new2 ++ new1))
    (node : ∀ {n pe vis items vis' items' new2}, Delta (n.uuid :: vis) items vis' items' new2 →
      P (.loop n n.edges.reverse) (n.uuid :: vis) items vis' items' new2 →
      P (.node n pe) vis items vis' (.block n [pe] :: items') (n :: new2))
    {task : Task U} {vis : List U} {items : List (Item U)} {vis' : List U} {items' : List (Item U)}
    (h : Run f D task vis items vis' items') :
    Inv f vis items → TaskOk f vis task →
      ∃ newN, Inv f vis' items' ∧ Delta vis items vis' items' newN ∧ P task vis items vis' items' newN := by
  induction h with
  | nil => exact fun hi _ => ⟨[], hi, Delta.refl .., nil⟩
  | skip _ ih =>
    intro hi ht
    obtain ⟨newN, hi', hd, hp⟩ := ih hi ht
    exact ⟨newN, hi', hd, skip hp⟩
  | done hfn hc hD _ ih =>
    intro hi ht
    obtain ⟨newN, hi', hd, hp⟩ := ih (hi.prepend _ _) ht
    have hd := hd.congr (blockNodes_map_prepend ..)
    exact ⟨newN, hi', hd, done hfn hc hD hi ht hd hp⟩
  | back hfn hc hv _ ih =>
    intro hi ht
    obtain ⟨newN, hi', hd, hp⟩ := ih (hi.pushGoto (findNode_canon hfn) hc hv) ht
    have hd := hd.congr (blockNodes_cons_goto ..)
    exact ⟨newN, hi', hd, back hfn hc hv hi ht hd hp⟩
  | new hfn _ hv _ _ ih1 ih2 =>
    intro hi ht
    obtain ⟨new1, hi1, hd1, hp1⟩ := ih1 hi ⟨findNode_canon hfn, hv⟩
    obtain ⟨new2, hi', hd2, hp2⟩ := ih2 hi1 ⟨ht.1, hd1.mono _ ht.2⟩
    exact ⟨new2 ++ new1, hi', hd1.trans hd2, new hfn hi ht hi1 hd1 hd2 hp1 hp2⟩
  | node hr _ ih =>
    intro hi ht
    obtain ⟨new2, hi', hd2, hp⟩ := ih hi.visit ⟨ht.1, List.mem_cons_self ..⟩
    exact ⟨_ :: new2, hi.pushBlock hi' hd2 ht.1 ht.2 hr, hd2.node ht.2, node hd2 hp⟩

theorem run_inv {f : FlowX U} {D : List (Item U) → NodeX U → NodeX U → Label → Prop}
    {task : Task U} {vis : List U} {items : List (Item U)} {vis' : List U} {items' : List (Item U)}
    (h : Run f D task vis items vis' items') (hi : Inv f vis items) (ht : TaskOk f vis task) :
    ∃ newN, Inv f vis' items' ∧ Delta vis items vis' items' newN :=
  (Run.rec_inv (P := fun _ _ _ _ _ _ => True) trivial (fun _ => trivial)
    (fun _ _ _ _ _ _ _ => trivial) (fun _ _ _ _ _ _ _ => trivial) (fun _ _ _ _ _ _ _ _ => trivial)
    (fun _ _ => trivial) h hi ht).imp fun _ hx => ⟨hx.1, hx.2.1⟩

/-! ### the temp ids of an exported sheet are pairwise distinct -/

theorem id_fst_renderAll {items : List (Item U)} {r : RowT U} (hr : r ∈ renderAll items) :
    (∀ u, r.id.1 = .inl u → u ∈ blockUuids items) ∧ (∀ k, r.id.1 = .inr k → k ∈ gotoKs items) := by
  obtain ⟨it, hit, hrit⟩ := mem_renderAll.1 hr
  cases it with
  | goto k c e =>
    rw [List.mem_singleton.1 hrit]
    exact ⟨fun _ h => (nomatch h), fun k' hk' => by cases hk'; exact List.mem_filterMap.2 ⟨_, hit, rfl⟩⟩
  | block n es =>
    obtain ⟨j, _, hid, _⟩ := mem_blockRows hrit
    rw [hid]
    exact ⟨fun u hu => by cases hu; exact List.mem_map.2 ⟨n, mem_blockNodes.2 ⟨es, hit⟩, rfl⟩, fun _ h => (nomatch h)⟩

theorem renderAll_ids_nodup : ∀ {items : List (Item U)}, (blockUuids items).Nodup → (gotoKs items).Nodup →
    ((renderAll items).map (·.id)).Nodup
  | [], _, _ => List.nodup_nil
  | it :: items, hb, hg => by
    simp only [renderAll, List.flatMap_cons, List.map_append, List.nodup_append]
    cases it with
    | goto k c e =>
      rw [blockUuids_cons_goto] at hb
      have hg' := List.nodup_cons.1 (show (k :: gotoKs items).Nodup from hg)
      refine ⟨List.pairwise_singleton _ _, renderAll_ids_nodup hb hg'.2, ?_⟩
      intro a ha b hb' hab
      obtain ⟨r, hr, rfl⟩ := List.mem_map.1 hb'
      rw [List.mem_singleton.1 ha] at hab
      exact hg'.1 ((id_fst_renderAll hr).2 k (by rw [← hab]; rfl))
    | block n es =>
      rw [blockUuids_cons_block, List.nodup_cons] at hb
      refine ⟨blockRows_ids_nodup n es, renderAll_ids_nodup hb.2 hg, ?_⟩
      intro a ha b hb' hab
      obtain ⟨r0, hr0, rfl⟩ := List.mem_map.1 ha
      obtain ⟨r, hr, rfl⟩ := List.mem_map.1 hb'
      obtain ⟨j, _, hid, _⟩ := mem_blockRows hr0
      exact hb.1 ((id_fst_renderAll hr).1 n.uuid (by rw [← hab, hid]; rfl))

theorem toRowsT_ids_nodup {f : FlowX U} {rows : List (RowT U)} (h : toRowsT f = .ok rows) :
    (rows.map (·.id)).Nodup := by
  cases f with
  | nil => cases h; exact List.nodup_nil
  | cons n0 f =>
    obtain ⟨vis, items, r, rfl, hg⟩ := toRowsT_run h
    obtain ⟨_, hi, _⟩ := run_inv r (inv_nil _) ⟨canon_head n0 f, by simp⟩
    exact renderAll_ids_nodup hi.nodup hg

end Rpft.Export
