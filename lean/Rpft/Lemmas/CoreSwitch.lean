/-
Reference node against compiled node, the two forms the other kinds of row are built from.  A node without
decision: `absNode_plain_ref` / `absNode_cmp_noRouter` are the abstraction on either
side (`refActs`: the actions of any reference node).  A switch node of the reference (`mkSwitch`, positional
identifiers) and a compiled switch node over the same tests (fresh identifiers; `RouterSim`) have the same
index-resolved abstraction up to corresponding destinations (`switch_abs_rel`; `DR`, `AbsRel`; `WaitSim`: they agree on
waiting): the switch of a deciding row, the one behind an action row, the one of a `no_op` row alike.
-/
import Rpft.Lemmas.CoreSim
import Rpft.Lemmas.FlowPos
import Rpft.Lemmas.RefFlowNode
namespace Rpft.CoreSheet
open Rpft Rpft.Compile Rpft.RefFlow Rpft.Flow

theorem zipIdx_fst_map {α β} (l : List α) (f : α → β) : l.zipIdx.map (fun p => f p.1) = l.map f := by
  have : (fun p : α × Nat => f p.1) = f ∘ Prod.fst := rfl
  rw [this, ← List.map_map, List.zipIdx_map_fst]

theorem map_zipIdx_map {α β γ} (l : List α) (g : α × Nat → β) (h : β → γ) (h' : α → γ)
    (e : ∀ p, h (g p) = h' p.1) : (l.zipIdx.map g).map h = l.map h' := by
  rw [List.map_map, ← zipIdx_fst_map l h']
  exact List.map_congr_left (fun p _ => e p)

theorem forall2_flip_map {α β γ δ} {R : α → β → Prop} {S : γ → δ → Prop} {f : β → γ} {g : α → δ} {l1 : List α} {l2 : List β}
    (h : List.Forall₂ R l1 l2) (himp : ∀ a b, b ∈ l2 → R a b → S (f b) (g a)) : List.Forall₂ S (l2.map f) (l1.map g) :=
  List.forall₂_map_left_iff.mpr (List.forall₂_map_right_iff.mpr (forall2_imp_mem h himp).flip)

theorem forall2_map_eq_mem {α β γ} {R : α → β → Prop} {f : α → γ} {g : β → γ} {l1 : List α} {l2 : List β}
    (h : List.Forall₂ R l1 l2) (hfg : ∀ a b, b ∈ l2 → R a b → f a = g b) : l1.map f = l2.map g := by
  induction h with
  | nil => rfl
  | cons hab _ ih =>
    simp only [List.map_cons]
    rw [hfg _ _ (by simp) hab, ih (fun a b hb => hfg a b (by simp [hb]))]

theorem forall2_map_eq {α β γ} {R : α → β → Prop} {f : α → γ} {g : β → γ} {l1 : List α} {l2 : List β}
    (h : List.Forall₂ R l1 l2) (hfg : ∀ a b, R a b → f a = g b) : l1.map f = l2.map g :=
  forall2_map_eq_mem h (fun a b _ => hfg a b)

theorem forall2_replicate {α β} {R : α → β → Prop} {a : α} {b : β} (h : R a b) (m : Nat) :
    List.Forall₂ R (List.replicate m a) (List.replicate m b) := by
  induction m with
  | zero => exact .nil
  | succ m ih => exact .cons h ih

/-- the actions `mkNode k` gives a row with action `a` -/
def refActs (k : Nat) (a : Option Str) : List Action :=
  match a with
  | some a => [{ uuid := subId k "a" 0, obs := a }]
  | none => []

theorem refActs_obs (k : Nat) (a : Option Str) : (refActs k a).map (·.obs) = a.toList := by
  cases a <;> rfl

theorem absNode_plain_ref (lvl : ObsLevel) (f : Flow) (k : Nat) (r : RRow) (es : List OutEdge)
    (hk : r.kind = .action ∨ r.kind = .noOp) (hb : ∀ e ∈ es, e.cond.blank = true) :
    absNode lvl f (mkNode k r es) =
      { acts := r.act.toList, ask := none, dests := [destIdx f ((es.getLast?).bind (fun e => tgtDest e.tgt))] } := by
  have h1 : es.filter (fun e => !e.cond.blank) = [] := by
    rw [List.filter_eq_nil_iff]; intro e he; simp [hb e he]
  have h2 : es.filter (·.cond.blank) = es := by
    rw [List.filter_eq_self]; intro e he; exact hb e he
  have hn : mkNode k r es =
      { uuid := nodeId k, actions := refActs k r.act, router := none,
        exits := [{ uuid := subId k "e" 0, dest := (es.getLast?).bind (fun e => tgtDest e.tgt) }] } := by
    unfold mkNode
    rcases hk with hk | hk <;>
    · simp only [hk, h1, h2, List.isEmpty_nil, if_true, lastTgt, List.filter_true]
      cases es.getLast? <;> rfl
  rw [hn]
  cases r.act <;> simp [absNode, refActs]

theorem absNode_cmp_noRouter (lvl : ObsLevel) (f : Flow) {n : NodeM} (hr : n.router = none) :
    absNode lvl f (renderNode n) =
      { acts := n.actions.map (·.2), ask := none, dests := [destIdx f (renderDest n.dexitDest)] } := by
  simp only [absNode, renderNode, hr, Option.map_none, List.map_map, List.head?_cons, Option.bind_some]
  simp [Function.comp_def]

theorem absNode_plain_cmp (lvl : ObsLevel) (f : Flow) (n : NodeM) (act : Option Str) (hr : n.router = none)
    (ha : n.actions.map (·.2) = act.toList) :
    absNode lvl f (renderNode n) =
      { acts := act.toList, ask := none, dests := [destIdx f (renderDest n.dexitDest)] } :=
  ha ▸ absNode_cmp_noRouter lvl f hr

/-- what is observed of a switch router at a level that hides category names (`rnf`: result names are observed) -/
def switchObs (rnf : Bool) (op : Str) (tests : List (Str × List Str)) (wait : Option (Option Nat)) (rn : Option Str) :
    RouterObs :=
  { kind := "switch".toList, operand := op, tests := tests, caseCats := [], otherCats := [], wait := wait,
    resultName := if rnf then rn else none }

theorem routerObs_switch (rnf : Bool) (op : Str) (cases : List Flow.Case) (cats : List Category) (d : Id)
    (w : Option (Option (Nat × Id))) (rn : Option Str) :
    routerObs ⟨false, rnf⟩ (.switch op cases cats d w rn) =
      switchObs rnf op (cases.map fun k => (k.type, testArgs k)) (w.map (fun o => o.map (·.1))) rn := rfl

theorem tests_of_typeargs (cs1 cs2 : List Flow.Case)
    (h : cs1.map (fun k => (k.type, k.args)) = cs2.map (fun k => (k.type, k.args))) :
    cs1.map (fun k => (k.type, testArgs k)) = cs2.map (fun k => (k.type, testArgs k)) := by
  have e : ∀ cs : List Flow.Case, cs.map (fun k => (k.type, testArgs k)) =
      (cs.map (fun k => (k.type, k.args))).map
        (fun (p : Str × List Str) => (p.1, if p.1 = "has_group".toList then p.2.drop 1 else p.2)) := by
    intro cs
    rw [List.map_map]
    exact List.map_congr_left (fun k _ => rfl)
  rw [e cs1, e cs2, h]

/-- the node `mkNode` builds around a `mkSwitch` router -/
def swNode (k : Nat) (sw : Router × List Exit) : Node :=
  { uuid := nodeId k, actions := [], router := some sw.1, exits := sw.2 }

/-- a test `(type, arguments, …)` as `routerObs` shows it: without the group identifier (`Flow.testArgs`) -/
def obsTest {α : Type} (t : Str × List Str × α) : Str × List Str :=
  (t.1, if t.1 = "has_group".toList then t.2.1.drop 1 else t.2.1)

/-- the hypotheses are the shape of every router node of the reference: positional identifiers of row `k` -/
theorem catsPos_of_shape {n : Node} {r : Router} {k m : Nat} (hr : n.router = some r)
    (hc : r.cats.map (·.uuid) = (List.range m).map (subId k "c")) (hce : r.cats.map (·.exitUuid) = (List.range m).map (subId k "e"))
    (he : n.exits.map (·.uuid) = (List.range m).map (subId k "e")) : CatsPos n r :=
  ⟨hr, hc ▸ range_subId_nodup _ _ _, he ▸ range_subId_nodup _ _ _, hce.trans he.symm⟩

theorem absNode_mkSwitch (rnf : Bool) (f : Flow) (k : Nat) (op : Str) (tests : Tests) (dflt : Option Id)
    (wait : Option (Option (Nat × Option Id))) (rn : Option Str) :
    absNode ⟨false, rnf⟩ f (swNode k (mkSwitch k op tests dflt wait rn)) =
      { acts := [], ask := some (switchObs rnf op (tests.map obsTest) (wait.map (fun o => o.map (·.1))) rn),
        dests := (tests.map (fun t => destIdx f t.2.2)) ++ [destIdx f dflt] ++
          (match wait with
           | some (some (_, td)) => [destIdx f td]
           | _ => []) } := by
  obtain ⟨h1, h2, h3, -⟩ := mkSwitch_shape k op tests dflt wait rn
  have hcases := map_zipIdx_map tests
    (fun p => ({ uuid := subId k "k" p.2, type := p.1.1, args := p.1.2.1, catUuid := subId k "c" p.2 } : Flow.Case))
    (fun c => (c.type, testArgs c)) obsTest (fun _ => rfl)
  have hexits := map_zipIdx_map tests (fun p => ({ uuid := subId k "e" p.2, dest := p.1.2.2 } : Exit))
    (fun e => destIdx f e.dest) (fun t => destIdx f t.2.2) (fun _ => rfl)
  have p : CatsPos (swNode k (mkSwitch k op tests dflt wait rn)) _ := catsPos_of_shape rfl h1 h2 h3
  rcases wait with _ | _ | ⟨secs, td⟩ <;>
  · refine (p.abs ?_ ⟨false, rnf⟩ f).trans ?_
    · simp [mkSwitch, Router.cats, routerChoices, Router.timeoutCats, List.map_map, Function.comp_def]
    simp only [swNode, List.map_nil, mkSwitch, routerObs_switch, List.map_append, List.map_cons, Option.map_some,
      Option.map_none]
    congr 1
    · rw [hcases]
    · rw [hexits]; simp

/-- the tests of the reference switch of a row of kind `K` -/
def refTests (K : Kind) (es : List OutEdge) : Tests :=
  (testsOf K es).map (fun e => ((refTest K e.cond).1, (refTest K e.cond).2, tgtDest e.tgt))

/-- the `wait` attribute of the reference switch -/
def refWait (r : RRow) (es : List OutEdge) : Option (Option (Nat × Option Id)) :=
  if r.kind = .wait then
    (if r.timeout = 0 then some none
     else some (some (r.timeout, lastTgt (es.filter (fun e => !e.cond.blank)) (fun e => isNR e.cond))))
  else none

theorem refTests_cond (K : Kind) (hw : K ≠ .wait) (hg : K ≠ .splitGroup) (es : List OutEdge) :
    refTests K es = (es.filter (fun e => !e.cond.blank)).map
      (fun e => ((condTest e.cond).1, (condTest e.cond).2, tgtDest e.tgt)) := by
  unfold refTests
  rw [tests_eq hw]
  apply List.map_congr_left
  intro e _
  unfold refTest
  rw [if_neg hg]

theorem mkNode_switch (k : Nat) (r : RRow) (es : List OutEdge)
    (hk : r.kind = .wait ∨ r.kind = .splitValue ∨ r.kind = .splitGroup) (hact : r.act = none) :
    mkNode k r es = swNode k (mkSwitch k r.operand (refTests r.kind es)
      (lastTgt (es.filter (·.cond.blank)) (fun _ => true)) (refWait r es) (some r.saveName)) := by
  unfold mkNode
  rcases hk with h | h | h <;>
  · simp only [h, hact, swNode, refTests, refWait, testsOf, refTest, List.filter_filter]
    rfl

/-- the `wait` attribute the renderer gives a switch router -/
def renderWait (r : SwitchR) : Option (Option (Nat × Id)) :=
  match r.wait, r.noResp with
  | some (n + 1), some nr => some (some (n + 1, nr.uid))
  | some _, _ => some none
  | none, _ => none

theorem renderRouter_sw (r : SwitchR) :
    renderRouter (.sw r) = .switch r.operand (r.cases.map renderCase) (r.allCats.map renderCat) r.dflt.uid
      (renderWait r) r.resultName := rfl

theorem tailIds_nodup {n : NodeM} (hfn : n.fids.Nodup) : n.tailIds.Nodup :=
  (List.nodup_append.mp (List.nodup_append.mp hfn).2.1).2.1

theorem catsPos_render {n : NodeM} {rt : RouterM} (hfn : n.fids.Nodup) (hr : n.router = some rt) :
    CatsPos (renderNode n) (renderRouter rt) := by
  have hids := tailIds_nodup hfn
  rw [NodeM.tailIds, hr] at hids
  cases rt with
  | sw r =>
    exact ⟨by simp [renderNode, hr],
      by simpa [renderRouter, Router.cats, Function.comp_def, renderCat] using
        (List.nodup_append.mp (List.nodup_append.mp hids).2.1).1,
      by simpa [renderNode, hr, Function.comp_def, renderExit] using (List.nodup_append.mp hids).1,
      by simp [renderNode, hr, renderRouter, Router.cats, Function.comp_def, renderCat, renderExit]⟩
  | rnd r =>
    exact ⟨by simp [renderNode, hr],
      by simpa [renderRouter, Router.cats, Function.comp_def, renderCat] using (List.nodup_append.mp hids).2.1,
      by simpa [renderNode, hr, Function.comp_def, renderExit] using (List.nodup_append.mp hids).1,
      by simp [renderNode, hr, renderRouter, Router.cats, Function.comp_def, renderCat, renderExit]⟩

theorem absNode_sw (rnf : Bool) (f : Flow) {n : NodeM} {r : SwitchR} (hr : n.router = some (.sw r))
    (hacts : n.actions = []) (hfn : n.fids.Nodup)
    (hcc : r.cases.map (·.catUid) = r.cats.map (·.uid))
    (htmo : Router.timeoutCats (renderRouter (.sw r)) = r.noResp.toList.map (·.uid)) :
    absNode ⟨false, rnf⟩ f (renderNode n) =
      { acts := [],
        ask := some (switchObs rnf r.operand ((r.cases.map renderCase).map (fun k => (k.type, testArgs k)))
          ((renderWait r).map (fun o => o.map (·.1))) r.resultName),
        dests := r.allCats.map (fun c => destIdx f (renderDest c.dest)) } := by
  rw [renderRouter_sw] at htmo
  rw [(catsPos_render hfn hr).abs ?_ ⟨false, rnf⟩ f, renderRouter_sw, routerObs_switch]
  · simp only [renderNode, hr, hacts, List.map_nil, List.map_map]
    congr 1
  · rw [renderRouter_sw, routerChoices, htmo]
    simp only [Router.cats, SwitchR.allCats, List.map_map, List.map_append, List.map_cons, Function.comp_def, renderCat,
      renderCase, List.append_assoc, List.singleton_append]
    rw [← hcc]

theorem lastTgt_eq (es : List OutEdge) (p : OutEdge → Bool) :
    lastTgt es p = (((es.filter p).getLast?).map (·.tgt)).bind tgtDest := by
  unfold lastTgt
  cases (es.filter p).getLast? <;> rfl

/-- corresponding destinations: what a compiled destination `d` and a reference target `t` with
`DestIs M ns d t` resolve to in the two flows -/
def DR (F r : Flow) (M : Maps) (ns : Array NodeM) (es : List OutEdge) (a b : Option (Option Nat)) : Prop :=
  ∃ (d : Dest) (t : Option Target), DestIs M ns d t ∧ (∀ k, t = some (Target.row k) → ∃ e ∈ es, e.tgt = Target.row k) ∧
    a = destIdx r (t.bind tgtDest) ∧ b = destIdx F (renderDest d)

/-- `b` performs the actions of `a`, then `post`; it decides as `a` does, with corresponding destinations -/
structure AbsRel (R : Option (Option Nat) → Option (Option Nat) → Prop) (post : List Str) (a b : ANode) : Prop where
  acts : b.acts = a.acts ++ post
  ask : b.ask = a.ask
  dests : List.Forall₂ R a.dests b.dests

theorem obs_tests {cases : List Compile.Case} {K : Kind} {es : List OutEdge}
    (h : cases.map (fun k => (k.type, k.args.map (·.getD []))) = (testsOf K es).map (fun e => refTest K e.cond)) :
    (cases.map renderCase).map (fun k => (k.type, testArgs k)) =
      (refTests K es).map obsTest := by
  have e1 : (cases.map renderCase).map (fun k => (k.type, testArgs k)) =
      (cases.map (fun k => (k.type, k.args.map (·.getD [])))).map
        (fun (p : Str × List Str) => (p.1, if p.1 = "has_group".toList then p.2.drop 1 else p.2)) := by
    rw [List.map_map, List.map_map]
    exact List.map_congr_left (fun k _ => rfl)
  rw [e1, h, List.map_map]
  unfold refTests
  rw [List.map_map]
  exact List.map_congr_left (fun e _ => rfl)

/-- the compiled switch `rr` and a reference switch with the attribute `wait` agree on waiting -/
inductive WaitSim (F r : Flow) (M : Maps) (ns : Array NodeM) (es : List OutEdge) (rr : SwitchR) :
    Option (Option (Nat × Option Id)) → Prop
  | none : rr.wait = none → rr.noResp = none → WaitSim F r M ns es rr none
  | reply : rr.wait = some 0 → rr.noResp = none → WaitSim F r M ns es rr (some none)
  | timeout (m : Nat) (nr : Cat) (td : Option Id) : rr.wait = some (m + 1) → rr.noResp = some nr →
      DR F r M ns es (destIdx r td) (destIdx F (renderDest nr.dest)) → WaitSim F r M ns es rr (some (some (m + 1, td)))

section
variable {F r : Flow} {M : Maps} {ns : Array NodeM} {es : List OutEdge}

theorem dr_last (l : List OutEdge) (hl : ∀ e ∈ l, e ∈ es) (p : OutEdge → Bool) {d : Dest}
    (hd : DestIs M ns d (((l.filter p).getLast?).map (·.tgt))) :
    DR F r M ns es (destIdx r (lastTgt l p)) (destIdx F (renderDest d)) := by
  refine ⟨d, _, hd, fun k hk => ?_, by rw [lastTgt_eq], rfl⟩
  cases hg : (l.filter p).getLast? with
  | none => rw [hg] at hk; cases hk
  | some e =>
    rw [hg] at hk
    exact ⟨e, hl e (List.mem_filter.mp (List.mem_of_getLast? hg)).1, Option.some.inj hk⟩

theorem dr_edges {cats : List Cat} {l : List OutEdge} (hl : ∀ e ∈ l, e ∈ es)
    (h : List.Forall₂ (fun (cat : Cat) (e : OutEdge) => DestIs M ns cat.dest (some e.tgt)) cats l) :
    List.Forall₂ (DR F r M ns es) (l.map (fun e => destIdx r (tgtDest e.tgt)))
      (cats.map (fun cat => destIdx F (renderDest cat.dest))) :=
  forall2_flip_map h (fun cat e he hd => ⟨cat.dest, some e.tgt, hd, fun _ hk => ⟨e, hl e he, Option.some.inj hk⟩, rfl, rfl⟩)

/-- what `switch_abs_rel` reads off it -/
theorem WaitSim.elim {rr : SwitchR} {wait : Option (Option (Nat × Option Id))} (h : WaitSim F r M ns es rr wait) :
    Router.timeoutCats (renderRouter (.sw rr)) = rr.noResp.toList.map (·.uid) ∧
    (renderWait rr).map (fun o => o.map (·.1)) = wait.map (fun o => o.map (·.1)) ∧
    List.Forall₂ (DR F r M ns es)
      (match (generalizing := false) wait with
       | some (some (_, td)) => [destIdx r td]
       | _ => [])
      (rr.noResp.toList.map (fun cat => destIdx F (renderDest cat.dest))) := by
  rw [renderRouter_sw]
  unfold renderWait
  cases h with
  | none hw hn => rw [hw, hn]; exact ⟨rfl, rfl, .nil⟩
  | reply hw hn => rw [hw, hn]; exact ⟨rfl, rfl, .nil⟩
  | timeout m nr td hw hn hd => rw [hw, hn]; exact ⟨rfl, rfl, .cons hd .nil⟩

theorem switch_abs_rel (rnf : Bool) {n : NodeM} {rr : SwitchR} (k : Nat) {K : Kind} {op : Str}
    {wait : Option (Option (Nat × Option Id))} {rn : Option Str}
    (hr : n.router = some (.sw rr)) (hacts : n.actions = []) (hfn : n.fids.Nodup) {tmo : Nat}
    (ht : RouterSim M ns K tmo es rr) (hop : rr.operand = op) (hrn : rr.resultName = rn)
    (hw : WaitSim F r M ns es rr wait) :
    AbsRel (DR F r M ns es) []
      (absNode ⟨false, rnf⟩ r (swNode k (mkSwitch k op (refTests K es)
        (lastTgt (es.filter (·.cond.blank)) (fun _ => true)) wait rn)))
      (absNode ⟨false, rnf⟩ F (renderNode n)) := by
  obtain ⟨htmo, hwait, hnr⟩ := hw.elim
  rw [absNode_mkSwitch, absNode_sw rnf F hr hacts hfn ht.casecat htmo]
  refine ⟨rfl, ?_, ?_⟩
  · simp only
    rw [obs_tests ht.cases, hwait, hop, hrn]
  · simp only [SwitchR.allCats, List.map_append, List.map_cons, List.map_nil]
    refine List.rel_append (List.rel_append ?_ (.cons (dr_last _ (fun e he => (List.mem_filter.mp he).1) _ ?_) .nil)) hnr
    · unfold refTests
      rw [List.map_map]
      exact dr_edges (fun _ => mem_of_mem_tests) ht.catd
    · rw [List.filter_true]; exact ht.dflt

end

end Rpft.CoreSheet
