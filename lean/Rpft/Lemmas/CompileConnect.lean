/-
`connect_loose_exits` and `has_loose_exits`.  At the level of one node: connecting rewrites every exit destination by
`fillLoose d` (`NodeM.mapDests`), which changes nothing else of the node, rendered or not.  At the level of groups:
the nodes the recursion visits from a group (`Reach`), what `has_loose_exits` answers, and what
`connect_loose_exits` and `add_exit` of a block do to the state (`Conn`: exactly the reached nodes are connected,
nothing else changes).  For ALL states.
-/
import Rpft.Lemmas.CompileWp
import Rpft.CompileRender
namespace Rpft.Compile
open Rpft

/-! ### one node -/

/-- what `connect_loose_exits` does to one destination -/
def fillLoose (d : Dest) (x : Dest) : Dest := if x == Dest.none then d else x

theorem fillLoose_hard (d : Dest) : fillLoose d .hard = .hard := by simp [fillLoose]
theorem fillLoose_node (d : Dest) (u : Uid) : fillLoose d (.node u) = .node u := by simp [fillLoose]
theorem fillLoose_none (d : Dest) : fillLoose d .none = d := by simp [fillLoose]

theorem allCats_mapCats (r : SwitchR) (f : Cat → Cat) : (r.mapCats f).allCats = r.allCats.map f := by
  unfold SwitchR.mapCats SwitchR.allCats
  cases r.noResp <;> simp

def Cat.mapDest (f : Dest → Dest) (c : Cat) : Cat := { c with dest := f c.dest }

def NodeM.mapDests (n : NodeM) (f : Dest → Dest) : NodeM :=
  match n.router with
  | none => { n with dexitDest := f n.dexitDest }
  | some (.sw r) => { n with router := some (.sw (r.mapCats (Cat.mapDest f))) }
  | some (.rnd r) => { n with router := some (.rnd { r with cats := r.cats.map (Cat.mapDest f) }) }

theorem connectLoose_eq (n : NodeM) (d : Dest) : n.connectLoose d = n.mapDests (fillLoose d) := by
  have hc : (fun c : Cat => if c.dest == Dest.none then { c with dest := d } else c) =
      Cat.mapDest (fillLoose d) := by
    funext c; unfold Cat.mapDest fillLoose; split <;> rfl
  rcases hr : n.router with _ | r | r <;> simp only [NodeM.connectLoose, NodeM.mapDests, hr, hc]
  unfold fillLoose; split
  · rfl
  · rw [← hr]

theorem mapDests_uid (n : NodeM) (f : Dest → Dest) : (n.mapDests f).uid = n.uid := by
  unfold NodeM.mapDests; split <;> rfl

theorem mapDests_exitDests (n : NodeM) (f : Dest → Dest) : (n.mapDests f).exitDests = n.exitDests.map f := by
  rcases hr : n.router with _ | r | r <;>
    simp only [NodeM.mapDests, NodeM.exitDests, hr, allCats_mapCats, List.map_map, List.map_cons, List.map_nil] <;> rfl

theorem Cat.mapDest_eq_self {f : Dest → Dest} {c : Cat} (h : f c.dest = c.dest) : c.mapDest f = c := by
  unfold Cat.mapDest; rw [h]

theorem mapCats_eq_self (r : SwitchR) (f : Cat → Cat) (hf : ∀ c ∈ r.allCats, f c = c) : r.mapCats f = r := by
  unfold SwitchR.mapCats
  have h1 : r.cats.map f = r.cats := map_eq_self fun c hc => hf c (by simp [SwitchR.allCats, hc])
  have h3 : r.noResp.map f = r.noResp := by
    cases hnr : r.noResp with
    | none => rfl
    | some c => simp; exact hf c (by simp [SwitchR.allCats, hnr])
  rw [h1, hf _ (by simp [SwitchR.allCats]), h3]

theorem mapDests_id (n : NodeM) (f : Dest → Dest) (hf : ∀ x ∈ n.exitDests, f x = x) : n.mapDests f = n := by
  rcases hr : n.router with _ | r | r <;> simp only [NodeM.mapDests, NodeM.exitDests, hr] at hf ⊢
  · rw [hf _ (List.mem_singleton.mpr rfl), ← hr]
  · rw [mapCats_eq_self r _ fun c hc => Cat.mapDest_eq_self (hf _ (List.mem_map_of_mem hc)), ← hr]
  · rw [map_eq_self fun c hc => Cat.mapDest_eq_self (hf _ (List.mem_map_of_mem hc)), ← hr]

theorem connectLoose_exitDests (n : NodeM) (d : Dest) :
    (n.connectLoose d).exitDests = n.exitDests.map (fillLoose d) := by
  rw [connectLoose_eq, mapDests_exitDests]

theorem connectLoose_no_loose (n : NodeM) (d : Dest) (hd : d ≠ Dest.none) :
    (n.connectLoose d).hasLoose = false := by
  unfold NodeM.hasLoose
  rw [connectLoose_exitDests]
  simp only [List.any_map, List.any_eq_false, Function.comp]
  intro x _
  unfold fillLoose
  split
  · simpa using hd
  · assumption

theorem connectLoose_of_not_loose (n : NodeM) (d : Dest) (h : n.hasLoose = false) : n.connectLoose d = n := by
  rw [connectLoose_eq]
  refine mapDests_id n _ fun x hx => if_neg ?_
  exact List.any_eq_false.mp h x hx

theorem connectLoose_idem (n : NodeM) (d : Dest) : (n.connectLoose d).connectLoose d = n.connectLoose d := by
  by_cases hd : d = Dest.none
  · rw [connectLoose_eq (n.connectLoose d)]
    refine mapDests_id _ _ fun x _ => ?_
    subst hd; unfold fillLoose; split
    · rename_i h; exact (eq_of_beq h).symm
    · rfl
  · exact connectLoose_of_not_loose _ d (connectLoose_no_loose n d hd)

theorem renderRouter_sw_mapDest (f : Dest → Dest) (r : SwitchR) :
    renderRouter (.sw (r.mapCats (Cat.mapDest f))) = renderRouter (.sw r) := by
  rcases r with ⟨_, _, _, _, nr, w, _⟩
  simp only [renderRouter, allCats_mapCats, List.map_map]
  rcases nr with _ | c <;> rcases w with _ | _ | w <;> rfl

theorem renderNode_mapDests (n : NodeM) (f : Dest → Dest) :
    (renderNode (n.mapDests f)).uuid = (renderNode n).uuid ∧
    (renderNode (n.mapDests f)).actions = (renderNode n).actions ∧
    (renderNode (n.mapDests f)).router = (renderNode n).router ∧
    (renderNode (n.mapDests f)).exits.map (·.uuid) = (renderNode n).exits.map (·.uuid) := by
  rcases hr : n.router with _ | r | r <;> simp only [NodeM.mapDests, hr]
  · simp [renderNode, hr]
  · refine ⟨rfl, rfl, ?_, ?_⟩
    · simp only [renderNode, hr, Option.map_some, renderRouter_sw_mapDest]
    · simp only [renderNode, hr, allCats_mapCats, List.map_map]; rfl
  · refine ⟨rfl, rfl, ?_, ?_⟩
    · simp only [renderNode, hr, Option.map_some, renderRouter, List.map_map]; rfl
    · simp only [renderNode, hr, List.map_map]; rfl

/-! ### the nodes a group reaches; `has_loose_exits` -/

/-- the nodes the recursion of `connect_loose_exits` (and `has_loose_exits`) visits from group `g`:
the last node of a row group; the router node of a `no_op` group, or else whatever its parents
reach; whatever the children of a block reach -/
inductive Reach (gs : Array Grp) : Nat → Nat → Prop
  | row {g : Nat} {nodes : List Nat} {t : Str} {i : Nat} :
      gs[g]? = some (.row nodes t) → nodes.getLast? = some i → Reach gs g i
  | router {g : Nat} {ps : List (Nat × Cond)} {i : Nat} :
      gs[g]? = some (.noop ps (some i)) → Reach gs g i
  | parent {g : Nat} {ps : List (Nat × Cond)} {p : Nat × Cond} {i : Nat} :
      gs[g]? = some (.noop ps none) → p ∈ ps → Reach gs p.1 i → Reach gs g i
  | child {g : Nat} {ch : List Nat} {c i : Nat} :
      gs[g]? = some (.block ch) → c ∈ ch → Reach gs c i → Reach gs g i

theorem reach_iff {gs : Array Grp} {g : Nat} {grp : Grp} (hg : gs[g]? = some grp) (i : Nat) :
    Reach gs g i ↔
      match grp with
      | .row nodes _ => nodes.getLast? = some i
      | .noop _ (some j) => i = j
      | .noop ps none => ∃ p ∈ ps, Reach gs p.1 i
      | .block ch => ∃ c ∈ ch, Reach gs c i := by
  constructor
  · intro r
    cases r with
    | row h1 h2 => rw [hg] at h1; cases h1; exact h2
    | router h1 => rw [hg] at h1; cases h1; rfl
    | parent h1 hp r => rw [hg] at h1; cases h1; exact ⟨_, hp, r⟩
    | child h1 hc r => rw [hg] at h1; cases h1; exact ⟨_, hc, r⟩
  · intro h
    match grp, hg, h with
    | .row _ _, hg, h => exact .row hg h
    | .noop _ (some _), hg, h => exact h ▸ .router hg
    | .noop _ none, hg, ⟨_, hp, r⟩ => exact .parent hg hp r
    | .block _, hg, ⟨_, hc, r⟩ => exact .child hg hc r

section
variable {gs : Array Grp} {g i : Nat}

theorem reach_row {nodes : List Nat} {t : Str} (h : gs[g]? = some (.row nodes t)) :
    Reach gs g i ↔ nodes.getLast? = some i := reach_iff h i

theorem reach_router {ps : List (Nat × Cond)} {j : Nat} (h : gs[g]? = some (.noop ps (some j))) :
    Reach gs g i ↔ i = j := reach_iff h i

theorem reach_parents {ps : List (Nat × Cond)} (h : gs[g]? = some (.noop ps none)) :
    Reach gs g i ↔ ∃ p ∈ ps, Reach gs p.1 i := reach_iff h i

theorem reach_block {ch : List Nat} (h : gs[g]? = some (.block ch)) :
    Reach gs g i ↔ ∃ c ∈ ch, Reach gs c i := reach_iff h i
end

/-- what `has_loose_exits` answers: whether some reached node has an exit that leads nowhere -/
def LooseAns (s : St) (g : Nat) (b : Bool) : Prop :=
  (b = false → ∀ i, Reach s.groups g i → ∀ n, s.nodes[i]? = some n → n.hasLoose = false) ∧
  (b = true → ∃ (i : Nat) (n : NodeM), Reach s.groups g i ∧ s.nodes[i]? = some n ∧ n.hasLoose = true)

theorem looseAns_single {s : St} {g i : Nat} {n : NodeM} (hR : ∀ j, Reach s.groups g j ↔ j = i)
    (hn : s.nodes[i]? = some n) : LooseAns s g n.hasLoose := by
  refine ⟨fun hb j r m hm => ?_, fun hb => ⟨i, n, (hR i).mpr rfl, hn, hb⟩⟩
  rw [(hR j).mp r, hn] at hm
  cases hm; exact hb

theorem looseAns_union {β} {s : St} {g : Nat} {l : List β} {f : β → Nat} {b : Bool}
    (hR : ∀ j, Reach s.groups g j ↔ ∃ x ∈ l, Reach s.groups (f x) j)
    (h1 : b = false → ∀ x ∈ l, LooseAns s (f x) false) (h2 : b = true → ∃ x ∈ l, LooseAns s (f x) true) :
    LooseAns s g b := by
  refine ⟨fun hb j r m hm => ?_, fun hb => ?_⟩
  · obtain ⟨x, hx, rx⟩ := (hR j).mp r
    exact (h1 hb x hx).1 rfl j rx m hm
  · obtain ⟨x, hx, ans⟩ := h2 hb
    obtain ⟨i, n, r, hn, hl⟩ := ans.2 rfl
    exact ⟨i, n, (hR i).mpr ⟨x, hx, r⟩, hn, hl⟩

theorem hasLoose_spec : ∀ fuel g s, wp (hasLoose fuel g) s (fun b s' => s' = s ∧ LooseAns s g b) := by
  intro fuel
  induction fuel with
  | zero => intro g s; unfold hasLoose; wp_simp
  | succ fuel ih =>
    intro g s
    unfold hasLoose
    wp_simp [wp_getGrp]
    intro grp hgrp
    split
    · split
      · rename_i hlast
        wp_simp
        refine ⟨trivial, fun _ i r => ?_, fun h => Bool.noConfusion h⟩
        rw [reach_row hgrp, hlast] at r; cases r
      · rename_i i hlast
        wp_simp [wp_getNode]
        exact fun n hn => ⟨trivial,
          looseAns_single (fun j => by rw [reach_row hgrp, hlast, Option.some_inj, eq_comm]) hn⟩
    · split
      · wp_simp [wp_getNode]
        exact fun n hn => ⟨trivial, looseAns_single (fun _ => reach_router hgrp) hn⟩
      · refine wp_mono (wp_anyM (fun (p : Nat × Cond) => LooseAns s p.1) (fun x _ => ih x.1 s)) ?_
        exact fun b _ ⟨e, h1, h2⟩ => ⟨e, looseAns_union (fun _ => reach_parents hgrp) h1 h2⟩
    · refine wp_mono (wp_anyM (LooseAns s) (fun x _ => ih x s)) ?_
      exact fun b _ ⟨e, h1, h2⟩ => ⟨e, looseAns_union (fun _ => reach_block hgrp) h1 h2⟩

theorem ro_hasLoose (fuel g : Nat) : ReadOnly (hasLoose fuel g) :=
  (ro_iff _).mpr fun s => wp_mono (hasLoose_spec fuel g s) fun _ _ h => h.1

/-! ### `connect_loose_exits` at group level -/

/-- nothing but the contents of the node arena changed -/
def OnlyNodes (s s' : St) : Prop := s' = { s with nodes := s'.nodes } ∧ s'.nodes.size = s.nodes.size

theorem OnlyNodes.refl (s : St) : OnlyNodes s s := ⟨rfl, rfl⟩

theorem OnlyNodes.trans {a b c : St} (h1 : OnlyNodes a b) (h2 : OnlyNodes b c) : OnlyNodes a c := by
  obtain ⟨e1, z1⟩ := h1
  obtain ⟨e2, z2⟩ := h2
  refine ⟨?_, z2.trans z1⟩
  rw [e2, e1]

theorem OnlyNodes.groups {s s' : St} (h : OnlyNodes s s') : s'.groups = s.groups := by rw [h.1]

/-- exactly the nodes in `T` were connected to `d` (all other nodes, and everything else in the
state, are as before) -/
def Conn (d : Dest) (T : Nat → Prop) (s s' : St) : Prop :=
  OnlyNodes s s' ∧ ∀ (i : Nat) (n : NodeM), s.nodes[i]? = some n →
    (T i → s'.nodes[i]? = some (n.connectLoose d)) ∧ (¬ T i → s'.nodes[i]? = some n)

theorem Conn.refl (d : Dest) (s : St) : Conn d (fun _ => False) s s :=
  ⟨OnlyNodes.refl s, fun _ _ h => ⟨fun f => f.elim, fun _ => h⟩⟩

theorem Conn.congr {d : Dest} {T T' : Nat → Prop} {s s' : St} (h : Conn d T s s') (ht : ∀ i, T i ↔ T' i) :
    Conn d T' s s' :=
  ⟨h.1, fun i n hn => ⟨fun t => (h.2 i n hn).1 ((ht i).mpr t), fun t => (h.2 i n hn).2 (fun t' => t ((ht i).mp t'))⟩⟩

theorem Conn.trans {d : Dest} {T1 T2 : Nat → Prop} {a b c : St} (h1 : Conn d T1 a b) (h2 : Conn d T2 b c) :
    Conn d (fun i => T1 i ∨ T2 i) a c := by
  refine ⟨h1.1.trans h2.1, ?_⟩
  intro i n hn
  by_cases t1 : T1 i
  · have hb := (h1.2 i n hn).1 t1
    by_cases t2 : T2 i
    · refine ⟨fun _ => ?_, fun hh => absurd (.inl t1) hh⟩
      have := (h2.2 i _ hb).1 t2
      rw [connectLoose_idem] at this; exact this
    · exact ⟨fun _ => (h2.2 i _ hb).2 t2, fun hh => absurd (.inl t1) hh⟩
  · have hb := (h1.2 i n hn).2 t1
    by_cases t2 : T2 i
    · exact ⟨fun _ => (h2.2 i _ hb).1 t2, fun hh => absurd (.inr t2) hh⟩
    · refine ⟨fun hh => ?_, fun _ => (h2.2 i _ hb).2 t2⟩
      rcases hh with hh | hh
      · exact absurd hh t1
      · exact absurd hh t2

/-- a loop whose iterations connect `T x` (a set that depends on the groups only) connects the union -/
theorem conn_forM {β} (d : Dest) (gs : Array Grp) (T : β → Nat → Prop) {l : List β} {f : β → M PUnit}
    (hf : ∀ x ∈ l, ∀ s, s.groups = gs → wp (f x) s (fun _ s' => Conn d (T x) s s')) :
    ∀ s, s.groups = gs → wp (l.forM f) s (fun _ s' => Conn d (fun i => ∃ x ∈ l, T x i) s s') := by
  induction l with
  | nil =>
    intro s _
    rw [wp_forM_nil]
    exact (Conn.refl d s).congr (fun i => by simp)
  | cons x l ih =>
    intro s hs
    rw [wp_forM_cons]
    refine wp_mono (hf x (by simp) s hs) ?_
    intro _ s1 c1
    refine wp_mono (ih (fun y hy => hf y (by simp [hy])) s1 (by rw [c1.1.groups, hs])) ?_
    intro _ s2 c2
    exact (c1.trans c2).congr (fun i => by simp)

theorem connectNode_conn {i : Nat} {d : Dest} {s : St} :
    wp (connectNode i d) s (fun _ s' => Conn d (fun j => j = i) s s') := by
  rw [wp_connectNode]
  intro n hn
  have hlt : i < s.nodes.size := lt_size_of_getElem? hn
  refine ⟨⟨rfl, by simp⟩, ?_⟩
  intro j m hm
  simp only [Array.getElem?_setIfInBounds]
  constructor
  · intro e; subst e
    rw [hn] at hm; injection hm with hm; subst hm
    simp [hlt]
  · intro e
    have : ¬ i = j := fun e' => e e'.symm
    simp [this, hm]

theorem connectLoose_conn (d : Dest) : ∀ fuel g s,
    wp (connectLoose fuel g d) s (fun _ s' => Conn d (Reach s.groups g) s s') := by
  intro fuel
  induction fuel with
  | zero => intro g s; unfold connectLoose; wp_simp
  | succ fuel ih =>
    intro g s
    unfold connectLoose
    wp_simp [wp_getGrp]
    intro grp hgrp
    split
    · split
      · rename_i hlast
        wp_simp
        exact (Conn.refl d s).congr fun i => by rw [reach_row hgrp, hlast]; simp
      · rename_i i hlast
        exact wp_mono (connectNode_conn) fun _ _ c =>
          c.congr fun j => by rw [reach_row hgrp, hlast, Option.some_inj, eq_comm]
    · split
      · exact wp_mono (connectNode_conn) fun _ _ c => c.congr fun _ => (reach_router hgrp).symm
      · refine wp_mono (conn_forM d s.groups (fun (p : Nat × Cond) => Reach s.groups p.1)
          (fun x _ s1 hs1 => by have := ih x.1 s1; rw [hs1] at this; exact this) s rfl) ?_
        exact fun _ _ c => c.congr fun _ => (reach_parents hgrp).symm
    · refine wp_mono (conn_forM d s.groups (fun (c : Nat) => Reach s.groups c)
        (fun x _ s1 hs1 => by have := ih x s1; rw [hs1] at this; exact this) s rfl) ?_
      exact fun _ _ c => c.congr fun _ => (reach_block hgrp).symm

theorem connectIfLoose_conn (fuel : Nat) (d : Dest) (ch : Nat) (s : St) :
    wp (connectIfLoose fuel d ch) s (fun _ s' => Conn d (Reach s.groups ch) s s') := by
  unfold connectIfLoose
  wp_simp
  refine wp_mono (hasLoose_spec fuel ch s) ?_
  rintro b s1 ⟨e, ans⟩
  subst e
  refine ⟨fun _ => connectLoose_conn d fuel ch s1, fun hb => ?_⟩
  have hb' : b = false := by cases b <;> simp_all
  refine ⟨OnlyNodes.refl _, fun i n hn => ⟨fun r => ?_, fun _ => hn⟩⟩
  rw [connectLoose_of_not_loose n d (ans.1 hb' i r n hn)]; exact hn

/-- **an edge naming a block**: `add_exit` of a block group succeeds only for a blank condition and a
block with some loose exit, and then connects exactly the nodes reached from the block -/
theorem addExit_block_conn {fuel g : Nat} {d : Dest} {c : Cond} {s : St} {children : List Nat}
    (hg : s.groups[g]? = some (.block children)) :
    wp (addExit fuel g d c) s (fun _ s' =>
      c.blank = true ∧ Conn d (Reach s.groups g) s s' ∧
      ∃ (i : Nat) (n : NodeM), Reach s.groups g i ∧ s.nodes[i]? = some n ∧ n.hasLoose = true) := by
  cases fuel with
  | zero => unfold addExit; wp_simp
  | succ fuel =>
    unfold addExit
    wp_simp [wp_getGrp]
    intro grp hgrp
    rw [hg] at hgrp; injection hgrp with hgrp; subst hgrp
    wp_simp
    refine ⟨fun hc => ?_, fun _ => trivial⟩
    refine wp_mono (hasLoose_spec (fuel + 1) g s) ?_
    rintro b s1 ⟨e, ans⟩
    subst e
    refine ⟨fun hb => ?_, fun _ => trivial⟩
    refine wp_mono (conn_forM d s1.groups (fun (c : Nat) => Reach s1.groups c)
      (fun x _ s2 hs2 => by have := connectIfLoose_conn (fuel + 1) d x s2; rw [hs2] at this; exact this) s1 rfl) ?_
    intro _ s' cn
    exact ⟨hc, cn.congr fun _ => (reach_block hg).symm, ans.2 hb⟩

end Rpft.Compile
