/-
The desugared twin of an `insert_as_block` row (`twin`: the template's `start` edges retargeted to a blank
`from`; `retarget` leaves alone what reads no such edge, `noStartL`), the entry row of a template (`EntryRow`),
what a successful run of a node-creating row or an entry row went through, and the state the twin's
`begin_block` leaves (`openGroup_twin`: the parents of the begin row's `no_op` group are `psOf` of its edges).
-/
import Rpft.Lemmas.CompileInsertEmit
import Rpft.Lemmas.CompileInsertIds
namespace Rpft.Compile
open Rpft Function

theorem filter_zipIdx_pos : ∀ (l : List Edge) (k : Nat), 1 ≤ k →
    ((l.zipIdx k).filter (fun p => p.2 = 0 || !p.1.trivial)).map (·.1) = l.filter (fun e => !e.trivial)
  | [], _, _ => rfl
  | e :: l, k, hk => by
    have h2 : ¬ k = 0 := by omega
    simp only [List.zipIdx_cons, List.filter_cons, h2, decide_false, Bool.false_or]
    split <;> simp [filter_zipIdx_pos l (k + 1) (by omega)]

theorem dropTrivial_cons (e : Edge) (l : List Edge) :
    dropTrivial (e :: l) = e :: l.filter (fun x => !x.trivial) := by
  unfold dropTrivial
  have hf : (fun (x : Edge × Nat) => match x with | (e, i) => decide (i = 0) || !e.trivial) =
      (fun p => decide (p.2 = 0) || !p.1.trivial) := by
    funext p; rfl
  rw [hf]
  simp only [List.zipIdx_cons, List.filter_cons, decide_true, Bool.true_or, if_true, List.map_cons]
  rw [filter_zipIdx_pos l 1 (Nat.le_refl 1)]

theorem mem_dropTrivial {es : List Edge} {e : Edge} (h : e ∈ dropTrivial es) : e ∈ es := by
  cases es with
  | nil => exact h
  | cons a l =>
    rw [dropTrivial_cons] at h
    exact (List.mem_cons.mp h).elim (· ▸ List.mem_cons_self) fun h => List.mem_cons_of_mem _ (List.mem_filter.mp h).1

theorem dropTrivial_all_trivial (e : Edge) (l : List Edge) (h : ∀ x ∈ e :: l, x.trivial = true) :
    dropTrivial (e :: l) = [e] := by
  rw [dropTrivial_cons, List.filter_eq_nil_iff.mpr fun x hx => by simp [h x (List.mem_cons_of_mem _ hx)]]

def startS : Str := "start".toList

/-- a row attached to `start` in the template gets a blank `from` in the twin -/
def retargetEdge (e : Edge) : Edge := if e.from_ = startS then { e with from_ := [] } else e

def retargetRow (r : Row) : Row := { r with edges := r.edges.map retargetEdge }

/-- only the rows the template's own parser reads are retargeted (a nested insertion keeps its
own template) -/
def retargetEv : Event → Event
  | .row r => .row (retargetRow r)
  | .openGroup es st => .openGroup (es.map retargetEdge) st
  | .closeGroup id => .closeGroup id
  | .insert r body => .insert (retargetRow r) body

def retarget (body : List Event) : List Event := body.map retargetEv

/-- `begin_block` with the insert row's edges, the template's rows, `end_block` under the insert row's id -/
def twin (r : Row) (body : List Event) : List Event :=
  [.openGroup r.edges false] ++ retarget body ++ [.closeGroup r.rowId]

/-- the entry row of the template: an action row creating a node, attached to `start` (or with a
blank `from`) unconditionally, without `_nodeId` / node name -/
def EntryRow (r : Row) : Prop :=
  r.edges ≠ [] ∧ (∀ e ∈ r.edges, (e.from_ = startS ∨ e.from_ = []) ∧ e.cond.blank = true) ∧
  r.type ≠ "hard_exit".toList ∧ r.type ≠ "loose_exit".toList ∧ r.type ≠ "go_to".toList ∧
  r.type ≠ "no_op".toList ∧ r.type ≠ "insert_as_block".toList ∧ r.nodeUuid = [] ∧ r.nodeName = []

instance (r : Row) : Decidable (EntryRow r) := by unfold EntryRow; exact inferInstance

theorem EntryRow.edges_ne {r : Row} (he : EntryRow r) : r.edges ≠ [] := he.1

theorem EntryRow.edge {r : Row} (he : EntryRow r) {e : Edge} (h : e ∈ r.edges) :
    (e.from_ = startS ∨ e.from_ = []) ∧ e.cond.blank = true := he.2.1 e h

theorem EntryRow.types {r : Row} (he : EntryRow r) :
    r.type ≠ "hard_exit".toList ∧ r.type ≠ "loose_exit".toList ∧ r.type ≠ "go_to".toList ∧
    r.type ≠ "no_op".toList ∧ r.type ≠ "insert_as_block".toList :=
  ⟨he.2.2.1, he.2.2.2.1, he.2.2.2.2.1, he.2.2.2.2.2.1, he.2.2.2.2.2.2.1⟩

theorem EntryRow.nodeUuid_eq {r : Row} (he : EntryRow r) : r.nodeUuid = [] := he.2.2.2.2.2.2.2.1

theorem EntryRow.nodeName_eq {r : Row} (he : EntryRow r) : r.nodeName = [] := he.2.2.2.2.2.2.2.2

/-- no edge read by this parser is attached to `start` -/
def Event.noStart : Event → Bool
  | .row r => r.edges.all fun e => e.from_ ≠ startS
  | .openGroup es _ => es.all fun e => e.from_ ≠ startS
  | .closeGroup _ => true
  | .insert r _ => r.edges.all fun e => e.from_ ≠ startS

def noStartL (es : List Event) : Bool := es.all Event.noStart

theorem retargetEdge_of_ne {e : Edge} (h : e.from_ ≠ startS) : retargetEdge e = e := by
  unfold retargetEdge; rw [if_neg h]

theorem map_retargetEdge_of_noStart {es : List Edge} (h : es.all (fun e => e.from_ ≠ startS) = true) :
    es.map retargetEdge = es := by
  induction es with
  | nil => rfl
  | cons e es ih =>
    simp only [List.all_cons, Bool.and_eq_true, decide_eq_true_eq] at h
    simp only [List.map_cons, retargetEdge_of_ne h.1, ih h.2]

theorem retarget_of_noStart {es : List Event} (h : noStartL es = true) : retarget es = es := by
  induction es with
  | nil => rfl
  | cons e es ih =>
    simp only [noStartL, List.all_cons, Bool.and_eq_true] at h
    have ih' := ih h.2
    simp only [retarget, List.map_cons] at ih' ⊢
    rw [ih']
    congr 1
    cases e with
    | row r => simp only [retargetEv, retargetRow, map_retargetEdge_of_noStart h.1]
    | openGroup es st => simp only [retargetEv, map_retargetEdge_of_noStart h.1]
    | closeGroup id => rfl
    | insert r body => simp only [retargetEv, retargetRow, map_retargetEdge_of_noStart h.1]

theorem parseRow_newRow {r : Row}
    (ht : r.type ≠ "hard_exit".toList ∧ r.type ≠ "loose_exit".toList ∧ r.type ≠ "go_to".toList ∧
      r.type ≠ "no_op".toList ∧ r.type ≠ "insert_as_block".toList)
    (h6 : r.nodeUuid = []) (h7 : r.nodeName = []) {s t : St} (h : (parseRow r).run s = .ok ((), t)) :
    (newRow { r with edges := dropTrivial r.edges } []).run s = .ok ((), t) := by
  obtain ⟨h1, h2, h3, h4, h5⟩ := ht
  unfold parseRow at h
  simp only [h1, h2, h3, h4, h5, false_or, if_false] at h
  unfold actionRow at h
  by_cases hok : r.actionOk = true
  · simp only [hok, not_true_eq_false, if_false, h6, h7, List.isEmpty_nil, if_true] at h
    obtain ⟨a, u, hg, h⟩ := run_bind_ok h
    obtain ⟨rfl, rfl⟩ := run_det (get_run s) hg
    rw [hok, h6, h7]
    simpa using h
  · simp only [hok] at h
    cases h

theorem parseRow_entry {r : Row} (he : EntryRow r) {s t : St} (h : (parseRow r).run s = .ok ((), t)) :
    (newRow { r with edges := dropTrivial r.edges } []).run s = .ok ((), t) :=
  parseRow_newRow he.types he.nodeUuid_eq he.nodeName_eq h

/-! ### the edges of the entry row -/

theorem retargetEdge_trivial {e : Edge} (h : (e.from_ = startS ∨ e.from_ = []) ∧ e.cond.blank = true) :
    (retargetEdge e).trivial = true ∧ (retargetEdge e).from_ = [] ∧ (retargetEdge e).cond = e.cond := by
  unfold retargetEdge
  rcases h.1 with h1 | h1
  · simp [h1, Edge.trivial, h.2]
  · have : ¬ e.from_ = startS := by rw [h1]; decide
    rw [if_neg this]
    simp [Edge.trivial, h1, h.2]

theorem dropTrivial_retarget_entry {r : Row} (he : EntryRow r) :
    ∃ e, dropTrivial (r.edges.map retargetEdge) = [e] ∧ e.from_ = [] ∧ e.cond.blank = true := by
  obtain ⟨hne, hall, _⟩ := he
  cases hr : r.edges with
  | nil => exact absurd hr hne
  | cons e l =>
    rw [hr] at hall
    refine ⟨retargetEdge e, ?_, (retargetEdge_trivial (hall e (by simp))).2.1, ?_⟩
    · simp only [List.map_cons]
      apply dropTrivial_all_trivial
      intro x hx
      simp only [List.mem_cons, List.mem_map] at hx
      rcases hx with rfl | ⟨y, hy, rfl⟩
      · exact (retargetEdge_trivial (hall e (by simp))).1
      · exact (retargetEdge_trivial (hall y (by simp [hy]))).1
    · rw [(retargetEdge_trivial (hall e (by simp))).2.2]; exact (hall e (by simp)).2

theorem entryRow_retarget {r : Row} (he : EntryRow r) : EntryRow (retargetRow r) := by
  obtain ⟨h0, h1, h2⟩ := he
  refine ⟨?_, ?_, h2⟩
  · intro e
    simp only [retargetRow, List.map_eq_nil_iff] at e
    exact h0 e
  · intro e hem
    simp only [retargetRow, List.mem_map] at hem
    obtain ⟨e0, he0, rfl⟩ := hem
    have := retargetEdge_trivial (h1 e0 he0)
    exact ⟨.inr this.2.1, by rw [this.2.2]; exact (h1 e0 he0).2⟩

theorem addRowEdge_noop (d : Dest) (e : Edge) (s : St) (h : e.from_ = startS ∨ e.from_ = [])
    (hm : mostRecentIn s.groups s.stack = none) : (addRowEdge d e).run s = .ok ((), s) := by
  refine addRowEdge_run_none ?_
  rw [groupOfEdge_run]
  rcases h with h | h
  · exact if_pos h
  · rw [h, if_neg (by decide), if_pos rfl, hm]

theorem edges_noop (d : Dest) (es : List Edge) (s : St) (h : ∀ e ∈ es, e.from_ = startS ∨ e.from_ = [])
    (hm : mostRecentIn s.groups s.stack = none) : (es.forM (addRowEdge d)).run s = .ok ((), s) := by
  induction es with
  | nil => rfl
  | cons e es ih =>
    show (addRowEdge d e >>= fun _ => es.forM (addRowEdge d)).run s = _
    rw [run_bind_of (addRowEdge_noop d e s (h e (by simp)) hm)]
    exact ih (fun x hx => h x (by simp [hx]))

/-! ### the source groups of the insert row's edges -/

/-- the parents the begin row's `no_op` group records: the source group of every edge, looked up
in the state before the block (`none`: a lookup fails) -/
def psOf (s₀ : St) : List Edge → Option (List (Nat × Cond))
  | [] => some []
  | e :: es =>
    match (groupOfEdge e).run s₀ with
    | .ok (none, _) => psOf s₀ es
    | .ok (some src, _) => (psOf s₀ es).map ((src, e.cond) :: ·)
    | .error _ => none

theorem psOf_cons {s₀ : St} {e : Edge} {es : List Edge} {ps : List (Nat × Cond)} (h : psOf s₀ (e :: es) = some ps) :
    (∃ s', (groupOfEdge e).run s₀ = .ok (none, s') ∧ psOf s₀ es = some ps) ∨
    ∃ src s' ps', (groupOfEdge e).run s₀ = .ok (some src, s') ∧ psOf s₀ es = some ps' ∧ ps = (src, e.cond) :: ps' := by
  unfold psOf at h
  cases hg : (groupOfEdge e).run s₀ with
  | error err => rw [hg] at h; cases h
  | ok pr =>
    obtain ⟨a0, s'⟩ := pr
    rw [hg] at h
    cases a0 with
    | none => exact .inl ⟨s', rfl, h⟩
    | some src =>
      simp only [] at h
      cases hps : psOf s₀ es with
      | none => rw [hps] at h; cases h
      | some ps' =>
        rw [hps] at h
        exact .inr ⟨src, s', ps', rfl, rfl, (Option.some.inj h).symm⟩

/-- the scope of `s'` shows the same row ids and the same most recent node group as that of `s` -/
def ScopeLike (s s' : St) : Prop :=
  s'.rowIds = s.rowIds ∧ mostRecentIn s'.groups s'.stack = mostRecentIn s.groups s.stack

theorem groupOfEdge_scopeLike {s s' : St} (h : ScopeLike s s') (e : Edge) :
    (groupOfEdge e).run s' = ((groupOfEdge e).run s).map (fun p => (p.1, s')) := by
  rw [groupOfEdge_run, groupOfEdge_run, h.1, h.2]
  split
  · rfl
  · split
    · rfl
    · cases lookupIn s.rowIds e.from_ <;> rfl

theorem ScopeLike.of_blkEq {s₀ w w' : St} (h : ScopeLike s₀ w) (e : SEq w w') (hb : BlkEq w w') : ScopeLike s₀ w' :=
  ⟨e.2.1.trans h.1, by rw [hb.mostRecent]; exact h.2⟩

/-- the twin after `begin_block`, while the begin row's edges are read: the new block, and the
`no_op` group with the parents recorded so far -/
def twOpen (s₀ : St) (ps : List (Nat × Cond)) : St :=
  { s₀ with groups := (s₀.groups.push (.block [])).push (.noop ps none), stack := s₀.groups.size :: s₀.stack }

/-- the twin after `begin_block`: the new block holds the `no_op` group of the begin row, whose parents are `ps` -/
def twO (s₀ : St) (ps : List (Nat × Cond)) : St :=
  { s₀ with groups := (s₀.groups.push (.block [s₀.groups.size + 1])).push (.noop ps none),
            stack := s₀.groups.size :: s₀.stack }

theorem twOpen_block (s₀ : St) (ps : List (Nat × Cond)) :
    (twOpen s₀ ps).groups[s₀.groups.size]? = some (.block []) := by
  show ((s₀.groups.push (Grp.block [])).push (Grp.noop ps none))[s₀.groups.size]? = _
  rw [getElem?_push_ne _ (by simp), Array.getElem?_push_size]

section
variable (s₀ : St) (hsb : SB s₀)
include hsb

theorem twOpen_scopeLike (ps : List (Nat × Cond)) : ScopeLike s₀ (twOpen s₀ ps) := by
  refine ⟨rfl, ?_⟩
  show mostRecentIn ((s₀.groups.push (.block [])).push (.noop ps none)) (s₀.groups.size :: s₀.stack) = _
  have e1 : ((s₀.groups.push (Grp.block [])).push (Grp.noop ps none))[s₀.groups.size]? = some (.block []) :=
    twOpen_block s₀ ps
  have e2 : mostRecentIn ((s₀.groups.push (.block [])).push (.noop ps none)) (s₀.groups.size :: s₀.stack) =
      mostRecentIn ((s₀.groups.push (.block [])).push (.noop ps none)) s₀.stack := by
    rw [mostRecentIn, e1]
    rfl
  rw [e2]
  exact mostRecentIn_congr _ (fun b hb => getElem?_push_push_lt (hsb.lt hb))

theorem noopEdge_twOpen (ps : List (Nat × Cond)) (e : Edge) :
    wp (noopEdge (s₀.groups.size + 1) e) (twOpen s₀ ps) (fun _ t =>
      (∃ s', (groupOfEdge e).run s₀ = .ok (none, s') ∧ t = twOpen s₀ ps) ∨
      (∃ src s', (groupOfEdge e).run s₀ = .ok (some src, s') ∧ t = twOpen s₀ (ps ++ [(src, e.cond)]))) := by
  unfold noopEdge
  rw [wp_bind, wp_def]
  intro a u h1
  rw [groupOfEdge_scopeLike (twOpen_scopeLike s₀ hsb ps)] at h1
  rcases hg : (groupOfEdge e).run s₀ with err | ⟨a0, s'⟩ <;> rw [hg] at h1 <;> cases h1
  cases a0 with
  | none =>
    simp only []
    rw [wp_pure]
    exact .inl ⟨s', rfl, rfl⟩
  | some src =>
    have hgg : (twOpen s₀ ps).groups[s₀.groups.size + 1]? = some (.noop ps none) := by
      unfold twOpen
      simp only []
      rw [Array.getElem?_push]
      simp
    simp only [wp_bind, wp_getGrp, hgg, Option.some.injEq, forall_eq', wp_setGrp, wp_pure]
    refine .inr ⟨src, s', rfl, ?_⟩
    unfold twOpen
    simp only []
    congr 1
    have := set_push_last (s₀.groups.push (Grp.block [])) (Grp.noop ps none) (Grp.noop (ps ++ [(src, e.cond)]) none)
    simp only [Array.size_push] at this
    exact this

theorem noopEdges_twOpen : ∀ (es : List Edge) (ps : List (Nat × Cond)),
      wp (es.forM (noopEdge (s₀.groups.size + 1))) (twOpen s₀ ps) (fun _ t =>
        ∃ ps', psOf s₀ es = some ps' ∧ t = twOpen s₀ (ps ++ ps')) := by
  intro es
  induction es with
  | nil => intro ps; rw [wp_forM_nil]; exact ⟨[], rfl, by simp⟩
  | cons e es ih =>
    intro ps
    rw [wp_forM_cons]
    refine wp_mono (noopEdge_twOpen s₀ hsb ps e) ?_
    intro _ t ht
    rcases ht with ⟨s', hg, rfl⟩ | ⟨src, s', hg, rfl⟩
    · refine wp_mono (ih ps) ?_
      rintro _ t' ⟨ps', hp, ht'⟩
      exact ⟨ps', by simp only [psOf, hg, hp], ht'⟩
    · refine wp_mono (ih (ps ++ [(src, e.cond)])) ?_
      rintro _ t' ⟨ps', hp, ht'⟩
      refine ⟨(src, e.cond) :: ps', by simp only [psOf, hg, hp, Option.map_some], ?_⟩
      rw [ht']; simp

theorem openGroup_twin (edges : List Edge) :
    wp (openGroup edges false) s₀ (fun _ t => ∃ ps, psOf s₀ (dropTrivial edges) = some ps ∧ t = twO s₀ ps) := by
  rw [wp_openGroup]
  unfold parseNoop
  simp only [Bool.false_eq_true, if_false, wp_bind, wp_addGrp, Array.size_push]
  change wp _ (twOpen s₀ []) _
  refine wp_mono (noopEdges_twOpen s₀ hsb (dropTrivial edges) []) ?_
  rintro _ t ⟨ps, hp, ht⟩
  simp only [List.nil_append] at ht
  subst ht
  rw [wp_appendGroup]
  intro b rest cs hst hg
  cases (show s₀.groups.size :: s₀.stack = b :: rest from hst)
  rw [twOpen_block] at hg
  cases hg
  refine ⟨ps, hp, ?_⟩
  unfold appended
  unfold twOpen twO
  simp only [List.isEmpty_nil, if_true, List.nil_append]
  congr 1
  exact set_push_push ..

end

end Rpft.Compile
