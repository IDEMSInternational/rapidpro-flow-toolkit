/-
C18, nested case: the loops of `model_from_headers_rec` on the rendered headers of records,
indexed lists and lists of records (any depth).  Core Lean only.

A header is *classified* (`classify`: simple field / complex `key.sub` / error), a step of the
first loop reads only the class (`pass1_cons`), and the rendered headers of a field list classify to
`itemsOf` (the only place where strings are looked at); everything after that is list reasoning.  On
headers in ANY order the first loop is two independent folds (`pass1_ok`): the simple fields in column
order, and the complex headers grouped by key in order of first occurrence (`foldC_eq`); with the
second loop as a dict update this gives one level in closed form (`level_update`); `Rendered`
says what a permutation of the rendered headers of a field list classifies to, and on such headers
the level is the simple fields followed by the groups (`Rendered.level`).  Then the
tail of the function on what the loops built: list detection on fields that are, up to maps of
type and default, the entries `1 … n` of an indexed list in some order (`finish_indexed`), and what
the ordered family says one level down (`fam_children`); `Val.beq` is equality (`Val.eq_of_beq`).  The
induction over the levels is in `Lemmas/InferPerm.lean`.
-/
import Rpft.Lemmas.Infer
import Rpft.Lemmas.Dict
import Rpft.Lemmas.ListFacts
namespace Rpft.Infer
open Rpft

/-- what the first loop sees in a header: a simple field, a complex header `key.sub`, or an error -/
inductive Cls where
  | simple (f : Field)
  | cx (k sub : Str)
  | bad (e : Err)

def classify (h : Str) : Cls :=
  match (if (getFieldName h).contains sepField then splitFirst sepField h else none) with
  | some (k, sub) => .cx k sub
  | none =>
    match parseHeaderAnnotations h with
    | .ok td => .simple (getFieldName h, td)
    | .error e => .bad e

theorem pass1_cons (h : Str) (hs : List Str) (F : List Field) (C : List (Str × List Str)) :
    pass1 (h :: hs) (F, C) =
      match classify h with
      | .cx k s => pass1 hs (F, dictAppendTo C k s)
      | .simple f => pass1 hs (dictSet F f.1 f.2, C)
      | .bad e => .error e := by
  rw [pass1]
  unfold classify
  cases (if (getFieldName h).contains sepField then splitFirst sepField h else none) with
  | some p => rfl
  | none => simp only []; cases parseHeaderAnnotations h <;> rfl

theorem classify_simple {n : Str} (hn : NameFits n) {t : Ty} {d : Val}
    (hs : isSimple t d = true) (hf : wfTD t d = true) :
    classify (n ++ (annOf t ++ dflOf d)) = .simple (n, t, d) := by
  have lr := leaf_roundtrip hn hs hf
  unfold classify
  simp [lr.name, lr.parse, hn.noField]

theorem classify_cx {n : Str} (hn : NameFits n) (s : Str) :
    classify (n ++ sepField :: s) = .cx n s := by
  obtain ⟨n1, n2, n3, n4⟩ := hn
  have e1 : sepField ≠ sepType := by decide
  have e2 : sepField ≠ sepDefault := by decide
  have hmem : sepField ∈ getFieldName (n ++ sepField :: s) := by
    unfold getFieldName
    apply mem_strip (by decide)
    rw [takeUntil_prefix _ n2]
    simp only [takeUntil, e1, if_false]
    rw [takeUntil_prefix _ n3]
    simp [takeUntil, e2]
  unfold classify
  have : (getFieldName (n ++ sepField :: s)).contains sepField = true := by
    simpa using hmem
  rw [this]
  simp [splitFirst_append s n1]

/-- the entries of an indexed list as fields named `i`, `i+1`, … -/
def idxFields : Nat → Ty → List Val → List Field
  | _, _, [] => []
  | i, t, d :: ds => (natToStr i, t, d) :: idxFields (i + 1) t ds

theorem elemsFrom_eq (t : Ty) : ∀ (i : Nat) (ds : List Val),
    elemsFrom (fun d => renderTD t d) i ds = renderFs (idxFields i t ds)
  | _, [] => by simp [elemsFrom, idxFields, renderFs]
  | i, d :: ds => by
    rw [elemsFrom, idxFields, renderFs, elemsFrom_eq t (i + 1) ds]

/-- the fields one level below a complex field -/
def childFields : Ty → Val → List Field
  | .model fs, _ => fs
  | .list t, .list ds => idxFields 1 t ds
  | _, _ => []

/-- a field written with sub-headers is a record or a non-empty list -/
theorem complex_cases {motive : ∀ t d, isSimple t d = false → Prop}
    (model : ∀ fs d, motive (.model fs) d rfl)
    (list : ∀ t d ds, motive (.list t) (.list (d :: ds)) rfl) : ∀ t d h, motive t d h
  | .model fs, d, _ => model fs d
  | .list t, .list (d :: ds), _ => list t d ds
  | .list _, .list [], h | .list _, .none, h | .list _, .str _, h | .list _, .int _, h
  | .list _, .float _, h | .list _, .bool _, h | .list _, .record _, h => by simp [isSimple] at h
  | .str, _, h | .int, _, h | .float, _, h | .bool, _, h | .anyList, _, h => by simp [isSimple] at h

theorem renderTD_complex {t : Ty} {d : Val} (h : isSimple t d = false) :
    renderTD t d = (renderFs (childFields t d)).map (fun s => sepField :: s) := by
  induction t, d, h using complex_cases with
  | model fs d => simp [renderTD, childFields]
  | list t d ds => rw [renderTD, elemsFrom_eq]; simp [childFields]

/-- the classes of the rendered headers of a field list -/
def itemsOf : List Field → List Cls
  | [] => []
  | (n, t, d) :: fs =>
    (if isSimple t d then [Cls.simple (n, t, d)]
     else (renderFs (childFields t d)).map (Cls.cx n)) ++ itemsOf fs

theorem classify_render : ∀ (fs : List Field),
    (∀ f ∈ fs, NameFits f.1 ∧ wfTD f.2.1 f.2.2 = true) →
    (renderFs fs).map classify = itemsOf fs
  | [], _ => by simp [renderFs, itemsOf]
  | (n, t, d) :: fs, h => by
    have h0 := h (n, t, d) (by simp)
    have ih := classify_render fs (fun f hf => h f (by simp [hf]))
    rw [renderFs, itemsOf, List.map_append, ih]
    congr 1
    cases hs : isSimple t d with
    | true =>
      rw [renderTD_simple hs]
      simp [classify_simple h0.1 hs h0.2]
    | false =>
      rw [renderTD_complex hs]
      simp [List.map_map, Function.comp_def, classify_cx h0.1]

def simples (fs : List Field) : List Field := fs.filter (fun f => isSimple f.2.1 f.2.2)
def complexes (fs : List Field) : List Field := fs.filter (fun f => !isSimple f.2.1 f.2.2)
/-- the sub-headers collected under the key of a complex field -/
def subOf (f : Field) : List Str := renderFs (childFields f.2.1 f.2.2)

theorem mem_complexes {fs : List Field} {f : Field} :
    f ∈ complexes fs ↔ f ∈ fs ∧ isSimple f.2.1 f.2.2 = false := by
  simp [complexes]

def getS : Cls → Option Field
  | .simple f => some f
  | _ => none

def getC : Cls → Option (Str × Str)
  | .cx k s => some (k, s)
  | _ => none

def foldS (F : List Field) (S : List Field) : List Field :=
  S.foldl (fun F f => dictSet F f.1 f.2) F

def foldC (C : List (Str × List Str)) (ps : List (Str × Str)) : List (Str × List Str) :=
  ps.foldl (fun C p => dictAppendTo C p.1 p.2) C

theorem pass1_ok : ∀ (hs : List Str) (F : List Field) (C : List (Str × List Str)),
    (∀ c ∈ hs.map classify, ∀ e, c ≠ Cls.bad e) →
    pass1 hs (F, C) =
      .ok (foldS F ((hs.map classify).filterMap getS), foldC C ((hs.map classify).filterMap getC))
  | [], F, C, _ => rfl
  | h :: hs, F, C, nb => by
    have ih := fun F C => pass1_ok hs F C fun c hc => nb c (by simp [hc])
    rw [pass1_cons, List.map_cons]
    cases hc : classify h with
    | cx k s => simp only [List.filterMap_cons, getS, getC]; exact ih _ _
    | simple f => simp only [List.filterMap_cons, getS, getC]; exact ih _ _
    | bad e => exact absurd hc (nb _ (by simp) e)

theorem dictSet_eq {α : Type} (d : List (Str × α)) (k : Str) (v : α) :
    dictSet d k v = Dict.set d k v := by
  induction d with
  | nil => rfl
  | cons p t ih => simp only [dictSet, Dict.set, ih]

theorem foldS_eq (F S : List Field) : foldS F S = Dict.update F S := by
  simp only [foldS, dictSet_eq]; rfl

/-- the sub-headers stored under key `k` -/
def lookupL (k : Str) (C : List (Str × List Str)) : List Str := (Dict.get C k).getD []

/-- `d[k].append(s)` on a `defaultdict(list)` is an assignment -/
theorem dictAppendTo_eq : ∀ (C : List (Str × List Str)) (k s : Str),
    dictAppendTo C k s = Dict.set C k (lookupL k C ++ [s])
  | [], _, _ => rfl
  | (k', l) :: C, k, s => by
    by_cases h : k' = k
    · subst h; simp [dictAppendTo, Dict.set, lookupL, Dict.get]
    · simp [dictAppendTo, Dict.set, lookupL, Dict.get, h, dictAppendTo_eq C k s]

/-- the sub-headers of the pairs with key `k`, in order -/
def sel (k : Str) (ps : List (Str × Str)) : List Str :=
  ps.filterMap (fun p => if p.1 = k then some p.2 else none)

theorem lookupL_dictAppendTo (k : Str) (C : List (Str × List Str)) (k₀ s : Str) :
    lookupL k (dictAppendTo C k₀ s) = if k₀ = k then lookupL k C ++ [s] else lookupL k C := by
  rw [dictAppendTo_eq, lookupL, Dict.get_set]
  by_cases h : k₀ = k
  · subst h; simp
  · simp [h, Ne.symm h, lookupL]

theorem keys_dictAppendTo (C : List (Str × List Str)) (k₀ s : Str) :
    (dictAppendTo C k₀ s).map (fun p => p.1) =
      if k₀ ∈ C.map (fun p => p.1) then C.map (fun p => p.1) else C.map (fun p => p.1) ++ [k₀] := by
  rw [dictAppendTo_eq]
  exact Dict.keys_set_inst C k₀ _

theorem lookupL_foldC (k : Str) : ∀ (ps : List (Str × Str)) (C : List (Str × List Str)),
    lookupL k (foldC C ps) = lookupL k C ++ sel k ps
  | [], C => by simp [foldC, sel]
  | (k₀, s) :: ps, C => by
    have := lookupL_foldC k ps (dictAppendTo C k₀ s)
    simp only [foldC, List.foldl_cons] at this ⊢
    rw [this, lookupL_dictAppendTo]
    by_cases h : k₀ = k <;> simp [sel, h]

theorem keys_foldC (ps : List (Str × Str)) (C : List (Str × List Str))
    (h : (C.map (fun p => p.1)).Nodup) :
    (foldC C ps).map (fun p => p.1) = firstOcc (C.map (fun p => p.1) ++ ps.map (fun p => p.1)) := by
  simp only [foldC, dictAppendTo_eq]
  exact Dict.keys_foldl_set (fun p => p.1) (fun C p => lookupL p.1 C ++ [p.2]) h ps

theorem lookupL_of_mem {C : List (Str × List Str)} {k : Str} {l : List Str}
    (hd : (C.map (fun p => p.1)).Nodup) (hm : (k, l) ∈ C) : lookupL k C = l := by
  rw [lookupL, Dict.get_of_mem hd hm]; rfl

theorem foldC_eq (ps : List (Str × Str)) :
    foldC [] ps = (firstOcc (ps.map (fun p => p.1))).map (fun k => (k, sel k ps)) := by
  have hk := keys_foldC ps [] (by simp)
  have hd : ((foldC [] ps).map (fun p => p.1)).Nodup := by rw [hk]; exact nodup_firstOcc _
  rw [List.map_nil, List.nil_append] at hk
  rw [← hk, List.map_map]
  refine (List.map_id _).symm.trans (List.map_congr_left fun p hp => ?_)
  have := lookupL_foldC p.1 ps []
  rw [lookupL_of_mem hd (show (p.1, p.2) ∈ foldC [] ps from hp)] at this
  exact Prod.ext rfl (by simpa [lookupL, Dict.get] using this)

/-- the (key, sub-header) pairs among the rendered headers of a field list -/
def cxPairs : List Field → List (Str × Str)
  | [] => []
  | (n, t, d) :: fs =>
    (if isSimple t d then [] else (subOf (n, t, d)).map (fun s => (n, s))) ++ cxPairs fs

theorem itemsOf_getS : ∀ (fs : List Field), (itemsOf fs).filterMap getS = simples fs
  | [] => rfl
  | (n, t, d) :: fs => by
    rw [itemsOf, List.filterMap_append, itemsOf_getS fs]
    cases hs : isSimple t d <;>
      simp [simples, hs, getS, List.filterMap_map, Function.comp_def]

theorem itemsOf_getC : ∀ (fs : List Field), (itemsOf fs).filterMap getC = cxPairs fs
  | [] => rfl
  | (n, t, d) :: fs => by
    rw [itemsOf, List.filterMap_append, itemsOf_getC fs, cxPairs]
    cases hs : isSimple t d <;>
      simp [getC, List.filterMap_map, Function.comp_def, subOf]

theorem itemsOf_no_bad : ∀ (fs : List Field), ∀ c ∈ itemsOf fs, ∀ e, c ≠ Cls.bad e
  | (n, t, d) :: fs, c, hc, e => by
    rw [itemsOf] at hc
    rcases List.mem_append.mp hc with h | h
    · split at h
      · simp at h; subst h; simp
      · obtain ⟨s, _, e'⟩ := List.mem_map.mp h; subst e'; simp
    · exact itemsOf_no_bad fs c h e

theorem keys_cxPairs : ∀ {fs : List Field} {k : Str}, k ∈ (cxPairs fs).map (fun p => p.1) →
    k ∈ fs.map (fun f => f.1)
  | (n, t, d) :: fs, k, h => by
    rw [cxPairs, List.map_append] at h
    rcases List.mem_append.mp h with h | h
    · cases hs : isSimple t d with
      | true => simp [hs] at h
      | false =>
        simp only [hs, Bool.false_eq_true, if_false, List.map_map] at h
        obtain ⟨s, _, e⟩ := List.mem_map.mp h
        exact List.mem_cons.mpr (.inl e.symm)
    · exact List.mem_cons_of_mem _ (keys_cxPairs h)

theorem sel_none {k : Str} {ps : List (Str × Str)} (h : k ∉ ps.map (fun p => p.1)) : sel k ps = [] :=
  List.filterMap_eq_nil_iff.mpr fun p hp => if_neg fun e => h (List.mem_map.mpr ⟨p, hp, e⟩)

theorem sel_append (k : Str) (a b : List (Str × Str)) : sel k (a ++ b) = sel k a ++ sel k b := by
  simp [sel, List.filterMap_append]

theorem sel_block (k : Str) (l : List Str) : sel k (l.map (fun s => (k, s))) = l := by
  simp [sel, List.filterMap_map, Function.comp_def]

theorem sel_block_ne {k n : Str} (h : n ≠ k) (l : List Str) : sel k (l.map (fun s => (n, s))) = [] := by
  simp [sel, List.filterMap_map, Function.comp_def, h]

theorem sel_cxPairs : ∀ {fs : List Field} {f : Field}, (fs.map (fun f => f.1)).Nodup → f ∈ fs →
    isSimple f.2.1 f.2.2 = false → sel f.1 (cxPairs fs) = subOf f
  | (n, t, d) :: fs, f, hd, hf, hs => by
    have hd' := List.nodup_cons.mp hd
    rw [cxPairs, sel_append]
    rcases List.mem_cons.mp hf with e | e
    · subst e
      simp only at hs
      have hnot : n ∉ (cxPairs fs).map (fun p => p.1) := fun hm => hd'.1 (keys_cxPairs hm)
      simp only [hs, Bool.false_eq_true, if_false]
      rw [sel_block, sel_none hnot]; simp
    · have hne : n ≠ f.1 := fun e' => hd'.1 (List.mem_map.mpr ⟨f, e, e'.symm⟩)
      rw [sel_cxPairs hd'.2 e hs]
      split
      · simp [sel]
      · rw [sel_block_ne hne]; simp

theorem firstOcc_cxPairs : ∀ {fs : List Field}, (fs.map (fun f => f.1)).Nodup →
    (∀ f ∈ fs, isSimple f.2.1 f.2.2 = false → subOf f ≠ []) →
    firstOcc ((cxPairs fs).map (fun p => p.1)) = (complexes fs).map (fun f => f.1)
  | [], _, _ => rfl
  | (n, t, d) :: fs, hd, hne => by
    have hd' := List.nodup_cons.mp hd
    have ih := firstOcc_cxPairs hd'.2 (fun f hf => hne f (by simp [hf]))
    rw [cxPairs, List.map_append]
    cases hs : isSimple t d with
    | true => simpa [complexes, List.filter_cons, hs] using ih
    | false =>
      have hn : n ∉ (cxPairs fs).map (fun p => p.1) := fun hm => hd'.1 (keys_cxPairs hm)
      obtain ⟨s, l, hsub⟩ := List.exists_cons_of_ne_nil (hne (n, t, d) (by simp) hs)
      simp only [hs, Bool.false_eq_true, if_false, hsub, List.map_cons, List.map_map,
        List.cons_append, firstOcc, complexes, List.filter_cons, Bool.not_false, if_true]
      rw [firstOcc_filter, List.filter_append, List.filter_eq_nil_iff.mpr (by simp),
        List.nil_append, filter_ne_of_not_mem hn]
      exact congrArg _ ih

/-- what a call returned, used only of calls known to succeed -/
def okOr (e : Except Err (Ty × Val)) : Ty × Val :=
  match e with
  | .ok x => x
  | .error _ => (.str, .none)

theorem pass2_update (rec : List Str → Except Err (Ty × Val)) (sub : Str → List Str) :
    ∀ (K : List Str) (F : List Field), (∀ k ∈ K, ∃ td, rec (sub k) = .ok td) →
    pass2 rec (K.map (fun k => (k, sub k))) F =
      .ok (Dict.update F (K.map (fun k => (k, okOr (rec (sub k))))))
  | [], F, _ => rfl
  | k :: K, F, hr => by
    obtain ⟨td, h⟩ := hr k (by simp)
    simp only [List.map_cons, pass2, h, dictSet_eq]
    exact pass2_update rec sub K _ (fun b hb => hr b (by simp [hb]))

/-- the simple fields among the headers, in column order -/
abbrev simplesOf (hs : List Str) : List Field := (hs.map classify).filterMap getS
/-- the (key, sub-header) pairs among the headers -/
abbrev cxOf (hs : List Str) : List (Str × Str) := (hs.map classify).filterMap getC
/-- the keys of the complex headers in order of first occurrence -/
abbrev keysOf (hs : List Str) : List Str := firstOcc ((cxOf hs).map (fun p => p.1))

/-- one field per key, holding what the recursive call on the sub-headers of that key returned -/
def groupsOf (fuel : Nat) (hs : List Str) : List Field :=
  (keysOf hs).map fun k => (k, okOr (inferRec fuel (sel k (cxOf hs))))

/-- **One level** on any headers, none unreadable, every recursive call successful: the two loops
are `dict(simple fields).update(groups)`.  (A repeated simple name keeps its first position and
its last type; a key that is also a simple name replaces that field in place.) -/
theorem level_update (fuel : Nat) (hs : List Str)
    (nobad : ∀ c ∈ hs.map classify, ∀ e, c ≠ Cls.bad e)
    (hrec : ∀ k ∈ keysOf hs, ∃ td, inferRec fuel (sel k (cxOf hs)) = .ok td) :
    inferRec (fuel + 1) hs =
      finish (Dict.update (Dict.ofList (simplesOf hs)) (groupsOf fuel hs)) := by
  rw [inferRec, pass1_ok hs [] [] nobad, foldC_eq, foldS_eq]
  simp only
  rw [pass2_update (inferRec fuel) (fun k => sel k (cxOf hs)) (keysOf hs) _ hrec]
  rfl

/-- what a permutation `hs` of the rendered headers of `cf` classifies to -/
structure Rendered (cf : List Field) (hs : List Str) : Prop where
  items : (hs.map classify).Perm (itemsOf cf)
  nodup : (cf.map (fun f => f.1)).Nodup
  subs : ∀ f ∈ cf, isSimple f.2.1 f.2.2 = false → subOf f ≠ []

theorem Rendered.of_perm {cf : List Field} {hs : List Str} (hp : hs.Perm (renderFs cf))
    (h1 : ∀ f ∈ cf, NameFits f.1 ∧ wfTD f.2.1 f.2.2 = true) (h2 : (cf.map (fun f => f.1)).Nodup)
    (hne : ∀ f ∈ cf, isSimple f.2.1 f.2.2 = false → subOf f ≠ []) : Rendered cf hs :=
  ⟨by rw [← classify_render cf h1]; exact hp.map classify, h2, hne⟩

namespace Rendered
variable {cf : List Field} {hs : List Str} (r : Rendered cf hs)
include r

theorem simples_perm : (simplesOf hs).Perm (simples cf) := by
  rw [← itemsOf_getS]; exact r.items.filterMap getS

theorem cx_perm : (cxOf hs).Perm (cxPairs cf) := by
  rw [← itemsOf_getC]; exact r.items.filterMap getC

theorem keys_perm : (keysOf hs).Perm ((complexes cf).map (fun f => f.1)) := by
  rw [← firstOcc_cxPairs r.nodup r.subs]; exact firstOcc_perm (r.cx_perm.map _)

theorem sel_perm {f : Field} (hf : f ∈ complexes cf) : (sel f.1 (cxOf hs)).Perm (subOf f) := by
  obtain ⟨hm, hsf⟩ := mem_complexes.mp hf
  rw [← sel_cxPairs r.nodup hm hsf]
  exact r.cx_perm.filterMap _

theorem key_field {k : Str} (hk : k ∈ keysOf hs) : ∃ f ∈ complexes cf, f.1 = k :=
  List.mem_map.mp (r.keys_perm.subset hk)

/-- **One level** on a permutation of the rendered headers of `cf`, the recursive call under every
complex field successful: the simple fields in column order, then the groups by first occurrence -/
theorem level (fuel : Nat)
    (hrec : ∀ f ∈ complexes cf, ∃ td, inferRec fuel (sel f.1 (cxOf hs)) = .ok td) :
    inferRec (fuel + 1) hs = finish (simplesOf hs ++ groupsOf fuel hs) := by
  have hS : ((simplesOf hs).map (fun f => f.1)).Nodup := ((r.simples_perm.map _).nodup_iff).mpr
    (List.Sublist.nodup (List.Sublist.map _ List.filter_sublist) r.nodup)
  rw [level_update fuel hs (fun c hc => itemsOf_no_bad cf c (r.items.subset hc)) fun k hk => by
      obtain ⟨f, hf, rfl⟩ := r.key_field hk
      exact hrec f hf,
    Dict.ofList_of_nodup hS, Dict.update_of_nodup_disjoint]
  · simpa [groupsOf, List.map_map, Function.comp_def] using nodup_firstOcc _
  · -- no simple field has the name of a complex one
    intro k hk hm
    simp only [groupsOf, List.map_map, Function.comp_def, List.map_id'] at hk
    obtain ⟨q, hq, e⟩ := List.mem_map.mp hm
    obtain ⟨f, hf, e'⟩ := r.key_field hk
    obtain ⟨hfm, hsf⟩ := mem_complexes.mp hf
    have hq' := List.mem_filter.mp (r.simples_perm.subset hq)
    have := eq_of_nodup_map (g := fun f : Field => f.1) r.nodup hq'.1 hfm (e.trans e'.symm)
    subst this
    simp [hq'.2] at hsf

/-- `hc`: the headers stand in the order of the field list -/
theorem sel_canonical (hc : hs.map classify = itemsOf cf) {f : Field} (hf : f ∈ complexes cf) :
    sel f.1 (cxOf hs) = subOf f := by
  obtain ⟨hm, hsf⟩ := mem_complexes.mp hf
  unfold cxOf
  rw [hc, itemsOf_getC, sel_cxPairs r.nodup hm hsf]

theorem canonical (hc : hs.map classify = itemsOf cf) (fuel : Nat) :
    simplesOf hs ++ groupsOf fuel hs =
      simples cf ++ (complexes cf).map fun f => (f.1, okOr (inferRec fuel (subOf f))) := by
  have hk : keysOf hs = (complexes cf).map (fun f => f.1) := by
    unfold keysOf cxOf
    rw [hc, itemsOf_getC, firstOcc_cxPairs r.nodup r.subs]
  unfold groupsOf simplesOf
  rw [hk, hc, itemsOf_getS, List.map_map]
  congr 1
  exact List.map_congr_left fun f hf => by
    simp only [Function.comp, r.sel_canonical hc hf]

end Rendered

theorem simpleFirst_split {α : Type} (p : α → Bool) : ∀ (l : List α),
    simpleFirst (l.map p) = true → l.filter p ++ l.filter (fun a => !p a) = l
  | [], _ => rfl
  | a :: l, h => by
    cases hp : p a with
    | true =>
      simp only [List.map_cons, hp, simpleFirst] at h
      simp [hp, simpleFirst_split p l h]
    | false =>
      simp only [List.map_cons, hp, simpleFirst, List.all_map, List.all_eq_true,
        Function.comp_apply, Bool.not_eq_true'] at h
      have h1 : l.filter p = [] := by
        rw [List.filter_eq_nil_iff]; intro x hx; simp [h x hx]
      have h2 : l.filter (fun a => !p a) = l := by
        rw [List.filter_eq_self]; intro x hx; simp [h x hx]
      simp [hp, h1, h2]

/-- `int(name) - 1` of a name that reads as an integer -/
def keyOf (s : Str) : Int :=
  match pyInt s with
  | .ok i => i - 1
  | _ => 0

theorem collectInts_all : ∀ (F : List Field), (∀ f ∈ F, ∃ i, pyInt f.1 = .ok i) →
    collectInts F = .ok (F.map (fun f => (keyOf f.1, f.2.1, f.2.2)))
  | [], _ => rfl
  | (k, t, d) :: F, h => by
    obtain ⟨i, hi⟩ := h (k, t, d) (by simp)
    have ih := collectInts_all F (fun f hf => h f (by simp [hf]))
    simp [collectInts, hi, ih, keyOf]

/-- an upper bound that is attained is the maximum -/
theorem maxKey_eq {b : Int} : ∀ (r : List (Int × Ty × Val)) (m : Int), m ≤ b → (∀ p ∈ r, p.1 ≤ b) →
    (m = b ∨ ∃ p ∈ r, p.1 = b) → maxKey m r = b
  | [], m, _, _, h => by simpa [maxKey] using h
  | (k, x) :: r, m, hm, hr, h => by
    have hk : k ≤ b := hr (k, x) (by simp)
    refine maxKey_eq r _ (by split <;> omega) (fun p hp => hr p (by simp [hp])) ?_
    rcases h with h | ⟨p, hp, e⟩
    · exact Or.inl (by split <;> omega)
    · rcases List.mem_cons.mp hp with rfl | hp
      · exact Or.inl (by simp only at e; split <;> omega)
      · exact Or.inr ⟨p, hp, e⟩

theorem fillList_spec : ∀ (ints : List (Int × Ty × Val)) (out : List Val),
    (∀ p ∈ ints, 0 ≤ p.1 ∧ p.1 < out.length) → (ints.map (fun p => p.1)).Nodup →
    ∃ out', fillList ints out = .ok out' ∧ out'.length = out.length ∧
      (∀ p ∈ ints, out'[p.1.toNat]? = some p.2.2) ∧
      (∀ j : Nat, (∀ p ∈ ints, p.1 ≠ (j : Int)) → out'[j]? = out[j]?)
  | [], out, _, _ => ⟨out, rfl, rfl, by simp, by simp⟩
  | (k, t, d) :: r, out, hr, hd => by
    have hk := hr (k, t, d) (by simp)
    simp only at hk
    have hd' := List.nodup_cons.mp hd
    have hset : pySet out k d = .ok (out.set k.toNat d) := by
      unfold pySet
      simp [hk.1, hk.2]
    obtain ⟨out', e1, e2, e3, e4⟩ := fillList_spec r (out.set k.toNat d)
      (by intro p hp; simpa using hr p (by simp [hp])) hd'.2
    refine ⟨out', ?_, ?_, ?_, ?_⟩
    · simp only [fillList, hset]; exact e1
    · simpa using e2
    · intro p hp
      rcases List.mem_cons.mp hp with e | e
      · subst e
        simp only
        have hnot : ∀ q ∈ r, q.1 ≠ ((k.toNat : Nat) : Int) := by
          intro q hq e
          apply hd'.1
          have : q.1 = k := by omega
          exact List.mem_map.mpr ⟨q, hq, this⟩
        rw [e4 k.toNat hnot, List.getElem?_set]
        have : k.toNat < out.length := by omega
        simp [this]
      · exact e3 p e
    · intro j hj
      have hjk : k ≠ (j : Int) := hj (k, t, d) (by simp)
      rw [e4 j (fun p hp => hj p (by simp [hp])), List.getElem?_set_ne]
      omega

theorem dictToList_spec {ints : List (Int × Ty × Val)} {n : Nat} (hn : 0 < n)
    (hk : (ints.map (fun p => p.1)).Perm ((List.range n).map (fun j : Nat => (j : Int)))) :
    ∃ ds, dictToList ints = .ok ds ∧ ds.length = n ∧
      ∀ p ∈ ints, ds[p.1.toNat]? = some p.2.2 := by
  have hnd : (ints.map (fun p => p.1)).Nodup := by
    rw [hk.nodup_iff]
    exact nodup_map_on _ _ List.nodup_range (fun a _ b _ e => by omega)
  have hrange : ∀ p ∈ ints, 0 ≤ p.1 ∧ p.1 < (n : Int) := by
    intro p hp
    have := hk.subset (List.mem_map.mpr ⟨p, hp, rfl⟩)
    obtain ⟨j, hj, e⟩ := List.mem_map.mp this
    have := List.mem_range.mp hj
    omega
  have hlast : ∃ p ∈ ints, p.1 = ((n - 1 : Nat) : Int) := by
    have : ((n - 1 : Nat) : Int) ∈ (List.range n).map (fun j : Nat => (j : Int)) :=
      List.mem_map.mpr ⟨n - 1, List.mem_range.mpr (by omega), rfl⟩
    obtain ⟨p, hp, e⟩ := List.mem_map.mp (hk.symm.subset this)
    exact ⟨p, hp, e⟩
  cases ints with
  | nil => obtain ⟨p, hp, _⟩ := hlast; cases hp
  | cons p0 r =>
    obtain ⟨k, td⟩ := p0
    have hmx : maxKey k r = ((n - 1 : Nat) : Int) := by
      obtain ⟨p, hp, e⟩ := hlast
      refine maxKey_eq r k ?_ (fun q hq => ?_) ((List.mem_cons.mp hp).imp (fun h => by subst h; exact e) fun h => ⟨p, h, e⟩)
      · have := (hrange (k, td) (by simp)).2; omega
      · have := (hrange q (by simp [hq])).2; omega
    have hlen : (maxKey k r + 1).toNat = n := by rw [hmx]; omega
    obtain ⟨out', e1, e2, e3, _⟩ := fillList_spec ((k, td) :: r) (List.replicate n Val.none)
      (by intro p hp; simpa using hrange p hp) hnd
    refine ⟨out', ?_, by simpa using e2, e3⟩
    simp only [dictToList, hlen]
    exact e1

theorem keyOf_natToStr (j : Nat) : keyOf (natToStr (j + 1)) = (j : Int) := by
  simp [keyOf, pyInt_natToStr]

theorem idxFields_names (t : Ty) : ∀ (i : Nat) (ds : List Val),
    (idxFields i t ds).map (fun f => f.1) = (List.range ds.length).map (fun j => natToStr (i + j))
  | _, [] => by simp [idxFields]
  | i, d :: ds => by
    simp only [idxFields, List.map_cons, List.length_cons, List.range_succ_eq_map,
      idxFields_names t (i + 1) ds, List.map_map]
    simp [Function.comp_def, Nat.add_assoc, Nat.add_comm 1]

theorem mem_idxFields (t : Ty) : ∀ {i : Nat} {ds : List Val} {f : Field}, f ∈ idxFields i t ds →
    (∃ j, f.1 = natToStr (i + j)) ∧ f.2.1 = t ∧ f.2.2 ∈ ds
  | i, d :: ds, f, h => by
    simp only [idxFields, List.mem_cons] at h
    rcases h with e | e
    · subst e; exact ⟨⟨0, rfl⟩, rfl, by simp⟩
    · obtain ⟨⟨j, e⟩, e1, e2⟩ := mem_idxFields t e
      exact ⟨⟨j + 1, by rw [e, Nat.add_assoc, Nat.add_comm 1]⟩, e1, by simp [e2]⟩

theorem idxFields_mem (t : Ty) : ∀ (i : Nat) (ds : List Val) (j : Nat) (h : j < ds.length),
    (natToStr (i + j), t, ds[j]) ∈ idxFields i t ds
  | i, d :: ds, 0, _ => by simp [idxFields]
  | i, d :: ds, j + 1, h => by
    have := idxFields_mem t (i + 1) ds j (by simpa using h)
    simp only [idxFields, List.mem_cons, List.getElem_cons_succ]
    right
    rw [show i + (j + 1) = i + 1 + j by omega]; exact this

theorem idxFields_simple (t : Ty) : ∀ (i : Nat) (ds : List Val),
    (idxFields i t ds).map (fun f => isSimple f.2.1 f.2.2) = ds.map (fun d => isSimple t d)
  | _, [] => rfl
  | i, d :: ds => by simp [idxFields, idxFields_simple t (i + 1) ds]

theorem idxFields_nodup (t : Ty) (i : Nat) (ds : List Val) :
    ((idxFields i t ds).map (fun f => f.1)).Nodup := by
  rw [idxFields_names]
  exact nodup_map_on _ _ List.nodup_range (fun a _ b _ e => by have := natToStr_inj e; omega)

/-- List detection on a field list that is, up to maps `g₁`, `g₂` of the types and the defaults, a
permutation of the entries of an indexed list (so its names are `1 … n` in some order): the element
type is the type of one of the fields, the default list has the defaults at their indices — both
as in the indexed list up to `g₁`, `g₂` (`id`: exactly; `norm`: up to the order of the fields). -/
theorem finish_indexed {β γ : Type} (g₁ : Ty → β) (g₂ : Val → γ) (t : Ty) (ds : List Val)
    (hne : ds ≠ []) (F : List Field)
    (hF : (F.map fun f => (f.1, g₁ f.2.1, g₂ f.2.2)).Perm
      ((idxFields 1 t ds).map fun f => (f.1, g₁ f.2.1, g₂ f.2.2))) :
    ∃ t' ds', finish F = .ok (.list t', .list ds') ∧ g₁ t' = g₁ t ∧ ds'.map g₂ = ds.map g₂ := by
  have hnames : (F.map (fun f => f.1)).Perm ((List.range ds.length).map (fun j => natToStr (j + 1))) := by
    have := hF.map (fun p => p.1)
    simpa [List.map_map, Function.comp_def, idxFields_names, Nat.add_comm 1] using this
  have hci := collectInts_all F fun f hf => by
    obtain ⟨j, _, e⟩ := List.mem_map.mp (hnames.subset (List.mem_map_of_mem hf))
    exact ⟨_, e ▸ pyInt_natToStr _⟩
  have hkeys : ((F.map (fun f => (keyOf f.1, f.2.1, f.2.2))).map (fun p => p.1)).Perm
      ((List.range ds.length).map (fun j : Nat => (j : Int))) := by
    simpa [List.map_map, Function.comp_def, keyOf_natToStr] using hnames.map keyOf
  obtain ⟨ds', d1, d2, d3⟩ := dictToList_spec (List.length_pos_iff.mpr hne) hkeys
  obtain ⟨f₀, hf₀⟩ := Option.isSome_iff_exists.mp (List.getLast?_isSome.mpr fun e : F = [] => by
    subst e; exact hne (List.length_eq_zero_iff.mp (by simpa using hnames.length_eq.symm)))
  refine ⟨f₀.2.1, ds', by simp only [finish, hci, List.getLast?_map, hf₀, Option.map_some, d1], ?_,
    List.ext_getElem? fun j => ?_⟩
  · obtain ⟨g, hg, eg⟩ := List.mem_map.mp
      (hF.subset (List.mem_map_of_mem (List.mem_of_getLast? hf₀)))
    rw [← (mem_idxFields t hg).2.1]
    exact (congrArg (fun p => p.2.1) eg).symm
  · by_cases hj : j < ds.length
    · obtain ⟨f, hf, ef⟩ := List.mem_map.mp (hF.symm.subset
        (List.mem_map_of_mem (idxFields_mem t 1 ds j hj)))
      simp only [Prod.mk.injEq] at ef
      have : ds'[j]? = some f.2.2 := by
        simpa [ef.1, Nat.add_comm 1, keyOf_natToStr] using
          d3 _ (List.mem_map_of_mem (f := fun f : Field => (keyOf f.1, f.2.1, f.2.2)) hf)
      simp [List.getElem?_map, this, ef.2.2, hj]
    · rw [List.getElem?_eq_none (by simp; omega), List.getElem?_eq_none (by simp; omega)]

theorem finish_idxFields (t : Ty) (ds : List Val) (hne : ds ≠ []) :
    finish (idxFields 1 t ds) = .ok (.list t, .list ds) := by
  obtain ⟨t', ds', e, e1, e2⟩ := finish_indexed id id t ds hne _ (List.Perm.refl _)
  rw [e, show t' = t from e1, show ds' = ds by simpa using e2]

mutual
theorem Val.eq_of_beq : ∀ (a b : Val), Val.beq a b = true → a = b
  | .none, b, h | .str _, b, h | .int _, b, h | .float _, b, h | .bool _, b, h => by
    cases b <;> simp_all [Val.beq]
  | .list as, b, h => by
    cases b with
    | list bs => rw [Val.eqL_of_beqL as bs (by simpa [Val.beq] using h)]
    | _ => simp [Val.beq] at h
  | .record as, b, h => by
    cases b with
    | record bs => rw [Val.eqR_of_beqR as bs (by simpa [Val.beq] using h)]
    | _ => simp [Val.beq] at h
theorem Val.eqL_of_beqL : ∀ (a b : List Val), Val.beqL a b = true → a = b
  | [], b, h => by cases b <;> simp_all [Val.beqL]
  | x :: as, b, h => by
    cases b with
    | nil => simp [Val.beqL] at h
    | cons y bs =>
      simp only [Val.beqL, Bool.and_eq_true] at h
      rw [Val.eq_of_beq x y h.1, Val.eqL_of_beqL as bs h.2]
theorem Val.eqR_of_beqR : ∀ (a b : List (Str × Val)), Val.beqR a b = true → a = b
  | [], b, h => by cases b <;> simp_all [Val.beqR]
  | (k, x) :: as, b, h => by
    cases b with
    | nil => simp [Val.beqR] at h
    | cons y bs =>
      obtain ⟨k', y⟩ := y
      simp only [Val.beqR, Bool.and_eq_true, beq_iff_eq] at h
      rw [h.1.1, Val.eq_of_beq x y h.1.2, Val.eqR_of_beqR as bs h.2]
end

mutual
theorem Val.beq_refl : ∀ (a : Val), Val.beq a a = true
  | .none => rfl
  | .str _ | .int _ | .float _ | .bool _ => by simp [Val.beq]
  | .list as => by simp [Val.beq, Val.beqL_refl as]
  | .record as => by simp [Val.beq, Val.beqR_refl as]
theorem Val.beqL_refl : ∀ (a : List Val), Val.beqL a a = true
  | [] => rfl
  | x :: as => by simp [Val.beqL, Val.beq_refl x, Val.beqL_refl as]
theorem Val.beqR_refl : ∀ (a : List (Str × Val)), Val.beqR a a = true
  | [] => rfl
  | (k, x) :: as => by simp [Val.beqR, Val.beq_refl x, Val.beqR_refl as]
end

theorem fam_children {t : Ty} {d : Val} (hf : famTD t d = true) (hs : isSimple t d = false) :
    simpleFirst ((childFields t d).map (fun f => isSimple f.2.1 f.2.2)) = true ∧
    (∀ f ∈ childFields t d, famTD f.2.1 f.2.2 = true) ∧
    finish (childFields t d) = .ok (t, d) := by
  induction t, d, hs using complex_cases with
  | model fs d =>
    simp only [famTD, Bool.and_eq_true, Bool.not_eq_true', List.isEmpty_eq_false_iff] at hf
    obtain ⟨⟨⟨_, hfam⟩, hnames⟩, hd⟩ := hf
    obtain ⟨hn, n6⟩ := namesOk_unpack hnames
    have := Val.eq_of_beq _ _ hd
    subst this
    exact ⟨n6, famFs_mem hfam, finish_model fs fun f hf => (hn f hf).2⟩
  | list t d ds =>
    simp only [famTD, Bool.and_eq_true, List.all_eq_true] at hf
    refine ⟨?_, fun f hf' => ?_, finish_idxFields t (d :: ds) (by simp)⟩
    · simp only [childFields]; rw [idxFields_simple]; exact hf.2
    · have := (mem_idxFields t hf').2
      rw [this.1]
      exact hf.1 _ this.2

theorem mem_renderFs : ∀ {fs : List Field} {f : Field} {x : Str}, f ∈ fs →
    x ∈ renderTD f.2.1 f.2.2 → f.1 ++ x ∈ renderFs fs
  | (n, t, d) :: fs, f, x, hf, hx => by
    rw [renderFs]
    rcases List.mem_cons.mp hf with e | e
    · subst e
      exact List.mem_append_left _ (List.mem_map.mpr ⟨x, hx, rfl⟩)
    · exact List.mem_append_right _ (mem_renderFs e hx)

theorem renderFs_ne_nil : ∀ {fs : List Field}, fs ≠ [] →
    (∀ f ∈ fs, renderTD f.2.1 f.2.2 ≠ []) → renderFs fs ≠ []
  | (n, t, d) :: fs, _, h => by
    rw [renderFs]
    have := h (n, t, d) (by simp)
    simp only at this
    simp [this]

theorem sub_mem_renderFs {cf : List Field} {f : Field} (hf : f ∈ cf)
    (hsf : isSimple f.2.1 f.2.2 = false) {s : Str} (hs : s ∈ subOf f) :
    f.1 ++ sepField :: s ∈ renderFs cf := by
  apply mem_renderFs hf
  rw [renderTD_complex hsf]
  exact List.mem_map.mpr ⟨s, hs, rfl⟩

theorem subOf_ne_nil {f : Field} (hsf : isSimple f.2.1 f.2.2 = false)
    (h : renderTD f.2.1 f.2.2 ≠ []) : subOf f ≠ [] := by
  rw [renderTD_complex hsf] at h
  simpa [subOf] using h

end Rpft.Infer
