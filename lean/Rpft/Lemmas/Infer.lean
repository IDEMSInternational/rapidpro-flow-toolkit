/-
Lemmas for C18 about `Rpft/Infer.lean` below the two loops: the Python string and integer
helpers, type strings, what a text must satisfy to be found again as name, type or default
(`NameFits`, `DefFits`, `Plain`), one annotated header read back (`leaf_roundtrip`), and the tail of
`model_from_headers_rec` on a field list of record names (`RecName`, `finish_model`); the family with
the simple fields first lies inside the family without that condition (`fam_wfTD`).
-/
import Rpft.Infer
import Rpft.Lemmas.Str
namespace Rpft.Infer
open Rpft

theorem splitFirst_none {c : Char} : ∀ {s : Str}, c ∉ s → splitFirst c s = none
  | [], _ => rfl
  | x :: s, h => by
    have hx : x ≠ c := fun e => h (by simp [e])
    have hs : c ∉ s := fun e => h (by simp [e])
    simp [splitFirst, hx, splitFirst_none hs]

theorem splitFirst_append {c : Char} : ∀ {a : Str} (b : Str), c ∉ a →
    splitFirst c (a ++ c :: b) = some (a, b)
  | [], b, _ => by simp [splitFirst]
  | x :: a, b, h => by
    have hx : x ≠ c := fun e => h (by simp [e])
    have hs : c ∉ a := fun e => h (by simp [e])
    simp [splitFirst, hx, splitFirst_append b hs]

theorem takeUntil_prefix {c : Char} : ∀ {a : Str} (b : Str), c ∉ a →
    takeUntil c (a ++ b) = a ++ takeUntil c b
  | [], b, _ => by simp
  | x :: a, b, h => by
    have hx : x ≠ c := fun e => h (by simp [e])
    have hs : c ∉ a := fun e => h (by simp [e])
    simp [takeUntil, hx, takeUntil_prefix b hs]

theorem takeUntil_none {c : Char} {s : Str} (h : c ∉ s) : takeUntil c s = s := by
  simpa [takeUntil] using takeUntil_prefix [] h

theorem takeUntil_append {c : Char} {a : Str} (b : Str) (h : c ∉ a) :
    takeUntil c (a ++ c :: b) = a := by
  simp [takeUntil_prefix _ h, takeUntil]

/-- a text that the three `split`s and the `strip` of the header readers leave whole -/
structure NameFits (n : Str) : Prop where
  noField : sepField ∉ n
  noType : sepType ∉ n
  noDefault : sepDefault ∉ n
  stripped : strip pyWs n = n

/-- a default (the text after `=`, if any) that the `strip` of `infer_default_value` leaves whole -/
def DefFits : Option Str → Prop
  | none => True
  | some D => strip pyWs D = D

/-- no blank and none of the three separators: such a text can stand as name, type or default -/
def Plain (s : Str) : Prop :=
  ∀ c ∈ s, pyWs c = false ∧ c ≠ sepField ∧ c ≠ sepType ∧ c ≠ sepDefault

theorem Plain.nameFits {s : Str} (h : Plain s) : NameFits s :=
  ⟨fun m => (h _ m).2.1 rfl, fun m => (h _ m).2.2.1 rfl, fun m => (h _ m).2.2.2 rfl,
    strip_of_no_ws _ fun c hc => (h c hc).1⟩

theorem Plain.append {a b : Str} (ha : Plain a) (hb : Plain b) : Plain (a ++ b) :=
  fun c hc => (List.mem_append.mp hc).elim (ha c) (hb c)

theorem NameFits.defFits {D : Str} (h : NameFits D) : DefFits (some D) := h.stripped

theorem takeUntil_dflStr {a : Str} (X : Option Str) (h : sepDefault ∉ a) :
    takeUntil sepDefault (a ++ dflStr X) = a := by
  cases X with
  | none => simpa [dflStr] using takeUntil_none h
  | some D => exact takeUntil_append D h

theorem inferDefault_dflStr {a : Str} {X : Option Str} (t : Ty) (h : sepDefault ∉ a)
    (hX : DefFits X) : inferDefaultValue t (a ++ dflStr X) = valueForType t X := by
  unfold inferDefaultValue
  cases X with
  | none => rw [dflStr, List.append_nil, splitFirst_none h]
  | some D => rw [dflStr, splitFirst_append D h]; simp only [show strip pyWs D = D from hX]

theorem digitChar_toNat : ∀ d, d < 10 → (digitChar d).toNat = 48 + d := by decide

theorem digitChar_isDigit (d : Nat) (h : d < 10) : isDigit (digitChar d) = true := by
  simp [isDigit, digitChar_toNat d h]; omega

theorem valOf_snoc (s : Str) (c : Char) : valOf (s ++ [c]) = valOf s * 10 + (c.toNat - 48) := by
  simp [valOf, List.foldl_append]

theorem natToStrAux_spec : ∀ (f n : Nat), n ≤ f →
    natToStrAux f n ≠ [] ∧ (natToStrAux f n).all isDigit = true ∧ valOf (natToStrAux f n) = n
  | 0, n, h => by
    have : n = 0 := by omega
    subst this
    decide
  | f + 1, n, h => by
    unfold natToStrAux
    by_cases hn : n < 10
    · simp only [hn, if_true]
      refine ⟨by simp, by simp [digitChar_isDigit n hn], ?_⟩
      simp [valOf, digitChar_toNat n hn]
    · simp only [hn, if_false]
      have ih := natToStrAux_spec f (n / 10) (by omega)
      have hm : n % 10 < 10 := Nat.mod_lt _ (by omega)
      refine ⟨by simp, ?_, ?_⟩
      · simp [List.all_append, ih.2.1, digitChar_isDigit _ hm]
      · rw [valOf_snoc, ih.2.2, digitChar_toNat _ hm]; omega

theorem natToStr_spec (n : Nat) :
    natToStr n ≠ [] ∧ (natToStr n).all isDigit = true ∧ valOf (natToStr n) = n :=
  natToStrAux_spec n n (Nat.le_refl n)

theorem natToStr_inj {i j : Nat} (h : natToStr i = natToStr j) : i = j := by
  have a := (natToStr_spec i).2.2
  have b := (natToStr_spec j).2.2
  rw [h] at a; omega

/-- a digit is plain and no sign -/
theorem isDigit_facts : ∀ c : Char, isDigit c = true →
    (pyWs c = false ∧ c ≠ sepField ∧ c ≠ sepType ∧ c ≠ sepDefault) ∧ c ≠ '+' ∧ c ≠ '-' := by
  intro c h
  simp only [isDigit, Bool.and_eq_true, decide_eq_true_eq] at h
  have h1 : 48 ≤ c.toNat := by simpa using h.1
  have h2 : c.toNat ≤ 57 := by simpa using h.2
  have key : ∀ k : Char, (k.toNat < 48 ∨ 57 < k.toNat) → c ≠ k := by
    intro k hk e; subst e; omega
  refine ⟨⟨?_, key _ (by decide), key _ (by decide), key _ (by decide)⟩, key _ (by decide),
    key _ (by decide)⟩
  unfold pyWs pyWhitespaceCodes
  simp only [List.contains_eq_mem, List.mem_cons, List.mem_nil_iff, or_false, decide_eq_false_iff_not]
  omega

theorem parseIntCore_digits {s : Str} (hne : s ≠ []) (hd : s.all isDigit = true) :
    parseIntCore s = .ok (valOf s : Int) := by
  cases s with
  | nil => exact absurd rfl hne
  | cons c r =>
    have hc : isDigit c = true := by simp [List.all_cons] at hd; exact hd.1
    have f := isDigit_facts c hc
    unfold parseIntCore
    simp [f.2.1, f.2.2, hd]

theorem parseIntCore_neg {s : Str} (hne : s ≠ []) (hd : s.all isDigit = true) :
    parseIntCore ('-' :: s) = .ok (-(valOf s : Int)) := by
  unfold parseIntCore
  simp [hne, hd]

theorem plain_natToStr (n : Nat) : Plain (natToStr n) := fun c hc =>
  (isDigit_facts c (List.all_eq_true.mp (natToStr_spec n).2.1 c hc)).1

theorem plain_intToStr (i : Int) : Plain (intToStr i) := by
  unfold intToStr
  split
  · intro c hc
    rcases List.mem_cons.mp hc with rfl | h
    · decide
    · exact plain_natToStr _ c h
  · exact plain_natToStr _

theorem pyInt_intToStr (i : Int) : pyInt (intToStr i) = .ok i := by
  unfold pyInt
  rw [(plain_intToStr i).nameFits.stripped]
  have sp := natToStr_spec i.natAbs
  unfold intToStr
  split
  · rw [parseIntCore_neg sp.1 sp.2.1, sp.2.2]; congr 1; omega
  · rw [parseIntCore_digits sp.1 sp.2.1, sp.2.2]; congr 1; omega

theorem pyInt_natToStr (n : Nat) : pyInt (natToStr n) = .ok (n : Int) := by
  have := pyInt_intToStr (n : Int)
  have h0 : ¬ ((n : Int) < 0) := by omega
  simpa [intToStr, h0] using this

theorem plain_renderTy : ∀ t, annTy t = true → Plain (renderTy t)
  | .str, _ | .int, _ | .float, _ | .bool, _ | .anyList, _ => by unfold Plain; decide
  | .model _, h => by simp [annTy] at h
  | .list t, h =>
    ((show Plain sListOpen by unfold Plain; decide).append
      (plain_renderTy t (by simpa [annTy] using h))).append (by unfold Plain; decide)

theorem renderTy_ne_nil : ∀ t, renderTy t ≠ []
  | .str | .int | .float | .bool | .anyList | .model _ => by simp [renderTy, sStr, sInt, sFloat, sBool, sList]
  | .list t => by simp [renderTy, sListOpen]

theorem parseTy_render : ∀ t, annTy t = true → ∀ n, (renderTy t).length < n →
    parseTyFuel n (renderTy t) = some t
  | _, _, 0, h => by omega
  | .str, _, _ + 1, _ | .int, _, _ + 1, _ | .float, _, _ + 1, _ | .bool, _, _ + 1, _
  | .anyList, _, _ + 1, _ => rfl
  | .model _, h, _, _ => by simp [annTy] at h
  | .list t, h, n + 1, hl => by
    have ih := parseTy_render t (by simpa [annTy] using h) n
      (by simp [renderTy, sListOpen] at hl; omega)
    simp [parseTyFuel, renderTy, sStr, sInt, sFloat, sBool, sList, sListOpen, stripPrefix, ih]

theorem typeFromString_render (t : Ty) (h : annTy t = true) :
    typeFromString (renderTy t) = .ok t := by
  unfold typeFromString
  simp [renderTy_ne_nil, parseTy_render t h _ (Nat.lt_succ_self _)]

/-- the header `h` is read as the simple field `(n, t, d)` -/
structure ReadsAs (h n : Str) (t : Ty) (d : Val) : Prop where
  name : getFieldName h = n
  parse : parseHeaderAnnotations h = .ok (t, d)

theorem parseHA_of {h : Str} {t : Ty} {d : Val} (h1 : inferType h = .ok t)
    (h2 : inferDefaultValue t h = .ok d) : parseHeaderAnnotations h = .ok (t, d) := by
  simp [parseHeaderAnnotations, h1, h2, bind, Except.bind, pure, Except.pure]

/-- `name:T` or `name:T=default`, the texts `T` and `default` read as `t` and `d` -/
theorem leaf_typed {n T : Str} {X : Option Str} {t : Ty} {d : Val} (hn : NameFits n)
    (hT : NameFits T) (hX : DefFits X) (ht : typeFromString T = .ok t)
    (hv : valueForType t X = .ok d) : ReadsAs (n ++ sepType :: (T ++ dflStr X)) n t d := by
  obtain ⟨_, n2, n3, n4⟩ := hn
  obtain ⟨_, _, T3, T4⟩ := hT
  refine ⟨?_, parseHA_of ?_ ?_⟩
  · unfold getFieldName; rw [takeUntil_append _ n2, takeUntil_none n3, n4]
  · unfold inferType; rw [splitFirst_append _ n2]; simp only []; rw [takeUntil_dflStr X T3, T4, ht]
  · rw [show n ++ sepType :: (T ++ dflStr X) = (n ++ sepType :: T) ++ dflStr X by simp,
      inferDefault_dflStr t (by simp [n3, T3, show sepDefault ≠ sepType by decide]) hX, hv]

/-- `name` or `name=default`: a text -/
theorem leaf_untyped {n : Str} {X : Option Str} {d : Val} (hn : NameFits n)
    (hX : DefFits X) (hc : sepType ∉ dflStr X) (hv : valueForType .str X = .ok d) :
    ReadsAs (n ++ dflStr X) n .str d := by
  obtain ⟨_, n2, n3, n4⟩ := hn
  have h2 : sepType ∉ n ++ dflStr X := by simp [n2, hc]
  refine ⟨?_, parseHA_of ?_ ((inferDefault_dflStr .str n3 hX).trans hv)⟩
  · unfold getFieldName; rw [takeUntil_none h2, takeUntil_dflStr X n3, n4]
  · unfold inferType; rw [splitFirst_none h2]; rfl

theorem defFits_int (i : Int) : DefFits (if i = 0 then none else some (intToStr i)) := by
  split
  · trivial
  · exact (plain_intToStr i).nameFits.defFits

theorem value_int (i : Int) :
    valueForType .int (if i = 0 then none else some (intToStr i)) = .ok (.int i) := by
  split
  · next h => subst h; rfl
  · simp [valueForType, pyInt_intToStr]

theorem value_float (i : Int) :
    valueForType .float (if i = 0 then none else some (intToStr i)) = .ok (.float i) := by
  split
  · next h => subst h; rfl
  · simp [valueForType, pyInt_intToStr]

/-- a field with a written type: `name:type` or `name:type=default` -/
theorem leaf_annotated {n : Str} (hn : NameFits n) {t : Ty} {d : Val} (ha : annTy t = true)
    (hann : annOf t = sepType :: renderTy t) (hX : DefFits (dflX d))
    (hv : valueForType t (dflX d) = .ok d) : ReadsAs (n ++ (annOf t ++ dflOf d)) n t d := by
  rw [hann]
  simp only [dflOf, List.cons_append]
  exact leaf_typed hn (plain_renderTy t ha).nameFits hX (typeFromString_render t ha) hv

theorem leaf_roundtrip {n : Str} (hn : NameFits n) : ∀ {t : Ty} {d : Val},
    isSimple t d = true → wfTD t d = true → ReadsAs (n ++ (annOf t ++ dflOf d)) n t d
  | .str, d, _, hf => by
    cases d with
    | str s =>
      simp only [wfTD, defStrOk, Bool.and_eq_true, Bool.not_eq_true', beq_iff_eq,
        List.contains_eq_mem, decide_eq_false_iff_not] at hf
      obtain ⟨⟨_, s2⟩, s3⟩ := hf
      have hX : DefFits (if s = [] then none else some s) := by
        split
        · trivial
        · exact s3
      have hc : sepType ∉ dflStr (if s = [] then none else some s) := by
        split <;> simp [dflStr, s2, show sepType ≠ sepDefault by decide]
      simp only [annOf, dflOf, dflX, List.nil_append]
      exact leaf_untyped hn hX hc (by split <;> simp_all [valueForType])
    | _ => simp [wfTD] at hf
  | .int, d, _, hf => by
    cases d with
    | int i => exact leaf_annotated hn rfl rfl (defFits_int i) (value_int i)
    | _ => simp [wfTD] at hf
  | .float, d, _, hf => by
    cases d with
    | float i => exact leaf_annotated hn rfl rfl (defFits_int i) (value_float i)
    | _ => simp [wfTD] at hf
  | .bool, d, _, hf => by
    cases d with
    | bool b =>
      cases b with
      | false => exact leaf_annotated hn rfl rfl trivial rfl
      | true =>
        exact leaf_annotated hn rfl rfl (show strip pyWs _ = _ by decide)
          (by simp [valueForType, dflX, strToBool, lowerAscii])
    | _ => simp [wfTD] at hf
  | .anyList, d, _, hf => by
    cases d with
    | list l =>
      cases l with
      | nil => exact leaf_annotated hn rfl rfl trivial rfl
      | cons _ _ => simp [wfTD] at hf
    | _ => simp [wfTD] at hf
  | .list t, d, hs, hf => by
    cases d with
    | list l =>
      cases l with
      | nil => exact leaf_annotated hn (by simpa [wfTD, annTy] using hf) rfl trivial rfl
      | cons _ _ => simp [isSimple] at hs
    | _ => simp [wfTD] at hf
  | .model _, _, hs, _ => by simp [isSimple] at hs

theorem renderTD_simple : ∀ {t : Ty} {d : Val}, isSimple t d = true →
    renderTD t d = [annOf t ++ dflOf d]
  | .model _, _, h => by simp [isSimple] at h
  | .list _, .list (_ :: _), h => by simp [isSimple] at h
  | .list _, .list [], _ | .list _, .none, _ | .list _, .str _, _ | .list _, .int _, _
  | .list _, .float _, _ | .list _, .bool _, _ | .list _, .record _, _ => by simp [renderTD]
  | .str, _, _ | .int, _, _ | .float, _, _ | .bool, _, _ | .anyList, _, _ => by simp [renderTD]

theorem collectInts_none : ∀ (fs : List Field), (∀ f ∈ fs, pyInt f.1 = .invalid) →
    collectInts fs = .ok []
  | [], _ => rfl
  | (k, t, d) :: fs, h => by
    have h1 : pyInt k = .invalid := h (k, t, d) (by simp)
    simp [collectInts, h1, collectInts_none fs (fun f hf => h f (by simp [hf]))]

theorem shadowCheck_ok : ∀ (fs : List Field), (∀ f ∈ fs, shadowNames.contains f.1 = false) →
    shadowCheck fs = .ok ()
  | [], _ => rfl
  | (k, t, d) :: fs, h => by
    have h1 : shadowNames.contains k = false := h (k, t, d) (by simp)
    simp only [shadowCheck, h1]
    exact shadowCheck_ok fs (fun f hf => h f (by simp [hf]))

/-- a name `create_model` takes as a field of a record: no integer, no leading `_`, no attribute
of `ParserModel` -/
structure RecName (n : Str) : Prop where
  notInt : pyInt n = .invalid
  noUnderscore : (n.head? == some '_') = false
  notShadowing : shadowNames.contains n = false

theorem finish_model (fs : List Field) (h : ∀ f ∈ fs, RecName f.1) :
    finish fs = .ok (.model fs, defaultRecord fs) := by
  have h2 : fs.any (fun f => f.1.head? == some '_') = false := by
    rw [List.any_eq_false]; intro f hf; simp [(h f hf).noUnderscore]
  simp [finish, collectInts_none fs fun f hf => (h f hf).notInt, nameCheck, h2,
    shadowCheck_ok fs fun f hf => (h f hf).notShadowing]

theorem nodupStr_iff : ∀ (l : List Str), nodupStr l = true ↔ l.Nodup
  | [] => by simp [nodupStr]
  | a :: l => by
    simp [nodupStr, nodupStr_iff l]

theorem nameOk_unpack {n : Str} (h : nameOk n = true) :
    NameFits n ∧ (n.head? == some '_') = false ∧ shadowNames.contains n = false := by
  simp only [nameOk, Bool.and_eq_true, Bool.not_eq_true', beq_iff_eq, List.contains_eq_mem,
    decide_eq_false_iff_not] at h
  obtain ⟨⟨⟨⟨⟨a1, a2⟩, a3⟩, a4⟩, a5⟩, a6⟩ := h
  exact ⟨⟨a1, a2, a3, a4⟩, a5, by simpa using a6⟩

theorem namesOkU_unpack {fs : List Field} (h : namesOkU fs = true) :
    (∀ f ∈ fs, NameFits f.1 ∧ RecName f.1) ∧ (fs.map (fun f => f.1)).Nodup := by
  simp only [namesOkU, Bool.and_eq_true, List.all_eq_true, beq_iff_eq] at h
  exact ⟨fun f hf => have u := nameOk_unpack (h.1 f hf).1; ⟨u.1, (h.1 f hf).2, u.2.1, u.2.2⟩,
    (nodupStr_iff _).mp h.2⟩

theorem namesOkU_of_namesOk {fs : List Field} (h : namesOk fs = true) : namesOkU fs = true := by
  simp only [namesOk, Bool.and_eq_true] at h
  simp only [namesOkU, Bool.and_eq_true]
  exact h.1

theorem namesOk_unpack {fs : List Field} (h : namesOk fs = true) :
    (∀ f ∈ fs, NameFits f.1 ∧ RecName f.1) ∧
    simpleFirst (fs.map (fun f => isSimple f.2.1 f.2.2)) = true := by
  have n := (namesOkU_unpack (namesOkU_of_namesOk h)).1
  simp only [namesOk, Bool.and_eq_true] at h
  exact ⟨n, h.2⟩

theorem famFs_mem : ∀ {fs : List Field}, famFs fs = true → ∀ f ∈ fs, famTD f.2.1 f.2.2 = true
  | [], _, f, hf => by simp at hf
  | (n, t, d) :: fs, h, f, hf => by
    simp only [famFs, Bool.and_eq_true] at h
    rcases List.mem_cons.mp hf with e | e
    · subst e; exact h.1
    · exact famFs_mem h.2 f e

theorem wfFs_mem : ∀ {fs : List Field}, wfFs fs = true → ∀ f ∈ fs, wfTD f.2.1 f.2.2 = true
  | [], _, f, hf => by simp at hf
  | (n, t, d) :: fs, h, f, hf => by
    simp only [wfFs, Bool.and_eq_true] at h
    rcases List.mem_cons.mp hf with e | e
    · subst e; exact h.1
    · exact wfFs_mem h.2 f e

mutual
theorem fam_wfTD : ∀ (t : Ty) (d : Val), famTD t d = true → wfTD t d = true
  | .str, d, h | .int, d, h | .float, d, h | .bool, d, h => by
    cases d <;> simp_all [famTD, wfTD]
  | .anyList, d, h => by
    cases d with
    | list l => cases l <;> simp_all [famTD, wfTD]
    | _ => simp [famTD] at h
  | .list t, d, h => by
    cases d with
    | list l =>
      cases l with
      | nil => simpa [famTD, wfTD] using h
      | cons d ds =>
        simp only [famTD, Bool.and_eq_true, List.all_eq_true] at h
        simp only [wfTD, List.all_eq_true]
        exact fun x hx => fam_wfTD t x (h.1 x hx)
    | _ => simp [famTD] at h
  | .model fs, d, h => by
    simp only [famTD, Bool.and_eq_true] at h
    simp only [wfTD, Bool.and_eq_true]
    exact ⟨⟨⟨h.1.1.1, fam_wfFs fs h.1.1.2⟩, namesOkU_of_namesOk h.1.2⟩, h.2⟩
theorem fam_wfFs : ∀ (fs : List (Str × Ty × Val)), famFs fs = true → wfFs fs = true
  | [], _ => rfl
  | (_, t, d) :: fs, h => by
    simp only [famFs, Bool.and_eq_true] at h
    simp only [wfFs, Bool.and_eq_true]
    exact ⟨fam_wfTD t d h.1, fam_wfFs fs h.2⟩
end

theorem inFamilyUB_of_inFamilyB {sch : Schema} (h : inFamilyB sch = true) : inFamilyUB sch = true := by
  simp only [inFamilyB, Bool.and_eq_true] at h
  simp only [inFamilyUB, Bool.and_eq_true]
  exact ⟨fam_wfFs sch h.1, namesOkU_of_namesOk h.2⟩

theorem length_le_maxLen : ∀ {hs : List Str} {h : Str}, h ∈ hs → h.length ≤ maxLen hs
  | x :: hs, h, hm => by
    rcases List.mem_cons.mp hm with e | e
    · subst e; simp only [maxLen]; omega
    · have := length_le_maxLen e; simp only [maxLen]; omega

end Rpft.Infer
