/-
Events other than an insert row: `_parse_row`, `begin_block` / `begin_for` (`openGroup`),
`end_block` / `end_for` (`closeGroup`).
-/
import Rpft.Lemmas.CompileInsertRows
namespace Rpft.Compile
open Rpft Function

variable {P : Params} {X : SParams}

/-- a row that certainly appends a node group to the open block -/
def Row.appends (r : Row) : Bool :=
  decide (r.type ≠ "hard_exit".toList ∧ r.type ≠ "loose_exit".toList ∧ r.type ≠ "go_to".toList ∧
    r.type ≠ "insert_as_block".toList ∧ (r.type = "no_op".toList ∨ (r.nodeUuid = [] ∧ r.nodeName = [])))

structure RowPre (P : Params) (X : SParams) (s₁ : St) (r : Row) : Prop where
  edges : EdgesPre P X s₁ (dropTrivial r.edges)
  dests : ∀ d ∈ r.dests, d ∉ X.F
  given : P.ρ r.nodeUuid = r.nodeUuid
  rv : RV s₁
  names : X.nmAll = true ∨ (r.nodeUuid = [] ∧ r.nodeName = [])
  tight : P.op = true → r.type ≠ "loose_exit".toList

variable (ok : P.Ok) {s₁ s₂ : St} (h : Sim P X s₁ s₂)
include ok h

theorem parseRow_rel (r0 : Row) (hpre : RowPre P X s₁ r0) :
    rwp (parseRow r0) (parseRow r0) s₁ s₂ fun _ t₁ _ t₂ => RowPost P X s₁ (r0.appends = true) t₁ t₂ := by
  have happ := fun (ha : r0.appends = true) => of_decide_eq_true ha
  unfold parseRow
  simp only []
  refine rwp_ite (fun hx => ?_) fun h1 => ?_
  · generalize hd : (if r0.type = "hard_exit".toList then Dest.hard else Dest.none) = d
    have hdd : rnDest P.ρ d = d ∧ (P.op = true → d ≠ Dest.none) := by
      subst hd
      rcases hx with hx | hx
      · rw [if_pos hx]; exact ⟨rfl, fun _ => nofun⟩
      · exact ⟨by split <;> rfl, fun hop => absurd hx (hpre.tight hop)⟩
    have := edges_rel ok h d hpre.edges hdd.2
    rw [hdd.1] at this
    refine rwp_mono this fun _ t₁ _ t₂ hp => ⟨hp.1, hp.2.1.1, Eff.of_spost hp, fun ha => ?_⟩
    exact hx.elim (fun hx => absurd hx (happ ha).1) fun hx => absurd hx (happ ha).2.1
  refine rwp_ite (fun hx => ?_) fun h2 => ?_
  · exact rwp_mono (parseGoto_rel ok h { r0 with edges := dropTrivial r0.edges } hpre.edges hpre.dests) fun _ t₁ _ t₂ hp =>
      ⟨hp.1, hp.2.1.1, Eff.of_spost hp, fun ha => absurd hx (happ ha).2.2.1⟩
  refine rwp_ite (fun hx => ?_) fun h3 => ?_
  · exact rwp_mono (parseNoop_rel ok h r0.rowId hpre.edges hpre.rv) fun _ _ _ _ hp =>
      { hp with mr := fun _ => hp.mr trivial }
  refine rwp_ite (fun hx => rwp_fail_left) fun h4 => ?_
  exact rwp_mono (actionRow_rel ok h { r0 with edges := dropTrivial r0.edges } hpre.given hpre.edges hpre.names) fun _ _ _ _ hp =>
    { hp with mr := fun ha => (happ ha).2.2.2.2.elim (fun hx => absurd hx h3) hp.mr }

theorem openGroup_rel (edges : List Edge) (starting : Bool)
    (hpre : starting = false → EdgesPre P X s₁ (dropTrivial edges)) (hrv : RV s₁) :
    rwp (openGroup edges starting) (openGroup edges starting) s₁ s₂ (fun _ t₁ _ t₂ =>
      Sim P X t₁ t₂ ∧ t₁.stack = s₁.groups.size :: s₁.stack ∧ ¬ P.T s₁.groups.size ∧ Eff P s₁ t₁ ∧
      (starting = false → MR P t₁)) := by
  unfold openGroup
  refine rwp_addGrp_bind h (.block []) rfl (fun _ hi => nomatch hi) fun lv hne hsim => ?_
  refine rwp_bind_run rfl rfl ?_
  have hs1 : Sim P X { s₁ with groups := s₁.groups.push (.block []), stack := s₁.groups.size :: s₁.stack }
      { s₂ with groups := s₂.groups.push (.block []), stack := P.γ s₁.groups.size :: s₂.stack } :=
    Sim.of_parts hsim.1 (h.2.push s₁.groups.size lv hne)
  have hef := eff_push (P := P) s₁ lv.2
  cases starting with
  | true =>
    simp only [if_true]
    rw [rwp_pure]
    exact ⟨hs1, rfl, lv.2, hef, fun hh => by cases hh⟩
  | false =>
    simp only [Bool.false_eq_true, if_false]
    refine rwp_mono (parseNoop_rel ok hs1 [] ((hpre rfl).mono hef.mr) (hef.rv hrv)) ?_
    exact fun _ _ _ _ hp => ⟨hp.sim, hp.stack, lv.2, hef.trans hp.eff, fun _ => hp.mr trivial⟩

theorem closeGroup_rel (rowId : Str)
    (hclose : ∀ b c rest, s₁.stack = b :: c :: rest → P.T b → rowId ≠ [] → rowId ∈ X.F) (hsb : SB s₁) :
    rwp (closeGroup rowId) (closeGroup rowId) s₁ s₂ (fun _ t₁ _ t₂ =>
      Sim P X t₁ t₂ ∧ t₁.stack = s₁.stack.tail ∧ (SB s₁ → SB t₁) ∧ (RV s₁ → RV t₁) ∧ HeadKeep s₁ t₁ ∧
      (∃ b c rest, s₁.stack = b :: c :: rest) ∧
      (∀ b, s₁.stack.head? = some b → ¬ P.T b → MR P t₁ ∧ (CL P s₁ → CL P t₁))) := by
  unfold closeGroup
  rw [rwp_get, h.2.stack]
  match hst : s₁.stack with
  | [] => exact rwp_fail_left
  | [b] => exact rwp_fail_left
  | b :: c :: rest =>
    simp only [List.map_cons, List.cons_append]
    refine rwp_bind_run rfl rfl ?_
    have hs1 : Sim P X { s₁ with stack := c :: rest } { s₂ with stack := P.γ c :: (rest.map P.γ ++ X.tail) } :=
      Sim.of_parts h.1 (h.2.pop hst)
    have hdb : P.DG b := h.2.stackDG b (by rw [hst]; simp)
    have hss := h.2.ss
    rw [hst, List.pairwise_cons] at hss
    refine rwp_mono (appendGroup_rel ok hs1 rowId hdb (hsb.lt (by rw [hst]; simp)) ?_) ?_
    · intro htb
      refine ⟨?_, fun hne => hclose b c rest hst htb hne⟩
      intro b' hb'
      simp only [List.head?_cons, Option.some.injEq] at hb'
      rw [← hb']; exact hss.1 c (by simp) htb
    · rintro _ t₁ _ t₂ ⟨ht, e, hsb, hrvt, hhk, hm⟩
      have hsub : ∀ x ∈ c :: rest, x ∈ s₁.stack := fun x hx => hst ▸ List.mem_cons_of_mem _ hx
      refine ⟨ht, by rw [e]; rfl, fun hs => hsb fun x hx => hs x (hsub x hx), hrvt, hhk, ⟨b, c, rest, rfl⟩, ?_⟩
      intro b' hb' hnt
      cases hb'
      refine ⟨(hm hnt).1, fun hc => (hm hnt).2.cl ⟨fun x hx => hc.1 x (hsub x hx), fun x hx => hc.2 x ?_⟩⟩
      rw [hst, List.dropLast_cons_cons]
      exact List.mem_cons_of_mem _ hx

end Rpft.Compile
