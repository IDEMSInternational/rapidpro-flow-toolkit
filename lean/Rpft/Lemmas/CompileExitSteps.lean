/-
What `add_exit` and the operations under it (`connect_loose_exits`, the exits of a row's last node by kind, the
router node put behind a basic node or given to a `no_op` row, the edges of `no_op` and `go_to` rows) do to the
state is a sequence of three updates: a node is overwritten by one related to it (`NodeChg`), a new router node is
pushed and joins a row / `no_op` group (`NewSw`, `GrpAdd`), a `no_op` group gets a parent.  Every operation is
walked once, for every family `R` of reflexive-transitive relations that contain the three updates (`Gens R`); the
arena invariant, the tree invariant and the frames of the insert theorem are instances.  At the head: what the
arena invariants need of a node whose exits change and of the router updates that `add_exit` applies (`SwUpd`).
-/
import Rpft.Lemmas.CompileArenaNode
namespace Rpft.Compile
open Rpft

/-! ### what the arena invariants need of a node whose exits change, and of the router updates `add_exit` applies -/

section
variable {h : Flags} {ns : Array NodeM} {b b' k i : Nat} {d : Dest} {n : NodeM}

theorem mapDests_fids (n : NodeM) (f : Dest → Dest) : (n.mapDests f).fids = n.fids := by
  rcases hr : n.router with _ | r | r <;>
    simp only [NodeM.mapDests, NodeM.fids, NodeM.innerIds, NodeM.tailIds, hr]
  · rw [ids_mapCats] <;> intro c <;> rfl
  · simp only [RandomR.ids, List.map_map]; rfl

theorem NodeOk.mapDests {f : Dest → Dest} (hn : NodeOk ns n)
    (hf : ∀ x ∈ n.exitDests, DestOk ns (f x)) : NodeOk ns (n.mapDests f) := by
  refine ⟨fun d hd => ?_, ?_, fun r' hr' => ?_⟩
  · rw [mapDests_exitDests] at hd
    obtain ⟨x, hx, rfl⟩ := List.mem_map.mp hd
    exact hf x hx
  · rcases hr : n.router with _ | r | r <;> simp only [NodeM.mapDests, hr]
    · exact hf _ (by simp [NodeM.exitDests, hr])
    · exact hn.dexit
    · exact hn.dexit
  · rcases hr : n.router with _ | r | r <;> simp only [NodeM.mapDests, hr] at hr'
    · simp at hr'
    · cases hr'
      exact caseCatsOk_mapCats r _ (fun _ => rfl) (hn.cases r hr)
    · simp at hr'

theorem nodeOk_sw {r : SwitchR} (hr : n.router = some (.sw r))
    (hn : NodeOk ns n) : SwD (DestOk ns) r ∧ CaseCatsOk r := by
  refine ⟨?_, hn.cases r hr⟩
  intro c hc
  exact hn.dests _ (by simp only [NodeM.exitDests, hr, List.mem_map]; exact ⟨c, hc, rfl⟩)

/-- the router updates `add_exit` applies: each is an edit on behalf of the destination `d` -/
def SwUpd (d : Dest) (f : SwitchR → M SwitchR) : Prop := ∀ r s, wp (f r) s (fun r' s' => SwEdit d s s' r r')

theorem swUpd_setDflt (d : Dest) : SwUpd d (setDfltM d) := by
  intro r s
  unfold setDfltM; wp_simp
  exact .setDflt

theorem swUpd_byName (name : Str) (d : Dest) : SwUpd d (fun r => setCatDestByName r name d) := by
  intro r s
  show wp (setCatDestByName r name d) s _
  unfold setCatDestByName
  split
  · wp_simp
  · wp_simp
    exact .setDest

theorem swUpd_addChoice (var type : Str) (args : List (Option Str)) (catName : Str) (d : Dest)
    (isDefault : Bool) : SwUpd d (fun r => addChoice r var type args catName d isDefault) :=
  fun _ _ => addChoice_spec

/-- the exit of a router-less node gets the identifier drawn next (the one it had is dropped) -/
theorem grow_dexit : Grow b (b + 1) n.fids ({ n with dexitUid := tid b, dexitDest := d } : NodeM).fids := by
  rcases hr : n.router with _ | r | r
  · simp only [NodeM.fids, NodeM.innerIds, NodeM.tailIds, hr]
    have : Grow b (b + 1) (uidPart n.uid ++ (n.actions.map (·.1) ++ [])) (uidPart n.uid ++ (n.actions.map (·.1) ++ [tid b])) := by
      grow_new [tid b]
    refine this.mono_left ?_
    intro x; simp only [List.count_cons, List.count_append, List.count_nil]; omega
  · simp only [NodeM.fids, NodeM.innerIds, NodeM.tailIds, hr]; exact Grow.refl
  · simp only [NodeM.fids, NodeM.innerIds, NodeM.tailIds, hr]; exact Grow.refl

theorem nodeOk_dexit {u : Uid} (hn : NodeOk ns n) (hd : DestOk ns d) :
    NodeOk ns ({ n with dexitUid := u, dexitDest := d } : NodeM) := by
  refine ⟨?_, hd, hn.cases⟩
  intro d' hd'
  rcases hr : n.router with _ | r | r
  · simp [NodeM.exitDests, hr] at hd'; subst hd'; exact hd
  · exact hn.dests d' (by simpa [NodeM.exitDests, hr] using hd')
  · exact hn.dests d' (by simpa [NodeM.exitDests, hr] using hd')

theorem swD_none {sw : SwitchR} (h : SwD (· = Dest.none) sw) : SwD (DestOk ns) sw := by
  intro c hc; rw [h c hc]; trivial
end

/-- what every change of its exits keeps of a node: the kind, and having no router -/
def KR (n n' : NodeM) : Prop := n'.kind = n.kind ∧ (n.router = none → n'.router = none)

theorem KR.refl (n : NodeM) : KR n n := ⟨rfl, fun h => h⟩
theorem KR.trans {a b c : NodeM} (h : KR a b) (h' : KR b c) : KR a c := ⟨h'.1.trans h.1, fun e => h'.2 (h.2 e)⟩

theorem KR.of_router {n n' : NodeM} {r : RouterM} (hr : n.router = some r) (hk : n'.kind = n.kind) : KR n n' :=
  ⟨hk, fun e => by rw [hr] at e; cases e⟩

theorem connectLoose_KR (n : NodeM) (d : Dest) : KR n (n.connectLoose d) := by
  unfold NodeM.connectLoose
  cases hr : n.router with
  | none =>
    simp only []
    split
    · exact ⟨rfl, fun _ => rfl⟩
    · exact ⟨rfl, fun _ => hr⟩
  | some rt => cases rt <;> exact KR.of_router hr rfl

/-- what adding an exit with destination `d` may do to a node; its new identifiers are drawn from `[b, b')` -/
structure NodeChg (d : Dest) (b b' : Nat) (n n' : NodeM) : Prop where
  uid : n'.uid = n.uid
  kr : KR n n'
  le : b ≤ b'
  grow : Grow b b' n.fids n'.fids
  ok : ∀ ns, DestOk ns d → NodeOk ns n → NodeOk ns n'

/-- the group gets the node `j` -/
inductive GrpAdd (j : Nat) : Grp → Grp → Prop
  | row (nodes : List Nat) (t : Str) : GrpAdd j (.row nodes t) (.row (nodes ++ [j]) t)
  | noop (ps : List (Nat × Cond)) : GrpAdd j (.noop ps none) (.noop ps (some j))

/-- a new router node, named by the next identifier, all its identifiers drawn below `b'` -/
structure NewSw (s : St) (rn : NodeM) (b' : Nat) : Prop where
  uid : rn.uid = tid s.next
  le : s.next ≤ b'
  grow : Grow s.next b' [] rn.fids
  ok : NodesOk s.nodes → NodeOk s.nodes rn

/-- relations (indexed by the destination being connected) that the updates of `add_exit` respect -/
structure Gens (R : Dest → St → St → Prop) : Prop where
  pre : ∀ d, Pre (R d)
  set : ∀ {d s i n n' b'}, s.nodes[i]? = some n → NodeChg d s.next b' n n' →
    R d s { s with nodes := s.nodes.setIfInBounds i n', next := b' }
  att : ∀ {d s g grp grp' rn b'}, s.groups[g]? = some grp → GrpAdd s.nodes.size grp grp' → NewSw s rn b' →
    R d s { s with nodes := s.nodes.push rn, groups := s.groups.setIfInBounds g grp', next := b' }
  par : ∀ {d s g ps r p}, s.groups[g]? = some (.noop ps r) →
    R d s { s with groups := s.groups.setIfInBounds g (.noop (ps ++ [p]) r) }
  /-- a step towards a node of the arena is a step for any destination: the router node given to a `no_op` row is
  connected from the row's parents, the basic node in front of a new router node is redirected to it, and the
  destination is then the node just pushed -/
  via : ∀ {d u s t}, DestOk s.nodes (.node u) → R (.node u) s t → R d s t

variable {R : Dest → St → St → Prop} {d : Dest} {i j g fuel ch : Nat} {n : NodeM} {c : Cond} {s : St}
  {nodes : List Nat} {rowType operandV ctype : Str} {waitT : Option Nat} {args : List (Option Str)}
  {f : SwitchR → M SwitchR}

/-! ### what becomes of a node, what a new router node is -/

theorem NodeChg.connectLoose {b : Nat} : NodeChg d b b n (n.connectLoose d) := by
  refine ⟨?_, connectLoose_KR n d, Nat.le_refl _, ?_, fun ns hd hn => ?_⟩ <;> rw [connectLoose_eq]
  · exact mapDests_uid _ _
  · rw [mapDests_fids]; exact Grow.refl
  · refine hn.mapDests fun x hx => ?_
    unfold fillLoose
    split
    · exact hd
    · exact hn.dests x hx

theorem NodeChg.sw {r r' : SwitchR} {s s' : St} (hr : n.router = some (.sw r)) (he : SwEdit d s s' r r') :
    NodeChg d s.next s'.next n { n with router := some (.sw r') } := by
  refine ⟨rfl, KR.of_router hr rfl, he.drew.le, ?_, fun ns hdd hn => ?_⟩
  · simp only [NodeM.fids, NodeM.innerIds, NodeM.tailIds, hr]
    have := he.drew.grow.ctx (uidPart n.uid ++ n.actions.map (·.1)) []
    simpa using this
  · obtain ⟨h1, h2⟩ := nodeOk_sw hr hn
    refine ⟨fun x hx => ?_, hn.dexit, fun r2 hr2 => ?_⟩
    · simp only [NodeM.exitDests, List.mem_map] at hx
      obtain ⟨c, hc1, rfl⟩ := hx
      exact he.dests _ hdd h1 c hc1
    · simp at hr2; subst hr2; exact he.cases h2

theorem NodeChg.rnd {r r' : RandomR} {s s' : St} (hr : n.router = some (.rnd r)) (he : RndRel s r d r' s') :
    NodeChg d s.next s'.next n { n with router := some (.rnd r') } := by
  refine ⟨rfl, KR.of_router hr rfl, he.drew.le, ?_, fun ns hdd hn => ?_⟩
  · simp only [NodeM.fids, NodeM.innerIds, NodeM.tailIds, hr]
    have := he.drew.grow.ctx (uidPart n.uid ++ n.actions.map (·.1)) []
    simpa using this
  · refine ⟨fun x hx => ?_, hn.dexit, fun r2 hr2 => by simp at hr2⟩
    simp only [NodeM.exitDests, List.mem_map] at hx
    obtain ⟨c, hc1, rfl⟩ := hx
    refine he.dests _ hdd (fun c hc => ?_) c hc1
    exact hn.dests _ (by simp only [NodeM.exitDests, hr, List.mem_map]; exact ⟨c, hc, rfl⟩)

theorem NodeChg.dexit {b : Nat} : NodeChg d b (b + 1) n { n with dexitUid := tid b, dexitDest := d } :=
  ⟨rfl, ⟨rfl, fun e => e⟩, Nat.le_succ _, grow_dexit, fun _ hd hn => nodeOk_dexit hn hd⟩

/-- the new router node of `routerBehind` / of a `no_op` row: identifier, switch, node -/
theorem newSw_node {sw : SwitchR} {s s1 : St} (e : Uid) (hg : Drew { s with next := s.next + 1 } s1 [] sw.ids)
    (hd : NodesOk s.nodes → SwD (DestOk s.nodes) sw) (hc : CaseCatsOk sw) :
    NewSw s (NodeM.mk (tid s.next) .switch [] (some (.sw sw)) e .none) (s1.next + 1) := by
  have h := ((Drew.fresh s).append hg).trans (.skip 1)
  refine ⟨rfl, h.le, ?_, fun a => ⟨fun d' hd' => ?_, trivial, fun r hr => by cases hr; exact hc⟩⟩
  · rw [fids_swNode, uidPart_tid]; exact h.grow
  · obtain ⟨c, hc1, rfl⟩ := List.mem_map.mp hd'
    exact hd a c hc1

/-! ### the operations that overwrite one node, or create one -/

section
variable (hR : Gens R)
include hR

theorem connectNode_chg : Frame (R d) (connectNode i d) := by
  intro s
  rw [wp_connectNode]
  intro n hn
  exact hR.set hn .connectLoose

theorem updSwitch_chg (hf : SwUpd d f) : Frame (R d) (updSwitch i f) := by
  intro s
  unfold updSwitch
  rw [wp_bind, wp_getNode]
  intro n hn
  split
  · rename_i r hr
    rw [wp_bind]
    refine wp_mono (hf r s) ?_
    intro r' s1 he
    obtain ⟨k, rfl⟩ := he.drew.bump
    rw [wp_setNode]
    exact hR.set hn (.sw hr he)
  · rw [wp_fail]; trivial

theorem rowExitBlank_chg (hn : s.nodes[i]? = some n) : wp (rowExitBlank i n d) s (fun _ t => R d s t) := by
  unfold rowExitBlank
  split
  · rw [wp_bind, wp_fresh, wp_setNode]
    exact hR.set hn .dexit
  · rw [wp_fail]; trivial
  · exact updSwitch_chg hR (swUpd_setDflt d) s

theorem rowExitEnter_chg : Frame (R d) (rowExitEnter i c d) := by
  unfold rowExitEnter
  dsimp only
  split
  · exact updSwitch_chg hR (swUpd_byName _ d)
  · split
    · exact updSwitch_chg hR (swUpd_setDflt d)
    · exact .fail

theorem rowExitHook_chg : Frame (R d) (rowExitHook i c d) := by
  unfold rowExitHook
  dsimp only
  split
  · exact updSwitch_chg hR (swUpd_byName _ d)
  · split
    · exact updSwitch_chg hR (swUpd_setDflt d)
    · exact .fail

theorem rowExitNoResp_chg (hn : s.nodes[i]? = some n) : wp (rowExitNoResp i n d) s (fun _ t => R d s t) := by
  unfold rowExitNoResp
  split
  · rename_i r hr
    split
    · rename_i nr w hnr hw
      rw [wp_setNode]
      exact hR.set hn (.sw (s' := s) hr (.setNoResp hnr))
    · exact Frame.pure (hR.pre d) s
  · exact Frame.pure (hR.pre d) s

theorem nodeAddChoice_chg (hn : s.nodes[i]? = some n) :
    wp (nodeAddChoice i n operandV ctype args c d) s (fun _ t => R d s t) := by
  unfold nodeAddChoice
  split
  · rename_i r hr
    rw [wp_bind]
    refine wp_mono addChoice_spec ?_
    intro r' s1 he
    obtain ⟨k, rfl⟩ := he.drew.bump
    rw [wp_setNode]
    exact hR.set hn (.sw hr he)
  · rename_i r hr
    rw [wp_bind]
    refine wp_mono randomAddChoice_spec ?_
    intro r' s1 he
    obtain ⟨k, rfl⟩ := he.drew.bump
    rw [wp_setNode]
    exact hR.set hn (.rnd hr he)
  · rw [wp_fail]; trivial

theorem noopRouterExit_chg : Frame (R d) (noopRouterExit j d c) := by
  unfold noopRouterExit
  split
  · exact updSwitch_chg hR (swUpd_setDflt d)
  · exact updSwitch_chg hR (swUpd_addChoice _ _ _ _ d false)

theorem routerBehind_chg (hg : s.groups[g]? = some (.row nodes rowType)) (hn : s.nodes[i]? = some n) :
    wp (routerBehind g nodes rowType i n operandV waitT) s (fun a t => R d s t ∧ t.nodes[a.1]? = some a.2) := by
  unfold routerBehind
  rw [wp_bind, wp_fresh]
  split
  · rw [wp_fail]; trivial
  · rw [wp_bind]
    refine wp_mono newSwitch_spec ?_
    rintro sw s1 ⟨hgr, hdn, hc⟩
    obtain ⟨k, rfl⟩ := hgr.bump
    rw [wp_bind, wp_newRouterNode, wp_bind, wp_attachRowNode, wp_bind, wp_fresh, wp_bind, wp_setNode, wp_pure]
    have hlt : i < s.nodes.size := lt_size_of_getElem? hn
    have h1 := hR.att (d := d) hg (.row nodes rowType)
      (newSw_node (sw := sw.setDflt n.dexitDest) (tid (s.next + 1 + k)) (by rw [ids_setDflt]; exact hgr)
        (fun a => swD_setDflt (a i n hn).dexit (swD_none hdn)) (caseCatsOk_setDflt _ hc))
    refine ⟨(hR.pre d).trans h1 (hR.via DestOk.push_self
      (hR.set (getElem?_push_of_some hn) .dexit)), ?_⟩
    show ((s.nodes.push _).setIfInBounds i _)[s.nodes.size]? = _
    rw [Array.getElem?_setIfInBounds, if_neg (by omega)]
    simp

theorem rowExitCond_chg (hg : s.groups[g]? = some (.row nodes rowType)) (hn : s.nodes[i]? = some n) :
    wp (rowExitCond g nodes rowType i n d c) s (fun _ t => R d s t) := by
  unfold rowExitCond
  simp only [wp_bind, wp_ite, wp_pure]
  refine ⟨fun _ => wp_mono (routerBehind_chg (d := d) hR hg hn) ?_, fun _ => nodeAddChoice_chg hR hn⟩
  rintro a t ⟨h1, h2⟩
  exact wp_mono (nodeAddChoice_chg hR h2) fun _ _ h3 => (hR.pre d).trans h1 h3

theorem rowAddExit_chg (hg : s.groups[g]? = some (.row nodes rowType)) :
    wp (rowAddExit g nodes rowType d c) s (fun _ t => R d s t) := by
  unfold rowAddExit
  split
  · rw [wp_fail]; trivial
  · rename_i i hi
    simp only [wp_bind, wp_getNode, wp_ite]
    intro n hn
    exact ⟨fun _ => rowExitBlank_chg hR hn, fun _ => ⟨fun _ => rowExitEnter_chg hR s, fun _ =>
      ⟨fun _ => rowExitHook_chg hR s, fun _ => ⟨fun _ => rowExitNoResp_chg hR hn, fun _ =>
        rowExitCond_chg hR hg hn⟩⟩⟩⟩

/-! ### `connect_loose_exits`, `add_exit` -/

theorem connectLoose_chg : ∀ fuel g, Frame (R d) (connectLoose fuel g d)
  | 0, g => by unfold connectLoose; exact .fail
  | fuel + 1, g => by
    have hp := hR.pre d
    unfold connectLoose
    refine (Frame.of_ro hp (ro_getGrp g)).bind hp fun grp => ?_
    split
    · split
      · exact .pure hp
      · exact connectNode_chg hR
    · split
      · exact connectNode_chg hR
      · exact .forM hp fun x _ => connectLoose_chg fuel x.1
    · exact .forM hp fun x _ => connectLoose_chg fuel x

theorem connectIfLoose_chg : Frame (R d) (connectIfLoose fuel d ch) := by
  have hp := hR.pre d
  unfold connectIfLoose
  refine (Frame.of_ro hp (ro_hasLoose fuel ch)).bind hp fun b => ?_
  split
  · exact connectLoose_chg hR fuel ch
  · exact .pure hp

theorem addExit_chg : ∀ fuel g d c, Frame (R d) (addExit fuel g d c)
  | 0, g, d, c => by unfold addExit; exact .fail
  | fuel + 1, g, d, c => by
    have hp := hR.pre d
    intro s
    unfold addExit
    rw [wp_bind, wp_getGrp]
    intro grp hgrp
    split
    · exact rowAddExit_chg hR hgrp
    · split
      · refine (Frame.of_ro hp (ro_hasLoose _ g)).bind hp (fun b => ?_) s
        split
        · exact .forM hp fun x _ => connectIfLoose_chg hR
        · exact .fail
      · rw [wp_fail]; trivial
    · split
      · split
        · exact Frame.forM hp (fun x _ => addExit_chg fuel x.1 d x.2) s
        · split
          · rw [wp_fail]; trivial
          · rename_i ps _ _ _
            rw [wp_bind, wp_fresh, wp_bind]
            refine wp_mono newSwitch_spec ?_
            rintro sw s1 ⟨hgr, hdn, hc⟩
            obtain ⟨k, rfl⟩ := hgr.bump
            rw [wp_bind, wp_newRouterNode, wp_bind, wp_attachNoopRouter, wp_bind]
            have h1 := hR.att (d := d) hgrp (.noop ps)
              (newSw_node (sw := sw) (tid (s.next + 1 + k)) hgr (fun _ => swD_none hdn) hc)
            refine wp_mono (Frame.forM (hR.pre _) (fun x _ => addExit_chg fuel x.1 (.node (tid s.next)) x.2) _) ?_
            intro _ s2 h2
            refine wp_mono (noopRouterExit_chg hR s2) fun _ s3 h3 => ?_
            exact hp.trans (hp.trans h1 (hR.via DestOk.push_self h2)) h3
      · exact noopRouterExit_chg hR s

theorem addRowEdge_chg (e : Edge) : Frame (R d) (addRowEdge d e) := by
  have hp := hR.pre d
  unfold addRowEdge
  refine (Frame.of_ro hp (ro_groupOfEdge e)).bind hp fun og => ?_
  split
  · exact .pure hp
  · exact (Frame.of_ro hp ro_fuelOf).bind hp fun f => addExit_chg hR f _ d e.cond

theorem noopEdge_chg (e : Edge) : Frame (R .none) (noopEdge g e) := by
  have hp := hR.pre .none
  unfold noopEdge
  refine (Frame.of_ro hp (ro_groupOfEdge e)).bind hp fun og => ?_
  split
  · exact .pure hp
  · rename_i src
    intro s
    rw [wp_bind, wp_getGrp]
    intro grp hgrp
    split
    · rw [wp_bind, wp_setGrp]
      refine wp_mono ?_ fun _ _ h2 => hp.trans (hR.par (p := (src, e.cond)) hgrp) h2
      split
      · rename_i j
        rw [wp_bind, wp_getNode]
        intro n hn
        exact wp_mono ((Frame.of_ro (hR.pre _) ro_fuelOf).bind (hR.pre _) (fun f => addExit_chg hR f _ (.node n.uid) e.cond) _)
          fun _ _ h => hR.via ⟨j, n, hn, rfl⟩ h
      · exact Frame.pure hp _
    · rw [wp_fail]; trivial

theorem gotoEdge_chg (ed : Edge × Str) : Frame (R .none) (gotoEdge ed) := by
  have hp := hR.pre .none
  unfold gotoEdge
  refine (Frame.of_ro hp (ro_lookupRow ed.2)).bind hp fun og => ?_
  split
  · exact .fail
  · refine (Frame.of_ro hp ro_fuelOf).bind hp fun f => (Frame.of_ro hp (ro_entryNode f _)).bind hp fun i s => ?_
    rw [wp_bind, wp_getNode]
    intro n hn
    exact wp_mono (addRowEdge_chg hR ed.1 s) fun _ _ h => hR.via ⟨i, n, hn, rfl⟩ h

theorem parseGoto_chg (r : Row) : Frame (R .none) (parseGoto r) := by
  unfold parseGoto
  dsimp only
  generalize (if r.dests.length = 1 then List.replicate r.edges.length (r.dests.headD []) else r.dests) = ds
  split
  · exact .fail
  · exact .forM (hR.pre _) fun x _ => gotoEdge_chg hR x

end

end Rpft.Compile
