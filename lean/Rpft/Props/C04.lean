/-
C04 — flow JSON → sheet file → flow JSON preserves behaviour.

The equivalence "for all contact input sequences" between an original flow and the flow
recompiled from the real exported file is decided per flow by the verified certificate
checker at C04's observation level: action content, operands, tests, arguments, test order,
category names, timeouts, destinations (result names of routers are not in the statement's list).

Proved for all inputs: exported row ids are distinct (`exported_row_ids_unique`), and the content of ONE
action through its sheet row (`Rpft/ActionCodec.lean`): `Expressible` is exactly the domain of the round trip
(`expressible_iff_roundtrip`), for group actions also up to the uuids `obj_id` cannot carry
(`expressibleMod_iff_roundtrip`), with one `needs_…` witness per clause.  The graph and the paths of the export
are `Props/C04_Graph.lean` and `Props/C04_Paths.lean`.
-/
import Rpft.Props.C02_Cert
import Rpft.Props.C17
import Rpft.Lemmas.ActionCodec
import Rpft.Gen.Tables
import Rpft.Canon
namespace Rpft.Props.C04
open Rpft Rpft.Bisim Rpft.Flow

def c04Lvl : ObsLevel := ⟨true, false⟩

theorem roundtrip_equiv_of_cert (original recompiled : Flow.Flow) (R : List (St × St))
    (h : certOk c04Lvl original recompiled R = true) :
    ∀ (env : Nat → Nat) (n : Nat), trace c04Lvl original env n = trace c04Lvl recompiled env n :=
  Props.C02.flows_equiv_of_cert c04Lvl original recompiled R h

/-! ### what recompilation needs of the exported rows (exporter model `Rpft/Export.lean`, tied to
the real `to_rows` on every flow by the C17 check) -/

open Rpft.Export in
/-- Exported row ids are pairwise distinct in BOTH id modes, for every flow the exporter accepts
(any graph: joins, cycles, duplicate short names, multi-action nodes): every `from` cell and
every `go_to` target of the sheet names exactly one row, so recompilation resolves it uniquely. -/
theorem exported_row_ids_unique {U : Type} [DecidableEq U] (numbered : Bool) (f : FlowX U)
    (out : List RowS) (h : strippedRows numbered f = .ok out) : (out.map (·.id)).Nodup := by
  cases numbered with
  | false => exact (Props.C17.named_ids_nodup f out h).1
  | true =>
    rw [Props.C17.numbered_ids f out h]
    unfold List.Nodup
    apply List.Pairwise.map _ _ (List.pairwise_lt_range (n := out.length))
    intro a b hlt hab
    have := natStr_inj hab
    omega

/-- The full statement: for every expressible flow and every export configuration, the flow
recompiled from the exported sheet is trace-equivalent to the original.  `roundtrip` stands for
the real exporter + file layer + compiler (their Lean models M5/M2/M4 are not complete);
per flow it is decided by `roundtrip_equiv_of_cert` on the real files. -/
def C04_full (Expressible : Flow.Flow → Prop) (roundtrip : Flow.Flow → Option Flow.Flow) : Prop :=
  ∀ f g, Expressible f → roundtrip f = some g →
    ∀ env n, trace c04Lvl f env n = trace c04Lvl g env n

/-! ### the action codec: "same actions with the same content"

`Rpft/ActionCodec.lean` models how ONE action becomes the fields of a sheet row
(`Action.get_row_model_fields` + `FlowRowModel(**fields)`) and how a row becomes the node's
actions again (`_get_row_action` / `_get_row_node`), tied to the real code by the differential
stream of the C04 check.  The cell layer between the two (row model → cells → row model) is
C07's subject. -/

section ActionCodec
open Rpft.ActionCodec

/-- T1: the constants of the codec are the ones in the source (action type ↔ row type tables of
both directions, keys written per action class, attachment kinds and the cut, contact
properties, default scheme, limits, HTTP methods).  Dispatch / export tables are lookups on distinct
keys and the no-action / contact-property / HTTP-method lists are membership tests: compared up to
order; the media kinds in source order (the order in which attachments are appended). -/
theorem tables_agree_actcodec :
    Canon.sameMap Gen.acExportRowType exportRowType ∧ Canon.sameSet Gen.acPassThrough passThroughTypes ∧
    Canon.sortPL Gen.acExportKeys = Canon.sortPL exportKeys ∧
    Canon.sameMap Gen.acParseDispatch parseDispatch ∧ Gen.acParsePrefix = setContactPrefix ∧
    Gen.acParsePrefixCtor = setContactPrefix ++ "{}".toList ∧
    Gen.acParseReplaceNeedles = [setContactPrefix] ∧
    Canon.sameSet Gen.acNoActionRowTypes noActionRowTypes ∧ Canon.sameMap Gen.acNodeDispatch nodeDispatch ∧
    Gen.acMediaKindsExport = mediaKinds ∧ Gen.acMediaKindsParse = mediaKinds ∧
    Gen.acMediaCut = mediaCut ∧ (∀ t ∈ mediaKinds, (t ++ [':']).length = mediaCut) ∧
    Canon.sameSet Gen.acContactPropsLoad contactProps ∧ Canon.sameSet Gen.acContactPropsParse contactProps ∧
    Gen.acDefaultSchemeExport = defaultScheme ∧ Gen.acDefaultSchemeParse = defaultScheme ∧
    Gen.cliMaxFieldValueLen = maxFieldValue ∧ Gen.cliMaxRunResultLen = maxResultValue ∧
    Gen.cliMaxFieldKeyLen = Campaign.maxKeyLen ∧ Gen.cliEmptyTextChecked = true ∧
    Canon.sameSet Gen.cliHttpMethods httpMethods ∧ Gen.cliDefaultHttpMethod = defaultMethod := by
  -- literals spelt as character lists before the evaluation, as in `dispatch_words_not_setContact`
  unfold exportRowType passThroughTypes exportKeys parseDispatch nodeDispatch noActionRowTypes mediaKinds contactProps
    httpMethods defaultMethod defaultScheme tAddGroups rAddToGroup tAddContactUrn tCallWebhook tEnterFlow rStartNewFlow
    tRemoveGroups rRemoveFromGroup tSendMsg rSendMessage setContactPrefix tSetContactField rSaveValue tSetRunResult
    rSaveFlowResult tTransferAirtime
  repeat rw [String.toList_ofList]
  decide +kernel

/-- the lookup tables compared up to order above have unique keys (first-match lookup does not
depend on their order) -/
theorem actcodec_keys_unique :
    Canon.uniqueKeys exportRowType = true ∧ Canon.uniqueKeys exportKeys = true ∧
    Canon.uniqueKeys parseDispatch = true ∧ Canon.uniqueKeys nodeDispatch = true := by
  unfold exportRowType exportKeys parseDispatch nodeDispatch tAddGroups rAddToGroup tAddContactUrn tCallWebhook
    tEnterFlow rStartNewFlow tRemoveGroups rRemoveFromGroup tSendMsg rSendMessage setContactPrefix tSetContactField
    rSaveValue tSetRunResult rSaveFlowResult tTransferAirtime
  repeat rw [String.toList_ofList]
  decide +kernel

/-- the enumeration `ContactProp` is the source's property list -/
theorem contactProps_enum :
    contactProps = [ContactProp.channel, .language, .name, .status, .timezone].map ContactProp.str ∧
    ∀ p : ContactProp, ContactProp.ofStr p.str = some p := by
  refine ⟨by decide, fun p => by cases p <;> decide⟩

/-- the row type an exported action carries is the one `exportRowType` lists for its type -/
theorem toFields_type (a : Act) (r : RowFields) (h : toFields a = .ok r) :
    (a.typeStr, r.type) ∈ exportRowType := by
  -- the pair is an entry of the table as written: `with_reducible` keeps `simp` from comparing it with
  -- the other entries letter by letter
  cases a with
  | setContactChannel => cases h
  | unsupported => cases h
  | setContactField name key ft value =>
    simp only [toFields] at h
    split at h
    · cases h
    · simp only [Except.ok.injEq] at h
      subst h
      dsimp only [Act.typeStr]
      with_reducible simp only [exportRowType, List.mem_cons, true_or, or_true]
  | setContactProp p v =>
    simp only [toFields, Except.ok.injEq] at h
    subst h
    cases p <;> dsimp only [Act.typeStr, ContactProp.str] <;>
      with_reducible simp only [exportRowType, List.mem_cons, true_or, or_true]
  | addGroups gs =>
    cases gs with
    | nil => cases h
    | cons g gs =>
      simp only [toFields, groupFields, Except.ok.injEq] at h
      subst h
      dsimp only [Act.typeStr]
      with_reducible simp only [exportRowType, List.mem_cons, true_or]
  | removeGroups gs all =>
    cases gs with
    | nil => cases h
    | cons g gs =>
      simp only [toFields, groupFields, Except.ok.injEq] at h
      subst h
      dsimp only [Act.typeStr]
      with_reducible simp only [exportRowType, List.mem_cons, true_or, or_true]
  | _ =>
    simp only [toFields, Except.ok.injEq] at h
    subst h
    dsimp only [Act.typeStr]
    with_reducible simp only [exportRowType, List.mem_cons, true_or, or_true]

/-- **Action round trip.**  For EVERY action the sheet format can express (unbounded texts,
lists, header / amount dictionaries), exporting it to row fields and compiling those fields
again yields exactly one action, equal to the original in all content (everything `render()`
shows except the invented action / templating-instance uuid; group, sub-flow and template
uuids included).  Group actions: ANY number (≥ 1) of groups, see `Expressible` — `GroupsOk`:
the uuids of the groups after the first must be the ones the sheet can give back
(`action_roundtrip_mod_tail_uuids` is the statement without that clause). -/
theorem action_roundtrip (a : Act) (h : Expressible a) :
    ∃ r, toFields a = .ok r ∧ ofFields r = .ok [a] :=
  roundTrip_ok (roundTrip_iff_expressible.2 h)

/-- **`Expressible` is exactly the domain of the round trip**: an action comes back intact from
its own row if AND ONLY IF it is expressible — no clause of the predicate can be dropped or
weakened, for any action (the `needs_…` theorems below are instances, replayed on the real code). -/
theorem expressible_iff_roundtrip (a : Act) : Expressible a ↔ roundTrip a = .ok [a] :=
  roundTrip_iff_expressible.symm

/-! #### group actions with any number of groups

`obj_id` is ONE cell: it carries the uuid of the first group.  Every group NAME travels
(`mainarg_groups`), the groups after the first come back referenced by name, their uuid resolved
through the container's dictionary (the first group's uuid under the first group's name, otherwise
none = known elsewhere or invented).  So the round trip is exact up to those uuids, for every list. -/

/-- what a group action comes back as — for EVERY non-empty group list, no hypothesis (induction
over the list inside `resolve_rowGroups` / `recordedUuid_nameOnly`) -/
theorem group_action_comes_back (g0 : GroupRef) (rest : List GroupRef) (all : Bool) :
    roundTrip (.addGroups (g0 :: rest)) = .ok [.addGroups (backGroups g0 rest)] ∧
    roundTrip (.removeGroups (g0 :: rest) all) = .ok [.removeGroups (backGroups g0 rest) false] :=
  ⟨roundTrip_addGroups g0 rest, roundTrip_removeGroups g0 rest all⟩

/-- **every group name comes back, in order**, whatever uuids / attributes the groups carry, as
long as the groups after the first are named (a blank entry of the list cell is skipped) -/
theorem group_names_roundtrip (g0 : GroupRef) (rest : List GroupRef) (all : Bool)
    (h : ∀ g ∈ rest, g.name ≠ []) :
    ∃ gs, roundTrip (.addGroups (g0 :: rest)) = .ok [.addGroups gs] ∧
      roundTrip (.removeGroups (g0 :: rest) all) = .ok [.removeGroups gs false] ∧
      gs.map (·.name) = (g0 :: rest).map (·.name) :=
  ⟨backGroups g0 rest, roundTrip_addGroups g0 rest, roundTrip_removeGroups g0 rest all,
    backGroups_map_name g0 rest h⟩

example : ∀ g ∈ [({ name := "B".toList, uuid := some "g-b".toList, attrs := true } : GroupRef)], g.name ≠ [] := by decide +kernel
/-- the hypothesis is forced: a blank further name is skipped -/
theorem needs_tail_name :
    roundTrip (.addGroups [{ name := "A".toList }, { name := [] }, { name := "C".toList }]) =
      .ok [.addGroups [{ name := "A".toList }, { name := "C".toList }]] := by
  simp only [roundTrip_addGroups]
  decide +kernel

theorem forget_eq_of_not_group {a b : Act} (ha : ∀ gs, a ≠ .addGroups gs) (ha' : ∀ gs all, a ≠ .removeGroups gs all)
    (h : b.forgetTailUuids = a) : b = a := by
  cases b with
  | addGroups gs => exact absurd h.symm (ha _)
  | removeGroups gs all => exact absurd h.symm (ha' _ _)
  | _ => exact h

/-- **Action round trip up to what `obj_id` cannot carry.**  `ExpressibleModTailUuids` = `Expressible`
without the clause on the uuids of the groups after the first: exactly the actions that come back as ONE
action equal to the original in everything except those uuids (all names, their order, the first group's
uuid, `all_groups`; every other action kind: equal). -/
theorem expressibleMod_iff_roundtrip (a : Act) :
    ExpressibleModTailUuids a ↔ ∃ b, roundTrip a = .ok [b] ∧ b.forgetTailUuids = a.forgetTailUuids := by
  have other : ∀ a : Act, (∀ gs, a ≠ .addGroups gs) → (∀ gs all, a ≠ .removeGroups gs all) → a.forgetTailUuids = a →
      (Expressible a ↔ ∃ b, roundTrip a = .ok [b] ∧ b.forgetTailUuids = a.forgetTailUuids) := by
    intro a h1 h2 hid
    constructor
    · rintro h; exact ⟨a, roundTrip_iff_expressible.2 h, rfl⟩
    · rintro ⟨b, hb, he⟩
      rw [hid] at he
      rw [forget_eq_of_not_group h1 h2 he] at hb
      exact roundTrip_iff_expressible.1 hb
  cases a with
  | addGroups gs =>
    cases gs with
    | nil => simp [ExpressibleModTailUuids, GroupsOkModTailUuids, roundTrip, toFields, groupFields]
    | cons g0 rest =>
      simp only [roundTrip_addGroups, Except.ok.injEq, List.cons.injEq, and_true, exists_eq_left',
        Act.forgetTailUuids, Act.addGroups.injEq, backGroups_forget_iff, ExpressibleModTailUuids]
  | removeGroups gs all =>
    cases gs with
    | nil => simp [ExpressibleModTailUuids, GroupsOkModTailUuids, roundTrip, toFields, groupFields]
    | cons g0 rest =>
      simp only [roundTrip_removeGroups, Except.ok.injEq, List.cons.injEq, and_true, exists_eq_left',
        Act.forgetTailUuids, Act.removeGroups.injEq, backGroups_forget_iff, ExpressibleModTailUuids]
      exact and_congr_right fun _ => eq_comm
  | _ =>
    simp only [ExpressibleModTailUuids]
    apply other
    · intros; simp
    · intros; simp
    · rfl

theorem action_roundtrip_mod_tail_uuids (a : Act) (h : ExpressibleModTailUuids a) :
    ∃ r b, toFields a = .ok r ∧ ofFields r = .ok [b] ∧ b.forgetTailUuids = a.forgetTailUuids := by
  obtain ⟨b, hb, he⟩ := (expressibleMod_iff_roundtrip a).mp h
  obtain ⟨r, hr, hof⟩ := roundTrip_ok hb
  exact ⟨r, b, hr, hof, he⟩

/-- **what remains lost, exactly**: an action comes back fully intact iff it comes back up to the
uuids of the further groups AND those uuids are the ones the sheet gives back (`tailUuid`: none, or
the first group's uuid for a further group with the first group's name) -/
theorem expressible_iff_mod_and_tail_uuids (a : Act) :
    Expressible a ↔ ExpressibleModTailUuids a ∧ a.TailUuidsKept := by
  cases a with
  | addGroups gs => exact Iff.rfl
  | removeGroups gs all =>
    show (GroupsOkModTailUuids gs ∧ ActionCodec.TailUuidsKept gs) ∧ all = false ↔
      (GroupsOkModTailUuids gs ∧ all = false) ∧ ActionCodec.TailUuidsKept gs
    constructor
    · rintro ⟨⟨a, b⟩, c⟩; exact ⟨⟨a, c⟩, b⟩
    · rintro ⟨⟨a, c⟩, b⟩; exact ⟨⟨a, b⟩, c⟩
  | _ => exact ⟨fun h => ⟨h, trivial⟩, fun h => h.1⟩

/-! non-vacuity: several groups, inside `Expressible` (further groups by name; a further group named
like the first shares its uuid) and inside `ExpressibleModTailUuids` only (as RapidPro writes them:
every group with its uuid) -/
example : Expressible (.addGroups [{ name := "A".toList, uuid := some "g-a".toList }, { name := "B|;\\".toList },
    { name := "A".toList, uuid := some "g-a".toList }, { name := "C".toList }]) := by decide +kernel
example : Expressible (.removeGroups [{ name := "A".toList }, { name := "B".toList }] false) := by decide +kernel
example : ExpressibleModTailUuids (.addGroups [{ name := "A".toList, uuid := some "g-a".toList },
    { name := "B".toList, uuid := some "g-b".toList }]) ∧
    ¬ Expressible (.addGroups [{ name := "A".toList, uuid := some "g-a".toList },
    { name := "B".toList, uuid := some "g-b".toList }]) := by decide +kernel

/-- the row of an exported action never makes a node-level action unless it is one -/
theorem export_not_node_level :
    ∀ p ∈ exportRowType, p.1 ∉ [tEnterFlow, tCallWebhook, tTransferAirtime] → classifyNode p.2 = .other := by
  -- entry by entry from the dispatch table; the three node-level entries fall under the hypothesis
  with_reducible simp only [exportRowType, List.forall_mem_cons]
  with_reducible simp only [dispatch_exported, (classify_setContact _).2, List.mem_cons, true_or, or_true,
    not_true_eq_false, false_implies, implies_true, and_self, List.not_mem_nil]

/-- **Second and later actions of a node.**  A row merged into an existing node (`_nodeId`) is
compiled by `_get_row_action` alone (`existing_node.add_action(row_action)`, no node is built):
every expressible action that is not node-level (enter_flow / call_webhook / transfer_airtime are
always alone on their router node) comes back from `_get_row_action` by itself. -/
theorem action_roundtrip_merged (a : Act) (h : Expressible a)
    (hn : a.typeStr ∉ [tEnterFlow, tCallWebhook, tTransferAirtime]) :
    ∃ r, toFields a = .ok r ∧ rowAction r = .ok (some a) := by
  obtain ⟨r, hr, hof⟩ := action_roundtrip a h
  exact ⟨r, hr, (ofFields_eq_ok_of_other (export_not_node_level _ (toFields_type a r hr) hn)).1 hof⟩

example : Act.typeStr (.setRunResult [] [] []) ∉ [tEnterFlow, tCallWebhook, tTransferAirtime] := by decide +kernel
example : ∃ r, toFields (.addContactUrn "+1".toList "tel".toList) = .ok r := ⟨_, rfl⟩

/-! non-vacuity: one expressible action per kind (each with content in every field) -/
example : Expressible (.sendMsg "hi".toList ["image:http://x/a.png".toList] ["yes".toList, "no".toList]
    false [] (some { name := "promo".toList, templateUuid := "t-1".toList, vars := ["v".toList] })) := by decide +kernel
example : Expressible (.sendMsg "hi".toList ["image:a".toList, "geo:1,2".toList] [] false [] none) := by decide +kernel
example : Expressible (.setContactField "Fav Food".toList "fav_food".toList [] "rice".toList) := by decide +kernel
example : Expressible (.setContactProp .language "fra".toList) := by decide +kernel
example : Expressible (.addGroups [{ name := "Grp A".toList, uuid := some "g-1".toList }]) := by decide +kernel
example : Expressible (.removeGroups [{ name := "Grp A".toList }] false) := by decide +kernel
example : Expressible (.setRunResult "score".toList "7".toList "Good".toList) := by decide +kernel
example : Expressible (.enterFlow "child".toList (some "f-1".toList)) := by decide +kernel
example : Expressible (.callWebhook "hook res".toList "http://x".toList "GET".toList "payload".toList
    [("Accept".toList, "text/plain".toList), ("X-K".toList, "1".toList)]) := by decide +kernel
example : Expressible (.transferAirtime "air".toList
    [("USD".toList, .int 5), ("KES".toList, .float "20.5".toList), ("RWF".toList, .int (-3))]) := by decide +kernel
example : Expressible (.addContactUrn "+1555".toList "whatsapp".toList) := by decide +kernel

/-! ### every clause of `Expressible` is forced: what the codec does outside it

Each witness is replayed on the REAL code by the C04 check (stream `witness`).  `lossy` = comes
back as a different action without any error; `loud` = the export or the compile step fails. -/

/-- send_msg, `text ≠ ""`: loud (send_msg action requires non-empty text) -/
theorem needs_text_nonempty :
    roundTrip (.sendMsg [] [] [] false [] none) = .error .emptyText :=
  (roundTrip_sendMsg rfl).trans (by decide +kernel)
/-- send_msg, no empty attachment: lossy (normalisation: `_get_attachments` drops it) -/
theorem needs_no_empty_attachment :
    roundTrip (.sendMsg "hi".toList [[], "geo:1".toList] [] false [] none) =
      .ok [.sendMsg "hi".toList ["geo:1".toList] [] false [] none] :=
  (roundTrip_sendMsg rfl).trans (by decide +kernel)
/-- send_msg, no empty quick reply: lossy (dropped by the compile side only) -/
theorem needs_no_empty_quick_reply :
    roundTrip (.sendMsg "hi".toList [] ["a".toList, [], "b".toList] false [] none) =
      .ok [.sendMsg "hi".toList [] ["a".toList, "b".toList] false [] none] :=
  (roundTrip_sendMsg rfl).trans (by decide +kernel)
/-- send_msg, `MediaOk`: a lone media attachment comes back trimmed -/
theorem needs_media_trimmed :
    roundTrip (.sendMsg "hi".toList ["image: http://x ".toList] [] false [] none) =
      .ok [.sendMsg "hi".toList ["image:http://x".toList] [] false [] none] :=
  (roundTrip_sendMsg rfl).trans (by decide +kernel)
/-- send_msg, `MediaOk`: a lone media attachment vanishes when nothing follows the prefix (two attachments
use the generic list and survive) -/
theorem needs_media_nonempty :
    roundTrip (.sendMsg "hi".toList ["audio:".toList] [] false [] none) =
      .ok [.sendMsg "hi".toList [] [] false [] none] ∧
    roundTrip (.sendMsg "hi".toList ["audio:".toList, "image: x".toList] [] false [] none) =
      .ok [.sendMsg "hi".toList ["audio:".toList, "image: x".toList] [] false [] none] :=
  ⟨(roundTrip_sendMsg rfl).trans (by decide +kernel), (roundTrip_sendMsg rfl).trans (by decide +kernel)⟩
/-- send_msg, `all_urns`: lossy (no column) -/
theorem needs_no_all_urns :
    roundTrip (.sendMsg "hi".toList [] [] true [] none) = .ok [.sendMsg "hi".toList [] [] false [] none] :=
  (roundTrip_sendMsg rfl).trans (by decide +kernel)
/-- send_msg, `topic`: lossy (no column) -/
theorem needs_no_topic :
    roundTrip (.sendMsg "hi".toList [] [] false "event".toList none) =
      .ok [.sendMsg "hi".toList [] [] false [] none] :=
  (roundTrip_sendMsg rfl).trans (by decide +kernel)
/-- send_msg, templating needs a name: lossy (`if row.wa_template.name`) -/
theorem needs_template_name :
    roundTrip (.sendMsg "hi".toList [] [] false []
        (some { name := [], templateUuid := "t-1".toList, vars := ["v".toList] })) =
      .ok [.sendMsg "hi".toList [] [] false [] none] :=
  (roundTrip_sendMsg rfl).trans (by decide +kernel)
/-- set_contact_field, key = generated key: LOSSY — the action comes back setting another field (F-C04-h) -/
theorem needs_generated_key :
    roundTrip (.setContactField "Fav-Food".toList "fav_food".toList [] "rice".toList) =
      .ok [.setContactField "Fav-Food".toList "fav-food".toList [] "rice".toList] := by
  simp only [roundTrip_setContactField]
  decide +kernel
/-- set_contact_field, name must yield a key: loud -/
theorem needs_field_key :
    roundTrip (.setContactField "123".toList "123".toList [] "v".toList) = .error .keyNoLetter ∧
    roundTrip (.setContactField (List.replicate 37 'x') (List.replicate 37 'x') [] "v".toList) =
      .error .keyTooLong := by
  simp only [roundTrip_setContactField]
  decide +kernel
/-- set_contact_field, field reference type: lossy (not exported) -/
theorem needs_no_field_type :
    roundTrip (.setContactField "Age".toList "age".toList "number".toList "3".toList) =
      .ok [.setContactField "Age".toList "age".toList [] "3".toList] := by
  simp only [roundTrip_setContactField]
  decide +kernel
/-- set_contact_field / set_run_result, value length ≤ 640: loud; 640 itself passes -/
theorem needs_value_limit :
    roundTrip (.setContactField "Age".toList "age".toList [] (List.replicate 641 'v')) = .error .valueTooLong ∧
    roundTrip (.setRunResult "r".toList (List.replicate 641 'v') []) = .error .valueTooLong ∧
    roundTrip (.setRunResult "r".toList (List.replicate 640 'v') []) =
      .ok [.setRunResult "r".toList (List.replicate 640 'v') []] := by
  simp only [roundTrip_setContactField, roundTrip_setRunResult]
  decide +kernel
/-- set_contact_*, value non-empty: loud -/
theorem needs_prop_value :
    roundTrip (.setContactProp .name []) = .error .emptyValue := by
  simp only [roundTrip_setContactProp]
  decide +kernel
/-- set_contact_channel with a channel reference: loud on export (`mainarg_value` must be text) -/
theorem needs_no_channel_ref :
    roundTrip (.setContactChannel "c-1".toList "Channel".toList) = .error .exportValidation := by decide +kernel
/-- group actions, at least one group: loud on export (IndexError), also for "remove from all groups" -/
theorem needs_a_group :
    roundTrip (.addGroups []) = .error .exportIndex ∧
    roundTrip (.removeGroups [] true) = .error .exportIndex := by decide +kernel
/-- group actions, uuids of the groups after the first: LOSSY — `obj_id` carries the first group's uuid
only; the others come back by name, without their uuid (what remains of F-C04-g) -/
theorem needs_tail_uuids_kept :
    roundTrip (.addGroups [{ name := "A".toList, uuid := some "g-a".toList },
                           { name := "B".toList, uuid := some "g-b".toList }]) =
      .ok [.addGroups [{ name := "A".toList, uuid := some "g-a".toList }, { name := "B".toList }]] ∧
    (toFields (.addGroups [{ name := "A".toList, uuid := some "g-a".toList },
                           { name := "B".toList, uuid := some "g-b".toList }])).toOption.map
        (fun r => (r.mainargGroups, r.objId)) = some (["A".toList, "B".toList], "g-a".toList) := by
  simp only [roundTrip_addGroups]
  decide +kernel
/-- group actions: a further group named like the first takes the first one's uuid (one dictionary entry
per name) -/
theorem needs_tail_uuid_of_first_name :
    roundTrip (.removeGroups [{ name := "A".toList, uuid := some "g-a".toList }, { name := "A".toList }] false) =
      .ok [.removeGroups [{ name := "A".toList, uuid := some "g-a".toList },
                          { name := "A".toList, uuid := some "g-a".toList }] false] := by
  simp only [roundTrip_removeGroups]
  decide +kernel
/-- group actions, the groups after the first have no attributes either: lossy -/
theorem needs_no_tail_group_attrs :
    roundTrip (.addGroups [{ name := "A".toList }, { name := "B".toList, attrs := true }]) =
      .ok [.addGroups [{ name := "A".toList }, { name := "B".toList }]] := by
  simp only [roundTrip_addGroups]
  decide +kernel
/-- group actions, uuid absent or non-empty: lossy (`""` reads as none) -/
theorem needs_group_uuid :
    roundTrip (.addGroups [{ name := "A".toList, uuid := some [] }]) =
      .ok [.addGroups [{ name := "A".toList, uuid := none }]] := by
  simp only [roundTrip_addGroups]
  decide +kernel
/-- group actions, no query / status / system / count on the reference: lossy -/
theorem needs_no_group_attrs :
    roundTrip (.removeGroups [{ name := "A".toList, attrs := true }] false) =
      .ok [.removeGroups [{ name := "A".toList }] false] := by
  simp only [roundTrip_removeGroups]
  decide +kernel
/-- remove_contact_groups, `all_groups`: lossy (no column) -/
theorem needs_no_all_groups :
    roundTrip (.removeGroups [{ name := "A".toList }] true) =
      .ok [.removeGroups [{ name := "A".toList }] false] := by
  simp only [roundTrip_removeGroups]
  decide +kernel
/-- enter_flow, flow name: loud; uuid absent or non-empty: lossy -/
theorem needs_flow_name_and_uuid :
    roundTrip (.enterFlow [] (some "f-1".toList)) = .error .noFlowName ∧
    roundTrip (.enterFlow "child".toList (some [])) = .ok [.enterFlow "child".toList none] := by
  simp only [roundTrip_enterFlow]
  decide +kernel
/-- call_webhook: url and result name (loud), method of the list (loud; empty reads as POST),
result name must yield a key (loud) -/
theorem needs_webhook_fields :
    roundTrip (.callWebhook "wh".toList [] "GET".toList [] []) = .error .noUrlOrName ∧
    roundTrip (.callWebhook [] "http://x".toList "GET".toList [] []) = .error .noUrlOrName ∧
    roundTrip (.callWebhook "wh".toList "http://x".toList "PATCH".toList [] []) = .error .badMethod ∧
    roundTrip (.callWebhook "wh".toList "http://x".toList [] [] []) =
      .ok [.callWebhook "wh".toList "http://x".toList "POST".toList [] []] ∧
    roundTrip (.callWebhook "123".toList "http://x".toList "GET".toList [] []) = .error .keyNoLetter := by
  simp only [roundTrip_callWebhook]
  decide +kernel
/-- dictionaries have distinct keys (holds for every JSON object; the model's pair lists could repeat one) -/
theorem needs_distinct_keys :
    roundTrip (.callWebhook "wh".toList "http://x".toList "GET".toList []
        [("A".toList, "1".toList), ("B".toList, "2".toList), ("A".toList, "3".toList)]) =
      .ok [.callWebhook "wh".toList "http://x".toList "GET".toList []
        [("A".toList, "3".toList), ("B".toList, "2".toList)]] := by
  simp only [roundTrip_callWebhook]
  decide +kernel
/-- transfer_airtime: amounts and result name (loud), key (loud) -/
theorem needs_airtime_fields :
    roundTrip (.transferAirtime "air".toList []) = .error .noAmounts ∧
    roundTrip (.transferAirtime [] [("USD".toList, .int 5)]) = .error .noAmounts ∧
    roundTrip (.transferAirtime "1 2".toList [("USD".toList, .int 5)]) = .error .keyNoLetter := by
  simp only [roundTrip_transferAirtime]
  decide +kernel
/-- a float amount is carried as its `repr` text: a float literal that is not an int literal
(true of every `repr(float)`; the model's texts are arbitrary) -/
theorem needs_float_text :
    roundTrip (.transferAirtime "air".toList [("USD".toList, .float "5".toList)]) =
      .ok [.transferAirtime "air".toList [("USD".toList, .int 5)]] ∧
    roundTrip (.transferAirtime "air".toList [("USD".toList, .float "five".toList)]) = .error .notNumeric := by
  simp only [roundTrip_transferAirtime]
  decide +kernel
/-- add_contact_urn, scheme non-empty: lossy (`""` and `tel` share the empty cell) -/
theorem needs_scheme :
    roundTrip (.addContactUrn "+1".toList []) = .ok [.addContactUrn "+1".toList "tel".toList] ∧
    roundTrip (.addContactUrn "+1".toList "tel".toList) = .ok [.addContactUrn "+1".toList "tel".toList] := by
  simp only [roundTrip_addContactUrn]
  decide +kernel
/-- the pass-through action types have no sheet form: loud on export -/
theorem needs_supported_type :
    ∀ t ∈ passThroughTypes, roundTrip (.unsupported t) = .error .exportNotImplemented := by decide +kernel

/-- compile-side quirk kept by the model: `row.type.replace("set_contact_", "")` removes every
occurrence, so these row types are accepted as set_contact_name rows -/
theorem replace_removes_every_occurrence :
    ofFields { type := "set_contact_set_contact_name".toList, mainargValue := "Bob".toList } =
      .ok [.setContactProp .name "Bob".toList] ∧
    ofFields { type := "set_contact_nameset_contact_".toList, mainargValue := "Bob".toList } =
      .ok [.setContactProp .name "Bob".toList] ∧
    ofFields { type := "set_contact_nick".toList, mainargValue := "Bob".toList } = .error .unknownProp := by
  decide +kernel

end ActionCodec

end Rpft.Props.C04
