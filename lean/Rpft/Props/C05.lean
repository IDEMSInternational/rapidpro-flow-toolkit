/-
C05 — Loading and re-writing a RapidPro export is lossless.
-/
import Rpft.Lemmas.Reorder
import Rpft.DocumentWitness
import Rpft.DocumentUi
import Rpft.Gen.Tables
import Rpft.Canon
namespace Rpft.Props.C05
open Rpft Rpft.Document Rpft.Document.Witness

/-- the action types the model treats as records / as pass-through -/
def specialTypes : List Str :=
  ["add_contact_groups", "enter_flow", "remove_contact_groups", "send_msg", "set_contact_channel",
   "set_contact_field", "set_contact_language", "set_contact_name", "set_contact_status",
   "set_contact_timezone", "set_run_result"].map String.toList
def passThroughTypes : List Str :=
  ["add_contact_urn", "add_input_labels", "call_classifier", "call_resthook", "call_webhook",
   "open_ticket", "play_audio", "say_msg", "send_broadcast", "send_email", "start_session",
   "transfer_airtime"].map String.toList

/-- T1: `action_map` of actions.py (regenerated each run): its pass-through classes
(`DefaultRenderedAction` and subclasses that do not override `render`) are exactly the types
the model passes through, all others are the model's records; the router test tables of
routers.py are the model's.  All four are sets (read off the behaviour of the code by
`harness/tables/t05_actions.py`): compared up to order. -/
theorem tables_agree :
    Canon.sameSet Gen.actionPassThrough passThroughTypes ∧
    Canon.sameSet (Gen.actionTypes.filter (fun t => !Gen.actionPassThrough.contains t)) specialTypes ∧
    Canon.sameSet Gen.routerTests routerTests ∧ Canon.sameSet Gen.routerNoArgTests noArgTests ∧
    Gen.contactFieldTypeBug = fieldTypeBug := by
  -- the kernel decodes a string literal byte by byte; the literals are spelt as character lists first
  refine ⟨?_, ?_, ?_, ?_, rfl⟩
  all_goals
    simp only [passThroughTypes, specialTypes, routerTests, noArgTests, List.map]
    repeat rw [String.toList_ofList]
    decide +kernel

/-- **C05, main statement.**  For every valid export document whose switch routers list
their default category last (`OrderedCats`), whose router nodes list their exits in
category order (`ExitsByCats`), without typed contact-field references (`UntypedFields`,
F-C05-a) and without attributes on top-level groups (`PlainGroups`, F-C05-b):
loading succeeds, rendering succeeds, and the rendered document is `≈` the input
(equal up to omitted empty optional keys, `_ui` on node positions, both keyword forms). -/
theorem render_load (d : DocD) (hv : Valid d) (ho : OrderedCats d) (hx : ExitsByCats d)
    (hu : UntypedFields d) (hp : PlainGroups d) :
    ∃ c o, load d = .ok c ∧ render c = .ok o ∧ o ≈ d := by
  have hw := catsWired_of_ordered hv ho hx
  have hr := render_ok hv hw
  rw [reorderDoc_ordered hv ho hx] at hr
  exact ⟨docImg d, shapeDoc d, load_ok hv hw, hr, shapeDoc_equiv hv hu hp⟩

/-- the same, for the observable `from_dict(d).render()` -/
theorem roundtrip_lossless (d : DocD) (hv : Valid d) (ho : OrderedCats d) (hx : ExitsByCats d)
    (hu : UntypedFields d) (hp : PlainGroups d) : ∃ o, roundtrip d = .ok o ∧ o ≈ d := by
  obtain ⟨c, o, h1, h2, h3⟩ := render_load d hv ho hx hu hp
  exact ⟨o, by simp [roundtrip, h1, h2], h3⟩

section
-- `UntypedFields` is a hypothesis of the statements of this section; only `≈` (`shapeDoc_equiv`) uses it: the
-- explicit output and the repeated round trip hold without it (`Document.roundtrip_eq`, `Document.roundtrip_idem`)
set_option linter.unusedVariables false

/-- **what F-C05-c and F-C05-d do, exactly.**  For a valid document whose categories are
wired to exits (`CatsWired`) but in ANY order, the round trip returns the shape of the
*reordered* document: categories of a switch router as others ++ [default] ++ [no-response],
exits of a router node in category order — nothing else changes. -/
theorem roundtrip_unordered (d : DocD) (hv : Valid d) (hw : CatsWired d) (hu : UntypedFields d) :
    roundtrip d = .ok (shapeDoc (reorderDoc d)) :=
  roundtrip_eq hv hw

/-- **C05, repeated round trips, without the ordering hypotheses**: even when the first round
trip reorders categories and exits (F-C05-c, F-C05-d), the second one returns exactly what
the first one returned. -/
theorem render_load_idem (d o : DocD) (hv : Valid d) (hw : CatsWired d) (hu : UntypedFields d)
    (h : roundtrip d = .ok o) : roundtrip o = .ok o :=
  roundtrip_idem hv hw h

end

/-- the unordered round trip is lossless up to the reordering: `o ≈ reorderDoc d` -/
theorem render_load_unordered (d : DocD) (hv : Valid d) (hw : CatsWired d) (hu : UntypedFields d)
    (hp : PlainGroups d) : ∃ o, roundtrip d = .ok o ∧ o ≈ reorderDoc d :=
  ⟨_, roundtrip_eq hv hw, shapeDoc_equiv (valid_reorderDoc hv hw) (untyped_reorderDoc hu) hp⟩

/-- The unconditional statement (every document whose round trip succeeds).  NOT proved:
`render_load_idem` needs `Valid` (schema) and `CatsWired` (every category names an exit of its
node, no two categories share an exit, default / timeout categories exist and differ); it is stated
with `UntypedFields` (F-C05-a) as well.  Outside that domain (e.g. two categories sharing one exit, a
timeout of 0 seconds) idempotence is checked on every generated, quirk-stream and fixture
document by oracle C / the tie, not proved. -/
def C05_idem_full : Prop :=
  ∀ d o o' : DocD, roundtrip d = .ok o → roundtrip o = .ok o' → o' = o

/-- `render_load_idem` in the form of `C05_idem_full` -/
theorem render_load_idem_eq (d o o' : DocD) (hv : Valid d) (hw : CatsWired d) (hu : UntypedFields d)
    (h : roundtrip d = .ok o) (h' : roundtrip o = .ok o') : o' = o := by
  rw [render_load_idem d o hv hw hu h] at h'
  cases h'; rfl

/-- `Valid` is decidable: `validB` (served by the driver as `doc.hyps`, so that the harness
checks that every generated document lies inside the hypotheses of the theorems above) -/
theorem valid_decidable (d : DocD) : validB d = true ↔ Valid d := validB_iff d

/-- A legacy single-keyword trigger (`keyword`, no `keywords`) comes out carrying both
forms: the old `keyword` unchanged and the new `keywords = [keyword]` (`[]` for `null`). -/
theorem legacy_trigger (t : TriggerD) (k : Blob) (tc : TriggerC)
    (hk : t.keyword = some k) (hks : t.keywords = none) (h : loadTrigger t = .ok tc) :
    (renderTrigger tc).keyword = some k ∧
    (renderTrigger tc).keywords = some (if isNull k then [] else [k]) := by
  unfold loadTrigger at h
  simp only [hk, hks] at h
  by_cases hc : (t.type = strK ∧ firstFalsy (if isNull k = true then [] else [k]) = true)
  · rw [if_pos hc] at h; cases h
  · rw [if_neg hc] at h
    cases h
    by_cases hn : isNull k = true
    · have : k = jNull := by simpa [isNull] using hn
      subst this
      simp [renderTrigger, isNull]
    · simp [renderTrigger, hn]

/-- non-vacuity of `legacy_trigger`: a concrete legacy keyword trigger loads -/
example : (match loadTrigger wLegacy with | .ok _ => true | .error _ => false) = true := by decide

/-- the same at the API boundary: in `from_dict(d).render()` the i-th trigger of a document,
if legacy, comes out at position i with both keyword forms — for EVERY document whose round
trip succeeds (no validity hypothesis). -/
theorem legacy_trigger_doc (d o : DocD) (h : roundtrip d = .ok o) (i : Nat) (t : TriggerD) (k : Blob)
    (ht : d.triggers[i]? = some t) (hks : t.keywords = none) (hk : t.keyword = some k) :
    ∃ t', o.triggers[i]? = some t' ∧ t'.keyword = some k ∧
      t'.keywords = some (if isNull k then [] else [k]) := by
  unfold roundtrip at h
  cases hl : load d with
  | error e => simp [hl] at h
  | ok c =>
    simp only [hl] at h
    obtain ⟨gd, fd, ho⟩ := render_triggers h
    obtain ⟨tc, htc, hi⟩ := mapE_getElem d.triggers c.triggers i t (load_triggers hl) ht
    obtain ⟨h1, h2⟩ := legacy_trigger t k tc hk hks htc
    refine ⟨renderTrigger (assignTrigger gd fd tc), ?_, ?_, ?_⟩
    · rw [ho]
      simp only [List.getElem?_map, hi, Option.map_some]
    · simpa [renderTrigger, assignTrigger] using h1
    · simpa [renderTrigger, assignTrigger] using h2

/-- `load` is a function of the document: the model cannot modify its input (the Python
counterpart — the caller's object is untouched — is checked on every case by the harness). -/
theorem load_pure (d d' : DocD) (h : d = d') : load d = load d' := by rw [h]

/-! ### concrete documents: non-vacuity and negative witnesses

Each statement about a witness document is a closed decidable fact (`Valid` through `validB`), settled by one
kernel evaluation of the whole statement, so that `load` of the document is computed once. -/

instance (d : DocD) : Decidable (Valid d) := decidable_of_iff _ (validB_iff d)

/-- **non-vacuity** of `render_load`: `docRich` satisfies every hypothesis -/
theorem docRich_hyps : Valid docRich ∧ OrderedCats docRich ∧ ExitsByCats docRich ∧ UntypedFields docRich ∧
    PlainGroups docRich := by
  decide +kernel

theorem lossless_iff (d : DocD) : lossless d = true ↔ ∃ o, roundtrip d = .ok o ∧ o ≈ d := by
  unfold lossless Equiv
  cases roundtrip d with
  | error e => simp
  | ok o => simp

/-- the round trip of `docRich` is lossless: the instance of `roundtrip_lossless` at `docRich_hyps` -/
theorem docRich_lossless : lossless docRich = true :=
  have ⟨hv, ho, hx, hu, hp⟩ := docRich_hyps
  (lossless_iff docRich).2 (roundtrip_lossless docRich hv ho hx hu hp)

/-- the round trip of the good document is lossless (computed by the kernel, independently of `render_load`) -/
theorem docGood_lossless : lossless docGood = true := by decide +kernel

def AllButOrdered (d : DocD) : Prop := Valid d ∧ ExitsByCats d ∧ UntypedFields d ∧ PlainGroups d
def AllButExits (d : DocD) : Prop := Valid d ∧ OrderedCats d ∧ UntypedFields d ∧ PlainGroups d
def AllButUntyped (d : DocD) : Prop := Valid d ∧ OrderedCats d ∧ ExitsByCats d ∧ PlainGroups d
def AllButPlain (d : DocD) : Prop := Valid d ∧ OrderedCats d ∧ ExitsByCats d ∧ UntypedFields d

/-- **negative witness** for `OrderedCats` (F-C05-c): every other hypothesis holds, yet the
conclusion of `roundtrip_lossless` is false — the round trip reorders categories and exits. -/
theorem render_load_needs_OrderedCats :
    AllButOrdered docDefaultFirst ∧ ¬ ∃ o, roundtrip docDefaultFirst = .ok o ∧ o ≈ docDefaultFirst := by
  rw [← lossless_iff]
  unfold AllButOrdered
  decide +kernel

/-- **negative witness** for `ExitsByCats` (F-C05-d). -/
theorem render_load_needs_ExitsByCats :
    AllButExits docExitsPermuted ∧ ¬ ∃ o, roundtrip docExitsPermuted = .ok o ∧ o ≈ docExitsPermuted := by
  rw [← lossless_iff]
  unfold AllButExits
  decide +kernel

/-- F-C05-a is fixed in /repo (`fieldTypeBug = false`): a typed contact-field reference survives the
round trip, so the `UntypedFields` hypothesis is conservative. -/
theorem typed_field_roundtrips :
    ∃ o, roundtrip docTypedField = .ok o ∧ o ≈ docTypedField := by
  rw [← lossless_iff]
  decide +kernel

/-- **negative witness** for `PlainGroups` (F-C05-b). -/
theorem render_load_needs_PlainGroups :
    AllButPlain docGroupQuery ∧ ¬ ∃ o, roundtrip docGroupQuery = .ok o ∧ o ≈ docGroupQuery := by
  rw [← lossless_iff]
  unfold AllButPlain
  decide +kernel

/-- executable form of "the second round trip equals the first" -/
def idempotentOn (d : DocD) : Bool :=
  match roundtrip d with
  | .ok o => (match roundtrip o with | .ok o' => o' == o | .error _ => false)
  | .error _ => false

/-- **non-vacuity** of `render_load_idem` / `roundtrip_unordered` on documents the first round
trip does change: the F-C05-c and F-C05-d witnesses satisfy the hypotheses -/
theorem idem_hyps_unordered :
    (Valid docDefaultFirst ∧ CatsWired docDefaultFirst ∧ UntypedFields docDefaultFirst) ∧
    (Valid docExitsPermuted ∧ CatsWired docExitsPermuted ∧ UntypedFields docExitsPermuted) ∧
    (Valid docRich ∧ CatsWired docRich ∧ UntypedFields docRich) :=
  -- `Valid` and `UntypedFields` of the three documents are known; only `CatsWired` is evaluated
  have ⟨vO, _, uO, _⟩ := render_load_needs_OrderedCats.1
  have ⟨vE, _, uE, _⟩ := render_load_needs_ExitsByCats.1
  have ⟨vR, _, _, uR, _⟩ := docRich_hyps
  ⟨⟨vO, by decide +kernel, uO⟩, ⟨vE, by decide +kernel, uE⟩, ⟨vR, by decide +kernel, uR⟩⟩

theorem idempotentOn_of (d : DocD) (hv : Valid d) (hw : CatsWired d) (hu : UntypedFields d) :
    idempotentOn d = true := by
  have h := roundtrip_unordered d hv hw hu
  simp [idempotentOn, h, render_load_idem d _ hv hw hu h]

/-- the instances at `idem_hyps_unordered`: the second trip returns what the first returned, the first returns
`shapeDoc (reorderDoc d)`, and it is not lossless there (the reordering is not the identity, kernel-computed). -/
theorem idem_instances :
    idempotentOn docDefaultFirst = true ∧ idempotentOn docExitsPermuted = true ∧ idempotentOn docRich = true ∧
    (match roundtrip docDefaultFirst with | .ok o => o == shapeDoc (reorderDoc docDefaultFirst) | .error _ => false) = true ∧
    reorderDoc docDefaultFirst ≠ docDefaultFirst :=
  have ⟨⟨vO, wO, uO⟩, ⟨vE, wE, uE⟩, vR, wR, uR⟩ := idem_hyps_unordered
  ⟨idempotentOn_of _ vO wO uO, idempotentOn_of _ vE wE uE, idempotentOn_of _ vR wR uR,
    by simp [roundtrip_unordered _ vO wO uO], by decide +kernel⟩

/-- **`Valid` is not gratuitous**: one document per clause of `Valid` that the code forces
(referenced groups listed; attachments non-empty; timeout > 0; no `HARD_EXIT` destination).
Each satisfies the four named hypotheses, violates only that clause, and its round trip is
NOT lossless (kernel-computed; replayed on the real code by the harness). -/
theorem valid_clauses_needed :
    (∀ d ∈ [docOutsideUnlistedGroup, docOutsideEmptyAttachment, docOutsideZeroTimeout, docOutsideHardExit],
      validB d = false ∧ OrderedCats d ∧ ExitsByCats d ∧ UntypedFields d ∧ PlainGroups d ∧ lossless d = false) := by
  decide +kernel

/-- **`_ui` entries of splits name the whole operand path.**  `render_ui` re-derives `type` and
`config` of a `_ui.nodes` entry from the node; for a split by contact field / flow result the
operand shown is everything behind the namespace, with one, two or three dotted segments alike
(`@results.quiz.category` is the category of the result `quiz`, not the result `quiz`), and a
router that waits is a `wait_for_response` whatever its operand.  Kernel-computed instances of
`switchUi`; the function itself is tied to the code by the differential run (every `_ui` entry
of the model's round trip against the real one). -/
theorem ui_operand_whole_path :
    (∀ p ∈ ["quiz", "quiz.category", "a.b.c"].map String.toList,
      switchUi false ("@results.".toList ++ p) = ⟨"split_by_run_result".toList, .cases (some (p, "result".toList, p))⟩ ∧
      switchUi false ("@fields.".toList ++ p) = ⟨"split_by_contact_field".toList, .cases (some (p, "field".toList, p))⟩ ∧
      switchUi false ("@contact.".toList ++ p) = ⟨"split_by_contact_field".toList, .cases (some (p, "field".toList, p))⟩ ∧
      switchUi true ("@results.".toList ++ p) = ⟨"wait_for_response".toList, .cases none⟩) ∧
    (∀ p ∈ ["name", "language", "channel"].map String.toList,
      switchUi false ("@contact.".toList ++ p) = ⟨"split_by_contact_field".toList, .cases (some (p, "property".toList, capitalize p))⟩ ∧
      switchUi false ("@contact.".toList ++ p ++ ".x".toList) =
        ⟨"split_by_contact_field".toList, .cases (some (p ++ ".x".toList, "field".toList, p ++ ".x".toList))⟩) ∧
    (∀ o ∈ ["@results", "@fields", "@contact", "@result.x.y", "@contacts.a.b", "@input.text"].map String.toList,
      switchUi false o = ⟨"split_by_expression".toList, .cases none⟩) := by
  decide +kernel

end Rpft.Props.C05
