/-
C01 — every compiled flow is a referentially closed RapidPro definition.

`Closed` (Rpft/Flow.lean) is the statement of C01 for one flow, written with the
quantifiers of the property; `closedB` is the decision procedure run on EVERY real
compiler output by the driver; `closedB_iff` says the procedure is the statement.
`closed_exits_resolve` / `closed_choice_defined` connect closure to the transition system:
in a closed flow no path ends because of a structural fault.

The compiler model (`Rpft/Compile.lean`, an arena state machine driven by the parser's events,
tied to the real `FlowParser` by exact comparison of outputs) is proved closed BY CONSTRUCTION,
for ALL event sequences (unbounded; rows, nested groups, inserted blocks), by invariants of the
machine's execution (`Lemmas/CompileWp`, `CompileArena*`, `CompileExitSteps`, `CompileTree*`,
`CompileFinal`):
* `compile_cases_resolve`  — every case names a category of its own router   (no hypothesis)
* `compile_dests_resolve`  — every destination is a node of the EMITTED flow   (no hypothesis)
* `compile_closed_iff`     — `Closed (renderOut out) ↔` node identifiers pairwise different, for
  sheets WITH `_nodeId`s (that do not look like invented identifiers: `PlainGivenIds`,
  `needs_plain_given_ids`): a duplicated node identifier is the only way to a non-closed flow
* `compile_closed`         — `Closed (renderOut out)`, the full C01 statement, under `NoGivenIds`
  (no `_nodeId` given in the sheet; `needs_no_given_ids` shows the hypothesis is needed: it is
  the known finding F-C01-a of the real code)
* `compile_ids_invented`   — under `NoGivenIds` every identifier of the document came from the counter.
-/
import Rpft.Flow
import Rpft.CompileRender
import Rpft.Lemmas.CompileFinal
namespace Rpft.Props.C01
open Rpft Rpft.Flow

/-- The decision procedure is the property, for every flow document. -/
theorem closedB_iff (f : Flow.Flow) : closedB f = true ↔ Closed f := by
  simp [closedB]

/-- In a closed flow every exit that leads somewhere leads to a node the interpreter finds. -/
theorem closed_exits_resolve (f : Flow.Flow) (h : Closed f) :
    ∀ n ∈ f.nodes, ∀ e ∈ n.exits, ∀ d, e.dest = some d → (findNode f d).isSome = true := by
  intro n hn e he d hd
  have hnc := (h.2.1 n hn).1 e he d (by simp [hd])
  simp only [List.mem_map] at hnc
  obtain ⟨m, hm, hmu⟩ := hnc
  unfold findNode
  rw [List.findIdx?_isSome]
  simp only [List.any_eq_true, decide_eq_true_eq]
  exact ⟨m, hm, hmu⟩

theorem mem_uuids_find {cats : List Category} {u : Id} (h : u ∈ cats.map (·.uuid)) :
    ∃ c, cats.find? (·.uuid = u) = some c ∧ c ∈ cats ∧ c.uuid = u :=
  exists_find?_of_mem_map (fun _ => decide_eq_true_iff) h

/-- In a closed flow every admissible answer at a decision selects a category that exists
and owns an exit of the node: the decision always has a well-defined continuation. -/
theorem closed_choice_defined (f : Flow.Flow) (h : Closed f) :
    ∀ n ∈ f.nodes, ∀ r, n.router = some r → ∀ c, c < routerArity r →
      ∃ cat, routerChoice r c = some cat ∧
        ∃ k ∈ r.cats, k.uuid = cat ∧ ∃ e ∈ n.exits, e.uuid = k.exitUuid := by
  intro n hn r hr c hc
  have hrc : RouterClosed r n.exits := (h.2.1 n hn).2.1 r (by simp [hr])
  obtain ⟨⟨_, _, hce, _⟩, _, hcases, hdef, htime⟩ := hrc
  have fin : ∀ cat, cat ∈ r.cats.map (·.uuid) →
      ∃ k ∈ r.cats, k.uuid = cat ∧ ∃ e ∈ n.exits, e.uuid = k.exitUuid := by
    intro cat hcat
    simp only [List.mem_map] at hcat
    obtain ⟨k, hk, hku⟩ := hcat
    have := hce k hk
    simp only [List.mem_map] at this
    obtain ⟨e, he, heu⟩ := this
    exact ⟨k, hk, hku, e, he, heu⟩
  cases r with
  | random cats rn =>
    simp only [routerArity] at hc
    refine ⟨(cats[c]).uuid, ?_, ?_⟩
    · simp [routerChoice, hc]
    · exact fin _ (by simp [Router.cats]; exact ⟨cats[c], List.getElem_mem _, rfl⟩)
  | «switch» o cases cats d w rn =>
    simp only [routerArity] at hc
    by_cases h1 : c < cases.length
    · refine ⟨(cases[c]).catUuid, by simp [routerChoice, h1], ?_⟩
      exact fin _ (hcases (cases[c]) (by simp [Router.cases]))
    · by_cases h2 : c = cases.length
      · refine ⟨d, by simp [routerChoice, h2], ?_⟩
        exact fin _ (hdef d (by simp [Router.defaultCats]))
      · match w, hc, htime with
        | some (some (secs, t)), hc, htime =>
          refine ⟨t, by simp [routerChoice, h1, h2], ?_⟩
          exact fin _ (htime t (by simp [Router.timeoutCats]))
        | some none, hc, _ => simp at hc; omega
        | none, hc, _ => simp at hc; omega

/-! ### the compiler model (Rpft/Compile.lean, tied to the real parser by exact comparison) -/

/-- No internal marker reaches the document: the hard-exit sentinel renders as "leads nowhere",
and whatever an exit renders to is the identifier of the node it points to. -/
theorem render_no_sentinel (d : Compile.Dest) :
    Compile.renderDest .hard = none ∧
    (∀ u, Compile.renderDest d = some u → d = .node u) :=
  ⟨rfl, fun _ => Compile.renderDest_eq_some⟩

/-- Identifiers the compiler model invents are `~n` for the value of its counter, the counter
only grows, and different counter values give different identifiers: an invented identifier
is never handed out twice. -/
theorem invented_ids_distinct (s : Compile.St) (a b : Nat) (h : a ≠ b) :
    ('~' :: Compile.natStr a) ≠ ('~' :: Compile.natStr b) ∧
    Compile.fresh.run s = .ok ('~' :: Compile.natStr s.next, { s with next := s.next + 1 }) := by
  refine ⟨?_, Compile.fresh_spec s⟩
  intro he
  injection he with _ ht
  exact h (Compile.natStr_injective ht)

/-- Updating destinations never changes which categories a router has, so cases keep naming
categories of their own router (`mapCats` is how `connect_loose_exits` and `SwitchR.setDest` rewrite the
categories of a switch router). -/
theorem case_categories_stable (r : Compile.SwitchR) (f : Compile.Cat → Compile.Cat)
    (hf : ∀ c, (f c).uid = c.uid) (h : Compile.CaseCatsOk r) : Compile.CaseCatsOk (r.mapCats f) :=
  Compile.caseCatsOk_mapCats r f hf h

/-- **Closure by the shape of the data**: whatever the compiler machine did, every node it
renders has its categories and exits in one-to-one positional correspondence (category k owns
exit k), its default category — and with a timeout its no-response category — among its
categories, and exactly one exit when it has no router.  The remaining clauses of C01
(uniqueness of identifiers, destinations inside the flow, case → category) are invariants of the
machine's execution: `compile_cases_resolve`, `compile_dests_resolve`, `compile_closed` below. -/
theorem rendered_node_shape (n : Compile.NodeM) :
    let m := Compile.renderNode n
    (∀ r, m.router = some r → r.cats.map (·.exitUuid) = m.exits.map (·.uuid)) ∧
    (∀ r, m.router = some r → ∀ d ∈ r.defaultCats, d ∈ r.cats.map (·.uuid)) ∧
    (∀ r, m.router = some r → ∀ t ∈ r.timeoutCats, t ∈ r.cats.map (·.uuid)) ∧
    (m.router = none → m.exits.length = 1) := by
  intro m
  cases hn : n.router with
  | none => simp [m, Compile.renderNode, hn]
  | some rt =>
    -- each clause about "the router of the rendered node" is a clause about `renderRouter rt`
    have hm : m.router = some (Compile.renderRouter rt) := by simp [m, Compile.renderNode, hn]
    simp only [hm, Option.some.injEq, forall_eq', reduceCtorEq, false_imp_iff, and_true]
    cases rt with
    | rnd r =>
      simp [m, Compile.renderNode, hn, Compile.renderRouter, Flow.Router.cats, Flow.Router.defaultCats,
        Flow.Router.timeoutCats, Compile.renderCat, Compile.renderExit, List.map_map, Function.comp_def]
    | sw r =>
      have hc : (Compile.renderRouter (.sw r)).cats.map (·.uuid) = r.allCats.map (·.uid) := by
        simp [Compile.renderRouter, Flow.Router.cats, Compile.renderCat, List.map_map, Function.comp_def]
      refine ⟨?_, ?_, ?_⟩
      · simp [m, Compile.renderNode, hn, Compile.renderRouter, Flow.Router.cats, Compile.renderCat,
          Compile.renderExit, List.map_map, Function.comp_def]
      · rw [hc]; simp [Compile.renderRouter, Flow.Router.defaultCats, Compile.SwitchR.allCats]
      · -- a timeout category is rendered only for a positive wait with a no-response category, which is a category
        rw [hc]
        rcases hw : r.wait with _ | _ | k <;> rcases hnr : r.noResp with _ | nr <;>
          simp [Compile.renderRouter, Flow.Router.timeoutCats, Compile.SwitchR.allCats, hw, hnr]

/-! #### example sheets (used by the non-vacuity examples and the negative witness below) -/

def blankCond : Compile.Cond := { value := [], var := [], type := [], name := [] }

def edgeFrom (f : String) (v : String := "") : Compile.Edge :=
  { from_ := f.toList, cond := { blankCond with value := v.toList } }

def mkRow (id type : String) (edges : List Compile.Edge) (action : Option String := none)
    (dests : List String := []) (nodeUuid : String := "") : Compile.Row :=
  { rowId := id.toList, type := type.toList, edges := edges, action := action.map String.toList,
    actionOk := true, ownAction := none, nodeUuid := nodeUuid.toList, nodeName := [], saveName := [],
    noResponse := [], expression := [], flowName := [], dests := dests.map String.toList,
    resultKey := none, nodeOk := true }

/-- a message, a router (`wait_for_response` with two conditional edges), a block entered on one
answer, a `go_to` from the block back to the first row, an inserted block (its own row ids; a
random split inside) and a sub-flow node behind it -/
def exEvents : List Compile.Event :=
  [ .row (mkRow "1" "send_message" [edgeFrom ""] (some "hello")),
    .row (mkRow "2" "wait_for_response" [edgeFrom ""]),
    .openGroup [edgeFrom "2" "yes"] false,
    .row (mkRow "3" "send_message" [edgeFrom ""] (some "in block")),
    .closeGroup "b".toList,
    .row (mkRow "4" "go_to" [edgeFrom "b"] none ["1"]),
    .row (mkRow "5" "send_message" [edgeFrom "2" "no"] (some "bye")),
    .insert (mkRow "6" "insert_as_block" [edgeFrom "5"])
      [ .row (mkRow "1" "send_message" [edgeFrom ""] (some "inner")),
        .row (mkRow "2" "split_random" [edgeFrom ""]),
        .row (mkRow "3" "send_message" [edgeFrom "2" "a"] (some "A")) ],
    .row (mkRow "7" "start_new_flow" [edgeFrom "6"]) ]

/-- finding F-C01-a: an action row and a following router row give the same `_nodeId` -/
def badEvents : List Compile.Event :=
  [ .row (mkRow "1" "send_message" [edgeFrom ""] (some "hello") [] "X"),
    .row (mkRow "2" "wait_for_response" [edgeFrom "1"] none [] "X") ]

/-- legitimate use of `_nodeId`: two action rows merge into node `N1`, the router is `N2` -/
def mergeEvents : List Compile.Event :=
  [ .row (mkRow "1" "send_message" [edgeFrom ""] (some "hello") [] "N1"),
    .row (mkRow "2" "send_message" [edgeFrom "1"] (some "again") [] "N1"),
    .row (mkRow "3" "wait_for_response" [edgeFrom "2"] none [] "N2"),
    .row (mkRow "4" "send_message" [edgeFrom "3" "yes"] (some "bye")) ]

/-- a given `_nodeId` that looks like an identifier the model invents (`~0` is the uuid of the
first row's action) -/
def tildeEvents : List Compile.Event :=
  [ .row (mkRow "1" "send_message" [edgeFrom ""] (some "hello")),
    .row (mkRow "2" "send_message" [edgeFrom "1"] (some "again") [] "~0") ]

def exTests : List Str := ["has_any_word".toList, "has_only_text".toList]

/-- `x` succeeds with a value satisfying `p`, as a Boolean the kernel can evaluate -/
def succeedsWith {ε α : Type} (x : Except ε α) (p : α → Prop) [DecidablePred p] : Bool :=
  match x with
  | .ok a => decide (p a)
  | .error _ => false

theorem of_succeedsWith {ε α : Type} {x : Except ε α} {p : α → Prop} [DecidablePred p]
    (h : succeedsWith x p = true) : ∃ a, x = .ok a ∧ p a := by
  unfold succeedsWith at h
  split at h
  · exact ⟨_, rfl, of_decide_eq_true h⟩
  · cases h

/-- the example sheet, evaluated once: it compiles, to eight nodes, three of them routers (that the
flow is closed is then a consequence of the theorems below, not of the evaluation) -/
theorem exEvents_compiled : ∃ out, Compile.compile [] exTests exEvents = .ok out ∧
    out.nodes.length = 8 ∧ (out.nodes.filter (·.router.isSome)).length = 3 :=
  of_succeedsWith (by decide +kernel)

/-- **Cases resolve, for ALL event sequences**: whatever rows, groups and inserted blocks the
parser is fed, if the compiler model succeeds then every case of every router of the emitted flow
names a category of that same router (invariant `CaseCatsOk` of the machine, by induction over
the event sequence; no hypothesis on the sheet). -/
theorem compile_cases_resolve (noArgs testTypes : List Str) (evs : List Compile.Event) (out : Compile.Out)
    (h : Compile.compile noArgs testTypes evs = .ok out) :
    ∀ n ∈ (Compile.renderOut out).nodes, ∀ r, n.router = some r →
      ∀ k ∈ r.cases, k.catUuid ∈ r.cats.map (·.uuid) := by
  obtain ⟨s, hr, _, ho⟩ := Compile.compile_ok h
  intro n hn
  simp only [Compile.renderOut, List.mem_map] at hn
  obtain ⟨m, hm, rfl⟩ := hn
  rw [ho] at hm
  obtain ⟨i, hi⟩ := Compile.out_nodes_arena hm
  exact Compile.rendered_cases_ok (Compile.final_nodeOk hr hi).cases

/-- non-vacuity: the example sheet (router, block, `go_to`, inserted block) compiles, and its cases name categories -/
example : ∃ out, Compile.compile [] exTests exEvents = .ok out ∧
    ∀ n ∈ (Compile.renderOut out).nodes, ∀ r, n.router = some r →
      ∀ k ∈ r.cases, k.catUuid ∈ r.cats.map (·.uuid) := by
  obtain ⟨out, ho, _⟩ := exEvents_compiled
  exact ⟨out, ho, compile_cases_resolve _ _ _ _ ho⟩

/-- **Destinations resolve, for ALL event sequences**: if the compiler model succeeds, every
destination named by an exit of the emitted flow is the identifier of a node OF THE EMITTED FLOW.
Two invariants of the machine, both by induction over the event sequence (no bound, no hypothesis
on the sheet): every destination stored in the arena is the identifier of an arena node, and the
group tree reachable from the root covers the whole arena once all blocks are closed (so every
arena node is emitted; the fuel of `emit` suffices because children have larger indices than
their parent). -/
theorem compile_dests_resolve (noArgs testTypes : List Str) (evs : List Compile.Event) (out : Compile.Out)
    (h : Compile.compile noArgs testTypes evs = .ok out) :
    ∀ n ∈ (Compile.renderOut out).nodes, ∀ e ∈ n.exits, ∀ d, e.dest = some d →
      d ∈ (Compile.renderOut out).nodes.map (·.uuid) := by
  obtain ⟨s, hr, hl, ho⟩ := Compile.compile_ok h
  intro n hn e he d hd
  simp only [Compile.renderOut, List.mem_map] at hn
  obtain ⟨m, hm, rfl⟩ := hn
  rw [ho] at hm
  obtain ⟨i, hi⟩ := Compile.out_nodes_arena hm
  obtain ⟨j, m', hj, hu⟩ := (Compile.final_nodeOk hr hi).dests _ (Compile.rendered_dest he hd)
  have hjlt : j < s.nodes.size := lt_size_of_getElem? hj
  have hje := Compile.emit_all (Compile.final_binv hr) hl j hjlt
  simp only [Compile.renderOut, List.map_map, List.mem_map, Function.comp]
  refine ⟨m', ?_, by simp [Compile.renderNode, hu]⟩
  rw [ho, List.mem_filterMap]
  exact ⟨j, hje, hj⟩

/-- non-vacuity: the example sheet compiles; all its destinations are nodes of the output -/
example : ∃ out, Compile.compile [] exTests exEvents = .ok out ∧
    ∀ n ∈ (Compile.renderOut out).nodes, ∀ e ∈ n.exits, ∀ d, e.dest = some d →
      d ∈ (Compile.renderOut out).nodes.map (·.uuid) := by
  obtain ⟨out, ho, _⟩ := exEvents_compiled
  exact ⟨out, ho, compile_dests_resolve _ _ _ _ ho⟩

/-- "No identifiers are given in the sheet": every row, also inside inserted blocks, has an
empty `_nodeId` (the hypothesis of `compile_closed`; needed, see `needs_no_given_ids`). -/
def NoGivenIds (evs : List Compile.Event) : Prop := Compile.noIdsL evs = true

instance (evs : List Compile.Event) : Decidable (NoGivenIds evs) := by
  unfold NoGivenIds; exact inferInstance

/-- "Given identifiers do not look like invented ones": no `_nodeId` of any row (also inside
inserted blocks) starts with `~`, the shape of the identifiers the MODEL invents (the real ones
are random UUID-4; a given identifier colliding with one of them is the same accident).  The
hypothesis of `compile_closed_iff`; needed, see `needs_plain_given_ids`. -/
def PlainGivenIds (evs : List Compile.Event) : Prop := Compile.okIdsL evs = true

instance (evs : List Compile.Event) : Decidable (PlainGivenIds evs) := by
  unfold PlainGivenIds; exact inferInstance

theorem NoGivenIds.plain {evs : List Compile.Event} (h : NoGivenIds evs) : PlainGivenIds evs :=
  Compile.okIdsL_of_noIdsL evs h

/-- **C01 for the compiler model, for ALL event sequences, sheets with `_nodeId`s included**
(`compile_closed_iff`): whatever identifiers the sheet gives (node merging, exported sheets), the
emitted flow is referentially closed EXACTLY WHEN its node identifiers are pairwise different.
So a duplicated node identifier — which only a sheet-given `_nodeId` can cause, finding F-C01-a —
is the ONLY way the compiler model can emit a flow that is not closed: destinations always lead
into the flow, categories / exits / cases always correspond, and every invented identifier is
used for one object only.  Proof: three invariants of the machine's execution (arena closure;
freshness, w.r.t. the counter, of every stored identifier other than given node identifiers;
well-formed group tree ⇒ the emission covers the arena exactly once), each preserved by every
parser event, by induction over the (unbounded, nested) event sequence. -/
theorem compile_closed_iff (noArgs testTypes : List Str) (evs : List Compile.Event) (out : Compile.Out)
    (hplain : PlainGivenIds evs) (h : Compile.compile noArgs testTypes evs = .ok out) :
    Flow.Closed (Compile.renderOut out) ↔ ((Compile.renderOut out).nodes.map (·.uuid)).Nodup := by
  refine ⟨fun hc => hc.1, fun hU => ?_⟩
  obtain ⟨s, hr, hl, ho⟩ := Compile.compile_ok h
  have a := Compile.final_ainv ⟨True, False⟩ ⟨fun _ => hplain, fun hf => hf.elim⟩ hr
  have hI := a.ids trivial
  have hb := Compile.final_binv hr
  -- every identifier of the document is used once
  have hids : (Compile.renderOut out).ids.Nodup := by
    have e : (Compile.renderOut out).ids = out.nodes.flatMap Compile.NodeM.ids := by
      simp only [Compile.renderOut, Flow.Flow.ids, List.flatMap_map, Compile.renderNode_ids]
    have hU' : (out.nodes.map (·.uid)).Nodup := by
      simpa [Compile.renderOut, List.map_map, Function.comp_def, Compile.renderNode] using hU
    rw [e, ho]
    rw [ho] at hU'
    exact Compile.ids_nodup_of_idsInv hI _ (Compile.emit_nodup hb hl) hU'
  refine ⟨hU, ?_, hids⟩
  intro n hn
  have hn' := hn
  simp only [Compile.renderOut, List.mem_map] at hn'
  obtain ⟨m, hm, rfl⟩ := hn'
  have hnd : (Compile.renderNode m).ids.Nodup :=
    (List.pairwise_flatMap.mp hids).1 _ hn
  obtain ⟨sh1, sh2, sh3, sh4⟩ := rendered_node_shape m
  refine ⟨?_, ?_, sh4⟩
  · intro e he d hd
    exact compile_dests_resolve noArgs testTypes evs out h _ hn e he d (by
      cases hde : e.dest <;> simp [hde] at hd; rw [hd])
  · intro r hr'
    have hr : (Compile.renderNode m).router = some r := by
      cases hrr : (Compile.renderNode m).router <;> simp [hrr] at hr'; rw [hr']
    have hex : r.cats.map (·.exitUuid) = (Compile.renderNode m).exits.map (·.uuid) := sh1 r hr
    -- exits and categories are sub-lists of the node's identifiers
    have hE : ((Compile.renderNode m).exits.map (·.uuid)).Nodup := by
      refine List.Sublist.nodup ?_ hnd
      unfold Flow.Node.ids
      exact ((List.sublist_append_right _ _).trans (List.sublist_append_left _ _)).cons _
    have hC : (r.cats.map (·.uuid)).Nodup := by
      refine List.Sublist.nodup ?_ hnd
      unfold Flow.Node.ids
      rw [hr]
      exact ((List.sublist_append_left _ _).trans (List.sublist_append_right _ _)).cons _
    refine ⟨⟨?_, hE, ?_, ?_⟩, hC, ?_, sh2 r hr, sh3 r hr⟩
    · rw [hex]; exact hE
    · intro c hc; rw [← hex]; exact List.mem_map_of_mem hc
    · intro e he; rw [hex]; exact List.mem_map_of_mem he
    · exact compile_cases_resolve noArgs testTypes evs out h _ hn r hr

/-- non-vacuity of `compile_closed_iff` with identifiers given in the sheet: two rows merging
into the node `N1` and a router `N2` — plain identifiers, compiles (three nodes, the first with
two actions), node identifiers are unique, and the output is closed -/
example : PlainGivenIds mergeEvents ∧ ¬ NoGivenIds mergeEvents ∧
    ∃ out, Compile.compile [] exTests mergeEvents = .ok out ∧
      ((Compile.renderOut out).nodes.map (·.uuid)).Nodup ∧ Closed (Compile.renderOut out) := by
  have hp : PlainGivenIds mergeEvents := by decide +kernel
  obtain ⟨out, ho, hn⟩ := of_succeedsWith (x := Compile.compile [] exTests mergeEvents)
    (p := fun out => ((Compile.renderOut out).nodes.map (·.uuid)).Nodup) (by decide +kernel)
  exact ⟨hp, by decide +kernel, out, ho, hn, (compile_closed_iff _ _ _ _ hp ho).mpr hn⟩

/-- the hypothesis of `compile_closed_iff` is needed: a given `_nodeId` equal to an identifier the
model invents (`~0`, the uuid of an action) leaves the node identifiers pairwise different, yet
one identifier names two objects -/
theorem needs_plain_given_ids :
    ¬ PlainGivenIds tildeEvents ∧
    ∃ out, Compile.compile [] exTests tildeEvents = .ok out ∧
      ((Compile.renderOut out).nodes.map (·.uuid)).Nodup ∧ ¬ Closed (Compile.renderOut out) :=
  ⟨by decide +kernel, of_succeedsWith (by decide +kernel)⟩

/-- **C01 for the compiler model, for ALL event sequences** (`compile_closed`): when the sheet
gives no node identifiers, every flow the compiler model emits is referentially closed —
node identifiers are unique, every exit leads nowhere or to a node of the same flow, categories
and exits correspond one to one, every case names a category of its own router, default and
no-response categories exist, a router-less node has exactly one exit, and every identifier of
the document is used for one object only.  (`compile_closed_iff` plus: without given
identifiers every node identifier comes from the counter, which never repeats.) -/
theorem compile_closed (noArgs testTypes : List Str) (evs : List Compile.Event) (out : Compile.Out)
    (hids : NoGivenIds evs) (h : Compile.compile noArgs testTypes evs = .ok out) :
    Flow.Closed (Compile.renderOut out) := by
  rw [compile_closed_iff noArgs testTypes evs out hids.plain h]
  obtain ⟨s, hr, hl, ho⟩ := Compile.compile_ok h
  have a := Compile.final_ainv ⟨True, True⟩ ⟨fun _ => hids.plain, fun _ => hids⟩ hr
  have hU := Compile.uids_nodup_of_invented (a.ids trivial) (a.inv trivial) _
    (Compile.emit_nodup (Compile.final_binv hr) hl)
  rw [← ho] at hU
  simpa [Compile.renderOut, List.map_map, Function.comp_def, Compile.renderNode] using hU

/-- Under the same hypothesis every identifier of the emitted document was invented by the
model's `generate_new_uuid` (it is `~k` for a value `k` the counter went through): together with
`compile_closed` — each such identifier is handed out for one object only. -/
theorem compile_ids_invented (noArgs testTypes : List Str) (evs : List Compile.Event) (out : Compile.Out)
    (hids : NoGivenIds evs) (h : Compile.compile noArgs testTypes evs = .ok out) :
    ∀ x ∈ (Compile.renderOut out).ids, ∃ k, x = '~' :: Compile.natStr k := by
  obtain ⟨s, hr, hl, ho⟩ := Compile.compile_ok h
  have a := Compile.final_ainv ⟨True, True⟩ ⟨fun _ => hids.plain, fun _ => hids⟩ hr
  intro x hx
  have e : (Compile.renderOut out).ids = out.nodes.flatMap Compile.NodeM.ids := by
    simp only [Compile.renderOut, Flow.Flow.ids, List.flatMap_map, Compile.renderNode_ids]
  rw [e, List.mem_flatMap] at hx
  obtain ⟨m, hm, hxm⟩ := hx
  rw [ho] at hm
  obtain ⟨i, hi⟩ := Compile.out_nodes_arena hm
  obtain ⟨k, _, hk⟩ := (a.ids trivial).below i m hi x (by
    rw [Compile.NodeM.ids_eq, List.mem_cons] at hxm
    rcases hxm with e | e
    · rw [e]; exact Compile.uid_mem_fids m (a.inv trivial i m hi)
    · exact Compile.innerIds_sub_fids m e)
  exact ⟨k, hk⟩

/-! ### non-vacuity of `compile_closed` and the negative witness for its hypothesis -/

/-- non-vacuity of `compile_closed`: a sheet with a router, a block, a `go_to` and an inserted
block satisfies the hypotheses (no given identifiers, compiles: eight nodes, three of them
routers) — and, as the theorem says, its output is closed -/
example : NoGivenIds exEvents ∧
    ∃ out, Compile.compile [] exTests exEvents = .ok out ∧ Closed (Compile.renderOut out) ∧
      out.nodes.length = 8 ∧ (out.nodes.filter (·.router.isSome)).length = 3 := by
  have hid : NoGivenIds exEvents := by decide +kernel
  obtain ⟨out, ho, hn⟩ := exEvents_compiled
  exact ⟨hid, out, ho, compile_closed _ _ _ _ hid ho, hn⟩

/-- the hypothesis of `compile_closed` is needed (finding F-C01-a of the real code, reproduced by
the model): the same `_nodeId` on an action row and a following router row compiles without
error into two nodes sharing one uuid — not a closed flow (by `compile_closed_iff` the duplicated
node identifier is the only thing wrong with it) -/
theorem needs_no_given_ids :
    ¬ NoGivenIds badEvents ∧ PlainGivenIds badEvents ∧
    ∃ out, Compile.compile [] exTests badEvents = .ok out ∧ ¬ Closed (Compile.renderOut out) := by
  have hp : PlainGivenIds badEvents := by decide +kernel
  obtain ⟨out, ho, hn⟩ := of_succeedsWith (x := Compile.compile [] exTests badEvents)
    (p := fun out => ¬ ((Compile.renderOut out).nodes.map (·.uuid)).Nodup) (by decide +kernel)
  exact ⟨by decide +kernel, hp, out, ho, fun hc => hn ((compile_closed_iff _ _ _ _ hp ho).mp hc)⟩

/-! ### the statement itself: non-vacuity and negative witnesses -/

def n1 : Node :=
  { uuid := "n1".toList, actions := [{ uuid := "a1".toList, obs := "hi".toList }],
    router := none, exits := [{ uuid := "e1".toList, dest := some "n2".toList }] }

def n2 : Node :=
  { uuid := "n2".toList, actions := [],
    router := some (.switch "@input.text".toList
      [{ uuid := "k1".toList, type := "has_any_word".toList, args := ["y".toList], catUuid := "c1".toList }]
      [{ uuid := "c1".toList, name := "Y".toList, exitUuid := "e2".toList },
       { uuid := "c2".toList, name := "Other".toList, exitUuid := "e3".toList }]
      "c2".toList (some none) none),
    exits := [{ uuid := "e2".toList, dest := some "n1".toList }, { uuid := "e3".toList, dest := none }] }

/-- a two-node flow with a cycle satisfies the statement -/
example : Closed { uuid := [], name := [], nodes := [n1, n2] } := by decide +kernel

/-- the defect shape of finding F-C01-a (two nodes sharing one uuid) is rejected -/
theorem duplicate_node_uuid_not_closed :
    ¬ Closed { uuid := [], name := [], nodes := [n1, { n2 with uuid := "n1".toList }] } := by decide +kernel

/-- an exit into another flow's node is rejected -/
theorem dangling_exit_not_closed :
    ¬ Closed { uuid := [], name := [], nodes := [n1] } := by decide +kernel

/-- a category without exit is rejected -/
theorem category_without_exit_not_closed :
    ¬ Closed { uuid := [], name := [], nodes := [n1, { n2 with exits := n2.exits.take 1 }] } := by decide +kernel

end Rpft.Props.C01
