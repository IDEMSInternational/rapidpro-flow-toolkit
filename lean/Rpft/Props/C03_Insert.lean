/-
C03, the inserted block — `insert_as_block` is sugar for a block.

On the compiler model (`Rpft/Compile.lean`, tied to the real FlowParser by the exact comparison
of C01): an `insert_as_block` row `r` whose template instantiates to the events `body` compiles
to the same flow as the sheet in which the row is replaced by its TWIN

    begin_block (same edges)  ·  the template's rows, `start` edges made blank  ·  end_block (same row_id)

— the same flow up to an injective renaming of the invented identifiers, hence the same
behaviour for every contact input sequence at every observation level (`insert_twin_traces_partial`).
Proved for ALL sheets around the row (`pre`, `post`) and all templates of the covered class
(`InsertCovered`): universally quantified, no bound.

The proof (Lemmas/CompileInsert*.lean) is a simulation between the two runs of the compiler
machine: the nested parser of the insert row against the outer parser inside the twin's block.
The two runs create the nodes and groups in different orders (the twin connects the edges into
the block when the template's first row is read, the insert row after the template is parsed), so
identifiers, node indices and group indices are related by explicit injective maps that change
from phase to phase.

Two cases:
* the rest of the sheet does not continue from the block (`InsertCovered`, `insert_twin_traces_partial`);
* the rest of the sheet CONTINUES from the block — a later row with a blank `from` right after the
  block, or naming the block's row id, any number of them; the insert row at any block depth (inside
  blocks and loops: `exInside`) — provided no row leading into the block
  has an unconnected exit left (without this F-C03-a separates the two forms:
  `needs_post_avoids_block`): on the run (`InsertContinues`, `insert_twin_continues_traces_partial`)
  and, on the EVENTS, for an insert row that directly follows a plain action row it is attached to
  (`InsertFollows`, `insert_twin_follows_traces_partial`) — the shape of the harness's twin workbooks,
  repeated insertions of one template included (`exHarness…`).

What the statement does NOT cover is kept visible in `insert_twin_full`.
-/
import Rpft.Lemmas.CompileInsertTheorem
import Rpft.Lemmas.CompileInsertTight
import Rpft.Lemmas.FlowRename
import Rpft.FlowSys
namespace Rpft.Props.C03
open Rpft Rpft.Flow Function

/-- **Traces are invariant under injective renaming of identifiers**: a flow and the flow with all
its node / exit / category / case / action identifiers renamed by an injective function make the
same observations, for every observation level, every environment (sequence of contact inputs,
random draws, sub-flow outcomes) and every length. -/
theorem insert_trace_rename {ρ : Id → Id} (h : Injective ρ) (lvl : ObsLevel) (f : Flow.Flow)
    (env : Nat → Nat) (n : Nat) : trace lvl (f.rename ρ) env n = trace lvl f env n :=
  Flow.trace_rename h lvl f env n

/-- `start`-attached rows of the template take the block's incoming edges: their `from` is blank -/
abbrev insertRetarget (body : List Compile.Event) : List Compile.Event := Compile.retarget body

/-- the block that replaces the insert row -/
abbrev insertTwin (r : Compile.Row) (body : List Compile.Event) : List Compile.Event := Compile.twin r body

theorem insertTwin_eq (r : Compile.Row) (body : List Compile.Event) :
    insertTwin r body = [.openGroup r.edges false] ++ insertRetarget body ++ [.closeGroup r.rowId] := rfl

theorem insertRetarget_row (r : Compile.Row) (es : List Compile.Event) :
    insertRetarget (.row r :: es) =
      .row { r with edges := r.edges.map fun e => if e.from_ = "start".toList then { e with from_ := [] } else e }
        :: insertRetarget es := rfl

/-- The sheets and templates the theorem covers.
* `entry`: the template starts with an ordinary row that creates a node (any action or router row,
  no `_nodeId` / node name), attached to `start` unconditionally; no later row read by the
  template's own parser is attached to `start` (`needs_single_start`), and none of them gives or
  uses a `_nodeId` / node name.  Everything else is free: routers, conditional edges, `go_to`,
  `no_op`, hard and loose exits, blocks to any depth, further `insert_as_block` rows (with
  arbitrary templates of their own).
* `ids`: no `_nodeId` given in the sheet has the shape of an identifier the model invents (`~n`).
* `top`: the insert row is not inside a block (as many `end_` as `begin_` rows before it).
* `apart`: the rows after the block name neither the block nor a row id of the template (the twin
  is the template "with ids renamed apart"), and no edge with a blank `from` is read while the
  block is the most recent node group (`needs_post_avoids_block`: F-C03-a). -/
structure InsertCovered (pre : List Compile.Event) (r : Compile.Row) (body post : List Compile.Event) : Prop where
  entry : ∃ r₁ rest, body = .row r₁ :: rest ∧ Compile.EntryRow r₁ ∧ Compile.noStartL rest = true ∧
    Compile.noNamesL rest = true
  ids : Compile.okIdsL (pre ++ [.insert r body] ++ post) = true
  top : Compile.opens pre = Compile.closes pre
  apart : Compile.avoids (Compile.hidden r body) true 0 post = true

/-- **An insert row and its twin compile to the same nodes up to an injective renaming of
identifiers** — for all sheets `pre`, `post` around the row and all covered templates. -/
theorem insert_twin_nodes_partial (noArgs testTypes : List Str) (pre post body : List Compile.Event)
    (r : Compile.Row) (hc : InsertCovered pre r body post) {o₁ o₂ : Compile.Out}
    (h₁ : Compile.compile noArgs testTypes (pre ++ [.insert r body] ++ post) = .ok o₁)
    (h₂ : Compile.compile noArgs testTypes (pre ++ insertTwin r body ++ post) = .ok o₂) :
    Compile.Renamed o₁ o₂ := by
  obtain ⟨r₁, rest, rfl, he, hns, hnn⟩ := hc.entry
  exact Compile.insert_twin_nodes false he hns hnn hc.ids (fun _ => hc.top)
    (Compile.hidden r (.row r₁ :: rest)) (fun _ => List.mem_cons_self ..) (fun _ hx => List.mem_cons_of_mem _ hx)
    (fun h => Bool.noConfusion h) (fun h => Bool.noConfusion h) (fun _ => hc.apart) (fun h => Bool.noConfusion h) h₁ h₂

theorem renaming_of_nodes {o₁ o₂ : Compile.Out} (h : Compile.Renamed o₁ o₂) :
    ∃ ρ : Id → Id, Injective ρ ∧ Compile.renderOut o₂ = (Compile.renderOut o₁).rename ρ := by
  obtain ⟨ρ, hρ, e⟩ := h
  have e2 : o₂ = { nodes := o₁.nodes.map (Compile.rnNode ρ) } := by cases o₂; simp only [] at e; rw [e]
  exact ⟨ρ, hρ, by rw [e2]; exact Compile.renderOut_rn o₁.nodes⟩

theorem traces_of_nodes {o₁ o₂ : Compile.Out} (h : Compile.Renamed o₁ o₂) :
    ∀ (lvl : ObsLevel) (env : Nat → Nat) (n : Nat),
      trace lvl (Compile.renderOut o₁) env n = trace lvl (Compile.renderOut o₂) env n := by
  obtain ⟨ρ, hρ, e⟩ := renaming_of_nodes h
  intro lvl env n
  rw [e, Flow.trace_rename hρ]

/-- **The flows an insert row and its twin compile to are equal up to an injective renaming of
identifiers.** -/
theorem insert_twin_renaming_partial (noArgs testTypes : List Str) (pre post body : List Compile.Event)
    (r : Compile.Row) (hc : InsertCovered pre r body post) {o₁ o₂ : Compile.Out}
    (h₁ : Compile.compile noArgs testTypes (pre ++ [.insert r body] ++ post) = .ok o₁)
    (h₂ : Compile.compile noArgs testTypes (pre ++ insertTwin r body ++ post) = .ok o₂) :
    ∃ ρ : Id → Id, Injective ρ ∧ Compile.renderOut o₂ = (Compile.renderOut o₁).rename ρ :=
  renaming_of_nodes (insert_twin_nodes_partial noArgs testTypes pre post body r hc h₁ h₂)

/-- **An insert row and its twin compile to behaviourally equal flows**: the same observations for
every environment and every length, at every observation level (in particular the full level of C03:
operands, tests, arguments, order, category names, timeouts, result names, action content). -/
theorem insert_twin_traces_partial (noArgs testTypes : List Str) (pre post body : List Compile.Event)
    (r : Compile.Row) (hc : InsertCovered pre r body post) {o₁ o₂ : Compile.Out}
    (h₁ : Compile.compile noArgs testTypes (pre ++ [.insert r body] ++ post) = .ok o₁)
    (h₂ : Compile.compile noArgs testTypes (pre ++ insertTwin r body ++ post) = .ok o₂) :
    ∀ (lvl : ObsLevel) (env : Nat → Nat) (n : Nat),
      trace lvl (Compile.renderOut o₁) env n = trace lvl (Compile.renderOut o₂) env n :=
  traces_of_nodes (insert_twin_nodes_partial noArgs testTypes pre post body r hc h₁ h₂)

def insBlank : Compile.Cond := { value := [], var := [], type := [], name := [] }

def insEdge (f : String) (v : String := "") : Compile.Edge :=
  { from_ := f.toList, cond := { insBlank with value := v.toList } }

def insRow (id type : String) (edges : List Compile.Edge) (action : Option String := none)
    (nodeName : String := "") : Compile.Row :=
  { rowId := id.toList, type := type.toList, edges := edges, action := action.map String.toList,
    actionOk := true, ownAction := none, nodeUuid := [], nodeName := nodeName.toList, saveName := [],
    noResponse := [], expression := [], flowName := [], dests := [], resultKey := none, nodeOk := true }

def insTests : List Str := ["has_any_word".toList]

/-- a message and a wait; the block is entered on "yes" -/
def exPre : List Compile.Event :=
  [ .row (insRow "m1" "send_message" [insEdge "start"] (some "hello")),
    .row (insRow "m2" "wait_for_response" [insEdge "m1"]) ]

def exIns : Compile.Row := insRow "I" "insert_as_block" [insEdge "m2" "yes"]

/-- the instantiated template: a message, a wait with three branches — one into a block of the
template, one to a hard exit, the default one and the block's exit into a further inserted
template -/
def exBody : List Compile.Event :=
  [ .row (insRow "t1" "send_message" [insEdge "start"] (some "a")),
    .row (insRow "t2" "wait_for_response" [insEdge "t1"]),
    .openGroup [insEdge "t2" "go"] false,
    .row (insRow "t3" "send_message" [insEdge ""] (some "in block")),
    .closeGroup "tb".toList,
    .row (insRow "t4" "hard_exit" [insEdge "t2" "stop"]),
    .insert (insRow "ti" "insert_as_block" [insEdge "tb"])
      [ .row (insRow "u1" "send_message" [insEdge "start"] (some "nested")) ] ]

/-- the sheet goes on from the wait before the block -/
def exPost : List Compile.Event :=
  [ .row (insRow "p1" "send_message" [insEdge "m2" "no"] (some "bye")) ]

theorem exCovered : InsertCovered exPre exIns exBody exPost :=
  ⟨⟨_, _, rfl, by decide +kernel⟩, by decide +kernel, by decide +kernel, by decide +kernel⟩

/-- `some n`: both sheets compile, to `n` nodes each -/
def bothCompile (a b : List Compile.Event) : Option Nat :=
  match Compile.compile [] insTests a, Compile.compile [] insTests b with
  | .ok o₁, .ok o₂ => if o₁.nodes.length = o₂.nodes.length then some o₁.nodes.length else none
  | _, _ => none

theorem bothCompile_some {a b : List Compile.Event} {n : Nat} (h : bothCompile a b = some n) :
    ∃ o₁ o₂, Compile.compile [] insTests a = .ok o₁ ∧ Compile.compile [] insTests b = .ok o₂ := by
  unfold bothCompile at h
  split at h
  · rename_i o₁ o₂ h1 h2; exact ⟨o₁, o₂, h1, h2⟩
  · cases h

/-- non-vacuity: the example is covered, the sheet with the insert row and the sheet with its twin
both compile, and they behave alike -/
example : ∃ o₁ o₂, Compile.compile [] insTests (exPre ++ [.insert exIns exBody] ++ exPost) = .ok o₁ ∧
    Compile.compile [] insTests (exPre ++ insertTwin exIns exBody ++ exPost) = .ok o₂ ∧
    ∀ lvl env n, trace lvl (Compile.renderOut o₁) env n = trace lvl (Compile.renderOut o₂) env n := by
  obtain ⟨o₁, o₂, h₁, h₂⟩ := bothCompile_some
    (show bothCompile (exPre ++ [.insert exIns exBody] ++ exPost) (exPre ++ insertTwin exIns exBody ++ exPost) = some 7 by
      decide +kernel)
  exact ⟨o₁, o₂, h₁, h₂, insert_twin_traces_partial [] insTests _ _ _ _ exCovered h₁ h₂⟩

/-- `some true` / `some false`: both sheets compile and make the same / different observations along
`env` for `n` steps at the full level -/
def sameTrace (a b : List Compile.Event) (env : Nat → Nat) (n : Nat) : Option Bool :=
  match Compile.compile [] insTests a, Compile.compile [] insTests b with
  | .ok o₁, .ok o₂ =>
    some (decide (trace ⟨true, true⟩ (Compile.renderOut o₁) env n = trace ⟨true, true⟩ (Compile.renderOut o₂) env n))
  | _, _ => none

theorem sameTrace_false {a b : List Compile.Event} {env : Nat → Nat} {n : Nat} (h : sameTrace a b env n = some false) :
    ∃ o₁ o₂, Compile.compile [] insTests a = .ok o₁ ∧ Compile.compile [] insTests b = .ok o₂ ∧
      trace ⟨true, true⟩ (Compile.renderOut o₁) env n ≠ trace ⟨true, true⟩ (Compile.renderOut o₂) env n := by
  unfold sameTrace at h
  split at h
  · rename_i o₁ o₂ h1 h2
    refine ⟨o₁, o₂, h1, h2, ?_⟩
    injection h with h
    simpa using h
  · cases h

/-- the block is entered from a wait on "yes" (the wait's default exit stays unconnected) -/
def wPre : List Compile.Event := [ .row (insRow "m1" "wait_for_response" [insEdge "start"]) ]
def wIns : Compile.Row := insRow "I" "insert_as_block" [insEdge "m1" "yes"]
def wBody : List Compile.Event := [ .row (insRow "t1" "send_message" [insEdge "start"] (some "in")) ]
/-- the next row continues from the block: blank `from` / naming the block -/
def wPostBlank : List Compile.Event := [ .row (insRow "p1" "send_message" [insEdge ""] (some "after")) ]
def wPostNamed : List Compile.Event := [ .row (insRow "p1" "send_message" [insEdge "I"] (some "after")) ]

theorem wNamed_differs : sameTrace (wPre ++ [.insert wIns wBody] ++ wPostNamed)
    (wPre ++ insertTwin wIns wBody ++ wPostNamed) (fun _ => 1) 3 = some false := by decide +kernel

/-- **`apart` is needed — finding F-C03-a seen from the insert row**: when the sheet continues
from the block while a row leading INTO the block still has an unconnected exit, the twin block
also wires that exit (the wait's "Other") to the next row — through the begin row kept as a
`no_op` inside the block — and the insert row does not.  Everything else of `InsertCovered` holds;
both sheets compile; a contact answering anything but "yes" is sent "after" by the twin only.
(Same on the real compiler: replayed through `harness/flows.py compile_index`.) -/
theorem needs_post_avoids_block :
    (∃ r₁ rest, wBody = .row r₁ :: rest ∧ Compile.EntryRow r₁ ∧ Compile.noStartL rest = true ∧
      Compile.noNamesL rest = true) ∧
    Compile.okIdsL (wPre ++ [.insert wIns wBody] ++ wPostBlank) = true ∧ Compile.opens wPre = Compile.closes wPre ∧
    Compile.avoids (Compile.hidden wIns wBody) true 0 wPostBlank = false ∧
    Compile.avoids (Compile.hidden wIns wBody) true 0 wPostNamed = false ∧
    (∃ o₁ o₂, Compile.compile [] insTests (wPre ++ [.insert wIns wBody] ++ wPostBlank) = .ok o₁ ∧
      Compile.compile [] insTests (wPre ++ insertTwin wIns wBody ++ wPostBlank) = .ok o₂ ∧
      trace ⟨true, true⟩ (Compile.renderOut o₁) (fun _ => 1) 3 ≠ trace ⟨true, true⟩ (Compile.renderOut o₂) (fun _ => 1) 3) ∧
    (∃ o₁ o₂, Compile.compile [] insTests (wPre ++ [.insert wIns wBody] ++ wPostNamed) = .ok o₁ ∧
      Compile.compile [] insTests (wPre ++ insertTwin wIns wBody ++ wPostNamed) = .ok o₂ ∧
      trace ⟨true, true⟩ (Compile.renderOut o₁) (fun _ => 1) 3 ≠ trace ⟨true, true⟩ (Compile.renderOut o₂) (fun _ => 1) 3) :=
  ⟨⟨_, _, rfl, by decide +kernel⟩, by decide +kernel, by decide +kernel, by decide +kernel, by decide +kernel,
    sameTrace_false (by decide +kernel), sameTrace_false wNamed_differs⟩

/-- a template with two rows attached to `start` -/
def sPre : List Compile.Event := [ .row (insRow "m1" "send_message" [insEdge "start"] (some "hello")) ]
def sIns : Compile.Row := insRow "I" "insert_as_block" [insEdge "m1"]
def sBody : List Compile.Event :=
  [ .row (insRow "t1" "send_message" [insEdge "start"] (some "a")),
    .row (insRow "t2" "send_message" [insEdge "start"] (some "b")) ]

/-- **only the first row of the template may be attached to `start`**: a second `start` row is
left unconnected by the template's own parser, while in the twin its blank `from` connects it
behind the previous row — the twin sends "b", the insert row does not. -/
theorem needs_single_start :
    Compile.noStartL (sBody.drop 1) = false ∧ Compile.okIdsL (sPre ++ [.insert sIns sBody]) = true ∧
    Compile.opens sPre = Compile.closes sPre ∧ Compile.avoids (Compile.hidden sIns sBody) true 0 [] = true ∧
    ∃ o₁ o₂, Compile.compile [] insTests (sPre ++ [.insert sIns sBody] ++ []) = .ok o₁ ∧
      Compile.compile [] insTests (sPre ++ insertTwin sIns sBody ++ []) = .ok o₂ ∧
      trace ⟨true, true⟩ (Compile.renderOut o₁) (fun _ => 0) 4 ≠ trace ⟨true, true⟩ (Compile.renderOut o₂) (fun _ => 0) 4 :=
  ⟨by decide +kernel, by decide +kernel, by decide +kernel, by decide +kernel, sameTrace_false (by decide +kernel)⟩

/-- the template has a row with the id of a row of the sheet, and the sheet goes on from that id -/
def hBody : List Compile.Event := [ .row (insRow "m1" "send_message" [insEdge "start"] (some "a")) ]
def hPost : List Compile.Event := [ .row (insRow "p1" "send_message" [insEdge "m1"] (some "z")) ]

/-- **the twin's row ids must be apart from those the rest of the sheet uses**: a row id of the
template is invisible after the insert row (the template has its own parser) but visible after
the twin block — "z" follows the template's row in the twin, the sheet's row in the other. -/
theorem needs_ids_apart :
    Compile.avoids (Compile.hidden sIns hBody) true 0 hPost = false ∧
    ∃ o₁ o₂, Compile.compile [] insTests (sPre ++ [.insert sIns hBody] ++ hPost) = .ok o₁ ∧
      Compile.compile [] insTests (sPre ++ insertTwin sIns hBody ++ hPost) = .ok o₂ ∧
      (Compile.renderOut o₁).nodes.map (·.exits.map (·.dest.isSome)) ≠
        (Compile.renderOut o₂).nodes.map (·.exits.map (·.dest.isSome)) := by
  refine ⟨by decide +kernel, ?_⟩
  have h : (match Compile.compile [] insTests (sPre ++ [.insert sIns hBody] ++ hPost),
      Compile.compile [] insTests (sPre ++ insertTwin sIns hBody ++ hPost) with
      | .ok o₁, .ok o₂ => decide ((Compile.renderOut o₁).nodes.map (·.exits.map (·.dest.isSome)) ≠
          (Compile.renderOut o₂).nodes.map (·.exits.map (·.dest.isSome)))
      | _, _ => false) = true := by decide +kernel
  split at h
  · rename_i o₁ o₂ h1 h2
    exact ⟨o₁, o₂, h1, h2, by simpa using h⟩
  · cases h

/-- the twin block is tight: once the template's first row is read in the twin, the begin row (kept
as a `no_op` group, first child of the block) has row groups as parents all of whose nodes are
without unconnected exit — so an edge that leaves the block later finds nothing there to pick up -/
def InsertTight (noArgs testTypes : List Str) (pre : List Compile.Event) (r r₁ : Compile.Row) : Prop :=
  ∀ a₂, (Compile.steps (pre ++ [.openGroup r.edges false, .row (Compile.retargetRow r₁)])).run
    (Compile.initSt noArgs testTypes) = .ok ((), a₂) → Compile.TightAt a₂

/-- The sheets that continue from the block, condition on the run of the twin: as `InsertCovered`, but
the insert row may be at ANY block depth (inside blocks and loops), and the rows after the block may
use a blank `from` right after it and may name its row id (`apart` only forbids the template's own
row ids, by an edge or as a `go_to` destination); instead the twin block is tight (`InsertTight`) and
no later row — also of later inserted templates — is a `loose_exit` row (`needs_no_loose_exit_after`). -/
structure InsertContinues (noArgs testTypes : List Str) (pre : List Compile.Event) (r : Compile.Row)
    (body post : List Compile.Event) : Prop where
  entry : ∃ r₁ rest, body = .row r₁ :: rest ∧ Compile.EntryRow r₁ ∧ Compile.noStartL rest = true ∧
    Compile.noNamesL rest = true ∧ InsertTight noArgs testTypes pre r r₁
  ids : Compile.okIdsL (pre ++ [.insert r body] ++ post) = true
  noLoose : Compile.noLooseL post = true
  apart : Compile.avoidsOpen (Compile.defsL body) post = true

theorem insert_twin_continues_nodes_partial (noArgs testTypes : List Str) (pre post body : List Compile.Event)
    (r : Compile.Row) (hc : InsertContinues noArgs testTypes pre r body post) {o₁ o₂ : Compile.Out}
    (h₁ : Compile.compile noArgs testTypes (pre ++ [.insert r body] ++ post) = .ok o₁)
    (h₂ : Compile.compile noArgs testTypes (pre ++ insertTwin r body ++ post) = .ok o₂) :
    Compile.Renamed o₁ o₂ := by
  obtain ⟨r₁, rest, rfl, he, hns, hnn, ht⟩ := hc.entry
  exact Compile.insert_twin_nodes true he hns hnn hc.ids (fun h => Bool.noConfusion h)
    (Compile.defsL (.row r₁ :: rest)) (fun h => Bool.noConfusion h) (fun _ hx => hx) (fun _ => ht) (fun _ => hc.noLoose)
    (fun h => Bool.noConfusion h) (fun _ => hc.apart) h₁ h₂

/-- **A sheet that continues from the inserted block behaves like the sheet with the twin block**,
when the twin block is tight. -/
theorem insert_twin_continues_traces_partial (noArgs testTypes : List Str) (pre post body : List Compile.Event)
    (r : Compile.Row) (hc : InsertContinues noArgs testTypes pre r body post) {o₁ o₂ : Compile.Out}
    (h₁ : Compile.compile noArgs testTypes (pre ++ [.insert r body] ++ post) = .ok o₁)
    (h₂ : Compile.compile noArgs testTypes (pre ++ insertTwin r body ++ post) = .ok o₂) :
    ∀ (lvl : ObsLevel) (env : Nat → Nat) (n : Nat),
      trace lvl (Compile.renderOut o₁) env n = trace lvl (Compile.renderOut o₂) env n :=
  traces_of_nodes (insert_twin_continues_nodes_partial noArgs testTypes pre post body r hc h₁ h₂)

/-- The sheets that continue from the block, condition on the EVENTS (again at any block depth): the
insert row directly follows a plain action row `q` (`send_message`, `save_value`, `add_to_group`,
`remove_from_group`, `save_flow_result`; no `_nodeId` / node name) and is attached to it — and to nothing else — unconditionally, by a blank `from` or by `q`'s row id.
Then `q`'s node is a basic node whose only exit the edge into the block connects: the twin is tight. -/
structure InsertFollows (pre' : List Compile.Event) (q r : Compile.Row) (body post : List Compile.Event) : Prop where
  parent : Compile.PlainRow q
  attached : Compile.Follows q r
  entry : ∃ r₁ rest, body = .row r₁ :: rest ∧ Compile.EntryRow r₁ ∧ Compile.noStartL rest = true ∧
    Compile.noNamesL rest = true
  ids : Compile.okIdsL ((pre' ++ [.row q]) ++ [.insert r body] ++ post) = true
  noLoose : Compile.noLooseL post = true
  apart : Compile.avoidsOpen (Compile.defsL body) post = true

/-- the condition on the events implies the condition on the run -/
theorem insertFollows_tight (noArgs testTypes : List Str) (pre' : List Compile.Event) (q r r₁ : Compile.Row)
    (hq : Compile.PlainRow q) (hf : Compile.Follows q r) (he : Compile.EntryRow r₁)
    (hid : Compile.okIdsL (pre' ++ [.row q]) = true) : InsertTight noArgs testTypes (pre' ++ [.row q]) r r₁ :=
  Compile.tight_of_follows noArgs testTypes hq hf he hid

/-- **A sheet of the shape the harness's twin workbooks have (`InsertFollows`) behaves like the sheet
with the twin block.** -/
theorem insert_twin_follows_traces_partial (noArgs testTypes : List Str) (pre' post body : List Compile.Event)
    (q r : Compile.Row) (hc : InsertFollows pre' q r body post) {o₁ o₂ : Compile.Out}
    (h₁ : Compile.compile noArgs testTypes ((pre' ++ [.row q]) ++ [.insert r body] ++ post) = .ok o₁)
    (h₂ : Compile.compile noArgs testTypes ((pre' ++ [.row q]) ++ insertTwin r body ++ post) = .ok o₂) :
    ∀ (lvl : ObsLevel) (env : Nat → Nat) (n : Nat),
      trace lvl (Compile.renderOut o₁) env n = trace lvl (Compile.renderOut o₂) env n := by
  obtain ⟨r₁, rest, rfl, he, hns, hnn⟩ := hc.entry
  have hidp : Compile.okIdsL (pre' ++ [Compile.Event.row q]) = true := by
    have h := hc.ids
    rw [List.append_assoc, Compile.okIdsL_append] at h
    exact (Bool.and_eq_true_iff.mp h).1
  exact insert_twin_continues_traces_partial noArgs testTypes _ post _ r
    ⟨⟨r₁, rest, rfl, he, hns, hnn, insertFollows_tight noArgs testTypes pre' q r r₁ hc.parent hc.attached he hidp⟩,
      hc.ids, hc.noLoose, hc.apart⟩ h₁ h₂

/-! #### the harness's workbook: one template inserted twice, each insertion followed by a row
that continues from it; the template ends in a hard exit on one branch -/

def exM1 : Compile.Row := insRow "m1" "send_message" [insEdge "start"] (some "main")

def exTmpl : List Compile.Event :=
  [ .row (insRow "t1" "send_message" [insEdge "start"] (some "T")),
    .row (insRow "t2" "send_message" [insEdge "t1"] (some "second")),
    .row (insRow "t3" "wait_for_response" [insEdge ""]),
    .row (insRow "t4" "send_message" [insEdge "t3" "yes"] (some "yes")),
    .row (insRow "" "hard_exit" [insEdge "t4"]) ]

def exB0 : Compile.Row := insRow "b0" "insert_as_block" [insEdge "m1"]
def exAft0 : Compile.Row := insRow "aft0" "send_message" [insEdge "b0"] (some "after block 0")
def exB1 : Compile.Row := insRow "b1" "insert_as_block" [insEdge "aft0"]
def exAft1 : Compile.Row := insRow "aft1" "send_message" [insEdge "b1"] (some "after block 1")

/-- the first insertion: the sheet goes on with a row continuing from it, the second insertion and
a row continuing from that -/
theorem exHarness1 : InsertFollows [] exM1 exB0 exTmpl [.row exAft0, .insert exB1 exTmpl, .row exAft1] :=
  ⟨by decide +kernel, ⟨insEdge "m1", by decide +kernel, by decide +kernel, .inr (by decide +kernel)⟩,
    ⟨_, _, rfl, by decide +kernel⟩, by decide +kernel, by decide +kernel, by decide +kernel⟩

/-- the second insertion, the first one already replaced by its twin block -/
theorem exHarness2 : InsertFollows ([.row exM1] ++ insertTwin exB0 exTmpl) exAft0 exB1 exTmpl [.row exAft1] :=
  ⟨by decide +kernel, ⟨insEdge "aft0", by decide +kernel, by decide +kernel, .inr (by decide +kernel)⟩,
    ⟨_, _, rfl, by decide +kernel⟩, by decide +kernel, by decide +kernel, by decide +kernel⟩

/-- the three sheets: both insert rows / the first one replaced / both replaced -/
def exSheet0 : List Compile.Event :=
  ([] ++ [.row exM1]) ++ [.insert exB0 exTmpl] ++ [.row exAft0, .insert exB1 exTmpl, .row exAft1]
def exSheet1 : List Compile.Event :=
  ([] ++ [.row exM1]) ++ insertTwin exB0 exTmpl ++ [.row exAft0, .insert exB1 exTmpl, .row exAft1]
def exSheet1' : List Compile.Event :=
  (([.row exM1] ++ insertTwin exB0 exTmpl) ++ [.row exAft0]) ++ [.insert exB1 exTmpl] ++ [.row exAft1]
def exSheet2 : List Compile.Event :=
  (([.row exM1] ++ insertTwin exB0 exTmpl) ++ [.row exAft0]) ++ insertTwin exB1 exTmpl ++ [.row exAft1]

theorem exSheet1_eq : exSheet1' = exSheet1 := by
  simp only [exSheet1, exSheet1', List.append_assoc, List.nil_append, List.cons_append]

/-- the exits of the nodes that send "yes" (the template's hard exit): `some true` = all without destination -/
def yesExitsHard (evs : List Compile.Event) : Option Bool :=
  match Compile.compile [] insTests evs with
  | .ok o => some (((Compile.renderOut o).nodes.filter (fun n => n.actions.any (fun a => a.obs == "yes".toList))).all
      (fun n => n.exits.all (fun e => e.dest.isNone)))
  | .error _ => none

theorem exStep1 {o₀ o₁ : Compile.Out} (h₀ : Compile.compile [] insTests exSheet0 = .ok o₀)
    (h₁ : Compile.compile [] insTests exSheet1 = .ok o₁) :
    ∀ lvl env n, trace lvl (Compile.renderOut o₀) env n = trace lvl (Compile.renderOut o₁) env n :=
  insert_twin_follows_traces_partial [] insTests [] _ _ exM1 exB0 exHarness1 h₀ h₁

theorem exStep2 {o₁ o₂ : Compile.Out} (h₁ : Compile.compile [] insTests exSheet1' = .ok o₁)
    (h₂ : Compile.compile [] insTests exSheet2 = .ok o₂) :
    ∀ lvl env n, trace lvl (Compile.renderOut o₁) env n = trace lvl (Compile.renderOut o₂) env n :=
  insert_twin_follows_traces_partial [] insTests _ _ _ exAft0 exB1 exHarness2 h₁ h₂

/-- non-vacuity, and the repeated insertion: the workbook with two insertions of one template
behaves like the workbook with two twin blocks (two applications of the theorem), all three sheets
compile (11 nodes), and the hard exit of BOTH insertions is still an exit without destination —
the rows continuing from the blocks did not pick it up (seeded bug C03c) -/
example : ∃ o₀ o₂, Compile.compile [] insTests exSheet0 = .ok o₀ ∧ Compile.compile [] insTests exSheet2 = .ok o₂ ∧
    (∀ lvl env n, trace lvl (Compile.renderOut o₀) env n = trace lvl (Compile.renderOut o₂) env n) ∧
    yesExitsHard exSheet0 = some true := by
  -- one evaluation: the three statements share the compilation of `exSheet0` and `exSheet1`
  have hev : bothCompile exSheet0 exSheet1 = some 11 ∧ bothCompile exSheet1 exSheet2 = some 11 ∧
      yesExitsHard exSheet0 = some true := by decide +kernel
  obtain ⟨o₀, o₁, h₀, h₁⟩ := bothCompile_some hev.1
  obtain ⟨o₁', o₂, h₁', h₂⟩ := bothCompile_some hev.2.1
  have e : o₁' = o₁ := Except.ok.inj (h₁'.symm.trans h₁)
  subst e
  rw [← exSheet1_eq] at h₁'
  refine ⟨o₀, o₂, h₀, h₂, ?_, hev.2.2⟩
  intro lvl env n
  rw [exStep1 h₀ h₁ lvl env n, exStep2 h₁' h₂ lvl env n]

/-- a block entered from the first row; in it a row and the insert row attached to it by a blank `from` -/
def exInPre : List Compile.Event :=
  [ .row exM1, .openGroup [insEdge "m1"] false ]
def exInQ : Compile.Row := insRow "q" "send_message" [insEdge ""] (some "in the outer block")
def exInIns : Compile.Row := insRow "I" "insert_as_block" [insEdge ""]
/-- a row continuing from the inserted block inside the outer block, the end of the outer block, a
row continuing from the outer block -/
def exInPost : List Compile.Event :=
  [ .row (insRow "c1" "send_message" [insEdge ""] (some "continues")), .closeGroup "B".toList,
    .row (insRow "z" "send_message" [insEdge "B"] (some "after the outer block")) ]

theorem exInside : InsertFollows exInPre exInQ exInIns exTmpl exInPost :=
  ⟨by decide +kernel, ⟨insEdge "", by decide +kernel, by decide +kernel, .inl rfl⟩,
    ⟨_, _, rfl, by decide +kernel⟩, by decide +kernel, by decide +kernel, by decide +kernel⟩

/-- non-vacuity at depth 1: both sheets compile (8 nodes) and behave alike -/
example : ∃ o₁ o₂, Compile.compile [] insTests ((exInPre ++ [.row exInQ]) ++ [.insert exInIns exTmpl] ++ exInPost) = .ok o₁ ∧
    Compile.compile [] insTests ((exInPre ++ [.row exInQ]) ++ insertTwin exInIns exTmpl ++ exInPost) = .ok o₂ ∧
    ∀ lvl env n, trace lvl (Compile.renderOut o₁) env n = trace lvl (Compile.renderOut o₂) env n := by
  obtain ⟨o₁, o₂, h₁, h₂⟩ := bothCompile_some
    (show bothCompile ((exInPre ++ [.row exInQ]) ++ [.insert exInIns exTmpl] ++ exInPost)
      ((exInPre ++ [.row exInQ]) ++ insertTwin exInIns exTmpl ++ exInPost) = some 8 by decide +kernel)
  exact ⟨o₁, o₂, h₁, h₂, insert_twin_follows_traces_partial [] insTests _ _ _ _ _ exInside h₁ h₂⟩

/-- **tightness is needed** (F-C03-a): the insert row of `needs_post_avoids_block` is attached to a wait
on "yes" — `InsertFollows.parent` and `.attached` fail, everything else holds — and the sheet that
continues from the block behaves differently from the twin -/
theorem needs_tight :
    ¬ Compile.PlainRow (insRow "m1" "wait_for_response" [insEdge "start"]) ∧
    ¬ Compile.Follows (insRow "m1" "wait_for_response" [insEdge "start"]) wIns ∧
    Compile.noLooseL wPostNamed = true ∧ Compile.avoidsOpen (Compile.defsL wBody) wPostNamed = true ∧
    Compile.avoidsOpen (Compile.defsL wBody) wPostBlank = true ∧
    (∃ o₁ o₂, Compile.compile [] insTests (wPre ++ [.insert wIns wBody] ++ wPostNamed) = .ok o₁ ∧
      Compile.compile [] insTests (wPre ++ insertTwin wIns wBody ++ wPostNamed) = .ok o₂ ∧
      trace ⟨true, true⟩ (Compile.renderOut o₁) (fun _ => 1) 3 ≠ trace ⟨true, true⟩ (Compile.renderOut o₂) (fun _ => 1) 3) := by
  refine ⟨by decide +kernel, ?_, by decide +kernel, by decide +kernel, by decide +kernel, sameTrace_false wNamed_differs⟩
  rintro ⟨e, he, hc, _⟩
  have : Compile.dropTrivial wIns.edges = [insEdge "m1" "yes"] := by decide +kernel
  rw [this] at he
  injection he with he _
  subst he
  revert hc; decide

/-- a `loose_exit` row after the block, attached to the row leading into it -/
def lPost : List Compile.Event :=
  [ .row (insRow "" "loose_exit" [insEdge "m1"]), .row (insRow "p1" "send_message" [insEdge "I"] (some "after")) ]

/-- **no `loose_exit` row after the block**: it can disconnect the exit that led into the block; the
row continuing from the block then picks that exit up in the twin only (F-C03-a again) -/
theorem needs_no_loose_exit_after :
    Compile.PlainRow (insRow "m1" "send_message" [insEdge "start"] (some "hello")) ∧
    Compile.noLooseL lPost = false ∧ Compile.avoidsOpen (Compile.defsL (sBody.take 1)) lPost = true ∧
    ∃ o₁ o₂, Compile.compile [] insTests (sPre ++ [.insert sIns (sBody.take 1)] ++ lPost) = .ok o₁ ∧
      Compile.compile [] insTests (sPre ++ insertTwin sIns (sBody.take 1) ++ lPost) = .ok o₂ ∧
      trace ⟨true, true⟩ (Compile.renderOut o₁) (fun _ => 0) 4 ≠ trace ⟨true, true⟩ (Compile.renderOut o₂) (fun _ => 0) 4 :=
  ⟨by decide +kernel, by decide +kernel, by decide +kernel, sameTrace_false (by decide +kernel)⟩

/-- The clause on the model at the strength aimed at: as the theorems above, with `_nodeId`s / node
names allowed in the template, and the not-continuing alternative (`InsertCovered`) at any block
depth too.

Proved of it: the alternative "the sheet does not continue from the block" for insert rows outside
blocks (`insert_twin_traces_partial`); the alternative "the sheet may continue from the block, the
twin block is tight" at ANY block depth, on the run (`InsertTight`,
`insert_twin_continues_traces_partial`) and on the events (`InsertFollows`,
`insert_twin_follows_traces_partial`); templates without `_nodeId`s.  Not proved:
* `_nodeId`s / node names in the template;
* the not-continuing alternative for insert rows inside blocks or loops when the twin block is not
  tight (F-C03-a-prone sheets that stay away from the block and from the blocks around it);
* a template starting with a block, a `no_op`, a nested insert row or several `start` rows (the
  twin of the clause is wrong for several `start` rows: `needs_single_start`);
* tightness on the events beyond "directly follows a plain action row" (e.g. a router all of whose
  exits are connected before the insert row — covered by `InsertTight` on the run only);
* the harness's twin renames the template's row ids apart, the twin here keeps them and asks the
  rest of the sheet not to use them (`apart`): that renaming unused row ids does not change the
  compiled flow is not proved;
* "one sheet compiles ⇒ the other compiles": false as it stands (a template row naming a row of
  the sheet is an error for the insert row only; "Block has no loose exit to connect to" can be
  raised by one side only), so not part of the statement. -/
def insert_twin_full : Prop :=
  ∀ (noArgs testTypes : List Str) (pre post body : List Compile.Event) (r : Compile.Row),
    (∃ r₁ rest, body = .row r₁ :: rest ∧ Compile.EntryRow r₁ ∧ Compile.noStartL rest = true ∧
      (Compile.avoids (Compile.hidden r body) true 0 post = true ∨
        (Compile.avoidsOpen (Compile.defsL body) post = true ∧ Compile.noLooseL post = true ∧
          InsertTight noArgs testTypes pre r r₁))) →
    Compile.okIdsL (pre ++ [.insert r body] ++ post) = true →
    ∀ o₁ o₂, Compile.compile noArgs testTypes (pre ++ [.insert r body] ++ post) = .ok o₁ →
      Compile.compile noArgs testTypes (pre ++ insertTwin r body ++ post) = .ok o₂ →
      ∀ lvl env n, trace lvl (Compile.renderOut o₁) env n = trace lvl (Compile.renderOut o₂) env n

end Rpft.Props.C03
