/-
C07, the file clause (`RowDataSheet.export` file re-read by a sheet reader) — CSV route.

`RowDataSheet.export(…, "csv")` writes tablib's CSV text with every carriage return removed
(`Csv.rdsExportCsv`).  Reading that text with the `csv.reader` model gives, for EVERY grid of cells that
fits the reader's field limit, exactly the grid with the CRs removed from every cell — so the file route
is the identity precisely on CR-free cells; finding F-C07-b is the other half of the equivalence.
The idea: removing the CRs commutes with the quoting decisions (`dropCr_encRows`: the CRLF text of tagged
fields becomes the LF text of the CR-free fields under the same tags), so the reader's correctness on the
grammar (`Csv.parse_encRows`) applies to the written text.
-/
import Rpft.Lemmas.Csv
namespace Rpft.Props.C07File
open Rpft Rpft.Csv

deriving instance DecidableEq for Except

/-- every field fits the reader's field limit (`csv.field_size_limit()`) -/
def FieldsFit (limit : Nat) (recs : List (List Str)) : Prop := ∀ r ∈ recs, ∀ f ∈ r, f.length ≤ limit

instance (limit : Nat) (recs : List (List Str)) : Decidable (FieldsFit limit recs) := by
  unfold FieldsFit; infer_instance

def dropCrP (p : Bool × Str) : Bool × Str := (p.1, dropCr p.2)

theorem dropCr_append (a b : Str) : dropCr (a ++ b) = dropCr a ++ dropCr b := by
  simp [dropCr]

theorem dropCr_escape (f : Str) : dropCr (escape f) = escape (dropCr f) := by
  induction f with
  | nil => rfl
  | cons c f ih =>
    rw [escape_cons, dropCr_append, ih]
    by_cases hq : c = '"'
    · subst hq; rfl
    · by_cases hr : c = '\r'
      · subst hr; rfl
      · simp [dropCr, hr, hq, escape_cons]

theorem dropCr_encField (p : Bool × Str) : dropCr (encField p) = encField (dropCrP p) := by
  obtain ⟨q, f⟩ := p
  cases q
  · rfl
  · show dropCr ('"' :: (escape f ++ ['"'])) = '"' :: (escape (dropCr f) ++ ['"'])
    rw [← dropCr_escape]
    simp [dropCr]

theorem dropCr_encFields (ps : List (Bool × Str)) :
    dropCr (encFields ps) = encFields (ps.map dropCrP) := by
  induction ps with
  | nil => rfl
  | cons p ps ih =>
    cases ps with
    | nil => simpa [encFields] using dropCr_encField p
    | cons q ps =>
      simp only [encFields, List.map_cons] at ih ⊢
      rw [dropCr_append, dropCr_encField]
      have : dropCr (',' :: encFields (q :: ps)) = ',' :: dropCr (encFields (q :: ps)) := by simp [dropCr]
      rw [this, ih]

theorem dropCr_encRows (rs : List (List (Bool × Str))) :
    dropCr (encRows crlf rs) = encRows lf (rs.map (fun r => r.map dropCrP)) := by
  induction rs with
  | nil => rfl
  | cons r rs ih =>
    simp only [encRows, encRow, List.map_cons]
    rw [dropCr_append, dropCr_append, dropCr_encFields, ih]
    rfl

theorem dropCr_eq_self_iff (f : Str) : dropCr f = f ↔ '\r' ∉ f := by
  unfold dropCr
  rw [List.filter_eq_self]
  constructor
  · intro h hm; have := h _ hm; simp at this
  · intro h c hc
    have : c ≠ '\r' := fun e => h (e ▸ hc)
    simp [this]

theorem dropCr_of_plain (f : Str) (h : Plain f) : dropCr f = f :=
  (dropCr_eq_self_iff f).2 fun hm => (h _ hm).2.2.1 rfl

theorem dropCr_length_le (f : Str) : (dropCr f).length ≤ f.length := List.length_filter_le _ _

theorem validRow_dropCr {r : List (Bool × Str)} (h : ValidRow r) : ValidRow (r.map dropCrP) := by
  obtain ⟨hf, hne⟩ := h
  refine ⟨?_, ?_⟩
  · refine List.forall_mem_map.2 fun p0 hp0 => ?_
    rcases hf p0 hp0 with h1 | h1
    · exact Or.inl h1
    · refine Or.inr ?_
      show Plain (dropCr p0.2)
      rw [dropCr_of_plain _ h1]; exact h1
  · intro e
    obtain ⟨⟨q, f⟩, rfl, hp⟩ := List.map_eq_singleton_iff.mp e
    obtain ⟨rfl, hf0⟩ : q = false ∧ dropCr f = [] := Prod.mk.inj hp
    rw [dropCr_of_plain f ((hf _ (.head _)).resolve_left nofun)] at hf0
    exact hne (by rw [hf0])

/-- **the CSV file route of `RowDataSheet.export`, for every grid**: what the CSV reader gets back from the
written text is the grid with the carriage returns removed from every cell, and nothing else changed —
separators, quotes, line feeds, blank cells, ragged records all survive. -/
theorem rds_csv_reads_back_without_cr (limit : Nat) (recs : List (List Str)) (hfit : FieldsFit limit recs) :
    parseCsvWith limit (rdsExportCsv recs) = .ok (recs.map (fun r => r.map dropCr)) := by
  unfold rdsExportCsv writeCsv
  rw [writeRows_eq, dropCr_encRows]
  have hv : ∀ r ∈ (recs.map (tagRow crlf false)).map (fun r => r.map dropCrP), ValidRow r :=
    List.forall_mem_map.2 (List.forall_mem_map.2 fun r0 _ =>
      validRow_dropCr (tagRow_valid (.inl rfl) (.inr (.inl rfl))))
  have e : ((recs.map (tagRow crlf false)).map fun r => r.map dropCrP).map (fun r => r.map Prod.snd)
      = recs.map fun r => r.map dropCr := by
    simp only [List.map_map]
    refine List.map_congr_left fun r _ => ?_
    show ((tagRow crlf false r).map dropCrP).map Prod.snd = r.map dropCr
    conv => rhs; rw [← tagRow_snd crlf false r]
    simp only [List.map_map]
    rfl
  have hn : FieldsFit limit (recs.map fun r => r.map dropCr) :=
    List.forall_mem_map.2 fun r hr => List.forall_mem_map.2 fun f hf =>
      Nat.le_trans (dropCr_length_le f) (hfit r hr f hf)
  rw [parse_encRows (.inr rfl) hv (e ▸ hn), e]

def CrFree (recs : List (List Str)) : Prop := ∀ r ∈ recs, ∀ f ∈ r, '\r' ∉ f

instance (recs : List (List Str)) : Decidable (CrFree recs) := by unfold CrFree; infer_instance

/-- **the exact criterion**: the CSV file route gives the grid back iff no cell holds a carriage return.
The "if" half is the property on its domain; the "only if" half is finding F-C07-b. -/
theorem rds_csv_roundtrip_iff (limit : Nat) (recs : List (List Str)) (hfit : FieldsFit limit recs) :
    parseCsvWith limit (rdsExportCsv recs) = .ok recs ↔ CrFree recs := by
  rw [rds_csv_reads_back_without_cr limit recs hfit]
  simp only [Except.ok.injEq, map_eq_self_iff, dropCr_eq_self_iff, CrFree]

/-- at the real field limit -/
theorem rds_csv_roundtrip (recs : List (List Str)) (hfit : FieldsFit fieldLimit recs) (hcr : CrFree recs) :
    parseCsv (rdsExportCsv recs) = .ok recs :=
  (rds_csv_roundtrip_iff fieldLimit recs hfit).mpr hcr

/-- the written text never holds a carriage return: records end in LF -/
theorem rds_csv_text_cr_free (recs : List (List Str)) : '\r' ∉ rdsExportCsv recs := by
  unfold rdsExportCsv dropCr
  intro h
  have := (List.mem_filter.mp h).2
  simp at this

/-- non-vacuity + F-C07-b, computed by the kernel: a grid with every special character survives except
for its CRs (the witness replayed on the real code by the harness: `M(a='x\ry', b='p\r\nq')`). -/
def gCr : List (List Str) :=
  [["a".toList, "b".toList], ["x\ry".toList, "p\r\nq".toList], ["say \"hi\", ok".toList, "l1\nl2".toList], [[], " ".toList]]

example : FieldsFit fieldLimit gCr ∧ ¬ CrFree gCr := by decide +kernel

theorem rds_csv_drops_cr_witness :
    rdsExportCsv gCr = "a,b\n\"xy\",\"p\nq\"\n\"say \"\"hi\"\", ok\",\"l1\nl2\"\n, \n".toList ∧
    parseCsv (rdsExportCsv gCr) =
      .ok [["a".toList, "b".toList], ["xy".toList, "p\nq".toList], ["say \"hi\", ok".toList, "l1\nl2".toList], [[], " ".toList]] := by
  -- literals spelt as character lists before the evaluation: see `Sheets.loadJson_toJsonBytes`
  repeat rw [String.toList_ofList]
  decide +kernel

end Rpft.Props.C07File
