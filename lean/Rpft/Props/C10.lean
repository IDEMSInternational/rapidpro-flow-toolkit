/-
C10 — Content index resolution is sequential with last definition winning.

Property theorems only (helpers: `Rpft/Lemmas/Index.lean`, `Rpft/Lemmas/Dict.lean`).  All
statements are for row histories of any length, any nesting, any reader list and any tag
filter; proofs are by induction over the history.
-/
import Rpft.Lemmas.Index
import Rpft.Props.C11
import Rpft.Gen.Tables
import Rpft.Canon
namespace Rpft.Props.C10
open Rpft Rpft.Index

/-- T1: row types, the draft word and the index sheet name of the model are those of the source.
The row types are the distinct constants of an equality dispatch — a set, compared up to order
(which name goes with which kind is `kindOf_names`, and the tie decides what each kind does). -/
theorem tables_agree :
    Canon.sameSet Gen.indexRowTypes rowTypeNames ∧ Gen.indexDraftWord = draftWord ∧
    Gen.indexSheetName = Index.indexSheetName := by
  -- the kernel decodes a string literal byte by byte: the literals are spelt as character
  -- lists first (so too below, wherever a closed evaluation starts with this `rw`)
  unfold rowTypeNames draftWord Index.indexSheetName str
  repeat rw [String.toList_ofList]
  decide +kernel

/-- the `if/elif` chain of the model dispatches exactly on the tied names -/
theorem kindOf_names :
    rowTypeNames.map kindOf = [.contentIndex, .dataSheet, .templateDefinition, .createFlow,
      .createCampaign, .createTriggers, .ignoreRow] := by
  unfold rowTypeNames List.map kindOf str
  repeat rw [String.toList_ofList]
  decide +kernel

/-- **inert_rows**: a `draft` row, or a row whose tags fail the tag filter, changes nothing —
whatever its type (also a nested index is then not opened). -/
theorem inert_rows (res : Resolve) (pats) (fuel : Nat) (st : St) (r : IndexRow)
    (rs : List IndexRow) (h : inert pats r = true) :
    processTable res pats fuel st (r :: rs) = processTable res pats fuel st rs := by
  rw [processTable_cons, rowStep_inert h]; rfl

example : inert [] { status := "draft".toList } = true := by decide +kernel
example : (tagPatterns ["1".toList, "foo".toList]).map
    (fun p => inert p { tags := ["bar".toList] }) = some true := by decide +kernel

/-- a history behaves as the history of its active rows -/
theorem process_filter_active (res : Resolve) (pats) (fuel : Nat) (st : St)
    (rows : List IndexRow) :
    processTable res pats fuel st rows =
      processTable res pats fuel st (rows.filter (fun r => !inert pats r)) := by
  induction rows generalizing st with
  | nil => rfl
  | cons r rs ih =>
    by_cases h : inert pats r = true
    · rw [inert_rows _ _ _ _ _ _ h, ih]
      simp [h]
    · have h' : inert pats r = false := by simpa using h
      simp only [List.filter_cons, h', Bool.not_false, if_true]
      rw [processTable_cons, processTable_cons]
      congr 1
      funext st'
      exact ih st'

/-- **nested_inline**: an active `content_index` row naming sheet `n` is processed as if the rows
of (the active copy of) sheet `n` stood in its place: when the history with the row succeeds, the
history with those rows in its place succeeds with the same state.  (In this direction, because the
nested rows get one unit less of nesting budget than the rows around them.) -/
theorem nested_inline (res : Resolve) (pats) (fuel : Nat) (st out : St)
    (pre post : List IndexRow) (r : IndexRow) (n : Str) (sh : Sheet)
    (hact : inert pats r = false) (hty : kindOf r.ty = .contentIndex)
    (hn : r.sheetNames = [n]) (hres : res n = some sh)
    (hok : processTable res pats (fuel + 1) st (pre ++ r :: post) = .ok out) :
    processTable res pats (fuel + 1) st (pre ++ sh.rows ++ post) = .ok out := by
  rw [processTable_append] at hok
  obtain ⟨st1, hp, hok⟩ := Except.bind_eq_ok.1 hok
  have hrow : rowStep res pats (recur res pats (fuel + 1)) st1 r
      = processTable res pats fuel st1 sh.rows := by
    simp [rowStep, hact, hty, hn, firstName, resolveOrDie, hres, recur, bind, Except.bind,
      pure, Except.pure]
  rw [processTable_cons, hrow] at hok
  obtain ⟨st2, hs, hok⟩ := Except.bind_eq_ok.1 hok
  rw [List.append_assoc, processTable_append]
  refine Except.bind_eq_ok.2 ⟨st1, hp, ?_⟩
  rw [processTable_append]
  exact Except.bind_eq_ok.2 ⟨st2, processTable_fuel_mono hs, hok⟩

example : inert [] { ty := "content_index".toList, sheetNames := ["I0".toList] } = false ∧
    kindOf "content_index".toList = .contentIndex := by decide +kernel

/-- a history without inert rows and without nested indexes is the plain left-to-right fold of
the row actions -/
theorem flat_process (res : Resolve) (pats) (fuel : Nat) (st : St) (rows : List IndexRow)
    (h : ∀ r ∈ rows, inert pats r = false ∧ kindOf r.ty ≠ .contentIndex) :
    processTable res pats fuel st rows = runFlat res st rows := by
  induction rows generalizing st with
  | nil => rw [processTable_nil]; rfl
  | cons r rs ih =>
    rw [processTable_cons, runFlat_cons]
    have hr := h r (List.mem_cons_self)
    have : rowStep res pats (recur res pats fuel) st r = step res st r := by
      simp [rowStep, hr.1, hr.2]
    rw [this]
    congr 1
    funext st'
    exact ih st' (fun x hx => h x (List.mem_cons_of_mem _ hx))

/-- **last_wins_campaign**: after a flat history the campaign registered under name `n` is what
the LAST row concerning `n` left: a `create_campaign` row (re)named `n` → that row's group and
the active copy of its sheet; an `ignore_row n` → nothing; no such row → what was there. -/
theorem last_wins_campaign (res : Resolve) (rows : List IndexRow) (st out : St)
    (hst : (Dict.keys st.campaigns).Nodup) (h : runFlat res st rows = .ok out) (n : Str) :
    out.campaigns.get n =
      lastOpResult (rows.map (campOp res)) n (st.campaigns.get n) := by
  rw [(runFlat_effect rows h).campaigns]
  exact get_applyOps hst n

/-- **last_wins_trigger**: the same for trigger sheets (keyed by sheet name). -/
theorem last_wins_trigger (res : Resolve) (rows : List IndexRow) (st out : St)
    (hst : (Dict.keys st.triggers).Nodup) (h : runFlat res st rows = .ok out) (n : Str) :
    out.triggers.get n =
      lastOpResult (rows.map (trigOp res)) n (st.triggers.get n) := by
  rw [(runFlat_effect rows h).triggers]
  exact get_applyOps hst n

/-- **last_wins_template**: the template registered under sheet name `n` is that of the LAST
`template_definition` row for `n` — `tplOp` is `nop` for every other row type, so no
`ignore_row` can remove or change it. -/
theorem last_wins_template (res : Resolve) (rows : List IndexRow) (st out : St)
    (hst : (Dict.keys st.templates).Nodup) (h : runFlat res st rows = .ok out) (n : Str) :
    out.templates.get n =
      lastOpResult (rows.map (tplOp res)) n (st.templates.get n) := by
  rw [(runFlat_effect rows h).templates]
  exact get_applyOps hst n

example : (Dict.keys ({} : St).campaigns).Nodup := by decide

/-- the dict invariant is needed: in a "dict" with a repeated key, `pop` would leave a copy -/
theorem last_wins_needs_nodup :
    ¬ ((applyOps [RegOp.pop "a".toList] [("a".toList, 1), ("a".toList, 2)]).get "a".toList =
      lastOpResult [RegOp.pop "a".toList] "a".toList
        (Dict.get [("a".toList, 1), ("a".toList, 2)] "a".toList)) := by decide +kernel

/-- the dict invariant of the three registries is kept by every flat history -/
theorem registries_nodup (res : Resolve) (rows : List IndexRow) (st out : St)
    (h : runFlat res st rows = .ok out)
    (h1 : (Dict.keys st.campaigns).Nodup) (h2 : (Dict.keys st.triggers).Nodup)
    (h3 : (Dict.keys st.templates).Nodup) :
    (Dict.keys out.campaigns).Nodup ∧ (Dict.keys out.triggers).Nodup ∧
    (Dict.keys out.templates).Nodup := by
  have e := runFlat_effect rows h
  rw [e.campaigns, e.triggers, e.templates]
  exact ⟨nodup_applyOps _ h1, nodup_applyOps _ h2, nodup_applyOps _ h3⟩

/-- **ignore_spares_templates**: an `ignore_row` is a no-op on the template registry (whatever
name it carries), while it pops that name from campaigns and triggers. -/
theorem ignore_spares_templates (res : Resolve) (st st' : St) (r : IndexRow)
    (hk : kindOf r.ty = .ignoreRow) (h : step res st r = .ok st') :
    st'.templates = st.templates ∧
    ∃ n, r.sheetNames.head? = some n ∧ st'.campaigns = st.campaigns.pop n ∧
      st'.triggers = st.triggers.pop n ∧
      st'.flowRows = st.flowRows.filter (fun x => decide (keyOf x ≠ n)) := by
  have e := step_effect h
  simp only [step, hk, Except.bind_eq_ok, firstName_eq_ok] at h
  obtain ⟨n, ⟨tl, hs⟩, _⟩ := h
  refine ⟨by rw [e.templates]; simp [applyOps, tplOp, hk, applyOp], n, by rw [hs]; rfl, ?_, ?_, ?_⟩
  · rw [e.campaigns]; simp [applyOps, campOp, hk, hs, applyOp]
  · rw [e.triggers]; simp [applyOps, trigOp, hk, hs, applyOp]
  · rw [e.flowRows]; simp [flowStep, hk, hs]

example : kindOf "ignore_row".toList = .ignoreRow := by
  unfold kindOf str
  repeat rw [String.toList_ofList]
  decide +kernel

/-- **flow_rows_spec**: the stored flow rows after a flat history are, in order, the earlier
stored rows and the `create_flow` rows of the history whose (new) name — `new_name or
sheet_name` — no LATER `ignore_row` names.  (An `ignore_row` matches the new name, not the
sheet name of a renamed flow, and never a row that comes after it.) -/
theorem flow_rows_spec (res : Resolve) (rows : List IndexRow) (st out : St)
    (h : runFlat res st rows = .ok out) :
    out.flowRows = st.flowRows.filter (fun x => !ignoredBy rows x) ++ survivors rows :=
  (runFlat_effect rows h).flowRows.trans (foldl_flowStep rows _)

/-- **flows keyed by output name** (`output_names_nodup`, order, last wins): the produced flows
have pairwise distinct names; the names appear in the order of the FIRST surviving definition
of each; the flow under a name is the LAST one produced under it. -/
theorem output_names_nodup (st : St) (flows : Dict Str FlowOut)
    (h : parseAllFlows st = .ok flows) :
    (Dict.keys flows).Nodup ∧
    ∃ parts, st.flowRows.mapM (expandFlowRow st) = .ok parts ∧
      Dict.keys flows = firstOcc (parts.flatten.map (·.1)) ∧
      ∀ n, flows.get n = lastVal parts.flatten n := by
  simp only [parseAllFlows, Except.bind_eq_ok, Except.pure_eq_ok] at h
  obtain ⟨parts, hp, rfl⟩ := h
  exact ⟨Dict.nodup_ofList _, parts, hp, Dict.keys_ofList _, Dict.get_ofList _⟩

/-- **sheet_resolves_last**: a sheet name resolves to its copy in the LAST workbook that has a
sheet of that name. -/
theorem sheet_resolves_last (rd : List Workbook) (n : Str) :
    getSheetOrDie rd n = ((rd.filter (fun wb => wb.has n)).getLast?).bind (fun wb => wb.get n) := by
  unfold getSheetOrDie getSheetsByName
  rw [getLast?_filterMap_eq]
  rfl

/-- **reader_order**: processing the index sheets of the workbooks one after the other, in
workbook order, is processing the concatenation of their rows. -/
theorem reader_order (res : Resolve) (pats) (fuel : Nat) (indices : List Sheet) (st : St) :
    indices.foldlM (fun st sh => processTable res pats fuel st sh.rows) st =
      processTable res pats fuel st (indices.flatMap (·.rows)) := by
  induction indices generalizing st with
  | nil => rw [List.flatMap_nil, processTable_nil]; rfl
  | cons sh rest ih =>
    rw [foldlM_cons', List.flatMap_cons, processTable_append]
    congr 1
    funext st'
    exact ih st'

/-- **split_invariance**: the result depends on the workbooks only through (i) what every sheet
name resolves to and (ii) the concatenated rows of the index sheets in workbook order (and
whether there is an index at all).  Any redistribution of the same sheets over 1..k workbooks
that keeps, for every duplicated name, the same last copy and the same index-sheet order gives
the same final state — and hence the same flows, campaigns and triggers. -/
theorem split_invariance (rd rd' : List Workbook) (pats) (fuel : Nat)
    (hres : ∀ n, getSheetOrDie rd n = getSheetOrDie rd' n)
    (hidx : (getSheetsByName rd Index.indexSheetName).flatMap (·.rows)
          = (getSheetsByName rd' Index.indexSheetName).flatMap (·.rows))
    (hnone : getSheetsByName rd Index.indexSheetName = [] ↔
             getSheetsByName rd' Index.indexSheetName = []) :
    processAll rd pats fuel = processAll rd' pats fuel := by
  have hfun : getSheetOrDie rd = getSheetOrDie rd' := funext hres
  unfold processAll
  simp only [reader_order, hfun, hidx]
  by_cases h0 : getSheetsByName rd Index.indexSheetName = []
  · simp [h0, hnone.mp h0]
  · have h0' : ¬ getSheetsByName rd' Index.indexSheetName = [] := fun e => h0 (hnone.mpr e)
    simp [h0, h0']

/-- splitting one workbook in two (every sheet of the first part is absent from the second, or
overridden identically) is the simplest instance: appending an empty workbook changes nothing -/
example (rd : List Workbook) (pats) (fuel : Nat) :
    processAll (rd ++ [[]]) pats fuel = processAll rd pats fuel := by
  apply split_invariance
  · intro n; simp [getSheetOrDie, getSheetsByName, List.filterMap_append, Dict.get]
  · simp [getSheetsByName, List.filterMap_append, Dict.get]
  · simp [getSheetsByName, List.filterMap_append, Dict.get]

/-- **last_wins_data**: along any flat history the data-sheet registry evolves exactly as the
C11 chain formed by the history's `data_sheet` rows: rows of every other type — `ignore_row`
included — leave it alone.  All chain theorems of C11 therefore apply (`registered_persists`:
the sheet under a name is the one computed by the LAST `data_sheet` row targeting it). -/
theorem last_wins_data (res : Resolve) (rows : List IndexRow) (st out : St)
    (h : runFlat res st rows = .ok out) :
    DataOps.runOps (dataEnv res) st.data (dataOpsOf rows) = .ok out.data :=
  (runFlat_effect rows h).data

/-- a registered data sheet that no `data_sheet` row of the history targets is
untouched at the end -/
theorem data_untouched (res : Resolve) (rows : List IndexRow) (st out : St)
    (h : runFlat res st rows = .ok out) (n : Str)
    (hn : ∀ r ∈ rows, kindOf r.ty = .dataSheet → DataOps.targetName (dataOpOf r) ≠ .ok n) :
    out.data.data.get n = st.data.data.get n := by
  apply C11.chain_untouched _ (runFlat_effect rows h).data
  intro op hop
  simp only [dataOpsOf, List.mem_map, List.mem_filter, decide_eq_true_eq] at hop
  obtain ⟨r, ⟨hr, hk⟩, rfl⟩ := hop
  exact hn r hr hk

/-- two raw rows whose cells differ only in surrounding whitespace -/
structure PaddedRow (r r' : RawIndexRow) : Prop where
  ty : Padded r.ty r'.ty
  sheetName : Padded r.sheetName r'.sheetName
  newName : Padded r.newName r'.newName
  dataSheet : Padded r.dataSheet r'.dataSheet
  dataRowId : Padded r.dataRowId r'.dataRowId
  group : Padded r.group r'.group
  status : Padded r.status r'.status
  tags : Pointwise Padded r.tags r'.tags
  tplArgs : r'.tplArgs = r.tplArgs

/-- **read_padded**: surrounding whitespace in any cell of an index row does not change the row read -/
theorem read_padded {r r' : RawIndexRow} (h : PaddedRow r r') : r'.read = r.read := by
  have ht : r'.tags.map cellText = r.tags.map cellText := h.tags.map_eq fun _ _ => cellText_padded
  simp only [RawIndexRow.read, cellText_padded h.ty, cellNames_padded h.sheetName,
    cellText_padded h.newName, cellText_padded h.dataSheet, cellText_padded h.dataRowId,
    cellText_padded h.group, cellText_padded h.status, ht, h.tplArgs]

/-- a history processes as the history with every cell trimmed does -/
theorem process_padded (res : Resolve) (pats) (fuel : Nat) (st : St) {rows rows' : List RawIndexRow}
    (h : Pointwise PaddedRow rows rows') :
    processTable res pats fuel st (rows'.map RawIndexRow.read) =
      processTable res pats fuel st (rows.map RawIndexRow.read) := by
  rw [h.map_eq fun _ _ => read_padded]

/-- **padded_draft_inert**: a row whose status cell is the draft word with surrounding whitespace
(`"draft "`, `" draft"`, `"draft\\t"`, `"draft\\u00a0"`, …) is a draft row: it has no effect, whatever
its type and its other cells -/
theorem padded_draft_inert (res : Resolve) (pats) (fuel : Nat) (st : St) (r : RawIndexRow)
    (rs : List IndexRow) (h : Padded draftWord r.status) :
    processTable res pats fuel st (r.read :: rs) = processTable res pats fuel st rs := by
  apply inert_rows
  have : r.read.status = draftWord := by
    show cellText r.status = draftWord
    rw [cellText_padded h]; decide
  simp [inert, this]

example : Padded draftWord ("draft  ".toList) := ⟨[], "  ".toList, by decide +kernel, by decide +kernel, by decide +kernel⟩
example : (RawIndexRow.read { status := " \tdraft \n".toList, sheetName := " T0 ; T1　".toList }) =
    { status := "draft".toList, sheetNames := ["T0".toList, "T1".toList] } := by decide +kernel

end Rpft.Props.C10
