/-
C06 — One name, one UUID: group and flow references are globally consistent.

The lemmas about the model are in `Rpft/Lemmas/Uuid.lean`.  Everything is stated for
`runOccs fresh st next occs`: one `validate()` on an arbitrary occurrence list, starting
from an arbitrary `uuid_dict` state `st` (`run` = the special case where `st` is what the
parse-time records `pre` leave of `∅` and the occurrences are `occsOf container`: `run_ok`),
for arbitrary name / id types and an arbitrary supply `fresh` of invented ids.  No bound on
the number of flows, campaigns, triggers, occurrences.
-/
import Rpft.Lemmas.Uuid
import Rpft.Gen.Tables
namespace Rpft.Props.C06
open Rpft Rpft.Uuid

variable {N U : Type} [DecidableEq N] [DecidableEq U]

/-- T1: the call sequences transcribed by the model are those of the source (regenerated
from /repo on every run): order of the record / generate / assign loops of
`update_global_uuids`, of the campaign, trigger, node, action and router hooks, the
`require_existing=True` flag, and the set of classes that have a record hook at all. -/
theorem tables_agree :
    Gen.uuidUpdateSteps = srcUpdateSteps ∧ Gen.uuidValidateSteps = srcValidateSteps ∧
    Gen.uuidFlowRecord = srcFlowRecord ∧ Gen.uuidNodeRecord = srcNodeRecord ∧
    Gen.uuidCampaignRecord = srcCampaignRecord ∧ Gen.uuidCampaignAssign = srcCampaignAssign ∧
    Gen.uuidEventRecord = srcEventRecord ∧ Gen.uuidTriggerRecord = srcTriggerRecord ∧
    Gen.uuidTriggerAssign = srcTriggerAssign ∧ Gen.uuidGroupActionRecord = srcGroupActionRecord ∧
    Gen.uuidEnterFlowRecord = srcEnterFlowRecord ∧ Gen.uuidSwitchRecord = srcSwitchRecord ∧
    Gen.uuidSwitchAssign = srcSwitchAssign ∧ Gen.uuidHookedClasses = srcHookedClasses :=
  ⟨rfl, rfl, rfl, rfl, rfl, rfl, rfl, rfl, rfl, rfl, rfl, rfl, rfl, rfl⟩

/-- the uuid bound to `(kind, name)` after the run -/
def uuidOf (out : Out N U) (k : Kind) (n : N) : Option U := lookup out.st k n

section
variable {fresh : Nat → U} {st : St N U} {nx : Nat} {occs : List (Occ N U)} {out : Out N U}
  (h : runOccs fresh st nx occs = .ok out)
include h

theorem occ_truthy {o : Occ N U} (ho : o ∈ occs) : ∃ u, Truthy out.st o.kind o.name u := by
  obtain ⟨st1, h1, hst⟩ := runOccs_ok h
  have hk := (recordAll_hasKey_iff h1).2 (Or.inr ⟨o, ho, rfl, rfl⟩)
  have hk2 : HasKey out.st o.kind o.name := by rw [hst]; exact (generateMissing_hasKey fresh nx).2 hk
  exact allSome_dget (runOccs_allSome h _) hk2

theorem given_wins {k : Kind} {n : N} {u : U}
    (hg : Truthy st k n u ∨ ∃ o ∈ occs, o.kind = k ∧ o.name = n ∧ o.given = some u) :
    uuidOf out k n = some u := by
  obtain ⟨st1, h1, hst⟩ := runOccs_ok h
  have : Truthy out.st k n u := by
    rw [hst]; exact generateMissing_truthy fresh nx ((recordAll_truthy_iff h1).2 hg)
  exact lookup_of_truthy this

theorem assigned_eq_uuidOf {o : Occ N U} (ho : o ∈ out.occs)
    (ha : assignable o.site = true ∨ o.given.isSome = true) :
    o.given = uuidOf out o.kind o.name ∧ (uuidOf out o.kind o.name).isSome = true := by
  obtain ⟨o0, ho0', _, rfl⟩ := runOccs_mem h ho
  obtain ⟨u, hu⟩ := occ_truthy h ho0'
  have hl : uuidOf out o0.kind o0.name = some u := lookup_of_truthy hu
  by_cases hs : assignable o0.site = true
  · have : assignOcc out.st o0 = { o0 with given := lookup out.st o0.kind o0.name } := by
      simp [assignOcc, hs]
    rw [this]
    simp only [Occ.kind] at hl ⊢
    exact ⟨by simp [uuidOf], by rw [hl]; rfl⟩
  · have hid : assignOcc out.st o0 = o0 := by simp [assignOcc, hs]
    rw [hid] at ha ⊢
    rcases ha with ha | ha
    · exact absurd ha hs
    · obtain ⟨v, hv⟩ := Option.isSome_iff_exists.1 ha
      have := given_wins h (Or.inr ⟨o0, ho0', rfl, rfl, hv⟩)
      exact ⟨by rw [hv, this], by rw [this]; rfl⟩

theorem out_occ_known {o : Occ N U} (ho : o ∈ out.occs) : Known out.st o := by
  obtain ⟨o0, ho0, _, ho0e⟩ := runOccs_mem h ho
  obtain ⟨u, hu⟩ := occ_truthy h ho0
  rw [← assignOcc_kind out.st o0, ← assignOcc_name out.st o0, ← ho0e] at hu
  refine ⟨u, hu, ?_⟩
  cases hg : o.given with
  | none => exact Or.inl rfl
  | some v =>
    have := (assigned_eq_uuidOf h ho (Or.inr (by rw [hg]; rfl))).1
    exact Or.inr (by rw [← hg, this]; exact lookup_of_truthy hu)

end

/-- **explicit wins**, at the level of the dictionary: an explicit uuid at ANY occurrence —
whatever its site (sheet `obj_id`, old group list, flow definition, action, case, campaign,
trigger) and whatever its position in the visiting order — is the uuid of that name. -/
theorem explicit_wins {fresh : Nat → U} {st : St N U} {nx : Nat} {occs : List (Occ N U)} {out : Out N U}
    (h : runOccs fresh st nx occs = .ok out) {e : Occ N U} (he : e ∈ occs) {u : U}
    (hg : e.given = some u) : uuidOf out e.kind e.name = some u :=
  given_wins h (Or.inr ⟨e, he, rfl, rfl, hg⟩)

/-- **assign_functional** — one name, one uuid: any two reference objects of the rendered
container (group actions, `has_group` cases, campaign groups, trigger groups and exclude
groups; enter-flow actions, campaign-event flows, trigger flows) of the same kind and name
carry the same uuid, and it is a real uuid (not `None`). -/
theorem assign_functional {fresh : Nat → U} {st : St N U} {nx : Nat} {occs : List (Occ N U)}
    {out : Out N U} (h : runOccs fresh st nx occs = .ok out) {o₁ o₂ : Occ N U}
    (h1 : o₁ ∈ out.occs) (h2 : o₂ ∈ out.occs)
    (a1 : assignable o₁.site = true) (a2 : assignable o₂.site = true)
    (hk : o₁.kind = o₂.kind) (hn : o₁.name = o₂.name) :
    o₁.given = o₂.given ∧ o₁.given.isSome = true := by
  have e1 := assigned_eq_uuidOf h h1 (Or.inl a1)
  have e2 := assigned_eq_uuidOf h h2 (Or.inl a2)
  rw [e1.1, e2.1, hk, hn]
  exact ⟨rfl, e2.2⟩

example : runOccs (fun n => n + 100) (St.empty : St Nat Nat) 0
    [⟨7, none, .action .group⟩, ⟨7, some 3, .case⟩, ⟨7, none, .trigExclude⟩] =
    .ok ⟨[⟨7, some 3, .action .group⟩, ⟨7, some 3, .case⟩, ⟨7, some 3, .trigExclude⟩],
         [(7, some 3)], ⟨[], [(7, some 3)]⟩, 0⟩ := by decide +kernel

/-- the new top-level group list: distinct names, real uuids, and each entry is the uuid
of its name (`WF`: the dictionary the run started from had distinct keys — true of `∅`) -/
theorem group_list_sound {fresh : Nat → U} {st : St N U} {nx : Nat} {occs : List (Occ N U)}
    {out : Out N U} (h : runOccs fresh st nx occs = .ok out) (hw : WF st) :
    (out.groups.map Prod.fst).Nodup ∧
    ∀ p ∈ out.groups, p.2 = uuidOf out .group p.1 ∧ p.2.isSome = true := by
  have hw2 := runOccs_wf h hw
  rw [runOccs_groups h]
  refine ⟨hw2.2, ?_⟩
  intro p hp
  obtain ⟨n, v⟩ := p
  have := dget_of_mem hw2.2 hp
  refine ⟨?_, runOccs_allSome h .group (n, v) hp⟩
  simp [uuidOf, lookup, St.get, this]

/-- `WF` is needed for the list to have distinct names (a Python dict cannot violate it) -/
theorem group_list_needs_WF :
    ∃ out, runOccs (fun n => n + 100) (⟨[], [(7, none), (7, none)]⟩ : St Nat Nat) 0 [] = .ok out ∧
      ¬ (out.groups.map Prod.fst).Nodup := by
  refine ⟨_, rfl, ?_⟩; decide +kernel

/-- **groups_listed** — every group name that occurs anywhere (any site, including sheet
`obj_id` records and the old group list) is listed at top level exactly once (names of the
list are distinct), and every group reference object of the output appears there with
exactly the uuid it carries. -/
theorem groups_listed {fresh : Nat → U} {st : St N U} {nx : Nat} {occs : List (Occ N U)}
    {out : Out N U} (h : runOccs fresh st nx occs = .ok out) (hw : WF st) :
    (out.groups.map Prod.fst).Nodup ∧
    (∀ o ∈ occs, o.kind = .group → o.name ∈ out.groups.map Prod.fst) ∧
    (∀ o ∈ out.occs, o.kind = .group → (o.name, o.given) ∈ out.groups) := by
  have hg := runOccs_groups h
  refine ⟨(group_list_sound h hw).1, ?_, ?_⟩
  · intro o ho hk
    obtain ⟨u, hu⟩ := occ_truthy h ho
    rw [hk] at hu
    rw [hg]
    exact List.mem_map.2 ⟨(o.name, some u), mem_of_dget hu, rfl⟩
  · intro o ho hk
    have hsite : assignable o.site = true := by
      -- a group site of the output is neither `.pre` nor `.groupList`
      have hio := runOccs_inOutput h ho
      cases hs : o.site <;> simp [Occ.kind, hs, Site.kind, inOutput] at hk hio <;> simp [assignable]
    obtain ⟨u, hu, _⟩ := out_occ_known h ho
    rw [(assigned_eq_uuidOf h ho (Or.inl hsite)).1, hg]
    rw [hk] at hu ⊢
    rw [show uuidOf out .group o.name = some u from lookup_of_truthy hu]
    exact mem_of_dget hu

/-- **defined_flow_uuid** — a reference (enter-flow action, campaign event, trigger) to a
flow that the container defines carries that flow's uuid.  (`d.given = some u`: a
`FlowContainer` always has a uuid — its constructor invents one.) -/
theorem defined_flow_uuid {fresh : Nat → U} {st : St N U} {nx : Nat} {occs : List (Occ N U)}
    {out : Out N U} (h : runOccs fresh st nx occs = .ok out)
    {d : Occ N U} (hd : d ∈ occs) (hs : d.site = .flowDef) {u : U} (hu : d.given = some u)
    {o : Occ N U} (ho : o ∈ out.occs) (ha : assignable o.site = true)
    (hk : o.kind = .flow) (hn : o.name = d.name) : o.given = some u := by
  have e := (assigned_eq_uuidOf h ho (Or.inl ha)).1
  have hdk : d.kind = .flow := by simp [Occ.kind, hs, Site.kind]
  have := explicit_wins h hd hu
  rw [e, hk, hn, ← hdk, this]

example : runOccs (fun n => n + 100) (St.empty : St Nat Nat) 0
    [⟨1, some 5, .flowDef⟩, ⟨1, none, .action .flow⟩, ⟨1, none, .trigFlow⟩] =
    .ok ⟨[⟨1, some 5, .flowDef⟩, ⟨1, some 5, .action .flow⟩, ⟨1, some 5, .trigFlow⟩],
         [], ⟨[(1, some 5)], []⟩, 0⟩ := by decide +kernel

/-- `d.given = some _` is needed: a definition without uuid would keep `None` while its
references get an invented one (the real `FlowContainer.__init__` rules this out). -/
theorem defined_flow_uuid_needs_given :
    ∃ out, runOccs (fun n => n + 100) (St.empty : St Nat Nat) 0
      [⟨1, none, .flowDef⟩, ⟨1, none, .action .flow⟩] = .ok out ∧
      out.occs = [⟨1, none, .flowDef⟩, ⟨1, some 100, .action .flow⟩] := by
  refine ⟨_, rfl, ?_⟩; decide +kernel

/-- **explicit_wins** on the output objects: if ANY occurrence of `(kind, name)` — at any
site and any position of the visiting order — has an explicit uuid `u`, every reference
object of that kind and name in the output carries `u`. -/
theorem explicit_wins_everywhere {fresh : Nat → U} {st : St N U} {nx : Nat} {occs : List (Occ N U)}
    {out : Out N U} (h : runOccs fresh st nx occs = .ok out) {e : Occ N U} (he : e ∈ occs) {u : U}
    (hg : e.given = some u) {o : Occ N U} (ho : o ∈ out.occs) (ha : assignable o.site = true)
    (hk : o.kind = e.kind) (hn : o.name = e.name) : o.given = some u := by
  rw [(assigned_eq_uuidOf h ho (Or.inl ha)).1, hk, hn]
  exact explicit_wins h he hg

/-- position independence, explicitly: the explicit occurrence may sit before, between or
after the others (`a ++ e :: b` for every `a`, `b`). -/
theorem explicit_wins_any_position {fresh : Nat → U} {st : St N U} {nx : Nat}
    (a b : List (Occ N U)) (e : Occ N U) {u : U} (hg : e.given = some u) {out : Out N U}
    (h : runOccs fresh st nx (a ++ e :: b) = .ok out) : uuidOf out e.kind e.name = some u :=
  explicit_wins h (by simp) hg

example : runOccs (fun n => n + 100) (St.empty : St Nat Nat) 0
    [⟨7, none, .action .group⟩, ⟨7, none, .campGroup⟩, ⟨7, some 3, .trigGroup⟩] =
    .ok ⟨[⟨7, some 3, .action .group⟩, ⟨7, some 3, .campGroup⟩, ⟨7, some 3, .trigGroup⟩],
         [(7, some 3)], ⟨[], [(7, some 3)]⟩, 0⟩ := by decide +kernel

/-- order of occurrence does not matter for explicitly identified names: two runs over
permuted occurrence lists that both succeed agree on every such name. -/
theorem explicit_perm_agree {fresh fresh' : Nat → U} {st st' : St N U} {nx nx' : Nat}
    {occs occs' : List (Occ N U)} {out out' : Out N U} (hp : ∀ o, o ∈ occs ↔ o ∈ occs')
    (h : runOccs fresh st nx occs = .ok out) (h' : runOccs fresh' st' nx' occs' = .ok out')
    {e : Occ N U} (he : e ∈ occs) {u : U} (hg : e.given = some u) :
    uuidOf out e.kind e.name = uuidOf out' e.kind e.name := by
  rw [explicit_wins h he hg, explicit_wins h' ((hp e).1 he) hg]

theorem two_given_rejected {fresh : Nat → U} {st : St N U} {nx : Nat} {occs : List (Occ N U)}
    {k : Kind} {n : N} {u₁ u₂ : U}
    (g1 : Truthy st k n u₁ ∨ ∃ o ∈ occs, o.kind = k ∧ o.name = n ∧ o.given = some u₁)
    (g2 : Truthy st k n u₂ ∨ ∃ o ∈ occs, o.kind = k ∧ o.name = n ∧ o.given = some u₂)
    (hne : u₁ ≠ u₂) : ∃ err, runOccs fresh st nx occs = .error err := by
  cases h : runOccs fresh st nx occs with
  | error err => exact ⟨err, rfl⟩
  | ok out => exact absurd (Option.some.inj ((given_wins h g1).symm.trans (given_wins h g2))) hne

/-- **conflict_rejected** — two different explicit uuids for one (kind, name), at any two
sites and positions, make the run fail. -/
theorem conflict_rejected {fresh : Nat → U} {st : St N U} {nx : Nat} {occs : List (Occ N U)}
    {e₁ e₂ : Occ N U} (h1 : e₁ ∈ occs) (h2 : e₂ ∈ occs) (hk : e₁.kind = e₂.kind)
    (hn : e₁.name = e₂.name) {u₁ u₂ : U} (g1 : e₁.given = some u₁) (g2 : e₂.given = some u₂)
    (hne : u₁ ≠ u₂) : ∃ err, runOccs fresh st nx occs = .error err :=
  two_given_rejected (Or.inr ⟨e₁, h1, rfl, rfl, g1⟩) (Or.inr ⟨e₂, h2, hk.symm, hn.symm, g2⟩) hne

/-- an explicit uuid that differs from one already recorded in the container's dictionary
(e.g. by `add_flow`, or by an earlier render) makes the run fail as well. -/
theorem conflict_with_recorded_rejected {fresh : Nat → U} {st : St N U} {nx : Nat}
    {occs : List (Occ N U)} {e : Occ N U} (he : e ∈ occs) {u r : U} (g : e.given = some u)
    (ht : Truthy st e.kind e.name r) (hne : u ≠ r) :
    ∃ err, runOccs fresh st nx occs = .error err :=
  two_given_rejected (Or.inr ⟨e, he, rfl, rfl, g⟩) (Or.inl ht) hne

example : runOccs (fun n => n + 100) (St.empty : St Nat Nat) 0
    [⟨7, some 3, .action .group⟩, ⟨7, none, .case⟩, ⟨7, some 4, .trigGroup⟩] =
    .error (.conflict .group 7 4 3) := by decide +kernel

/-- the first conflicting pair in visiting order is the one that is reported -/
theorem conflict_reported_pair {st st1 : St N U} (a b : List (Occ N U)) (e : Occ N U) {u r : U}
    (ha : recordAll st a = .ok st1) (hs : e.site ≠ .trigFlow) (g : e.given = some u)
    (ht : Truthy st1 e.kind e.name r) (hne : u ≠ r) :
    recordAll st (a ++ e :: b) = .error (.conflict e.kind e.name u r) := by
  rw [recordAll_append, ha]
  simp only [recordAll, recordOcc, hs, false_and, if_false, g]
  rw [recordDict_conflict ht hne]

/-- no spurious conflict: a reported conflict names two different uuids that were really
given for that (kind, name) — the new one by an occurrence, the recorded one by an
occurrence or by the dictionary the run started from. -/
theorem conflict_sound {st : St N U} {occs : List (Occ N U)} {k : Kind} {n : N} {u r : U}
    (h : recordAll st occs = .error (.conflict k n u r)) :
    u ≠ r ∧ (∃ o ∈ occs, o.kind = k ∧ o.name = n ∧ o.given = some u) ∧
    (Truthy st k n r ∨ ∃ o ∈ occs, o.kind = k ∧ o.name = n ∧ o.given = some r) := by
  induction occs generalizing st with
  | nil => simp [recordAll] at h
  | cons p os ih =>
    simp only [recordAll] at h
    cases h1 : recordOcc st p with
    | ok st1 =>
      rw [h1] at h
      obtain ⟨hne, ⟨o, ho, hk, hn, hg⟩, hr⟩ := ih h
      refine ⟨hne, ⟨o, List.mem_cons_of_mem _ ho, hk, hn, hg⟩, ?_⟩
      rcases hr with hr | ⟨o', ho', hk', hn', hg'⟩
      · rcases (recordOcc_truthy_iff h1).1 hr with h3 | ⟨h3, h4, h5⟩
        · exact Or.inl h3
        · exact Or.inr ⟨p, List.mem_cons_self, h3, h4, h5⟩
      · exact Or.inr ⟨o', List.mem_cons_of_mem _ ho', hk', hn', hg'⟩
    | error e =>
      rw [h1] at h
      cases h
      unfold recordOcc at h1
      split at h1
      · cases h1
      · split at h1
        · cases h1
        · rename_i e' he'
          cases h1
          obtain ⟨u', r', hg, hd, hne, heq⟩ := recordDict_error he'
          cases heq
          exact ⟨hne, ⟨p, List.mem_cons_self, rfl, rfl, hg⟩, Or.inl hd⟩

/-- The property's wording: "a trigger naming a flow that does not exist is rejected" —
*exist* read as "the container defines it".  Kept visible; it is FALSE of the code (and of
the model, which follows the code): see `trigger_unknown_flow_rejected_full_false`. -/
def trigger_unknown_flow_rejected_full : Prop :=
  ∀ (occs : List (Occ Nat Nat)) (t : Occ Nat Nat), t ∈ occs → t.site = .trigFlow →
    (¬ ∃ d ∈ occs, d.site = .flowDef ∧ d.name = t.name) →
    ∃ err, runOccs (fun n => n + 100) St.empty 0 occs = .error err

/-- negative witness (known finding F-C06-b): flow 1 is defined and starts flow 2, which
nobody defines; a trigger for flow 2 is accepted and gets an invented uuid. -/
theorem trigger_unknown_flow_rejected_full_false : ¬ trigger_unknown_flow_rejected_full := by
  intro h
  have := h [⟨1, some 5, .flowDef⟩, ⟨2, none, .action .flow⟩, ⟨2, none, .trigFlow⟩]
    ⟨2, none, .trigFlow⟩ (by decide +kernel) rfl (by decide +kernel)
  obtain ⟨err, he⟩ := this
  have hok : ∃ out, runOccs (fun n => n + 100) (St.empty : St Nat Nat) 0
      [⟨1, some 5, .flowDef⟩, ⟨2, none, .action .flow⟩, ⟨2, none, .trigFlow⟩] = .ok out :=
    ⟨_, rfl⟩
  obtain ⟨out, ho⟩ := hok
  rw [ho] at he
  cases he

/-- what the code checks, exactly: at the moment the trigger is visited its flow name must
be a *key of `flow_dict`* — otherwise this very error is raised. -/
theorem trigger_check_exact {st st1 : St N U} (a b : List (Occ N U)) (t : Occ N U)
    (ha : recordAll st a = .ok st1) (hs : t.site = .trigFlow) (hk : ¬ HasKey st1 .flow t.name) :
    recordAll st (a ++ t :: b) = .error (.triggerUnknownFlow t.name) := by
  rw [recordAll_append, ha]
  have : (dget st1.flows t.name).isNone = true := by
    unfold HasKey at hk; simp only [St.get] at hk
    cases hd : dget st1.flows t.name with
    | none => rfl
    | some v => rw [hd] at hk; simp at hk
  simp [recordAll, recordOcc, hs, this]

/-- **trigger_unknown_flow_rejected** (`_partial`: proved for the reading the code
implements) — a trigger whose flow name is neither in the dictionary the run started from
nor *mentioned* by any non-trigger flow occurrence (flow definition, enter-flow action,
campaign event, sheet `obj_id` record) makes the run fail. -/
theorem trigger_unknown_flow_rejected_partial {fresh : Nat → U} {st : St N U} {nx : Nat}
    {occs : List (Occ N U)} {t : Occ N U} (ht : t ∈ occs) (hs : t.site = .trigFlow)
    (hst : ¬ HasKey st .flow t.name)
    (hm : ∀ o ∈ occs, o.kind = .flow → o.name = t.name → o.site = .trigFlow) :
    ∃ err, runOccs fresh st nx occs = .error err := by
  cases h : runOccs fresh st nx occs with
  | error err => exact ⟨err, rfl⟩
  | ok out =>
    exfalso
    obtain ⟨st1, h1, _⟩ := runOccs_ok h
    -- the first flow occurrence of that name is a trigger, and nothing before it made the name a key:
    -- `trigger_check_exact` applies there
    have htk : t.kind = .flow := by simp [Occ.kind, hs, Site.kind]
    have hex : (occs.find? (fun o => decide (o.kind = .flow ∧ o.name = t.name))).isSome = true :=
      List.find?_isSome.2 ⟨t, ht, by simpa using htk⟩
    obtain ⟨p, hp⟩ := Option.isSome_iff_exists.1 hex
    obtain ⟨hpP, a, b, rfl, ha⟩ := List.find?_eq_some_iff_append.1 hp
    simp only [decide_eq_true_eq] at hpP
    have h1' := h1
    rw [recordAll_append] at h1'
    cases hsa : recordAll st a with
    | error e => rw [hsa] at h1'; cases h1'
    | ok sa =>
      have hk : ¬ HasKey sa .flow p.name := by
        rw [hpP.2, recordAll_hasKey_iff hsa]
        rintro (hk | ⟨o, ho, hok, hon⟩)
        · exact hst hk
        · simpa [hok, hon] using ha o ho
      rw [trigger_check_exact a b p hsa (hm p (by simp) hpP.1 hpP.2) hk] at h1
      cases h1

example : runOccs (fun n => n + 100) (St.empty : St Nat Nat) 0
    [⟨1, some 5, .flowDef⟩, ⟨2, none, .trigFlow⟩] = .error (.triggerUnknownFlow 2) := by decide +kernel

/-- the extra hypothesis ("not mentioned elsewhere") is forced: the witness of
`trigger_unknown_flow_rejected_full_false` -/
theorem trigger_needs_not_mentioned :
    ∃ out, runOccs (fun n => n + 100) (St.empty : St Nat Nat) 0
      [⟨1, some 5, .flowDef⟩, ⟨2, none, .action .flow⟩, ⟨2, none, .trigFlow⟩] = .ok out ∧
      uuidOf out .flow 2 = some 100 := by
  refine ⟨_, rfl, ?_⟩; decide +kernel

theorem runOccs_noop {fresh : Nat → U} {st : St N U} {nx : Nat} {occs : List (Occ N U)}
    (hrec : ∀ o ∈ occs, Known st o) (ha : ∀ k, AllSome (st.get k)) :
    runOccs fresh st nx occs = .ok { occs := (occs.filter (fun o => inOutput o.site)).map (assignOcc st),
                                     groups := groupList st, st := st, next := nx } := by
  unfold runOccs
  rw [recordAll_noop hrec]
  simp only [generateMissing_fix fresh _ _ (ha .flow) (ha .group)]

/-- **validate_idem** — validating (rendering) again changes nothing: the occurrence list
of the validated container (`reOccs`: new group list, then the same objects with their
assigned uuids), run from the dictionary and counter left by the first run, succeeds with
exactly the same output — same uuids on every object, same group list, no new invention
(`next` unchanged).  By induction, any number of repetitions. -/
theorem validate_idem {fresh : Nat → U} {st : St N U} {nx : Nat} {occs : List (Occ N U)}
    {out : Out N U} (hw : WF st) (h : runOccs fresh st nx occs = .ok out) :
    runOccs fresh out.st out.next (reOccs out) = .ok out := by
  have hg := runOccs_groups h
  have hgl := group_list_sound h hw
  -- every occurrence of the second run records a value that is already there
  have hrec : ∀ o ∈ reOccs out, Known out.st o := by
    intro o ho
    rcases List.mem_append.1 ho with hin | hin
    · obtain ⟨p, hp, rfl⟩ := List.mem_map.1 hin
      obtain ⟨u, hu⟩ := Option.isSome_iff_exists.1 (hgl.2 p hp).2
      exact ⟨u, dget_of_mem (runOccs_wf h hw).2 (hu ▸ hg ▸ hp), Or.inr hu⟩
    · exact out_occ_known h hin
  rw [runOccs_noop hrec (runOccs_allSome h)]
  -- objects: the group-list occurrences are dropped again, the others keep their uuid
  have hfilter : (reOccs out).filter (fun o => inOutput o.site) = out.occs := by
    rw [reOccs, List.filter_append, filter_inOutput_of_not _ (fun _ => rfl), List.nil_append,
      List.filter_eq_self.2 (fun o ho => runOccs_inOutput h ho)]
  have hassign : out.occs.map (assignOcc out.st) = out.occs :=
    (List.map_congr_left fun o ho =>
      assignOcc_eq_self fun hs => (assigned_eq_uuidOf h ho (Or.inl hs)).1).trans (List.map_id _)
  rw [hfilter, hassign, groupList, ← hg]

/-- any number of further validations -/
theorem validate_idem_iter {fresh : Nat → U} {st : St N U} {nx : Nat} {occs : List (Occ N U)}
    {out : Out N U} (hw : WF st) (h : runOccs fresh st nx occs = .ok out) (k : Nat) :
    Nat.rec (motive := fun _ => Except (Err N U) (Out N U)) (.ok out)
      (fun _ r => match r with
        | .ok o => runOccs fresh o.st o.next (reOccs o)
        | .error e => .error e) k = .ok out := by
  induction k with
  | zero => rfl
  | succ k ih =>
    simp only [ih]
    exact validate_idem hw h

example : WF (St.empty : St Nat Nat) := WF_empty

/-- `WF` (distinct keys in the starting dictionary — what a Python dict guarantees) is
needed: with a duplicated key the second validation reports a conflict. -/
theorem validate_idem_needs_WF :
    ∃ out, runOccs (fun n => n + 100) (⟨[], [(7, none), (7, none)]⟩ : St Nat Nat) 0 [] = .ok out ∧
      runOccs (fun n => n + 100) out.st out.next (reOccs out) = .error (.conflict .group 7 101 100) := by
  refine ⟨_, rfl, ?_⟩; decide +kernel

/-! ### the container level: `run` = `runOccs` on the visiting order -/

/-- the statements above, for a container built with parse-time records `pre` (from the
empty dictionary, which is `WF`): one uuid per (kind, name) on all reference objects; all
groups listed once with that uuid; explicit uuids of the container's occurrences and of
the parse-time records on the container's own dictionary win; repeated validation stable. -/
theorem container_consistent {fresh : Nat → U} {pre : List (PreItem N U)} {c : Container N U}
    {out : Out N U} (h : run fresh pre c = .ok out) :
    (∀ o₁ ∈ out.occs, ∀ o₂ ∈ out.occs, assignable o₁.site = true → assignable o₂.site = true →
      o₁.kind = o₂.kind → o₁.name = o₂.name → o₁.given = o₂.given ∧ o₁.given.isSome = true) ∧
    (out.groups.map Prod.fst).Nodup ∧
    (∀ o ∈ out.occs, o.kind = .group → (o.name, o.given) ∈ out.groups) ∧
    (∀ e ∈ occsOf c, ∀ u, e.given = some u → uuidOf out e.kind e.name = some u) ∧
    (∀ e, PreItem.own e ∈ pre → ∀ u, e.given = some u → uuidOf out e.kind e.name = some u) ∧
    runOccs fresh out.st out.next (reOccs out) = .ok out := by
  obtain ⟨st, hp, h⟩ := run_ok h
  obtain ⟨hw, hg⟩ := recordPre_inv hp WF_empty
  exact ⟨fun o₁ h1 o₂ h2 a1 a2 hk hn => assign_functional h h1 h2 a1 a2 hk hn,
    (groups_listed h hw).1, (groups_listed h hw).2.2,
    fun e he u hu => explicit_wins h he hu,
    fun e he u hu => given_wins h (Or.inl (hg e he u hu)),
    validate_idem hw h⟩

/-- **validate_idem at the container level** — `c.validated out.st` is the container as
`validate()` leaves it (every reference re-assigned, `groups` := `get_group_list()`);
validating it again, from the dictionary and counter left behind, reproduces `out`
exactly.  (Closes the gap between the occurrence-list statement and the nested object.) -/
theorem container_validate_idem {fresh : Nat → U} {pre : List (PreItem N U)} {c : Container N U}
    {out : Out N U} (h : run fresh pre c = .ok out) :
    runOccs fresh out.st out.next (occsOf (c.validated out.st)) = .ok out := by
  have hidem := (container_consistent h).2.2.2.2.2
  obtain ⟨st, _, h⟩ := run_ok h
  have : occsOf (c.validated out.st) = reOccs out := by
    rw [occsOf_validated]
    unfold reOccs
    rw [runOccs_occs h, runOccs_groups h]; rfl
  rw [this]; exact hidem

/-- **staged histories** — a container that grows between two validations (content added to
objects that were validated before, new flows / campaigns / triggers): whatever the previous
validation left (`prev`, any dictionary, any counter), whatever is marked as kept, a successful
further validation binds every (kind, name) to one real uuid on all reference objects.  (It is
an instance of `assign_functional`, which holds for every occurrence list and every starting
dictionary — nothing is remembered between two validations but the dictionary.) -/
theorem stage_consistent {fresh : Nat → U} {kept : U → Bool} {prev out : Out N U}
    {pre : List (PreItem N U)} {c : Container N U}
    (h : runStage fresh kept prev pre c = .ok out) :
    ∀ o₁ ∈ out.occs, ∀ o₂ ∈ out.occs, assignable o₁.site = true → assignable o₂.site = true →
      o₁.kind = o₂.kind → o₁.name = o₂.name → o₁.given = o₂.given ∧ o₁.given.isSome = true := by
  obtain ⟨st, _, h⟩ := runStage_ok h
  exact fun o₁ h1 o₂ h2 a1 a2 hk hn => assign_functional h h1 h2 a1 a2 hk hn

/-- staged histories: an explicit uuid on an ADDED reference wins (or the validation fails): the late
`has_group` case of a router that was validated before is recorded like any other. -/
theorem stage_explicit_wins {fresh : Nat → U} {kept : U → Bool} {prev out : Out N U}
    {pre : List (PreItem N U)} {c : Container N U}
    (h : runStage fresh kept prev pre c = .ok out) :
    ∀ e ∈ occsOf (c.settle kept prev), ∀ u, e.given = some u → uuidOf out e.kind e.name = some u := by
  obtain ⟨st, _, h⟩ := runStage_ok h
  exact fun e he u hu => explicit_wins h he hu

/-- non-vacuity: a router validated with one case (group 7, invented uuid 100) gets a second
case for group 8 with explicit uuid 3 and a third without uuid; the second validation keeps
100, takes 3 and invents 101. -/
example :
    (match run (fun n => n + 100) ([] : List (PreItem Nat Nat))
        ⟨[], [⟨1, some 5, [⟨[], [⟨7, none⟩]⟩]⟩], [], []⟩ with
     | .ok prev =>
       (match runStage (fun n => n + 100) (fun u => u == 0) prev []
          ⟨[], [⟨1, some 5, [⟨[], [⟨7, some 0⟩, ⟨8, some 3⟩, ⟨9, none⟩]⟩]⟩], [], []⟩ with
        | .ok out => out.occs.map (fun o => (o.name, o.given))
        | .error _ => [])
     | .error _ => []) = [(1, some 5), (7, some 100), (8, some 3), (9, some 101)] := by decide +kernel

/-- records made in a throw-away dictionary (`PreItem.scratch`) are NOT covered by
`container_consistent`, and cannot be: they never reach the container's own dictionary.  That is what
`insert_as_block` did with the `obj_id`s of a block's rows under finding F-C06-a; it is fixed in
/repo (the block is parsed against the flow's container, and the harness sends its rows as `own`
records).  Witness: the block's `split_by_group` row gives uuid 3 to group 7, the `has_group` case
of the container gets the invented uuid 100. -/
theorem scratch_obj_id_lost :
    ∃ out, run (fun n => n + 100)
      [PreItem.scratch [(⟨7, some 3, .pre .group⟩ : Occ Nat Nat)], .own ⟨1, some 5, .pre .flow⟩]
      ⟨[], [⟨1, some 5, [⟨[], [⟨7, none⟩]⟩]⟩], [], []⟩ = .ok out ∧
      uuidOf out .group 7 = some 100 := by
  refine ⟨_, rfl, ?_⟩; decide +kernel

end Rpft.Props.C06
