/-
C02, first half — soundness of the bisimulation certificate checker: for ALL infinite answer sequences
of the simulated contact a certificate accepted by `certOk` implies equal traces (`validCert_sound`,
`flows_equiv_of_cert`).  It rests on `Lemmas/Bisim` and `FlowSys` only: C03 and C04, which apply it to the
real compiler's output, import this file and not the simulation proof behind `Props/C02`.
-/
import Rpft.Lemmas.Bisim
import Rpft.FlowSys
namespace Rpft.Props.C02
open Rpft Rpft.Bisim Rpft.Flow

/-- **Soundness of the bisimulation certificate checker**, for arbitrary deterministic
observable systems: an accepted certificate gives equal observation sequences for every
environment and every length. -/
theorem validCert_sound {S T O : Type} [DecidableEq S] [DecidableEq T] [DecidableEq O]
    (A : Sys S O) (B : Sys T O) (R : List (S × T)) (s0 : Option S) (t0 : Option T)
    (h : validCert A B R s0 t0 = true) :
    ∀ (env : Nat → Nat) (n : Nat), run A s0 env n = run B t0 env n := by
  simp only [validCert, Bool.and_eq_true] at h
  intro env n
  exact sound_aux A B R h.2 n s0 t0 env h.1

/-- **Flows**: if the checker accepts `R` for flows `a` and `b` at observation level `lvl`,
then for every answer stream and every length the contact observes the same actions in
the same order and faces the same decisions. -/
theorem flows_equiv_of_cert (lvl : ObsLevel) (a b : Flow.Flow) (R : List (St × St))
    (h : certOk lvl a b R = true) :
    ∀ (env : Nat → Nat) (n : Nat), trace lvl a env n = trace lvl b env n :=
  validCert_sound _ _ R _ _ h

/-- Trace equivalence is transitive (so chains of comparisons compose:
sugared ≈ desugared ≈ reference). -/
theorem trace_equiv_trans (lvl : ObsLevel) (a b c : Flow.Flow)
    (h1 : ∀ env n, trace lvl a env n = trace lvl b env n)
    (h2 : ∀ env n, trace lvl b env n = trace lvl c env n) :
    ∀ env n, trace lvl a env n = trace lvl c env n :=
  fun env n => (h1 env n).trans (h2 env n)

/-- forget what a coarser level does not observe -/
def coarsenRouter (lvl : ObsLevel) (r : RouterObs) : RouterObs :=
  { r with caseCats := if lvl.catNames then r.caseCats else []
           otherCats := if lvl.catNames then r.otherCats else []
           resultName := if lvl.resultName then r.resultName else none }

def coarsen (lvl : ObsLevel) : Obs → Obs
  | .act a => .act a
  | .ask r => .ask (coarsenRouter lvl r)
  | .diverge => .diverge

theorem routerObs_coarsen (lvl : ObsLevel) (r : Router) :
    routerObs lvl r = coarsenRouter lvl (routerObs ⟨true, true⟩ r) := by
  cases r with
  | «switch» o cs cats d w rn =>
    cases hc : lvl.catNames <;> cases hr : lvl.resultName <;>
      simp [routerObs, coarsenRouter, hc, hr]
  | random cats rn =>
    cases hc : lvl.catNames <;> cases hr : lvl.resultName <;>
      simp [routerObs, coarsenRouter, hc, hr]

theorem obsAt_coarsen (lvl : ObsLevel) (f : Flow.Flow) (s : St) :
    obsAt lvl f s = coarsen lvl (obsAt ⟨true, true⟩ f s) := by
  cases s with
  | div => rfl
  | «at» p =>
    simp only [obsAt]
    cases f.nodes[p.node]? with
    | none => rfl
    | some n =>
      simp only
      cases n.actions[p.k]? with
      | some a => rfl
      | none =>
        simp only
        cases n.router with
        | none => rfl
        | some r => simp [coarsen, routerObs_coarsen lvl r]

theorem run_coarsen (lvl : ObsLevel) (f : Flow.Flow) :
    ∀ (n : Nat) (s : Option St) (env : Nat → Nat),
      run (flowSys lvl f) s env n = (run (flowSys ⟨true, true⟩ f) s env n).map (coarsen lvl) := by
  intro n
  induction n with
  | zero => intro s env; cases s <;> rfl
  | succ n ih =>
    intro s env
    cases s with
    | none => rfl
    | some st =>
      simp only [run, List.map_cons]
      have h1 : (flowSys lvl f).obs st = coarsen lvl ((flowSys ⟨true, true⟩ f).obs st) :=
        obsAt_coarsen lvl f st
      have h2 : (flowSys lvl f).step st (env 0) = (flowSys ⟨true, true⟩ f).step st (env 0) := rfl
      rw [h1, h2, ih]

/-- Equivalence at the full observation level (what C03 establishes) implies equivalence at
every coarser level (what C02 and C04 state): the levels only forget. -/
theorem full_equiv_implies_any_level (lvl : ObsLevel) (a b : Flow.Flow)
    (h : ∀ env n, trace ⟨true, true⟩ a env n = trace ⟨true, true⟩ b env n) :
    ∀ env n, trace lvl a env n = trace lvl b env n := by
  intro env n
  unfold trace at h ⊢
  rw [run_coarsen lvl a, run_coarsen lvl b, h env n]

def oneMsg (t : String) : Flow.Flow :=
  { uuid := [], name := [],
    nodes := [{ uuid := "n".toList, actions := [{ uuid := "a".toList, obs := t.toList }],
                router := none, exits := [{ uuid := "e".toList, dest := none }] }] }

/-- The certificate check is not vacuous: it rejects flows that differ in one observation.
Two one-node flows sending different texts have no certificate whatsoever. -/
theorem cert_rejects_different_action (R : List (St × St)) :
    certOk ⟨true, true⟩ (oneMsg "x") (oneMsg "y") R = false := by
  have hne : trace ⟨true, true⟩ (oneMsg "x") (fun _ => 0) 1 ≠
      trace ⟨true, true⟩ (oneMsg "y") (fun _ => 0) 1 := by decide
  cases h : certOk ⟨true, true⟩ (oneMsg "x") (oneMsg "y") R with
  | false => rfl
  | true => exact absurd (flows_equiv_of_cert _ _ _ R h (fun _ => 0) 1) hne

/-- The checker accepts a flow against itself (non-vacuity of the hypothesis of `flows_equiv_of_cert`). -/
example : certOk ⟨true, true⟩ (oneMsg "x") (oneMsg "x") [(.at ⟨0, 0⟩, .at ⟨0, 0⟩)] = true := by decide

end Rpft.Props.C02
