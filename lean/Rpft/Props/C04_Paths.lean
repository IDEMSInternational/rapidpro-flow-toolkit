/-
C04 (path level) — the sheet exporter `FlowContainer.to_rows` preserves the flow's BEHAVIOUR along every
path: "same destinations, including joins and cycles … same test order".

Two labelled transition systems over exit labels, defined in `Rpft/Lemmas/ExportPaths.lean`: the FLOW (a state
is a node; `FlowStep`, `flowOut` in EXIT ORDER, `nodePayloads`; an exit that leads nowhere is no transition,
`FlowEnds`) and the SHEET as the compiler reads it WITH NODE MERGING (`sheetT rows : Sheet`; a state is a group of
rows, named by its first row; `Sheet.Step`, `Sheet.out` in SHEET ORDER, `Sheet.payloads`, `Sheet.Linked`).

The theorems say: `n ↦ firstId n` ("node `n` ↔ the group of rows exported for `n`") is a functional
BISIMULATION between the reachable part of the flow and the sheet, for EVERY flow the exporter accepts,
relationally (no determinism assumed: two exits of one node may carry the same label), with equal
payloads — hence for every finite label sequence the same paths, the same payload traces.  Exits that
lead nowhere are finding F-C04-a: they are no transition on either side, and the sheet has no trace of them
(`dangling_label_no_step`); nothing is claimed about "the flow ends there".
-/
import Rpft.Lemmas.ExportPaths
import Rpft.Props.C04_Graph
namespace Rpft.Props.C04
open Rpft Rpft.Export

variable {U : Type} [DecidableEq U]

/-! ### states: the groups of the sheet are the reachable nodes -/

/-- **start.**  The `"start"` edge is the only edge without source, and it enters the group of the first
node: the sheet starts where the flow starts. -/
theorem sheet_start (f : FlowX U) (rows : List (RowT U)) (h : toRowsT f = .ok rows) :
    (sheetT rows).start = (f.head?.map firstId).toList := by
  rcases export_cases h with ⟨rfl, rfl⟩ | ⟨n0, items, vis, sk⟩
  · rfl
  · rw [sk.start_eq, sk.head]; rfl

/-- **the group of a reachable node.**  Read with the compiler's merge rule, the rows of the group whose
first row is `firstId n` are exactly the rows exported for `n`, in order, with their content; the last of
them is `lastId n`; the group performs what the node performs; consecutive rows are linked by blank edges
(the walk inside the node). -/
theorem node_group_exported (f : FlowX U) (rows : List (RowT U)) (h : toRowsT f = .ok rows) (n : NodeX U) (hn : Reach f n) :
    (sheetT rows).groupOf (firstId n) = n.rows.zipIdx.map (fun x => (rowId n x.2, x.1.1)) ∧
    (sheetT rows).lastRow (firstId n) = some (lastId n) ∧
    (sheetT rows).payloads (firstId n) = nodePayloads n ∧
    (sheetT rows).Linked (firstId n) := by
  obtain ⟨n0, items, vis, sk, hm⟩ := export_node h hn
  exact ⟨sk.groupOf_eq hm, sk.lastRow_eq hm, sk.payloads_eq hm, sk.linked hm⟩

/-- the relation "node ↔ its group" is one to one on the reachable nodes -/
theorem firstId_injective (f : FlowX U) (n m : NodeX U) (hn : Reach f n) (hm : Reach f m) (h : firstId n = firstId m) :
    n = m :=
  Canon.eq hn.canon hm.canon (rowId_eq_uuid h)

/-- **no other state**: every node of the sheet is the group of a reachable node of the flow, and every
reachable node has its group -/
theorem sheet_nodes_are_flow_nodes (f : FlowX U) (rows : List (RowT U)) (h : toRowsT f = .ok rows) (i : TempId U) :
    i ∈ (sheetT rows).nodes ↔ ∃ n, Reach f n ∧ i = firstId n := by
  simp only [Sheet.nodes, List.mem_eraseDups, List.mem_map]
  rcases export_cases h with ⟨rfl, rfl⟩ | ⟨n0, items, vis, sk⟩
  · exact ⟨fun ⟨_, hx, _⟩ => (nomatch hx), fun ⟨_, hn, _⟩ => absurd rfl hn.ne_nil⟩
  · constructor
    · rintro ⟨x, hx, rfl⟩
      rw [sk.nodeRowsP] at hx
      obtain ⟨m, hm, hxm⟩ := List.mem_flatMap.1 hx
      obtain ⟨j, hj, hxj⟩ := mem_nodeSigP hxm
      exact ⟨m, (sk.reach m).1 hm, hxj ▸ sk.repOf_row hm hj⟩
    · rintro ⟨n, hn, rfl⟩
      have hm := (sk.reach n).2 hn
      exact ⟨_, List.mem_map.2 ⟨_, sk.nodeRow_mem hm (sk.rows_pos hm), rfl⟩, sk.repOf_row hm (sk.rows_pos hm)⟩

/-! ### one step -/

/-- **all transitions of one node, as a multiset.**  The transitions leaving the group of a reachable node
`n` are, one for one, the connected exits of `n`: same label, into the group of the node `find_node`
returns — joins, cycles, self loops and parallel edges included. -/
theorem export_out_perm (f : FlowX U) (rows : List (RowT U)) (h : toRowsT f = .ok rows) (n : NodeX U) (hn : Reach f n) :
    ((sheetT rows).out (firstId n)).Perm ((flowOut f n).map (fun p => (p.1, firstId p.2))) := by
  obtain ⟨n0, items, vis, sk, hm⟩ := export_node h hn
  exact sk.out_perm hm

/-- **one-step correspondence** (both directions): from the group of a reachable node `n` the sheet can
take a step labelled `ℓ` into group `j` IF AND ONLY IF the flow can take a step labelled `ℓ` from `n` to a
node `m` whose group is `j` (and `m` is reachable again). -/
theorem export_step (f : FlowX U) (rows : List (RowT U)) (h : toRowsT f = .ok rows) (n : NodeX U) (hn : Reach f n)
    (ℓ : Label) (j : TempId U) :
    (sheetT rows).Step (firstId n) ℓ j ↔ ∃ m, FlowStep f n ℓ m ∧ j = firstId m := by
  unfold Sheet.Step
  rw [(export_out_perm f rows h n hn).mem_iff, List.mem_map]
  constructor
  · rintro ⟨⟨l, m⟩, hp, he⟩
    simp only [Prod.mk.injEq] at he
    obtain ⟨rfl, rfl⟩ := he
    exact ⟨m, hp, rfl⟩
  · rintro ⟨m, hp, rfl⟩
    exact ⟨(ℓ, m), hp, rfl⟩

/-! ### label sequences -/

/-- **The exported sheet has exactly the paths of the flow.**  For every flow the exporter accepts, every
reachable node `n` (in particular the first node, whose group is where the sheet starts: `sheet_start`)
and every finite sequence of labels `ℓs`: following `ℓs` in the sheet from the group of `n` visits the
groups `js` IF AND ONLY IF following `ℓs` in the flow from `n` visits nodes `ms` whose groups are `js`.
Relational: if a node has two exits with the same label both branches correspond. -/
theorem export_paths (f : FlowX U) (rows : List (RowT U)) (h : toRowsT f = .ok rows) (n : NodeX U) (hn : Reach f n)
    (ℓs : List Label) (js : List (TempId U)) :
    LPath (sheetT rows).Step (firstId n) ℓs js ↔ ∃ ms, LPath (FlowStep f) n ℓs ms ∧ js = ms.map firstId :=
  lpath_of_step_iff (FlowStep f) (sheetT rows).Step firstId (Reach f) (export_step f rows h)
    (fun _ _ _ hn hs => hn.flowStep hs) ℓs n js hn

/-- **Simulation with payloads** (flow ⇒ sheet).  Following `ℓs` in the flow from a reachable node `n`
through the nodes `ms`: the sheet follows `ℓs` from the group of `n` through the groups of `ms`, ends in the
group of the node the flow ends in, and performs the same payload sequence (content of every row of
every node entered, in order). -/
theorem export_simulates (f : FlowX U) (rows : List (RowT U)) (h : toRowsT f = .ok rows) (n : NodeX U) (hn : Reach f n)
    (ℓs : List Label) (ms : List (NodeX U)) (hp : LPath (FlowStep f) n ℓs ms) :
    LPath (sheetT rows).Step (firstId n) ℓs (ms.map firstId) ∧
    endOf (firstId n) (ms.map firstId) = firstId (endOf n ms) ∧
    traceOf (sheetT rows).payloads (firstId n) (ms.map firstId) = traceOf nodePayloads n ms := by
  exact ⟨(export_paths f rows h n hn ℓs _).2 ⟨ms, hp, rfl⟩, endOf_map firstId n ms,
    traceOf_map firstId _ _ n ms fun m hm => (node_group_exported f rows h m (hn.lpath hp m hm)).2.2.1⟩

/-- **Simulation with payloads, the converse** (sheet ⇒ flow).  Every path of the sheet from the group of a reachable node is the image
of a path of the flow with the same labels, ending in the node whose group the sheet path ends in, with
the same payload sequence. -/
theorem export_simulated_by (f : FlowX U) (rows : List (RowT U)) (h : toRowsT f = .ok rows) (n : NodeX U) (hn : Reach f n)
    (ℓs : List Label) (js : List (TempId U)) (hp : LPath (sheetT rows).Step (firstId n) ℓs js) :
    ∃ ms, LPath (FlowStep f) n ℓs ms ∧ js = ms.map firstId ∧ Reach f (endOf n ms) ∧
      endOf (firstId n) js = firstId (endOf n ms) ∧
      traceOf (sheetT rows).payloads (firstId n) js = traceOf nodePayloads n ms := by
  obtain ⟨ms, hms, rfl⟩ := (export_paths f rows h n hn ℓs js).1 hp
  obtain ⟨_, h2, h3⟩ := export_simulates f rows h n hn ℓs ms hms
  exact ⟨ms, hms, rfl, hn.lpath hms _ (List.getLast_mem _), h2, h3⟩

/-- **from the start**: the form of the property text.  The sheet starts in the group of the flow's first
node, and for every label sequence: the flow reaches node `m` from its first node performing `P` IFF the
sheet reaches the group of `m` from its start performing `P` (for reachable `m`; `firstId` is one to one
on reachable nodes: `firstId_injective`). -/
theorem export_paths_from_start (f : FlowX U) (rows : List (RowT U)) (h : toRowsT f = .ok rows) (n0 : NodeX U)
    (h0 : f.head? = some n0) (ℓs : List Label) (m : NodeX U) (P : List Payload) :
    (sheetT rows).start = [firstId n0] ∧
    ((∃ ms, LPath (FlowStep f) n0 ℓs ms ∧ endOf n0 ms = m ∧ traceOf nodePayloads n0 ms = P) ↔
     (Reach f m ∧ ∃ js, LPath (sheetT rows).Step (firstId n0) ℓs js ∧ endOf (firstId n0) js = firstId m ∧
        traceOf (sheetT rows).payloads (firstId n0) js = P)) := by
  have hn0 : Reach f n0 := Reach.start h0
  refine ⟨by rw [sheet_start f rows h, h0]; rfl, ?_⟩
  constructor
  · rintro ⟨ms, hp, rfl, rfl⟩
    obtain ⟨a, b, c⟩ := export_simulates f rows h n0 hn0 ℓs ms hp
    exact ⟨hn0.lpath hp _ (List.getLast_mem _), ms.map firstId, a, b, c⟩
  · rintro ⟨hm, js, hp, he, rfl⟩
    obtain ⟨ms, hms, rfl, hre, hend, htr⟩ := export_simulated_by f rows h n0 hn0 ℓs js hp
    refine ⟨ms, hms, ?_, htr.symm⟩
    rw [hend] at he
    exact firstId_injective f _ _ hre hm he

/-! ### exits that lead nowhere (finding F-C04-a) -/

/-- a label whose exit leads nowhere (and that no connected exit of the node shares) is a transition on
NEITHER side: the flow has no step for it (it "ends", `FlowEnds`), and the sheet has no edge with that
label leaving the node's group — no trace of the exit is left in the sheet (after recompilation the router
has no case for it: F-C04-a).  That the flow "ends there" on both sides is NOT claimed. -/
theorem dangling_label_no_step (f : FlowX U) (rows : List (RowT U)) (h : toRowsT f = .ok rows) (n : NodeX U) (hn : Reach f n)
    (ℓ : Label) (hd : FlowEnds n ℓ) (hno : ∀ d, (ℓ, some d) ∉ n.edges) :
    (∀ m, ¬ FlowStep f n ℓ m) ∧ (∀ j, ¬ (sheetT rows).Step (firstId n) ℓ j) ∧
    ∀ e ∈ edgesOfT rows, e.src = some (lastId n) → e.label ≠ ℓ := by
  have h1 : ∀ m, ¬ FlowStep f n ℓ m := by
    intro m hm
    obtain ⟨d, hd', _⟩ := flowStep_iff.1 hm
    exact hno d hd'
  refine ⟨h1, ?_, (export_drops_dangling_exits f rows h n hn).2 ℓ hd hno⟩
  intro j hj
  obtain ⟨m, hm, _⟩ := (export_step f rows h n hn ℓ j).1 hj
  exact h1 m hm

/-! ### test order along paths -/

/-- the sheet lists the transitions of the group of `n` in the flow's exit order IFF the row graph lists the
edges leaving the last row of `n` in exit order (the statement the order criteria of `C04_Graph` decide) -/
theorem out_order_iff_edges_order (f : FlowX U) (rows : List (RowT U)) (h : toRowsT f = .ok rows) (n : NodeX U) (hn : Reach f n) :
    (sheetT rows).out (firstId n) = (flowOut f n).map (fun p => (p.1, firstId p.2)) ↔
      outOf (lastId n) (edgesOfT rows) = exitsEdges f n := by
  obtain ⟨n0, items, vis, sk, hm⟩ := export_node h hn
  rw [sk.out_eq hm]
  have hmap : (flowOut f n).map (fun p => (p.1, firstId p.2)) = (exitsEdges f n).map (fun e => (e.label, e.dst)) := by
    rw [exitsEdges_eq_flowOut, List.map_map]; rfl
  rw [hmap]
  constructor
  · intro heq
    have hsrc : ∀ l : List (SEdge (TempId U)), (∀ e ∈ l, e.src = some (lastId n)) →
        l = (l.map (fun e => (e.label, e.dst))).map (fun q => ⟨some (lastId n), q.1, q.2⟩) := by
      intro l hl
      refine (map_map_eq_self fun e he => ?_).symm
      have := hl e he
      cases e
      simp only at this
      simp [this]
    rw [hsrc (outOf (lastId n) (edgesOfT rows)) (by intro e he; simpa [outOf] using (List.mem_filter.1 he).2),
      hsrc (exitsEdges f n) (by intro e he; obtain ⟨_, _, _, _, _, rfl⟩ := mem_exitsEdges.1 he; rfl), heq]
  · intro heq; rw [heq]

/-- **test order, join-free sheets**: on a sheet without joins (no row with more than one edge cell: a tree
with back edges / `go_to` rows) the transitions of every reachable node come back in exit order. -/
theorem export_test_order_of_join_free (f : FlowX U) (rows : List (RowT U)) (h : toRowsT f = .ok rows)
    (hjf : ∀ r ∈ rows, r.edges.length ≤ 1) (n : NodeX U) (hn : Reach f n) :
    (sheetT rows).out (firstId n) = (flowOut f n).map (fun p => (p.1, firstId p.2)) :=
  (out_order_iff_edges_order f rows h n hn).2 (out_edges_order_of_join_free f rows h hjf n hn)

/-- **test order, criterion 1**: no edge leaving `n` was prepended to an existing row -/
theorem export_test_order_of_not_prepended (f : FlowX U) (rows : List (RowT U)) (h : toRowsT f = .ok rows) (n : NodeX U)
    (hn : Reach f n) (hlast : ∀ r ∈ rows, ∀ e ∈ r.edges.dropLast, e.from_ ≠ some (lastId n)) :
    (sheetT rows).out (firstId n) = (flowOut f n).map (fun p => (p.1, firstId p.2)) :=
  (out_order_iff_edges_order f rows h n hn).2 (out_edges_order_of_not_prepended f rows h n hn hlast)

/-- **test order, exact criterion** (F-C04-b is its negation): for a reachable node none of whose edges is
carried by a `go_to` row, the ordered list of (label, target node) of the sheet is the flow's IF AND ONLY IF
the targets of the exits stand in the sheet in the order of the exits. -/
theorem export_test_order_iff_targets_sorted (f : FlowX U) (rows : List (RowT U)) (h : toRowsT f = .ok rows) (n : NodeX U)
    (hn : Reach f n) (hg : ∀ r ∈ rows, r.goto ≠ [] → ∀ e ∈ r.edges, e.from_ ≠ some (lastId n)) :
    (sheetT rows).out (firstId n) = (flowOut f n).map (fun p => (p.1, firstId p.2)) ↔
      (exitsEdges f n).Pairwise (fun a b => pos (rows.map (·.id)) a.dst ≤ pos (rows.map (·.id)) b.dst) :=
  (out_order_iff_edges_order f rows h n hn).trans (out_edges_order_iff_targets_sorted f rows h n hn hg)

/-- **Same test order along every path.**  If every node satisfies an order criterion — here: the sheet is
join-free — then along every path of the flow from a reachable node, every node visited has, in the sheet,
the same ORDERED list of (label, target) as in the flow, the targets being the groups of the target nodes:
"first matching test wins" (or any other semantics that reads the cases in order) takes the same branch
at every step, and the sheet path is the image of the flow path (`export_simulates`). -/
theorem export_test_order_paths (f : FlowX U) (rows : List (RowT U)) (h : toRowsT f = .ok rows)
    (hjf : ∀ r ∈ rows, r.edges.length ≤ 1) (n : NodeX U) (hn : Reach f n)
    (ℓs : List Label) (ms : List (NodeX U)) (hp : LPath (FlowStep f) n ℓs ms) :
    LPath (sheetT rows).Step (firstId n) ℓs (ms.map firstId) ∧
    ∀ m ∈ n :: ms, (sheetT rows).out (firstId m) = (flowOut f m).map (fun p => (p.1, firstId p.2)) :=
  ⟨(export_simulates f rows h n hn ℓs ms hp).1,
    fun m hm => export_test_order_of_join_free f rows h hjf m (hn.lpath hp m hm)⟩

/-- **Same test order along a path, per node**, with whatever criterion holds there: a visited node whose
edges come back in exit order has the same ordered (label, target) list -/
theorem export_test_order_paths_of (f : FlowX U) (rows : List (RowT U)) (h : toRowsT f = .ok rows) (n : NodeX U) (hn : Reach f n)
    (ℓs : List Label) (ms : List (NodeX U)) (hp : LPath (FlowStep f) n ℓs ms)
    (hord : ∀ m ∈ n :: ms, outOf (lastId m) (edgesOfT rows) = exitsEdges f m) :
    ∀ m ∈ n :: ms, (sheetT rows).out (firstId m) = (flowOut f m).map (fun p => (p.1, firstId p.2)) :=
  fun m hm => (out_order_iff_edges_order f rows h m (hn.lpath hp m hm)).2 (hord m hm)

/-! ### determinism -/

/-- per node, the labels of the connected exits are pairwise distinct (decidable) -/
def LabelsDistinct (f : FlowX U) : Prop := ∀ n ∈ f, ((n.edges.filter (fun e => e.2.isSome)).map (·.1)).Nodup

instance (f : FlowX U) : Decidable (LabelsDistinct f) := by unfold LabelsDistinct; infer_instance

/-- first matching case wins: the target of the first transition labelled `ℓ` -/
def firstMatch {S : Type} (out : List (Label × S)) (ℓ : Label) : Option S :=
  (out.find? (fun p => decide (p.1 = ℓ))).map (·.2)

theorem flowStep_deterministic (f : FlowX U) (hd : LabelsDistinct f) (n : NodeX U) (hn : n ∈ f) (ℓ : Label) (m m' : NodeX U)
    (h1 : FlowStep f n ℓ m) (h2 : FlowStep f n ℓ m') : m = m' := by
  obtain ⟨d, hd1, hf1⟩ := flowStep_iff.1 h1
  obtain ⟨d', hd2, hf2⟩ := flowStep_iff.1 h2
  have hm : ∀ x, (ℓ, some x) ∈ n.edges → (ℓ, some x) ∈ n.edges.filter (fun e => e.2.isSome) :=
    fun x hx => List.mem_filter.2 ⟨hx, rfl⟩
  cases eq_of_nodup_map (hd n hn) (hm d hd1) (hm d' hd2) rfl
  exact Option.some.inj (hf1.symm.trans hf2)

/-- **determinism is preserved**: if in the flow the labels of the connected exits of every node are
pairwise distinct, both systems are deterministic on the reachable part — the sheet path for a label
sequence is unique, and it is the image of THE flow path. -/
theorem export_deterministic (f : FlowX U) (rows : List (RowT U)) (h : toRowsT f = .ok rows) (hd : LabelsDistinct f)
    (n : NodeX U) (hn : Reach f n) (ℓs : List Label) (js js' : List (TempId U))
    (h1 : LPath (sheetT rows).Step (firstId n) ℓs js) (h2 : LPath (sheetT rows).Step (firstId n) ℓs js') : js = js' := by
  obtain ⟨ms, hms, rfl⟩ := (export_paths f rows h n hn ℓs js).1 h1
  obtain ⟨ms', hms', rfl⟩ := (export_paths f rows h n hn ℓs js').1 h2
  have key : ∀ (ℓs : List Label) (n : NodeX U), Reach f n → ∀ ms ms', LPath (FlowStep f) n ℓs ms → LPath (FlowStep f) n ℓs ms' → ms = ms' := by
    intro ℓs
    induction ℓs with
    | nil =>
      intro n _ ms ms' a b
      cases ms with
      | cons _ _ => exact a.elim
      | nil => cases ms' with
        | cons _ _ => exact b.elim
        | nil => rfl
    | cons ℓ ℓs ih =>
      intro n hn ms ms' a b
      cases ms with
      | nil => exact a.elim
      | cons m ms => cases ms' with
        | nil => exact b.elim
        | cons m' ms' =>
          have := flowStep_deterministic f hd n (findNode_mem hn.canon) ℓ m m' a.1 b.1
          subst this
          rw [ih m (hn.flowStep a.1) ms ms' a.2 b.2]
  rw [key ℓs n hn ms ms' hms hms']

/-! ### the ROW graph and the FINAL sheet (`--strip_uuids`: no `_nodeId`, every row is its own node) -/

/-- **Row-level bisimulation (temp-id sheet).**  Whatever the grouping: the row graph of the exported sheet
is the flow with every node expanded into the chain of its row models (`RowStepF`: blank step to the next
row model inside a node, the node's steps from its last row model into the first row model of the
target).  For every state `p` = (reachable node, row model) and every label sequence: the row graph walks
`Ls` from the row of `p` through the rows `bs` IFF the expanded flow walks `Ls` from `p` through states
whose rows are `bs`. -/
theorem export_row_paths (f : FlowX U) (rows : List (RowT U)) (h : toRowsT f = .ok rows) (p : NodeX U × Nat)
    (hp : RowState f p) (Ls : List Label) (bs : List (TempId U)) :
    LPath (EdgeStep (edgesOfT rows)) (rowOf p) Ls bs ↔ ∃ qs, LPath (RowStepF f) p Ls qs ∧ bs = qs.map rowOf := by
  obtain ⟨n0, items, vis, sk⟩ := export_skeleton h hp.1.ne_nil
  exact lpath_of_step_iff (RowStepF f) (EdgeStep (edgesOfT rows)) rowOf (RowState f)
    sk.row_step sk.rowState_step Ls p bs hp

/-- **The FINAL sheet, both id modes.**  The rows `to_rows(numbered)` returns are the temp-id rows renamed by
a `σ` that is one to one on the states; the graph the compiler reads from the final sheet (`edgesOfS`; with
`--strip_uuids` there is no `_nodeId` column and every row is its own node, `ungrouped_without_node_ids`)
starts in the row of (first node, 0), has from the row of every state exactly the steps of the expanded
flow, carries the state's content — hence walks exactly the label paths of the expanded flow: a node with
several row models comes back as a chain of one-row nodes linked by blank steps, everything else as it
was (joins, cycles, self loops, parallel edges). -/
theorem export_row_paths_final (numbered : Bool) (f : FlowX U) (out : List RowS) (h : strippedRows numbered f = .ok out) :
    ∃ (rows : List (RowT U)) (σ : TempId U → Str), toRowsT f = .ok rows ∧ out = rows.map (renameRow σ) ∧
      (∀ p q, RowState f p → RowState f q → σ (rowOf p) = σ (rowOf q) → p = q) ∧
      (∀ n0, f.head? = some n0 → (⟨none, blankLabel, σ (firstId n0)⟩ : SEdge Str) ∈ edgesOfS out) ∧
      (∀ p, RowState f p → ∃ c, (σ (rowOf p), c) ∈ nodeRowsS out ∧ rowPayload p = [c]) ∧
      (∀ p, RowState f p → ∀ ℓ c, EdgeStep (edgesOfS out) (σ (rowOf p)) ℓ c ↔ ∃ q, RowStepF f p ℓ q ∧ c = σ (rowOf q)) ∧
      (∀ p, RowState f p → ∀ (Ls : List Label) (cs : List Str),
        LPath (EdgeStep (edgesOfS out)) (σ (rowOf p)) Ls cs ↔
          ∃ qs, LPath (RowStepF f) p Ls qs ∧ cs = qs.map (fun q => σ (rowOf q))) := by
  obtain ⟨rows, σ, hr, ho, hst, hinj, hrefs, hE, hN, hO⟩ := export_preserves_graph_stripped numbered f out h
  have hsk : ∀ p, RowState f p → ∃ n0 items vis, Skeleton f rows n0 items vis :=
    fun p hp => export_skeleton hr hp.1.ne_nil
  have hmem : ∀ p, RowState f p → rowOf p ∈ rows.map (·.id) := by
    intro p hp
    obtain ⟨n0, items, vis, sk⟩ := hsk p hp
    exact sk.rowId_mem ((sk.reach p.1).2 hp.1) hp.2
  have hstep : ∀ p, RowState f p → ∀ ℓ c, EdgeStep (edgesOfS out) (σ (rowOf p)) ℓ c ↔ ∃ q, RowStepF f p ℓ q ∧ c = σ (rowOf q) := by
    intro p hp ℓ c
    obtain ⟨n0, items, vis, sk⟩ := hsk p hp
    simp only [edgeStep_map_iff σ (hO _ (hmem p hp)), sk.row_step p hp]
    exact ⟨fun ⟨_, ⟨q, hq, e⟩, hc⟩ => ⟨q, hq, e ▸ hc⟩, fun ⟨q, hq, hc⟩ => ⟨_, ⟨q, hq, rfl⟩, hc⟩⟩
  refine ⟨rows, σ, hr, ho, ?_, ?_, ?_, hstep, ?_⟩
  · intro p q hp hq heq
    exact rowOf_inj hp hq (hinj _ (hmem p hp) _ (hmem q hq) heq)
  · intro n0 h0
    obtain ⟨order, _, _, hperm, _⟩ := export_preserves_graph f rows hr
    rw [hE]
    exact List.mem_map.2 ⟨startEdge n0, hperm.mem_iff.2 (by simp [h0]), rfl⟩
  · intro p hp
    obtain ⟨n0, items, vis, sk⟩ := hsk p hp
    exact ⟨_, hN ▸ List.mem_map.2 ⟨_, sk.nodeRow_mem ((sk.reach p.1).2 hp.1) hp.2, rfl⟩, by simp [rowPayload, hp.2]⟩
  · intro p hp Ls cs
    obtain ⟨n0, items, vis, sk⟩ := hsk p hp
    exact lpath_of_step_iff (RowStepF f) (EdgeStep (edgesOfS out)) (fun q => σ (rowOf q)) (RowState f) hstep
      sk.rowState_step Ls p cs hp

theorem rowSteps_then_exit (f : FlowX U) (n m : NodeX U) (ℓ : Label) (hs : FlowStep f n ℓ m) :
    ∀ (k j : Nat), j + k + 1 = n.rows.length →
      LPath (RowStepF f) (n, j) (List.replicate k blankLabel ++ [ℓ]) ((List.range' (j + 1) k).map (fun i => (n, i)) ++ [(m, 0)])
  | 0, j, h => ⟨Or.inr ⟨by simpa using h, rfl, hs⟩, trivial⟩
  | k + 1, j, h =>
    ⟨Or.inl ⟨rfl, rfl, by simp only; omega, rfl⟩, rowSteps_then_exit f n m ℓ hs k (j + 1) (by omega)⟩

/-- a step of the flow is a walk of the expanded flow: through the remaining row models of the node by blank
steps, then the step itself — the label sequence gets `|rows| - 1` blank labels in front -/
theorem flowStep_expands (f : FlowX U) (n m : NodeX U) (ℓ : Label) (hs : FlowStep f n ℓ m) (j : Nat) (hj : j < n.rows.length) :
    LPath (RowStepF f) (n, j) (List.replicate (n.rows.length - 1 - j) blankLabel ++ [ℓ])
      (((List.range (n.rows.length - 1 - j)).map (fun k => (n, j + 1 + k))) ++ [(m, 0)]) := by
  have := rowSteps_then_exit f n m ℓ hs (n.rows.length - 1 - j) j (by omega)
  rwa [List.range'_eq_map_range, List.map_map] at this

/-! ### what is still missing -/

/-- NOT proved: the GROUP-level statement for the final sheet that KEEPS its `_nodeId` column (`to_rows`
without `--strip_uuids`).  `export_paths` is about the temp-id sheet; the final ids are the temp ids renamed
by the injective `σ` of `export_row_paths_final`, and the row graph is the renamed row graph (proved), so what
is missing is only that the compiler's merge rule commutes with an injective renaming of the row ids: -/
def final_grouping_renamed_full : Prop :=
  ∀ (rows : List (RowT Nat)) (σ : TempId Nat → Str),
    (∀ a ∈ rows.map (·.id), ∀ b ∈ rows.map (·.id), σ a = σ b → a = b) →
    (∀ r ∈ rows, RowRefs (rows.map (·.id)) r) →
    groupRows ((rows.filter (fun r => r.goto.isEmpty)).map
        (fun r => (σ r.id, r.nodeId, r.cells.map (fun c => (c.1.map σ, c.2))))) =
      (groupsT rows).map (fun p => (σ p.1, σ p.2))

/-! ### non-vacuity and negative witnesses (kernel-evaluated) -/

instance (f : FlowX Nat) (n : NodeX Nat) (ℓ : Label) (m : NodeX Nat) : Decidable (FlowStep f n ℓ m) := by
  unfold FlowStep; infer_instance

instance (n : NodeX Nat) (ℓ : Label) : Decidable (FlowEnds n ℓ) := by unfold FlowEnds; infer_instance

def gB : NodeX Nat := ⟨2, "msg.b".toList, [("b".toList, none)], [([], some 3)]⟩
def gC : NodeX Nat := ⟨3, "msg.c".toList, [("c".toList, none)], [([], none)]⟩

/-- a label path through the self loop (c5), the cycle back to the first node (c6) and the join (c1 → b → c) -/
def pathLabels : List Label := [[], "c5".toList, "c6".toList, [], "c1".toList, []]
def pathNodes : List (NodeX Nat) := [gX, gX, gA, gX, gB, gC]

/-- the flow walks `pathLabels` from msg.a through `pathNodes` -/
theorem exG_flow_path : LPath (FlowStep exG) gA pathLabels pathNodes := by decide +kernel

/-- the sheet of `exG` walks `pathLabels` through the groups of `pathNodes` (computed on the sheet alone) -/
theorem exG_sheet_path : LPath (sheetT rowsG).Step (firstId gA) pathLabels (pathNodes.map firstId) := by decide +kernel

/-- that walk starts where the sheet starts, and both sides perform the same payloads along it: a1 a2 (the two-row
node) w w a1 a2 w b c -/
theorem exG_path_trace :
    (sheetT rowsG).start = [firstId gA] ∧
    traceOf (sheetT rowsG).payloads (firstId gA) (pathNodes.map firstId) =
      ["a1", "a2", "w", "w", "a1", "a2", "w", "b", "c"].map String.toList ∧
    traceOf nodePayloads gA pathNodes = ["a1", "a2", "w", "w", "a1", "a2", "w", "b", "c"].map String.toList := by
  decide +kernel

/-- the theorems instantiated on that path (hypotheses are satisfiable) -/
example : LPath (sheetT rowsG).Step (firstId gA) pathLabels (pathNodes.map firstId) ∧
    endOf (firstId gA) (pathNodes.map firstId) = firstId (endOf gA pathNodes) ∧
    traceOf (sheetT rowsG).payloads (firstId gA) (pathNodes.map firstId) = traceOf nodePayloads gA pathNodes :=
  export_simulates exG rowsG rowsG_ok gA reach_gA pathLabels pathNodes exG_flow_path
example : ∃ ms, LPath (FlowStep exG) gA pathLabels ms ∧ pathNodes.map firstId = ms.map firstId :=
  (export_paths exG rowsG rowsG_ok gA reach_gA pathLabels _).1 exG_sheet_path
example : (sheetT rowsG).Step (firstId gX) "c6".toList (firstId gA) :=
  (export_step exG rowsG rowsG_ok gX reach_gX _ _).2 ⟨gA, by decide +kernel, rfl⟩

/-- the groups of the sheet of `exG`: four nodes (the unreachable node 4 has none), the two rows of msg.a are
one group -/
theorem exG_sheet_nodes :
    (sheetT rowsG).nodes.map (·.2) = ["msg.a", "split.x", "msg.b", "msg.c"].map String.toList ∧
    ((sheetT rowsG).groupOf (firstId gA)).map (fun x => (x.1.2, x.2)) =
      [("msg.a".toList, "a1".toList), ("msg.a.1".toList, "a2".toList)] ∧
    (sheetT rowsG).lastRow (firstId gA) = some (lastId gA) := by
  decide +kernel

/-- **F-C04-a along paths**: at the router of `exG` the label c4 (exit leads nowhere) is a transition on
neither side, and the sheet has no edge for it -/
example : (∀ m, ¬ FlowStep exG gX "c4".toList m) ∧ (∀ j, ¬ (sheetT rowsG).Step (firstId gX) "c4".toList j) ∧
    ∀ e ∈ edgesOfT rowsG, e.src = some (lastId gX) → e.label ≠ "c4".toList :=
  dangling_label_no_step exG rowsG rowsG_ok gX reach_gX _ (by decide +kernel) (by intro d hd; simp [gX] at hd)

/-- the transitions of the router of `exG`, flow order vs sheet order: the same multiset (`export_out_perm`),
NOT the same order — c2 comes back after c3 (F-C04-b; the join at msg.c) -/
theorem exG_router_out :
    (flowOut exG gX).map (fun p => (p.1, p.2.short)) =
      [("c1".toList, "msg.b".toList), ("c2".toList, "msg.c".toList), ("c3".toList, "msg.b".toList),
       ("c5".toList, "split.x".toList), ("c6".toList, "msg.a".toList)] ∧
    ((sheetT rowsG).out (firstId gX)).map (fun p => (p.1, p.2.2)) =
      [("c1".toList, "msg.b".toList), ("c3".toList, "msg.b".toList), ("c2".toList, "msg.c".toList),
       ("c5".toList, "split.x".toList), ("c6".toList, "msg.a".toList)] := by
  decide +kernel

/-- the order hypothesis of the test-order theorems is needed: the sheet of `exG` is not join-free, and at its
router the ordered lists differ -/
theorem needs_order_criterion :
    (¬ ∀ r ∈ rowsG, r.edges.length ≤ 1) ∧
    (sheetT rowsG).out (firstId gX) ≠ (flowOut exG gX).map (fun p => (p.1, firstId p.2)) := by
  decide +kernel

/-- non-vacuity of the test-order theorems: the self-loop flow `exL` (join-free sheet, a `go_to` row) -/
example : (sheetT rowsL).out (firstId lR) = (flowOut exL lR).map (fun p => (p.1, firstId p.2)) :=
  export_test_order_of_join_free exL rowsL rowsL_ok (by decide +kernel) lR (Reach.start rfl)
example : LPath (sheetT rowsL).Step (firstId lR) ["t2".toList, "t2".toList] ([lR, lR].map firstId) ∧
    ∀ m ∈ [lR, lR, lR], (sheetT rowsL).out (firstId m) = (flowOut exL m).map (fun p => (p.1, firstId p.2)) :=
  export_test_order_paths exL rowsL rowsL_ok (by decide +kernel) lR (Reach.start rfl) _ _ (by decide +kernel)
/-- non-vacuity of the two criteria at a join: the diamond `exD` -/
example : (sheetT rowsD).out (firstId bR) = (flowOut exD bR).map (fun p => (p.1, firstId p.2)) :=
  export_test_order_of_not_prepended exD rowsD rowsD_ok bR (Reach.start rfl) diamond_order_preserved.2.1
example : (sheetT rowsD).out (firstId bR) = (flowOut exD bR).map (fun p => (p.1, firstId p.2)) ↔
    (exitsEdges exD bR).Pairwise (fun a b => pos (rowsD.map (·.id)) a.dst ≤ pos (rowsD.map (·.id)) b.dst) :=
  export_test_order_iff_targets_sorted exD rowsD rowsD_ok bR (Reach.start rfl) diamond_order_preserved.2.2.1

/-- **what goes wrong without `LabelsDistinct` AND without an order criterion**: `exB` with both tests
labelled `t`.  The relational theorems still hold (both branches exist on both sides: `export_paths`),
but "first matching test wins" takes DIFFERENT branches: the flow goes to msg.x, the sheet to msg.y —
the prepended edge at the join reorders two cases that only their order tells apart. -/
def exT : FlowX Nat :=
  [ ⟨0, "split".toList, [("r".toList, none)], [("t".toList, some 1), ("t".toList, some 2)]⟩,
    ⟨1, "msg.x".toList, [("x".toList, none)], [([], none)]⟩,
    ⟨2, "msg.y".toList, [("y".toList, none)], [([], some 1)]⟩ ]
def tR : NodeX Nat := ⟨0, "split".toList, [("r".toList, none)], [("t".toList, some 1), ("t".toList, some 2)]⟩
def rowsT : List (RowT Nat) := (toRowsT exT).toOption.getD []
theorem rowsT_ok : toRowsT exT = .ok rowsT := ok_getD [] (by decide +kernel)

theorem needs_labels_distinct :
    ¬ LabelsDistinct exT ∧
    (firstMatch (flowOut exT tR) "t".toList).map (·.short) = some "msg.x".toList ∧
    (firstMatch ((sheetT rowsT).out (firstId tR)) "t".toList).map (·.2) = some "msg.y".toList ∧
    -- the sheet is not deterministic either: two different paths for the one label sequence [t]
    (∃ js js', js ≠ js' ∧ LPath (sheetT rowsT).Step (firstId tR) ["t".toList] js ∧
        LPath (sheetT rowsT).Step (firstId tR) ["t".toList] js') := by
  have h : ¬ LabelsDistinct exT ∧
      (firstMatch (flowOut exT tR) "t".toList).map (·.short) = some "msg.x".toList ∧
      (firstMatch ((sheetT rowsT).out (firstId tR)) "t".toList).map (·.2) = some "msg.y".toList ∧
      [((.inl 1 : Nat ⊕ Nat), "msg.x".toList)] ≠ [((.inl 2), "msg.y".toList)] ∧
      LPath (sheetT rowsT).Step (firstId tR) ["t".toList] [((.inl 1), "msg.x".toList)] ∧
      LPath (sheetT rowsT).Step (firstId tR) ["t".toList] [((.inl 2), "msg.y".toList)] := by decide +kernel
  exact ⟨h.1, h.2.1, h.2.2.1, _, _, h.2.2.2⟩

/-- non-vacuity of `export_deterministic` / `flowStep_deterministic`: `exG` has distinct labels per node -/
theorem exG_labels_distinct : LabelsDistinct exG := by decide +kernel
example (js js' : List (TempId Nat)) (h1 : LPath (sheetT rowsG).Step (firstId gA) pathLabels js)
    (h2 : LPath (sheetT rowsG).Step (firstId gA) pathLabels js') : js = js' :=
  export_deterministic exG rowsG rowsG_ok exG_labels_distinct gA reach_gA _ _ _ h1 h2

/-- reachability is needed in the one-step theorem: the unreachable node of `exG` has a step to the first
node, the sheet has none (it has no group for it) -/
theorem needs_reachable_step :
    FlowStep exG gZ [] gA ∧ ¬ (sheetT rowsG).Step (firstId gZ) [] (firstId gA) ∧ (sheetT rowsG).groupOf (firstId gZ) = [] := by
  decide +kernel

/-! #### the row graph of the final sheet -/

instance (f : FlowX Nat) (p : NodeX Nat × Nat) (ℓ : Label) (q : NodeX Nat × Nat) : Decidable (RowStepF f p ℓ q) := by
  unfold RowStepF; infer_instance

/-- the final numbered sheet of `exG` (what `--strip_uuids` writes) -/
def outGn : List RowS := (strippedRows true exG).toOption.getD []
theorem outGn_ok : strippedRows true exG = .ok outGn := ok_getD [] (by decide +kernel)

/-- the same walk at the row level: the two-row node msg.a is a chain of two one-row nodes (a blank step
between them), the self loop, the cycle and the join are as in the flow -/
def rowLabels : List Label := [[], [], "c5".toList, "c6".toList, [], [], "c1".toList, []]
theorem exG_row_path :
    LPath (RowStepF exG) (gA, 0) rowLabels [(gA, 1), (gX, 0), (gX, 0), (gA, 0), (gA, 1), (gX, 0), (gB, 0), (gC, 0)] ∧
    LPath (EdgeStep (edgesOfS outGn)) "1".toList rowLabels (["2", "3", "3", "1", "2", "3", "4", "5"].map String.toList) ∧
    nodeRowsS outGn = [("1", "a1"), ("2", "a2"), ("3", "w"), ("4", "b"), ("5", "c")].map (fun x => (x.1.toList, x.2.toList)) := by
  decide +kernel

/-- non-vacuity of `export_row_paths` / `export_row_paths_final` / `flowStep_expands` -/
example : ∃ qs, LPath (RowStepF exG) (gA, 0) rowLabels qs ∧
    [(gA, 1), (gX, 0), (gX, 0), (gA, 0), (gA, 1), (gX, 0), (gB, 0), (gC, 0)].map rowOf = qs.map rowOf :=
  (export_row_paths exG rowsG rowsG_ok (gA, 0) ⟨reach_gA, by decide⟩ rowLabels _).1 (by decide +kernel)
example : ∃ (rows : List (RowT Nat)) (σ : TempId Nat → Str), toRowsT exG = .ok rows ∧ outGn = rows.map (renameRow σ) := by
  obtain ⟨rows, σ, h1, h2, _⟩ := export_row_paths_final true exG outGn outGn_ok
  exact ⟨rows, σ, h1, h2⟩
example : LPath (RowStepF exG) (gA, 0) [[], []] [(gA, 1), (gX, 0)] :=
  flowStep_expands exG gA gX [] (by decide +kernel) 0 (by decide)

/-- a state must be a row model of a REACHABLE node: the unreachable node of `exG` has a step in the
expanded flow, its row has none in the sheet (it has no row) -/
theorem needs_row_state :
    RowStepF exG (gZ, 0) [] (gA, 0) ∧ ¬ EdgeStep (edgesOfT rowsG) (rowOf (gZ, 0)) [] (rowOf (gA, 0)) := by
  decide +kernel

end Rpft.Props.C04
