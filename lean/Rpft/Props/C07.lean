/-
C07 — Row models survive the trip to spreadsheet cells and back, in every layout.

Property theorems and their witnesses (model: Rpft/Schema, RowParse, RowUnparse, RowSpec; helper lemmas:
Rpft/Lemmas/Row*.lean, Codec.lean).  Strings, integers, list lengths and the number of
fields are unbounded in every theorem.
-/
import Rpft.Lemmas.RowGenFlow
import Rpft.Lemmas.RowFam
import Rpft.FlowSchema
import Rpft.Gen.Tables
namespace Rpft.Props.C07
open Rpft Rpft.Row

/-- T1: the hand-written flow row schema is the one in the source (regenerated each run):
field names, types, defaults of FlowRowModel / Edge / Condition / Webhook /
WhatsAppTemplating and the Edge remap dictionaries. -/
theorem tables_agree_schema : Gen.flowRowDescr = Ty.descr flowRowTy := by
  flow_decode
  decide +kernel

/-- T1: header remap tables of flowrowmodel.py, read off the BEHAVIOUR of the remap functions
(`harness/tables/t07_flowrow.py`).  They are lookups with unique keys (`remap_keys_unique`), so they
are compared up to order (`Canon.sortP`); the main header and the type column exactly. -/
theorem tables_agree_remaps :
    Canon.sameMap Gen.flowF2H flowF2H ∧ Canon.sameMap Gen.flowBasicHeaderDict flowBasicHeaders ∧
    Canon.sameMap Gen.flowRowTypeToMainArg flowMainArg ∧
    (flowRowSchema.ctxMain.map fun (h, t, m) => (h, t, Canon.sortP m))
      = some (Gen.flowMainHeader, Gen.flowTypeColumn, Canon.sortP Gen.flowRowTypeToMainArg) ∧
    Canon.sameMap Gen.edgeH2F (pairsS [("from", "from_")]) ∧
    Canon.sameMap Gen.edgeF2H (pairsS [("from_", "from")]) := by
  flow_decode
  decide +kernel

/-- first-match lookup in the remap tables does not depend on their order: keys are unique -/
theorem remap_keys_unique :
    Canon.uniqueKeys flowF2H = true ∧ Canon.uniqueKeys flowBasicHeaders = true ∧
    Canon.uniqueKeys flowMainArg = true := by
  flow_decode
  decide +kernel

/-- the round trip as a Boolean (for the kernel-evaluated witnesses) -/
def roundTrips (sch : Schema) (lay : Layout) (v : Val) : Bool :=
  match unparseRow sch lay v with
  | .ok cells =>
    match parseRow sch cells with
    | .ok v' => v' == v
    | .error _ => false
  | .error _ => false

/-- the round trip as a statement -/
def RoundTrip (sch : Schema) (lay : Layout) (v : Val) : Prop :=
  ∃ cells, unparseRow sch lay v = .ok cells ∧ parseRow sch cells = .ok v

theorem roundTrips_of {sch : Schema} {lay : Layout} {v : Val} (h : RoundTrip sch lay v) :
    roundTrips sch lay v = true := by
  obtain ⟨cells, h1, h2⟩ := h
  simp [roundTrips, h1, h2]

/-- the field names of a record type are distinct header segments -/
def wfFieldNames (fs : List Field) : Bool :=
  fs.all (fun f => simpleName f.1) && decide ((fs.map (·.1)).Nodup)

/-- The general statement with the layout condition checked statically on the
schema (list index 1 standing for every index).  It is kept visible because it is FALSE
(`static_statement_is_false` below: a target header with a concrete index such as `items.2`
escapes the static check) — the general theorem `parse_unparse` below uses
the value-level condition `LayoutOk` instead and needs the nested remap tables to be
consistent (`goodTop`). -/
def C07_static_statement : Prop :=
  ∀ (fs : List Field) (lay : Layout) (v : Val),
    wfFieldNames fs = true →
    Representable (plainTop fs) v = true → Admissible { top := plainTop fs } lay = true →
    AnySpreadOk { top := plainTop fs } lay v = true →
    RoundTrip { top := plainTop fs } lay v

/-- family 1: every field has a basic type (`str`, `int`, `float`, `bool`) -/
def flatFamily (fs : List Field) : Bool := fs.all fun f => isBasicTy f.2.1

/-! The two statements for the static family are instances of `parse_unparse_static`: without
header remaps `wfFieldNames` is `remapOk` (`goodTy_plainTop`), the static family lies in `goodTy`,
and on it the static layout condition implies the one along the value (`layoutOk_of_admissible`). -/

theorem goodTy_of_family {fs : List Field} (hwf : wfFieldNames fs = true)
    (hfam : family fs = true) : goodTy (plainTop fs) = true := by
  simp only [wfFieldNames, family, Bool.and_eq_true, List.all_eq_true, decide_eq_true_eq] at hwf hfam
  exact goodTy_plainTop hwf.1 hwf.2 fun f hf => goodTy_of_famTy (hfam f hf)

/-- **Records of basic fields, lists of basic values, sub-records and lists of sub-records,
in every admissible layout**: each list of basic values independently spread over `f.1, f.2, …` or
packed into one cell `x|y|z`; each sub-record spread over `f.a, f.b, …` or packed as
`a;va|b;vb`; each ELEMENT of a list of sub-records independently packed into its cell `f.i`
or spread over `f.i.a, f.i.b, …`; each untyped list packed (strings and lists of strings) or —
plain strings — spread; as selected by ANY admissible target-header set (with `*` or
concrete indices); any number of fields, unbounded strings, integers and list lengths;
default-valued fields elided and restored. -/
theorem parse_unparse_partial (fs : List Field) (lay : Layout) (v : Val)
    (hwf : wfFieldNames fs = true) (hfam : family fs = true)
    (hr : Representable (plainTop fs) v = true)
    (ha : Admissible { top := plainTop fs } lay = true)
    (hany : AnySpreadOk { top := plainTop fs } lay v = true) :
    RoundTrip { top := plainTop fs } lay v :=
  parse_unparse_static _ lay v rfl rfl (goodTy_of_family hwf hfam) hr
    (layoutOk_of_admissible hfam ha hany)

/-- flat records are the special case -/
theorem flat_in_family (fs : List Field) (h : flatFamily fs = true) : family fs = true := by
  simp only [flatFamily, family, List.all_eq_true] at h ⊢
  intro f hf
  have := h f hf
  cases hty : f.2.1 <;> simp [hty, isBasicTy] at this <;> simp [famTy, isBasicTy]

/-- **Flat records**: any number of fields of basic types, any defaults (or none), any
representable value — unbounded strings and integers; fields equal to their default are
elided by `unparse` and restored by default filling. -/
theorem parse_unparse_flat_partial (fs : List Field) (lay : Layout) (v : Val)
    (hwf : wfFieldNames fs = true) (hfam : flatFamily fs = true)
    (hr : Representable (plainTop fs) v = true)
    (ha : Admissible { top := plainTop fs } lay = true) :
    RoundTrip { top := plainTop fs } lay v := by
  refine parse_unparse_static _ lay v rfl rfl
    (goodTy_of_family hwf (flat_in_family fs hfam)) hr ?_
  simp only [Admissible, Bool.and_eq_true] at ha
  simp only [flatFamily, List.all_eq_true] at hfam
  unfold LayoutOk layOk
  simp only [isBasicTy, matchesHeaders, List.isEmpty_nil, Bool.not_true, Bool.false_and,
    Bool.false_eq_true, if_false, ha.1, Bool.true_and]
  cases v <;> try rfl
  exact layOkFields_basic lay [] [] _ fs hfam

/-! #### non-vacuity and negative witnesses (flat records) -/

def exFlat : List Field :=
  [("a".toList, .str, some (.str [])), ("b".toList, .int, some (.int 0)),
   ("c".toList, .bool, some (.bool true)), ("e".toList, .str, some (.str "dflt".toList)),
   ("r".toList, .str, none)]

def exFlatVal : Val :=
  .model [("a".toList, .str "x|y; z\\".toList), ("b".toList, .int (-42)), ("c".toList, .bool true),
    ("e".toList, .str []), ("r".toList, .str "é日".toList)]

/-- the hypotheses of `parse_unparse_flat_partial` are satisfiable by a non-trivial value
(separators, escapes, a negative number, one default-valued field, one blank non-default) -/
example : wfFieldNames exFlat = true ∧ flatFamily exFlat = true ∧
    Representable (plainTop exFlat) exFlatVal = true ∧
    Admissible { top := plainTop exFlat } {} = true := by decide +kernel

example : roundTrips { top := plainTop exFlat } {} exFlatVal = true := by decide +kernel

/-- strings must be trimmed: the cell is stripped when read -/
theorem needs_trimmed :
    roundTrips { top := plainTop exFlat } {}
      (.model [("a".toList, .str " x".toList), ("b".toList, .int 0), ("c".toList, .bool true),
        ("e".toList, .str "dflt".toList), ("r".toList, .str "r".toList)]) = false := by
  decide +kernel

/-- strings must be template free: `{` starts the template engine -/
theorem needs_template_free :
    roundTrips { top := plainTop exFlat } {}
      (.model [("a".toList, .str "{{x}}".toList), ("b".toList, .int 0), ("c".toList, .bool true),
        ("e".toList, .str "dflt".toList), ("r".toList, .str "r".toList)]) = false := by
  decide +kernel

/-- nothing may be excluded: an excluded non-default field is lost -/
theorem needs_nothing_excluded :
    roundTrips { top := plainTop exFlat } { excluded := ["a".toList] } exFlatVal = false := by
  decide +kernel

/-! #### non-vacuity and negative witnesses (lists, sub-records, layouts) -/

def exSub : List Field :=
  [("p".toList, .str, some (.str [])), ("q".toList, .int, some (.int 0)),
   ("w".toList, .bool, some (.bool false)), ("z".toList, .str, some (.str "zz".toList))]
def exSubDefault : Val :=
  .model [("p".toList, .str []), ("q".toList, .int 0), ("w".toList, .bool false),
    ("z".toList, .str "zz".toList)]

def exFam : List Field :=
  [("a".toList, .str, some (.str [])), ("xs".toList, .list .str, some (.list [])),
   ("s".toList, plainTop exSub, some exSubDefault), ("c".toList, .bool, some (.bool true)),
   ("ys".toList, .list .str, none)]

def exFamVal : Val :=
  .model [("a".toList, .str "x;y".toList),
    ("xs".toList, .list [.str "a|b".toList, .str "\\;".toList, .str "q".toList]),
    ("s".toList, .model [("p".toList, .str "p;|q".toList), ("q".toList, .int (-7)),
      ("w".toList, .bool false), ("z".toList, .str "z".toList)]),
    ("c".toList, .bool true), ("ys".toList, .list [.str "one".toList])]

def exLayouts : List Layout :=
  [{}, { targets := ["xs".toList] }, { targets := ["s".toList] },
   { targets := ["xs".toList, "s".toList, "ys".toList] }, { targets := ["*".toList] }]

/-- the hypotheses of `parse_unparse_partial` hold for a non-trivial value in five layouts
(all spread, only the list packed, only the sub-record packed, everything packed, `*`) -/
example : wfFieldNames exFam = true ∧ family exFam = true ∧
    Representable (plainTop exFam) exFamVal = true ∧
    exLayouts.all (fun lay => Admissible { top := plainTop exFam } lay &&
      AnySpreadOk { top := plainTop exFam } lay exFamVal) = true := by
  decide +kernel

example : exLayouts.all (fun lay => roundTrips { top := plainTop exFam } lay exFamVal) = true := by
  decide +kernel

def exFamWith (xs : List Val) (z : Str) : Val :=
  .model [("a".toList, .str []), ("xs".toList, .list xs),
    ("s".toList, .model [("p".toList, .str []), ("q".toList, .int 0), ("w".toList, .bool false),
      ("z".toList, .str z)]),
    ("c".toList, .bool true), ("ys".toList, .list [.str "y".toList])]

/-- "no blank element inside a list": a packed list loses a blank last element -/
theorem needs_no_blank_in_list :
    roundTrips { top := plainTop exFam } { targets := ["xs".toList] }
      (exFamWith [.str "a".toList, .str []] "zz".toList) = false := by decide +kernel

/-- a blank, non-default string inside a packed sub-record is the blank last element of its
key/value pair: it is lost, and the key is then read as a positional value -/
theorem needs_no_blank_in_subrecord :
    roundTrips { top := plainTop exFam } { targets := ["s".toList] }
      (exFamWith [] []) = false := by decide +kernel

/-- an empty list must be the field's default: it leaves no cell, so a required list field
is reported missing -/
theorem needs_nonempty_or_default :
    roundTrips { top := plainTop exFam } {}
      (.model [("a".toList, .str []), ("xs".toList, .list []), ("s".toList, exSubDefault),
        ("c".toList, .bool true), ("ys".toList, .list [])]) = false := by decide +kernel

/-- an all-default record inside a list unparses to nothing (spread) -/
theorem needs_no_all_default_record_in_list :
    roundTrips { top := plainTop [("items".toList, .list (plainTop exSub), some (.list []))] } {}
      (.model [("items".toList, .list [exSubDefault, .model [("p".toList, .str "x".toList),
        ("q".toList, .int 0), ("w".toList, .bool false), ("z".toList, .str "zz".toList)]])]) = false := by
  decide +kernel

def exDeep : List Field :=
  [("s".toList, plainTop [("xs".toList, .list .str, some (.list []))],
    some (.model [("xs".toList, .list [])]))]

/-- `Admissible`: a record holding a list needs three levels when packed — the error branch
of `join_from_lists` -/
theorem needs_admissible_depth :
    Admissible { top := plainTop exDeep } { targets := ["s".toList] } = false ∧
    roundTrips { top := plainTop exDeep } { targets := ["s".toList] }
      (.model [("s".toList, .model [("xs".toList, .list [.str "a".toList])])]) = false ∧
    roundTrips { top := plainTop exDeep } {}
      (.model [("s".toList, .model [("xs".toList, .list [.str "a".toList])])]) = true := by
  decide +kernel

/-- finding F-C04-d: an untyped list holding a list, spread over `u.1.1, u.1.2`, cannot be
parsed back (assertion in `find_entry`); packed it survives -/
theorem spread_untyped_list_of_lists_fails :
    roundTrips { top := plainTop [("u".toList, .anyList, some (.any []))] } {}
      (.model [("u".toList, .any [.list [.atom "k".toList, .atom "v".toList]])]) = false ∧
    roundTrips { top := plainTop [("u".toList, .anyList, some (.any []))] } { targets := ["u".toList] }
      (.model [("u".toList, .any [.list [.atom "k".toList, .atom "v".toList]])]) = true := by
  decide +kernel

/-! #### lists of numbers and lists of sub-records -/

def exItems : List Field :=
  [("name".toList, .str, none), ("ns".toList, .list .int, some (.list [])),
   ("items".toList, .list (plainTop exSub), some (.list []))]

def exItemsVal : Val :=
  .model [("name".toList, .str "n".toList), ("ns".toList, .list [.int 10, .int (-3)]),
    ("items".toList, .list [
      .model [("p".toList, .str "a;b".toList), ("q".toList, .int 0), ("w".toList, .bool true),
        ("z".toList, .str "zz".toList)],
      .model [("p".toList, .str []), ("q".toList, .int 12), ("w".toList, .bool false),
        ("z".toList, .str "y|".toList)]])]

def exItemsLays : List Layout :=
  [{}, { targets := ["items.*".toList] }, { targets := ["items.2".toList, "ns".toList] }]

/-- non-vacuity for lists of integers and lists of sub-records: all elements spread, all
elements packed by `items.*`, only the second element packed (and the number list packed) -/
example : wfFieldNames exItems = true ∧ family exItems = true ∧
    Representable (plainTop exItems) exItemsVal = true ∧
    exItemsLays.all (fun lay => Admissible { top := plainTop exItems } lay &&
      roundTrips { top := plainTop exItems } lay exItemsVal) = true := by decide +kernel

/-- `Admissible` is needed for lists of sub-records: packing the whole list needs three levels -/
theorem needs_admissible_list_of_records :
    Admissible { top := plainTop exItems } { targets := ["items".toList] } = false ∧
    roundTrips { top := plainTop exItems } { targets := ["items".toList] } exItemsVal = false := by
  decide +kernel

/-! #### untyped lists -/

def exAny : List Field :=
  [("u".toList, .anyList, some (.any [])), ("hs".toList, .anyList, some (.any []))]

def exAnyVal : Val :=
  .model [("u".toList, .any [.atom "a;b".toList, .atom "c".toList]),
    ("hs".toList, .any [.list [.atom "k|1".toList, .atom "v".toList], .atom "w".toList])]

/-- non-vacuity: plain strings spread, the list holding a list packed — and `AnySpreadOk`
excludes exactly the layout that spreads `hs` -/
example : wfFieldNames exAny = true ∧ family exAny = true ∧
    Representable (plainTop exAny) exAnyVal = true ∧
    Admissible { top := plainTop exAny } { targets := ["hs".toList] } = true ∧
    AnySpreadOk { top := plainTop exAny } { targets := ["hs".toList] } exAnyVal = true ∧
    roundTrips { top := plainTop exAny } { targets := ["hs".toList] } exAnyVal = true ∧
    AnySpreadOk { top := plainTop exAny } {} exAnyVal = false ∧
    roundTrips { top := plainTop exAny } {} exAnyVal = false := by decide +kernel

/-! ## The general theorem

Every row model whose (arbitrarily nested) field types are built from `str`/`int`/`float`/
`bool`, untyped lists, `List[T]` and sub-records with consistent remap tables (`goodTop`),
every representable value, every layout that is `LayoutOk` for the value (each position
spread or packed into one cell; a packed position must fit one cell), with or without
top-level header remaps (`RemapConsistent`). -/

/-- **C07 (general)**: `parse_row(unparse_row(v, layout)) = v`.
* `goodTop sch.top` — static, decidable: at every level field names and their headers are
  distinct header segments and `header_name_to_field_name` undoes
  `field_name_to_header_name` (`remapOk`); nesting depth and list lengths are unbounded.
* `Representable` — the value domain of the statement (trimmed template-free strings, no blank
  element inside a list, …).
* `LayoutOk sch lay v` — nothing excluded; every position that `unparse` writes as ONE cell
  (matched by a target header — `*` or concrete indices — or forced by a remapped field) has
  a type that fits one cell (`packTy` = the two-level limit); a spread untyped list holds
  plain strings (F-C04-d).  Spread positions nest arbitrarily.
* `RemapConsistent sch lay v` — the top-level header remaps lead back to the written fields
  (flow rows: `message_text` is the main argument of the row's `type`). -/
theorem parse_unparse (sch : Schema) (lay : Layout) (v : Val)
    (hg : goodTop sch.top = true) (hr : Representable sch.top v = true)
    (hl : LayoutOk sch lay v = true) (hc : RemapConsistent sch lay v = true) :
    RoundTrip sch lay v :=
  parse_unparse_gen sch lay v hg hr hl hc

/-- **C07 without a context remap**: when the root's own tables satisfy the static side
conditions too (`goodTy sch.top`), no value-level remap condition is needed. -/
theorem parse_unparse_static_remaps (sch : Schema) (lay : Layout) (v : Val)
    (hb : sch.ctxBasic = []) (hm : sch.ctxMain = none)
    (hg : goodTy sch.top = true) (hr : Representable sch.top v = true)
    (hl : LayoutOk sch lay v = true) : RoundTrip sch lay v :=
  parse_unparse_static sch lay v hb hm hg hr hl

/-- the flow row schema (tied to the source by `tables_agree_schema`) is in the family: `Edge`
with its `from_`↔`from` tables, the nested `Condition`, `Webhook` with the untyped `headers`,
`WhatsAppTemplating` with a list -/
theorem flowRowSchema_in_family : goodTop flowRowSchema.top = true := flow_static.1

/-- **The flow row model round-trips**, in every layout that is `LayoutOk` for the row:
`flowMainOk` — every written field whose header is `message_text` is the main argument
selected by `row_type_to_main_arg[type]` (so at most one of them is non-default).  All side
conditions on `field_name_to_header_name`, `basic_header_dict`, `row_type_to_main_arg` are
discharged by the kernel on the T1-tied tables (`flow_static`, `flow_ctx_static`). -/
theorem flow_row_roundtrip (lay : Layout) (kvs : List (Str × Val))
    (hr : Representable flowRowSchema.top (.model kvs) = true)
    (hl : LayoutOk flowRowSchema lay (.model kvs) = true) (hm : flowMainOk kvs = true) :
    RoundTrip flowRowSchema lay (.model kvs) :=
  flow_roundtrip hr hl hm

/-- `packTy` is the code's two-level limit: a type fits one cell iff `to_nested_list` of its
values has depth ≤ 2 (and, for a record, its header→field table leaves the field names alone) -/
theorem packTy_depth (ty : Ty) (h : packTy ty = true) : packDepth ty ≤ 2 := by
  have hb : ∀ t, isBasicTy t = true → packDepth t = 0 := fun t ht => by
    cases t <;> first | rfl | cases ht
  revert h
  fun_cases packTy ty <;> intro h <;> simp only [packDepth, Nat.le_refl, Nat.zero_le]
  case case6 u => rw [hb u h]; decide
  case case7 t _ => rw [hb t h]; decide
  case case8 fs h2f _ =>
    simp only [List.all_eq_true, Bool.and_eq_true] at h
    have : packDepthFields fs = 0 := by
      induction fs with
      | nil => rfl
      | cons f rest ih =>
        simp only [packDepthFields, hb _ (h f List.mem_cons_self).1,
          ih fun x hx => h x (List.mem_cons_of_mem _ hx), Nat.max_self]
    rw [this]; decide

/-! #### non-vacuity and negative witnesses (general theorem) -/

def exInner : List Field :=
  [("xs".toList, .list .str, some (.list [])), ("k".toList, .str, some (.str [])),
   ("c".toList, conditionTy, some conditionDefault)]
def exInnerDefault : Val :=
  .model [("xs".toList, .list []), ("k".toList, .str []), ("c".toList, conditionDefault)]

/-- a deep schema: a list of records each holding a list and a sub-record; a sub-record
holding a sub-record holding a list; a list of lists; a list of untyped lists; remapped
headers at the root and inside the list elements -/
def exDeepFields : List Field :=
  [("items".toList, .list (.model exInner (pairsS [("key", "k")]) (pairsS [("k", "key")])), some (.list [])),
   ("o".toList, plainTop [("inner".toList, plainTop exInner, some exInnerDefault),
      ("tag".toList, .str, some (.str []))],
     some (.model [("inner".toList, exInnerDefault), ("tag".toList, .str [])])),
   ("ll".toList, .list (.list .int), some (.list [])),
   ("ul".toList, .list .anyList, some (.list [])),
   ("from_".toList, .str, some (.str []))]
def exDeepSch : Schema :=
  { top := .model exDeepFields (pairsS [("from", "from_")]) (pairsS [("from_", "from")]) }

def exInnerVal (xs : List Str) (k : String) (cv : String) : Val :=
  .model [("xs".toList, .list (xs.map Val.str)), ("k".toList, .str k.toList),
    ("c".toList, .model [("value".toList, .str cv.toList), ("variable".toList, .str []),
      ("type".toList, .str []), ("name".toList, .str "n;1".toList)])]

def exDeepVal : Val :=
  .model [("items".toList, .list [exInnerVal ["a|b".toList, "c".toList] "k1" "v",
      exInnerVal ["d".toList] "" ""]),
    ("o".toList, .model [("inner".toList, exInnerVal ["z".toList] "kk" "w"), ("tag".toList, .str "t".toList)]),
    ("ll".toList, .list [.list [.int 1, .int (-2)], .list [.int 3]]),
    ("ul".toList, .list [.any [.atom "p".toList, .atom "q".toList], .any [.atom "r".toList]]),
    ("from_".toList, .str "start".toList)]

def exDeepLays : List Layout :=
  [{}, { targets := ["items.*.xs".toList, "items.2.c".toList, "o.inner.c".toList] },
   { targets := ["ll".toList, "ul.*".toList, "items.1.xs".toList] },
   { targets := ["ll.*".toList, "ul.2".toList, "o.inner.xs".toList, "items.*.c".toList] }]

/-- non-vacuity of `parse_unparse` / `parse_unparse_static_remaps`: the hypotheses hold for a
deep value in four layouts (all spread; lists inside list elements packed, one element's
sub-record packed by a concrete index; the list of lists packed whole; its inner lists packed
one per cell) — and the rows do round-trip -/
example : goodTy exDeepSch.top = true ∧ goodTop exDeepSch.top = true ∧
    Representable exDeepSch.top exDeepVal = true ∧
    exDeepLays.all (fun lay => LayoutOk exDeepSch lay exDeepVal &&
      RemapConsistent exDeepSch lay exDeepVal && roundTrips exDeepSch lay exDeepVal) = true := by
  simp only [exDeepSch, exDeepFields, exInner, exInnerDefault, exDeepVal, exInnerVal, exDeepLays,
    conditionTy, conditionFields, conditionDefault, sfield, pairsS, List.map]
  decode_literals
  decide +kernel

/-- the four layouts give four different rows -/
example : (exDeepLays.map fun lay => match unparseRow exDeepSch lay exDeepVal with
    | .ok cells => cells.length
    | .error _ => 0) = [19, 17, 15, 17] := by decide +kernel

def exFlowRow (mainField : String) (main : Val) : List (Str × Val) :=
  (flowRowFields.map fun f => (f.1, match f.2.2 with | some d => d | none => .str [])).map fun kv =>
    if kv.1 = "type".toList then (kv.1, .str "send_message".toList)
    else if kv.1 = "edges".toList then (kv.1, .list [
      .model [("from_".toList, .str "start".toList), ("condition".toList, conditionDefault)],
      .model [("from_".toList, .str "1".toList), ("condition".toList,
        .model [("value".toList, .str "a|b".toList), ("variable".toList, .str "@fields.x".toList),
          ("type".toList, .str "has_phrase".toList), ("name".toList, .str [])])]])
    else if kv.1 = mainField.toList then (kv.1, main)
    else if kv.1 = "webhook".toList then (kv.1,
      .model [("url".toList, .str "http://x".toList), ("method".toList, .str "GET".toList),
        ("headers".toList, .any [.list [.atom "k".toList, .atom "v".toList]]), ("body".toList, .str [])])
    else if kv.1 = "wa_template".toList then (kv.1,
      .model [("name".toList, .str "tpl".toList), ("uuid".toList, .str []),
        ("variables".toList, .list [.str "x".toList, .str "y;z".toList])])
    else if kv.1 = "node_uuid".toList then (kv.1, .str "n-1".toList)
    else kv

/-- `exFlowRow` with the schema's tables and its own string literals decoded (see `flowRowFieldsD`) -/
def exFlowRowD : { f // exFlowRow = f } :=
  ⟨_, by
    funext mainField main
    simp only [exFlowRow]
    flow_decode
    -- `decode_literals` leaves the witness unassigned below the binders of `funext`
    repeat rewrite [String.toList_ofList]
    rfl⟩

def exFlowLays : List Layout :=
  [{ targets := ["webhook.headers".toList] },
   { targets := ["edges.*.condition".toList, "webhook.headers".toList, "wa_template.variables".toList] }]

/-- non-vacuity of `flow_row_roundtrip`: a `send_message` row with two edges (one with a
condition), a webhook with a header pair, a WhatsApp template with variables, a remapped
`node_uuid` and the main argument under `message_text` -/
example :
    let kvs := exFlowRow "mainarg_message_text" (.str "hi; there".toList)
    Representable flowRowSchema.top (.model kvs) = true ∧ flowMainOk kvs = true ∧
    exFlowLays.all (fun lay => LayoutOk flowRowSchema lay (.model kvs) &&
      roundTrips flowRowSchema lay (.model kvs)) = true := by
  simp only [exFlowRowD.2, exFlowLays, flowMainOk]
  flow_decode
  decode_literals
  decide +kernel

/-- `flowMainOk` is needed: a `send_message` row whose `mainarg_value` is set writes it under
`message_text`, which is read back as `mainarg_message_text` -/
theorem needs_flowMainOk :
    let kvs := exFlowRow "mainarg_value" (.str "v".toList)
    Representable flowRowSchema.top (.model kvs) = true ∧ flowMainOk kvs = false ∧
    LayoutOk flowRowSchema { targets := ["webhook.headers".toList] } (.model kvs) = true ∧
    roundTrips flowRowSchema { targets := ["webhook.headers".toList] } (.model kvs) = false := by
  simp only [exFlowRowD.2, flowMainOk]
  flow_decode
  decode_literals
  decide +kernel

def exItemsDeep : List Field :=
  [("items".toList, .list (plainTop [("xs".toList, .list .str, some (.list []))]), some (.list []))]
def exItemsDeepVal : Val :=
  .model [("items".toList, .list [.model [("xs".toList, .list [.str "a".toList])],
    .model [("xs".toList, .list [.str "b".toList])]])]

/-- `LayoutOk` (checked along the VALUE) is needed and the static `Admissible` (index 1 for
every index) is not enough: the target `items.2` packs the second element, a record holding
a list — three levels, the error branch of `join_from_lists` -/
theorem needs_layoutOk_on_the_value :
    Admissible { top := plainTop exItemsDeep } { targets := ["items.2".toList] } = true ∧
    AnySpreadOk { top := plainTop exItemsDeep } { targets := ["items.2".toList] } exItemsDeepVal = true ∧
    Representable (plainTop exItemsDeep) exItemsDeepVal = true ∧
    LayoutOk { top := plainTop exItemsDeep } { targets := ["items.2".toList] } exItemsDeepVal = false ∧
    roundTrips { top := plainTop exItemsDeep } { targets := ["items.2".toList] } exItemsDeepVal = false ∧
    roundTrips { top := plainTop exItemsDeep } { targets := ["items.2.xs".toList] } exItemsDeepVal = true := by
  decide +kernel

/-- the static statement is false: `needs_layoutOk_on_the_value` meets its hypotheses and does not
round-trip -/
theorem static_statement_is_false : ¬ C07_static_statement := by
  intro h
  have h1 := needs_layoutOk_on_the_value
  have := roundTrips_of (h exItemsDeep { targets := ["items.2".toList] } exItemsDeepVal
    (by decide +kernel) h1.2.2.1 h1.1 h1.2.1)
  rw [h1.2.2.2.2.1] at this
  cases this

/-- "no blank element inside a list" includes an empty untyped list inside `List[list]`: it
leaves no cell -/
theorem needs_no_empty_untyped_list_in_list :
    roundTrips { top := plainTop [("ul".toList, .list .anyList, some (.list []))] } {}
      (.model [("ul".toList, .list [.any [], .any [.atom "a".toList]])]) = false ∧
    Representable (plainTop [("ul".toList, .list .anyList, some (.list []))])
      (.model [("ul".toList, .list [.any [], .any [.atom "a".toList]])]) = false := by
  decide +kernel

def exBadRemap : List Field :=
  [("s".toList, .model [("a".toList, .str, some (.str [])), ("b".toList, .str, some (.str []))]
      [] (pairsS [("a", "h")]), some (.model [("a".toList, .str []), ("b".toList, .str [])]))]

/-- `goodTop` (`remapOk` at every level) is needed: a sub-record that writes its field `a`
under the header `h` without a header→field entry for `h` cannot be read back -/
theorem needs_remapOk :
    goodTop (plainTop exBadRemap) = false ∧
    Representable (plainTop exBadRemap)
      (.model [("s".toList, .model [("a".toList, .str "x".toList), ("b".toList, .str [])])]) = true ∧
    roundTrips { top := plainTop exBadRemap } {}
      (.model [("s".toList, .model [("a".toList, .str "x".toList), ("b".toList, .str [])])]) = false := by
  decide +kernel

end Rpft.Props.C07
