/-
C15 — Invalid input stops the command: non-zero exit and no flow file (PARTIAL).

Proved here, for all inputs (sheets of unbounded length, nesting of unbounded depth, any
position of the fault): the *decision logic* — a run produces a file iff compilation
returned a document; an error at any flow ends the whole run whatever precedes it, also in a
definition that another row replaces; every block-structure fault is found wherever it sits
and however deep (and is never masked by omitted content), well-nested sheets are accepted (so
the detectors are not vacuous, and in fact `checkBlocks` accepts *exactly* the well-nested
sheets); the value limits, the
template-argument binding faults and the faults at the sites of finding F-C15-a (index row type,
outcome words, row type) are detected, the latter at the level that stops the command.

NOT proved (and not provable in this family): that `sys.exit(1)` inside a logging handler,
or an uncaught exception, really ends the Python process before `open(args.output, "w")`;
what a crash *during* `json.dump` leaves on disk.  Those are runtime mechanics; the check
`harness/props/c15.py` observes them on the real command for every fault class × position.
`C15_full` below states the end-to-end claim; the proved part is `C15_partial`.
-/
import Rpft.Cli
import Rpft.Gen.Tables
import Rpft.Canon
import Rpft.Lemmas.Dict
namespace Rpft.Props.C15
open Rpft Rpft.Cli Rpft.Cell

/-! ### the word lists with their literals decoded

Evaluating `"…".toList` the kernel decodes the UTF-8 bytes of the literal; in a kernel-evaluated
fact about these lists that is most of the work, and it is done again in every such fact.  Here each
list is rewritten once to its characters (`String.toList_ofList`; the witness is whatever the
rewriting leaves), and the evaluations below start by putting the decoded list in (`rw [xD.2]`).  The
literals of a statement itself go the same way: by the `conv` pass used here, which visits every occurrence
but fails where an `if` or a binder stands above one, and by plain `rw` there. -/

def httpMethodsD : { l : List Str // httpMethods = l } :=
  ⟨_, by
    unfold httpMethods
    conv in (occs := *) String.toList _ => all_goals try rw [String.toList_ofList]⟩

def indexRowTypesD : { l : List Str // indexRowTypes = l } :=
  ⟨_, by
    unfold indexRowTypes
    conv in (occs := *) String.toList _ => all_goals try rw [String.toList_ofList]⟩

def mainArgTypesD : { l : List Str // mainArgTypes = l } :=
  ⟨_, by
    unfold mainArgTypes
    conv in (occs := *) String.toList _ => all_goals try rw [String.toList_ofList]⟩

def actionRowTypesD : { l : List Str // actionRowTypes = l } :=
  ⟨_, by
    unfold actionRowTypes
    conv in (occs := *) String.toList _ => all_goals try rw [String.toList_ofList]⟩

def nodeRowTypesD : { l : List Str // nodeRowTypes = l } :=
  ⟨_, by
    unfold nodeRowTypes
    conv in (occs := *) String.toList _ => all_goals try rw [String.toList_ofList]⟩

def setContactPrefixD : { l : Str // setContactPrefix = l } :=
  ⟨_, by
    unfold setContactPrefix
    conv in (occs := *) String.toList _ => all_goals try rw [String.toList_ofList]⟩

def contactPropertiesD : { l : List Str // contactProperties = l } :=
  ⟨_, by
    unfold contactProperties
    conv in (occs := *) String.toList _ => all_goals try rw [String.toList_ofList]⟩

def flowOutcomesD : { l : List Str // flowOutcomes = l } :=
  ⟨_, by
    unfold flowOutcomes
    conv in (occs := *) String.toList _ => all_goals try rw [String.toList_ofList]⟩

def hookOutcomesD : { l : List Str // hookOutcomes = l } :=
  ⟨_, by
    unfold hookOutcomes
    conv in (occs := *) String.toList _ => all_goals try rw [String.toList_ofList]⟩

/-- the row detectors over the decoded lists -/
def probe0CheckD : { f : List Str → Probe0 → Except Fault Unit // Probe0.check = f } :=
  ⟨_, by
    unfold Probe0.check checkRowType checkOutcome checkEdgeFrom checkMethod defaultHttpMethod
    rw [actionRowTypesD.2, nodeRowTypesD.2, setContactPrefixD.2, contactPropertiesD.2,
      flowOutcomesD.2, hookOutcomesD.2, httpMethodsD.2]
    repeat rw [String.toList_ofList]⟩

/-! ### T1: the constants of the source -/

/-- the constants of the model are the constants of the source (regenerated each run: limits,
HTTP methods and the ShutdownHandler facts by probing the behaviour of the code, the block tables
and the shape facts of `cli.create_flows` that the model's `cliFs` relies on from the source text).
The HTTP methods are a set and the block tables lookups with distinct keys: compared up to order. -/
theorem tables_agree :
    Gen.cliMaxFieldValueLen = maxFieldValueLen ∧ Gen.cliMaxRunResultLen = maxRunResultLen ∧
    Gen.cliMaxCategoryLen = maxCategoryLen ∧ Gen.cliMaxFieldKeyLen = maxFieldKeyLen ∧
    Gen.cliEmptyTextChecked = true ∧
    Canon.sameSet Gen.cliHttpMethods httpMethods ∧ Gen.cliDefaultHttpMethod = defaultHttpMethod ∧
    Canon.sameMap Gen.cliBlockEndMap
      [(RowType.endBlock.name, BlockType.block.name), (RowType.endFor.name, BlockType.for_.name)] ∧
    Canon.sameMap Gen.cliBlockOpenMap
      [(RowType.beginBlock.name, BlockType.block.name), (RowType.beginFor.name, BlockType.for_.name)] ∧
    Gen.cliRootBlockName = BlockType.root.name ∧
    Gen.cliShutdownLevelName = "CRITICAL".toList ∧ Gen.cliShutdownLevelOp = "GtE".toList ∧
    Gen.cliShutdownLevel = shutdownLevel ∧ Gen.cliShutdownExit = shutdownExit ∧
    Gen.cliShutdownPrintsStderr = true ∧ Gen.cliShutdownHandlerInstalled = true ∧
    Gen.cliOutputOpenedAfterCompile = true ∧ Gen.cliConverterOutputArgIsNone = true ∧
    Gen.cliHasTryExcept = false := by
  unfold defaultHttpMethod
  rw [httpMethodsD.2]
  conv in (occs := *) String.toList _ => all_goals try rw [String.toList_ofList]
  decide +kernel

/-- `blockEndMap` is the table: a row type ends a block type iff the pair is listed. -/
theorem tables_agree_block_end_map (t : RowType) (b : BlockType) :
    blockEndMap t = some b ↔ (t.name, b.name) ∈ Gen.cliBlockEndMap := by
  cases t <;> cases b <;> decide

/-- the level of a fault as the level table of T1 (`Gen.cliDetectLevels`) names it -/
def levelName (f : Fault) : Str := if f.viaLog then "CRITICAL".toList else "EXCEPTION".toList

/-- **The detection sites of finding F-C15-a (ERROR-level before its repair) report at the level the model
says** (and so stop the command): the level of the first record ≥ ERROR that the real compiler emits on a minimal workbook
per site (regenerated each run by behaviour probes) against `Fault.viaLog`; plus the word lists those
sites test (index row types, keys of `row_type_to_main_arg`, the dispatch of `_get_row_action`, the
`set_contact_` properties, the outcome words of `add_exit`), all sets, compared up to order.  Turning one
of the `LOGGER.critical` calls back into `LOGGER.error` breaks this theorem. -/
theorem tables_agree_detection :
    Canon.sameMap Gen.cliDetectLevels
      [("badOutcomeAirtime".toList, levelName (.badOutcomeCondition false)),
       ("badOutcomeFlow".toList, levelName (.badOutcomeCondition true)),
       ("badOutcomeWebhook".toList, levelName (.badOutcomeCondition false)),
       ("noDefaultExitFromFlow".toList, levelName .noDefaultExitFromFlow),
       ("rowTypeWithoutMainArg".toList, levelName (.rowTypeWithoutMainArg [])),
       ("sheetNameCount".toList, levelName (.sheetNameCount [])),
       ("unknownContactProperty".toList, levelName (.unknownContactProperty [])),
       ("unknownIndexType".toList, levelName (.unknownIndexType [])),
       ("unknownRowType".toList, levelName (.unknownRowType []))] ∧
    Canon.sameSet Gen.indexRowTypes indexRowTypes ∧
    Canon.sameSet (Gen.flowRowTypeToMainArg.map (·.1)) mainArgTypes ∧
    Canon.sameSet Gen.cliActionRowTypes actionRowTypes ∧
    Canon.sameSet Gen.cliNodeRowTypes nodeRowTypes ∧
    Gen.cliSetContactPrefix = setContactPrefix ∧
    Canon.sameSet Gen.cliContactProperties contactProperties ∧
    Canon.sameSet Gen.cliFlowOutcomes flowOutcomes ∧
    Canon.sameSet Gen.cliHookOutcomes hookOutcomes ∧
    Canon.sameSet Gen.cliHookNodeClasses ["CallWebhookNode".toList, "TransferAirtimeNode".toList] := by
  -- the literals of the statement itself are reached by congruence once the `if` of `levelName`
  -- is gone
  simp only [levelName, Fault.viaLog, ↓reduceIte]
  rw [indexRowTypesD.2, mainArgTypesD.2, actionRowTypesD.2, nodeRowTypesD.2, setContactPrefixD.2,
    contactPropertiesD.2, flowOutcomesD.2, hookOutcomesD.2]
  conv in (occs := *) String.toList _ => all_goals try rw [String.toList_ofList]
  decide +kernel

/-- the level does not depend on the value a fault names -/
theorem new_faults_via_log (t : Str) (b : Bool) :
    (Fault.unknownIndexType t).viaLog = true ∧ (Fault.sheetNameCount t).viaLog = true ∧
    (Fault.unknownContactProperty t).viaLog = true ∧ (Fault.unknownRowType t).viaLog = true ∧
    (Fault.badOutcomeCondition b).viaLog = true ∧ Fault.noDefaultExitFromFlow.viaLog = true ∧
    (Fault.rowTypeWithoutMainArg t).viaLog = false := ⟨rfl, rfl, rfl, rfl, rfl, rfl, rfl⟩

/-- the exit status of a stopped run is not the success status -/
theorem shutdown_exit_nonzero : shutdownExit ≠ 0 := by decide +kernel

/-! ### the command -/

/-- **A file appears iff compilation returned a document**; it is then the complete
encoding of that document and the status is 0; otherwise the status is non-zero and there
is no file. -/
theorem cli_file_iff {W D : Type} (create : W → Outcome D) (encode : D → Str) (w : W) :
    ((cli create encode w).file.isSome ↔ ∃ d, create w = .ok d) ∧
    (∀ d, create w = .ok d → cli create encode w = ⟨0, some (encode d)⟩) ∧
    (∀ e, create w = .error e →
      (cli create encode w).exit ≠ 0 ∧ (cli create encode w).file = none) := by
  unfold cli cliFs
  cases h : create w with
  | error e => simp [shutdownExit]
  | ok d => simp

/-- status 0 iff compilation returned a document -/
theorem cli_exit_zero_iff {W D : Type} (create : W → Outcome D) (encode : D → Str)
    (pre : Option Str) (w : W) :
    (cliFs create encode pre w).exit = 0 ↔ ∃ d, create w = .ok d := by
  unfold cliFs
  cases h : create w with
  | error e => simp [shutdownExit]
  | ok d => simp

/-- **An existing output file is not touched by a failing run** (byte-identical), and a
file that was not there is not created. -/
theorem cli_error_keeps_file {W D : Type} (create : W → Outcome D) (encode : D → Str)
    (pre : Option Str) (w : W) (e : Fault) (h : create w = .error e) :
    cliFs create encode pre w = ⟨1, pre⟩ := by
  unfold cliFs; rw [h]; rfl

/-- a successful run replaces whatever was there by the complete document -/
theorem cli_ok_writes_document {W D : Type} (create : W → Outcome D) (encode : D → Str)
    (pre : Option Str) (w : W) (d : D) (h : create w = .ok d) :
    cliFs create encode pre w = ⟨0, some (encode d)⟩ := by
  unfold cliFs; rw [h]

/-! ### the sequential checkers: the first fault decides

`checkIndex`, `compileFlows`, `compileInsts`, `checkTriggers` (like `checkSources` and `runProbes`)
visit a list in order and stop at the first element whose check fails. -/

def allOk {α : Type} (f : α → Except Fault Unit) : List α → Except Fault Unit
  | [] => .ok ()
  | a :: as =>
    match f a with
    | .error e => .error e
    | .ok _ => allOk f as

theorem allOk_error_at {α : Type} {f : α → Except Fault Unit} {pre post : List α} {x : α}
    {e : Fault} (hpre : ∀ a ∈ pre, f a = .ok ()) (hx : f x = .error e) :
    allOk f (pre ++ x :: post) = .error e := by
  induction pre with
  | nil => simp only [List.nil_append, allOk, hx]
  | cons a pre ih =>
    simp only [List.cons_append, allOk, hpre a (by simp)]
    exact ih fun b hb => hpre b (by simp [hb])

theorem allOk_ok_iff {α : Type} {f : α → Except Fault Unit} (xs : List α) :
    allOk f xs = .ok () ↔ ∀ x ∈ xs, f x = .ok () := by
  induction xs with
  | nil => simp [allOk]
  | cons a as ih =>
    simp only [allOk, List.forall_mem_cons, ← ih]
    cases f a <;> simp

theorem checkIndex_eq (sheets models : List Str) (m : Bool) (rows : List IndexRow) :
    checkIndex sheets m models rows = allOk (IndexRow.check sheets m models) rows := by
  induction rows with
  | nil => rfl
  | cons r rs ih => simp only [checkIndex, allOk, ih]; rfl

theorem compileInsts_eq (reg : DataReg) (fs : List (FlowInst Probe1)) :
    compileInsts reg fs = allOk (compileInst (Probe1.check reg) reg) fs := by
  induction fs with
  | nil => rfl
  | cons f fs ih => simp only [compileInsts, allOk, ih]; rfl

theorem checkTriggers_eq (names ts : List Str) :
    checkTriggers names ts =
      allOk (fun t => if t ∈ names then .ok () else .error (.triggerUnknownFlow t)) ts := by
  induction ts with
  | nil => rfl
  | cons t ts ih => by_cases h : t ∈ names <;> simp only [checkTriggers, allOk, ih, h, if_true, if_false]

theorem compileFlows_eq (reg : DataReg) (ds : List FlowDef) :
    compileFlows reg ds = allOk (FlowDef.compile reg) ds := by
  induction ds with
  | nil => rfl
  | cons d ds ih =>
    simp only [compileFlows, List.mapM_cons, bind, Except.bind, allOk] at ih ⊢
    cases d.compile reg with
    | error e => rfl
    | ok u => rw [← ih]; cases ds.mapM (FlowDef.compile reg) <;> rfl

/-! ### error propagation through the sequence of flows -/

/-- **Valid flows before the faulty one do not change the outcome**: if flow definition `f`
fails with `e` and everything before it compiles, `parse_all_flows` fails with `e`,
whatever follows. -/
theorem valid_prefix_irrelevant (reg : DataReg) (pre post : List FlowDef) (f : FlowDef)
    (e : Fault) (hpre : ∀ g ∈ pre, g.compile reg = .ok ()) (hf : f.compile reg = .error e) :
    compileFlows reg (pre ++ f :: post) = .error e := by
  rw [compileFlows_eq]
  exact allOk_error_at hpre hf

example : compileFlows [] ([{ insts := [{ rows := [{ type := .other }] }] }] ++
    ({ dataRowId := "x".toList } : FlowDef) :: []) = .error .dataRowIdWithoutSheet := by decide +kernel

/-- a faulty flow stops the command: it exits non-zero without a file, given the index itself is
fine. -/
theorem faulty_flow_stops_command {D : Type} (doc : Workbook → D) (encode : D → Str)
    (w : Workbook) (pre post : List FlowDef) (f : FlowDef) (e : Fault)
    (hidx : w.hasIndex = true)
    (hindex : checkIndex w.sheets w.hasModule w.models w.index = .ok ())
    (hflows : w.flows = pre ++ f :: post)
    (hpre : ∀ g ∈ pre, g.compile w.reg = .ok ()) (hf : f.compile w.reg = .error e)
    (prev : Option Str) :
    createFlows doc w = .error e ∧ cliFs (createFlows doc) encode prev w = ⟨1, prev⟩ := by
  have h : createFlows doc w = .error e := by
    unfold createFlows
    simp [hidx, hindex, hflows, valid_prefix_irrelevant w.reg pre post f e hpre hf]
  exact ⟨h, cli_error_keeps_file _ _ _ _ _ h⟩

/-- `valid_prefix_irrelevant` for the instances inside one create_flow row (bulk instantiation over
data rows) -/
theorem valid_instances_irrelevant (reg : DataReg) (pre post : List (FlowInst Probe1))
    (f : FlowInst Probe1) (e : Fault)
    (hpre : ∀ g ∈ pre, compileInst (Probe1.check reg) reg g = .ok ())
    (hf : compileInst (Probe1.check reg) reg f = .error e) :
    compileInsts reg (pre ++ f :: post) = .error e := by
  rw [compileInsts_eq]
  exact allOk_error_at hpre hf

/-! ### redefined flows: a replaced definition is checked like any other -/

/-- **Every create_flow row is compiled**: `parse_all_flows` succeeds iff *each* definition
compiles — nothing is skipped because a later row defines the same flow again (the flow
names do not occur in the statement at all: `FlowDef.compile` never looks at them). -/
theorem compileFlows_ok_iff (reg : DataReg) (ds : List FlowDef) :
    compileFlows reg ds = .ok () ↔ ∀ d ∈ ds, d.compile reg = .ok () := by
  rw [compileFlows_eq]
  exact allOk_ok_iff ds

/-- **A faulty definition that a later row redefines is still detected**: `g` (and `mid`,
`post`) are arbitrary — in particular `g` may define exactly the flow names of `f`, so that
`f` never reaches the output (see the example below). -/
theorem redefined_later_detected (reg : DataReg) (pre mid post : List FlowDef) (f g : FlowDef)
    (e : Fault) (hpre : ∀ d ∈ pre, d.compile reg = .ok ()) (hf : f.compile reg = .error e) :
    compileFlows reg (pre ++ f :: (mid ++ g :: post)) = .error e :=
  valid_prefix_irrelevant reg pre (mid ++ g :: post) f e hpre hf

/-- **A faulty definition that redefines an earlier valid one is detected** (the earlier,
valid definition `g` of the same flow does not stand in for it). -/
theorem redefining_earlier_detected (reg : DataReg) (pre mid post : List FlowDef) (f g : FlowDef)
    (e : Fault) (hpre : ∀ d ∈ pre, d.compile reg = .ok ()) (hg : g.compile reg = .ok ())
    (hmid : ∀ d ∈ mid, d.compile reg = .ok ()) (hf : f.compile reg = .error e) :
    compileFlows reg (pre ++ g :: (mid ++ f :: post)) = .error e := by
  have := valid_prefix_irrelevant reg (pre ++ g :: mid) post f e
    (by intro d hd; simp at hd; rcases hd with h | rfl | h
        · exact hpre d h
        · exact hg
        · exact hmid d h) hf
  simpa using this

/-- needs `hg`: an earlier definition that is itself faulty stops the run with *its* fault
(still an error — `compileFlows_ok_iff` — but not the later one's) -/
theorem redefining_earlier_needs_valid_earlier :
    ¬ (∀ (f g : FlowDef) (e : Fault), f.compile [] = .error e →
        compileFlows [] ([] ++ g :: ([] ++ f :: [])) = .error e) := by
  intro h
  exact absurd (h { insts := [{ rows := [{ type := .beginBlock }] }] } { dataRowId := "x".toList }
    .unterminated (by decide)) (by decide)

/-- non-vacuity, both positions: flow `s` is defined by a sheet with an unterminated block
and by a valid sheet.  Only the valid definition survives when it comes last — and the run
is stopped all the same. -/
example :
    let bad : FlowDef := { insts := [{ name := "s".toList, rows := [{ type := .beginBlock }] }] }
    let good : FlowDef := { insts := [{ name := "s".toList, rows := [{ type := .other }], refs := ["r".toList] }] }
    let other : FlowDef := { insts := [{ name := "o".toList, rows := [{ type := .other }] }] }
    compileFlows [] ([other] ++ bad :: ([] ++ good :: [])) = .error .unterminated ∧
    compileFlows [] ([other] ++ good :: ([] ++ bad :: [])) = .error .unterminated ∧
    survivors [other, bad, good] = [("o".toList, []), ("s".toList, ["r".toList])] ∧
    compileFlows [] [other, good, good] = .ok () := by decide +kernel

/-- the `flows` dict: the last definition of a name is the one that survives (its
references are the ones that reach the UUID dictionary), at the place of the first -/
theorem putFlow_eq (n : Str) (refs : List Str) (acc : List (Str × List Str)) :
    putFlow n refs acc = Dict.set acc n refs := by
  induction acc with
  | nil => rfl
  | cons a acc ih => simp only [putFlow, Dict.set, ih]

theorem putFlow_lookup (n : Str) (refs : List Str) (acc : List (Str × List Str)) :
    (putFlow n refs acc).lookup n = some refs := by
  rw [putFlow_eq, Dict.lookup_eq_get, Dict.get_set_self]

theorem putFlow_keys (n : Str) (refs : List Str) (acc : List (Str × List Str)) :
    (putFlow n refs acc).map (·.1) = if n ∈ acc.map (·.1) then acc.map (·.1) else acc.map (·.1) ++ [n] := by
  rw [putFlow_eq]
  exact Dict.keys_set_inst acc n refs

/-- a name that only a *replaced* definition refers to is not known when the triggers are
checked: a trigger for it stops the run (what the code does; `draft only` below), whereas
the surviving definition's references are known. -/
example :
    let draft : FlowDef := { insts := [{ name := "s".toList, rows := [{ type := .other }], refs := ["draft only".toList] }] }
    let final : FlowDef := { insts := [{ name := "s".toList, rows := [{ type := .other }], refs := ["kept".toList] }] }
    createFlows (fun _ => ()) { hasIndex := true, flows := [draft, final], triggers := ["draft only".toList] } =
      .error (.triggerUnknownFlow "draft only".toList) ∧
    createFlows (fun _ => ()) { hasIndex := true, flows := [draft, final], triggers := ["kept".toList, "s".toList] } = .ok () := by
  decide +kernel

/-! ### block structure -/

/-- well-nested row-type sequences -/
inductive Balanced : List RowType → Prop
  | nil : Balanced []
  | other {rs} : Balanced rs → Balanced (.other :: rs)
  | forBlk {b rs} : Balanced b → Balanced rs → Balanced (.beginFor :: b ++ .endFor :: rs)
  | blk {b rs} : Balanced b → Balanced rs → Balanced (.beginBlock :: b ++ .endBlock :: rs)

theorem runBlocks_other (st : List BlockType) (rs : List RowType) :
    runBlocks st (.other :: rs) = runBlocks st rs := rfl

theorem runBlocks_beginFor (st : List BlockType) (rs : List RowType) :
    runBlocks st (.beginFor :: rs) = runBlocks (.for_ :: st) rs := rfl

theorem runBlocks_beginBlock (st : List BlockType) (rs : List RowType) :
    runBlocks st (.beginBlock :: rs) = runBlocks (.block :: st) rs := rfl

theorem runBlocks_end {t : RowType} {b : BlockType} (hb : blockEndMap t = some b)
    (st : List BlockType) (rs : List RowType) :
    runBlocks st (t :: rs) =
      if b = top st then runBlocks st.tail rs else .error (.wrongTerminator t (top st)) := by
  by_cases h : b = top st <;> simp [runBlocks, isEndOfBlock, hb, h]

theorem runBlocks_endFor (st : List BlockType) (rs : List RowType) :
    runBlocks (.for_ :: st) (.endFor :: rs) = runBlocks st rs := rfl

theorem runBlocks_endBlock (st : List BlockType) (rs : List RowType) :
    runBlocks (.block :: st) (.endBlock :: rs) = runBlocks st rs := rfl

theorem runBlocks_nil (st : List BlockType) :
    runBlocks st [] = if top st = .root then .ok () else .error .unterminated := by
  by_cases h : top st = .root <;> simp [runBlocks, isEndOfBlock, h]

theorem runBlocks_balanced {b : List RowType} (hb : Balanced b) (st : List BlockType) (rest : List RowType) :
    runBlocks st (b ++ rest) = runBlocks st rest := by
  induction hb generalizing st rest with
  | nil => rfl
  | other _ ih => exact ih st rest
  | forBlk _ _ ihb ihr =>
    simp only [List.cons_append, List.append_assoc]
    rw [runBlocks_beginFor, ihb, runBlocks_endFor, ihr]
  | blk _ _ ihb ihr =>
    simp only [List.cons_append, List.append_assoc]
    rw [runBlocks_beginBlock, ihb, runBlocks_endBlock, ihr]

/-- **Well-nested sheets are accepted** (the detectors below are not vacuous). -/
theorem balanced_accepted {rs : List RowType} (h : Balanced rs) : checkBlocks rs = .ok () := by
  have := runBlocks_balanced h [] []
  rwa [List.append_nil] at this

example : Balanced [.other, .beginFor, .beginBlock, .other, .endBlock, .endFor, .other] :=
  .other (.forBlk (b := [.beginBlock, .other, .endBlock]) (.blk (b := [.other]) (.other .nil) .nil)
    (.other .nil))

/-- rows that leave the blocks `st` (innermost first) open: well-nested stretches separated
by opening rows that are never closed.  Any position, any depth. -/
inductive LeavesOpen : List BlockType → List RowType → Prop
  | bal {b} : Balanced b → LeavesOpen [] b
  | openFor {st p b} : LeavesOpen st p → Balanced b →
      LeavesOpen (.for_ :: st) (p ++ .beginFor :: b)
  | openBlock {st p b} : LeavesOpen st p → Balanced b →
      LeavesOpen (.block :: st) (p ++ .beginBlock :: b)

theorem runBlocks_leavesOpen {st : List BlockType} {p : List RowType} (h : LeavesOpen st p)
    (st0 : List BlockType) (rest : List RowType) :
    runBlocks st0 (p ++ rest) = runBlocks (st ++ st0) rest := by
  induction h generalizing rest with
  | bal hb => exact runBlocks_balanced hb st0 rest
  | openFor _ hb ih =>
    rw [List.append_assoc, ih, List.cons_append, runBlocks_beginFor, runBlocks_balanced hb]
    rfl
  | openBlock _ hb ih =>
    rw [List.append_assoc, ih, List.cons_append, runBlocks_beginBlock, runBlocks_balanced hb]
    rfl

theorem leavesOpen_top {st : List BlockType} {p : List RowType} (h : LeavesOpen st p)
    (hne : st ≠ []) : top st ≠ .root := by
  cases h with
  | bal => exact absurd rfl hne
  | openFor => exact nofun
  | openBlock => exact nofun

/-- **Unterminated block**: any well-nested prefix followed by an opening row without its
terminator — at any position, at any depth, with any well-nested rows after it — is
rejected with "Sheet has unterminated block". -/
theorem unterminated_detected {st : List BlockType} {p : List RowType}
    (h : LeavesOpen st p) (hne : st ≠ []) : checkBlocks p = .error .unterminated := by
  have := runBlocks_leavesOpen h [] []
  rw [List.append_nil, List.append_nil, runBlocks_nil, if_neg (leavesOpen_top h hne)] at this
  exact this

example : LeavesOpen [.block, .for_] [.other, .beginFor, .other, .beginBlock, .other] :=
  .openBlock (p := [.other, .beginFor, .other]) (b := [.other])
    (.openFor (p := [.other]) (b := [.other]) (.bal (.other .nil)) (.other .nil)) (.other .nil)

/-- **Mismatched terminator**: a terminator that does not belong to the innermost open
block (including a stray terminator at root level) is rejected at that row, whatever
follows, with the message naming the terminator and the open block type. -/
theorem mismatched_detected {st : List BlockType} {p : List RowType} (h : LeavesOpen st p)
    (t : RowType) (b : BlockType) (hb : blockEndMap t = some b) (hne : b ≠ top st)
    (rest : List RowType) :
    checkBlocks (p ++ t :: rest) = .error (.wrongTerminator t (top st)) := by
  rw [checkBlocks, runBlocks_leavesOpen h [] (t :: rest), List.append_nil, runBlocks_end hb,
    if_neg hne]

example : checkBlocks ([.other, .beginFor, .other] ++ .endBlock :: [.other]) =
    .error (.wrongTerminator .endBlock .for_) := by decide +kernel
example : checkBlocks ([.other] ++ .endFor :: []) = .error (.wrongTerminator .endFor .root) := by
  decide +kernel

/-- needs `b ≠ top st`: the right terminator closes the block -/
theorem mismatched_needs_ne :
    ¬ (∀ (t : RowType) (b : BlockType), blockEndMap t = some b →
        checkBlocks ([.beginFor] ++ t :: []) = .error (.wrongTerminator t .for_)) := by
  intro h; exact absurd (h .endFor .for_ rfl) (by decide)

/-! #### completeness: exactly the well-nested sheets are accepted -/

def openRow : BlockType → RowType
  | .for_ => .beginFor
  | .block => .beginBlock
  | .root => .other

def closeRow : BlockType → RowType
  | .for_ => .endFor
  | .block => .endBlock
  | .root => .other

theorem balanced_block {b : BlockType} (hb : b ≠ .root) {body rs : List RowType}
    (h1 : Balanced body) (h2 : Balanced rs) :
    Balanced (openRow b :: body ++ closeRow b :: rs) := by
  cases b with
  | root => exact absurd rfl hb
  | for_ => exact .forBlk h1 h2
  | block => exact .blk h1 h2

/-- `rs` closes the open blocks `st` (innermost first) and is well-nested in between -/
def Closes : List BlockType → List RowType → Prop
  | [], rs => Balanced rs
  | b :: st, rs => ∃ body rest, rs = body ++ closeRow b :: rest ∧ Balanced body ∧ Closes st rest

theorem closes_other {st : List BlockType} {rs : List RowType} (h : Closes st rs) :
    Closes st (.other :: rs) := by
  cases st with
  | nil => exact .other h
  | cons b st =>
    obtain ⟨body, rest, rfl, hb, hr⟩ := h
    exact ⟨.other :: body, rest, rfl, .other hb, hr⟩

/-- a block that is opened and closed is part of the well-nested stretch around it -/
theorem closes_open {b : BlockType} (hb : b ≠ .root) {st : List BlockType} {rs : List RowType}
    (h : Closes (b :: st) rs) : Closes st (openRow b :: rs) := by
  obtain ⟨body, rest, rfl, hbody, hrest⟩ := h
  cases st with
  | nil => exact balanced_block hb hbody hrest
  | cons c st =>
    obtain ⟨body2, rest2, rfl, hb2, hr⟩ := hrest
    exact ⟨openRow b :: body ++ closeRow b :: body2, rest2, by simp, balanced_block hb hbody hb2, hr⟩

theorem closeRow_of_end {t : RowType} {b : BlockType} (h : blockEndMap t = some b) :
    closeRow b = t ∧ b ≠ .root := by
  cases t <;> cases h <;> exact ⟨rfl, by decide⟩

theorem runBlocks_ok_closes {rs : List RowType} {st : List BlockType} (hst : .root ∉ st)
    (h : runBlocks st rs = .ok ()) : Closes st rs := by
  induction rs generalizing st with
  | nil =>
    cases st with
    | nil => exact .nil
    | cons b st =>
      rw [runBlocks_nil] at h
      split at h
      · next hb => exact absurd (hb ▸ List.mem_cons_self ..) hst
      · cases h
  | cons r rs ih =>
    have opened : ∀ b, b ≠ .root → runBlocks (b :: st) rs = .ok () → Closes st (openRow b :: rs) :=
      fun b hb h => closes_open hb (ih (by simp [hst, hb.symm]) h)
    cases hr : blockEndMap r with
    | none =>
      cases r with
      | other => exact closes_other (ih hst h)
      | beginFor => exact opened .for_ (by decide) h
      | beginBlock => exact opened .block (by decide) h
      | _ => cases hr
    | some b =>
      obtain ⟨hc, hb⟩ := closeRow_of_end hr
      rw [runBlocks_end hr] at h
      split at h
      · next htop =>
        cases st with
        | nil => exact absurd htop hb
        | cons c st =>
          obtain rfl : b = c := htop
          exact ⟨[], rs, by rw [hc]; rfl, .nil, ih (fun hm => hst (List.mem_cons_of_mem _ hm)) h⟩
      · cases h

/-- **Exactly the well-nested sheets pass**: every other row-type sequence is rejected. -/
theorem checkBlocks_ok_iff (rs : List RowType) : checkBlocks rs = .ok () ↔ Balanced rs :=
  ⟨runBlocks_ok_closes (by simp), balanced_accepted⟩

/-- every sheet that is not well-nested is stopped by one of the two block faults -/
theorem unbalanced_rejected (rs : List RowType) (h : ¬ Balanced rs) :
    ∃ f, checkBlocks rs = .error f := by
  cases hc : checkBlocks rs with
  | error f => exact ⟨f, rfl⟩
  | ok u => cases u; exact absurd ((checkBlocks_ok_iff rs).1 hc) h

/-! #### the full row machine never masks a block fault -/

section
variable {P : Type} {chk : List Str → P → Except Fault Unit}

theorem steps_append (pre : List (Row P)) (s : List Frame × List Str) (rest : List (Row P)) :
    steps chk s (pre ++ rest) =
      match steps chk s pre with
      | .error f => .error f
      | .ok s' => steps chk s' rest := by
  induction pre generalizing s with
  | nil => rfl
  | cons r pre ih =>
    simp only [List.cons_append, steps]
    cases step chk s r with
    | error f => rfl
    | ok s' => exact ih s'

theorem step_blocks {s s' : List Frame × List Str} {r : Row P} (h : step chk s r = .ok s') (rs : List RowType) :
    runBlocks (s.1.map (·.bt)) (r.type :: rs) = runBlocks (s'.1.map (·.bt)) rs := by
  obtain ⟨st, known⟩ := s
  simp only [step] at h
  simp only [runBlocks]
  split at h
  · cases h
  · split at h
    · cases h
    · cases st <;> cases h <;> rfl
    · split at h
      · cases ht : r.type <;> simp only [ht] at h ⊢ <;> cases h <;> rfl
      · split at h
        · cases h
        · cases ht : r.type <;> simp only [ht] at h ⊢ <;> cases h <;> rfl

/-- **the row machine refines the block machine**: rows it gets past are, for the block
structure, what their types are -/
theorem steps_blocks {rows : List (Row P)} {s s' : List Frame × List Str} (h : steps chk s rows = .ok s')
    (rest : List RowType) :
    runBlocks (s.1.map (·.bt)) (rows.map (·.type) ++ rest) = runBlocks (s'.1.map (·.bt)) rest := by
  induction rows generalizing s with
  | nil => cases h; rfl
  | cons r rows ih =>
    simp only [steps] at h
    split at h
    · cases h
    · next s1 hs => rw [List.map_cons, List.cons_append, step_blocks hs, ih h]

end

/-- If the bare block structure of a sheet is faulty, the sheet is rejected — whatever
`include_if` flags, empty loops or row contents say (content may be omitted, structure is
always scanned).  Stated for any stack so that it applies inside nested calls. -/
theorem block_fault_never_masked {P : Type} (chk : List Str → P → Except Fault Unit) :
    ∀ (rows : List (Row P)) (st : List Frame) (known : List Str) (f : Fault),
      runBlocks (st.map (·.bt)) (rows.map (·.type)) = .error f →
      ∃ f', runSheet chk st known rows = .error f' := by
  intro rows st known f h
  unfold runSheet
  cases hs : steps chk (st, known) rows with
  | error f' => exact ⟨f', rfl⟩
  | ok s' =>
    have := steps_blocks hs []
    rw [List.append_nil, h] at this
    exact ⟨f, this.symm⟩

/-- corollary at the top of a sheet: an accepted sheet has well-nested block rows -/
theorem accepted_sheet_is_balanced {P : Type} (chk : List Str → P → Except Fault Unit)
    (rows : List (Row P)) (h : runSheet chk [] [] rows = .ok ()) :
    Balanced (rows.map (·.type)) := by
  rw [← checkBlocks_ok_iff]
  cases hc : checkBlocks (rows.map (·.type)) with
  | ok u => rfl
  | error f =>
    obtain ⟨f', hf'⟩ := block_fault_never_masked chk rows [] [] f hc
    rw [hf'] at h; cases h

/-- **A row-level fault is found wherever the row sits**: after any prefix that is
processed without a fault (leaving the machine in *some* state — any depth), a row that
is evaluated there and has a failing detector stops the sheet with that detector's fault,
whatever follows. -/
theorem row_fault_detected {P : Type} (chk : List Str → P → Except Fault Unit)
    (pre post : List (Row P)) (r : Row P) (s0 s : List Frame × List Str) (f : Fault)
    (hpre : steps chk s0 pre = .ok s) (hparsed : r.keyError = none)
    (hnotend : isEndOfBlock (top (s.1.map (·.bt))) (some r.type) = .ok false)
    (heval : topOmit s.1 = false ∧ r.includeIf = true)
    (hfault : runProbes chk s.2 r.probes = .error f) :
    runSheet chk s0.1 s0.2 (pre ++ r :: post) = .error f := by
  unfold runSheet
  rw [steps_append, hpre]
  simp [steps, step, hparsed, hnotend, heval.1, heval.2, hfault]

example : runSheet Probe0.check [] []
    ([{ type := .other, rowId := "a".toList }, { type := .beginFor, probes := [.loopVariable ["i".toList]] }] ++
      ({ type := .other, probes := [.edgeFrom "zz".toList] } : Row Probe0) :: [{ type := .endFor }]) =
    .error (.edgeFromUnknownRow "zz".toList) := by decide +kernel

/-- an omitted row (false `include_if`, or inside an omitted block) is *not* evaluated: the
hypothesis `heval` is needed. -/
theorem row_fault_needs_eval :
    runSheet Probe0.check [] []
      [({ type := .other, includeIf := false, probes := [.messageText []] } : Row Probe0)] = .ok () := by
  decide +kernel

/-! ### value limits -/

/-- a contact-field value or flow result longer than 640 characters is rejected -/
theorem overlong_value_detected (v : Str) (h : v.length > 640) :
    checkFieldValue v = .error .overlongValue ∧ checkRunResult v = .error .overlongValue := by
  simp [checkFieldValue, checkRunResult, maxFieldValueLen, maxRunResultLen, h]

theorem value_within_limit_accepted (v : Str) (h : v.length ≤ 640) :
    checkFieldValue v = .ok () ∧ checkRunResult v = .ok () := by
  have : ¬ v.length > 640 := by omega
  simp [checkFieldValue, checkRunResult, maxFieldValueLen, maxRunResultLen, this]

example : (List.replicate 641 'x').length > 640 := by rw [List.length_replicate]; decide

/-- a category name longer than 115 characters is rejected -/
theorem overlong_category_detected (n : Str) (h : n.length > 115) :
    checkCategoryName n = .error .overlongCategory := by
  simp [checkCategoryName, maxCategoryLen, h]

theorem category_within_limit_accepted (n : Str) (h : n.length ≤ 115) :
    checkCategoryName n = .ok () := by
  have : ¬ n.length > 115 := by omega
  simp [checkCategoryName, maxCategoryLen, this]

/-- empty message text is rejected, and only that -/
theorem empty_text_detected (t : Str) : checkMessageText t = .error .emptyText ↔ t = [] := by
  unfold checkMessageText; split <;> simp_all

/-- a method outside the list is rejected; blank means POST -/
theorem bad_method_detected (m : Str) (hne : m ≠ []) (h : m ∉ httpMethods) :
    checkMethod m = .error .badMethod := by
  simp [checkMethod, hne, h]

theorem blank_not_listed : ([] : Str) ∉ httpMethods := by
  rw [httpMethodsD.2]
  decide +kernel

theorem listed_method_accepted (m : Str) (h : m ∈ httpMethods) : checkMethod m = .ok () := by
  have hne : m ≠ [] := fun hm => blank_not_listed (hm ▸ h)
  simp [checkMethod, hne, h]

theorem blank_method_accepted : checkMethod [] = .ok () := by
  unfold checkMethod defaultHttpMethod
  rw [httpMethodsD.2, String.toList_ofList]
  decide +kernel

example : "FETCH".toList ≠ [] ∧ "FETCH".toList ∉ httpMethods := by
  rw [httpMethodsD.2, String.toList_ofList]
  decide +kernel

/-- needs `m ≠ []`: the blank method is replaced by the default -/
theorem bad_method_needs_nonempty : ¬ (∀ m : Str, m ∉ httpMethods → checkMethod m = .error .badMethod) := by
  intro h; exact absurd ((h [] blank_not_listed).symm.trans blank_method_accepted) nofun

/-- webhook headers that are not the empty marker and contain an element that is not a
two-element list are rejected -/
theorem malformed_headers_detected (h : List Elem) (e : Elem) (hne : h ≠ [.atom []])
    (he : e ∈ h) (hbad : isPair e = false) : checkHeaders h = .error .badHeaders := by
  have : h.all isPair = false := by
    rw [List.all_eq_false]; exact ⟨e, he, by simp [hbad]⟩
  simp [checkHeaders, hne, this]

theorem pair_headers_accepted (h : List Elem) (hp : ∀ e ∈ h, isPair e = true) :
    checkHeaders h = .ok () := by
  have : h.all isPair = true := by rw [List.all_eq_true]; exact hp
  unfold checkHeaders; split <;> simp

example : checkHeaders [.list ["a".toList, "b".toList, "c".toList]] = .error .badHeaders := by decide +kernel
example : checkHeaders [.atom "abc".toList] = .error .badHeaders := by decide +kernel

/-- needs `h ≠ [""]`: the blank cell is the empty header dict -/
theorem malformed_headers_needs_ne : checkHeaders [.atom []] = .ok () ∧ isPair (.atom []) = false := by
  decide +kernel

/-- go_to: several destinations must match the number of edges -/
theorem goto_arity_detected (edges dests : Nat) (h1 : dests ≠ 1) (h2 : edges ≠ dests) :
    checkGotoArity edges dests = .error .gotoArity := by
  simp [checkGotoArity, h1, h2]

theorem goto_single_destination_accepted (edges : Nat) : checkGotoArity edges 1 = .ok () := by
  simp [checkGotoArity]

/-- begin_for without a (non-blank first) loop variable -/
theorem for_without_variable_detected (v : List Str) (h : v.head? = none ∨ v.head? = some []) :
    checkLoopVariable v = .error .forWithoutVariable := by
  cases v with
  | nil => rfl
  | cons x xs => simp at h; simp [checkLoopVariable, h]

/-- an edge from a row id that no earlier row registered -/
theorem edge_from_unknown_row_detected (known : List Str) (src : Str)
    (h1 : src ≠ []) (h2 : src ≠ "start".toList) (h3 : src ∉ known) :
    checkEdgeFrom known src = .error (.edgeFromUnknownRow src) := by
  unfold checkEdgeFrom
  rw [if_neg (by rintro (h | h); exact h1 h; exact h2 h), if_neg h3]

/-! ### the detection sites of finding F-C15-a (repaired: they log at `LOGGER.critical`) -/

/-- generic: the index is checked row by row, the first failing row decides -/
theorem checkIndex_error_at (sheets models : List Str) (m : Bool) (pre post : List IndexRow)
    (r : IndexRow) (e : Fault) (hpre : ∀ x ∈ pre, x.check sheets m models = .ok ())
    (hr : r.check sheets m models = .error e) :
    checkIndex sheets m models (pre ++ r :: post) = .error e := by
  rw [checkIndex_eq]
  exact allOk_error_at hpre hr

/-- **Index row of unknown type**: wherever it sits among valid rows, whatever sheet it names
(no sheet is looked up), the run stops with "invalid type". -/
theorem unknown_index_type_detected (sheets models : List Str) (m : Bool) (pre post : List IndexRow)
    (t : Str) (hpre : ∀ x ∈ pre, x.check sheets m models = .ok ()) (ht : t ∉ indexRowTypes) :
    checkIndex sheets m models (pre ++ .other t 1 :: post) = .error (.unknownIndexType t) :=
  checkIndex_error_at sheets models m pre post _ _ hpre (by simp [IndexRow.check, ht])

example : "create_flows".toList ∉ indexRowTypes ∧
    checkIndex ["main".toList] false [] ([.sheetRef "main".toList] ++ .other "create_flows".toList 1 :: []) =
      .error (.unknownIndexType "create_flows".toList) := by decide +kernel

/-- needs `t ∉ indexRowTypes`: a row of a known type without effect on the model (`ignore_row`) passes -/
theorem unknown_index_type_needs_unknown :
    (IndexRow.other "ignore_row".toList 1).check [] false [] = .ok () := by
  unfold IndexRow.check
  rw [indexRowTypesD.2, String.toList_ofList]
  decide +kernel

/-- the `sheet_name` count of an index row is checked first, whatever its type is -/
theorem sheet_name_count_first (sheets models : List Str) (m : Bool) (t : Str) (n : Nat) (hn : n ≠ 1) :
    (IndexRow.other t n).check sheets m models = .error (.sheetNameCount t) := by
  simp [IndexRow.check, hn]

/-- an index row of unknown type stops the command: it exits non-zero and leaves the output path alone -/
theorem unknown_index_type_stops_command {D : Type} (doc : Workbook → D) (encode : D → Str)
    (w : Workbook) (pre post : List IndexRow) (t : Str) (prev : Option Str)
    (hidx : w.hasIndex = true) (hindex : w.index = pre ++ .other t 1 :: post)
    (hpre : ∀ x ∈ pre, x.check w.sheets w.hasModule w.models = .ok ()) (ht : t ∉ indexRowTypes) :
    createFlows doc w = .error (.unknownIndexType t) ∧
    cliFs (createFlows doc) encode prev w = ⟨1, prev⟩ := by
  have h : createFlows doc w = .error (.unknownIndexType t) := by
    unfold createFlows
    simp [hidx, hindex, unknown_index_type_detected w.sheets w.models w.hasModule pre post t hpre ht]
  exact ⟨h, cli_error_keeps_file _ _ _ _ _ h⟩

/-- **Outcome edges**: an edge leaving a start_new_flow row must say Complete(d) / Expired -/
theorem bad_flow_outcome_detected (v : Str) (more : Bool) (hne : v ≠ [] ∨ more = true)
    (hv : lowerAscii v ∉ flowOutcomes) :
    checkOutcome .enterFlow v more = .error (.badOutcomeCondition true) := by
  have : ¬ (v = [] ∧ more = false) := by rintro ⟨rfl, rfl⟩; simp at hne
  simp [checkOutcome, this, hv]

/-- an edge leaving a call_webhook / transfer_airtime row must say Success / Failure (or nothing at all) -/
theorem bad_hook_outcome_detected (v : Str) (more : Bool) (hne : v ≠ [] ∨ more = true)
    (hv : lowerAscii v ∉ hookOutcomes) :
    checkOutcome .hook v more = .error (.badOutcomeCondition false) := by
  have : ¬ (v = [] ∧ more = false) := by rintro ⟨rfl, rfl⟩; simp at hne
  simp [checkOutcome, this, hv]

example : lowerAscii "Maybe".toList ∉ flowOutcomes ∧ lowerAscii "Sucess".toList ∉ hookOutcomes ∧
    checkOutcome .enterFlow "Maybe".toList false = .error (.badOutcomeCondition true) ∧
    checkOutcome .hook [] true = .error (.badOutcomeCondition false) := by decide +kernel

/-- the outcome words are accepted in any ASCII capitalisation; an edge from any other row is not tested -/
theorem outcome_words_accepted :
    checkOutcome .enterFlow "Completed".toList false = .ok () ∧
    checkOutcome .enterFlow "EXPIRED".toList true = .ok () ∧
    checkOutcome .hook "Success".toList false = .ok () ∧ checkOutcome .hook "failure".toList false = .ok () ∧
    (∀ v m, checkOutcome .other v m = .ok ()) := by
  refine ⟨?_, ?_, ?_, ?_, fun _ _ => rfl⟩
  all_goals
    simp only [checkOutcome, flowOutcomesD.2, hookOutcomesD.2]
    decide +kernel

/-- needs `v ≠ [] ∨ more`: the unconditional edge takes the default-exit branch — an error of its own
for a start_new_flow row, fine for a webhook -/
theorem bad_outcome_needs_condition :
    checkOutcome .enterFlow [] false = .error .noDefaultExitFromFlow ∧ checkOutcome .hook [] false = .ok () := by
  decide +kernel

/-- **Row type**: outside the three lists `_get_row_action` knows, "not implemented" -/
theorem unknown_row_type_detected (t : Str) (h1 : t ∉ actionRowTypes)
    (h2 : setContactPrefix.isPrefixOf t = false) (h3 : t ∉ nodeRowTypes) :
    checkRowType t = .error (.unknownRowType t) := by
  simp [checkRowType, h1, h2, h3]

/-- a `set_contact_` row whose property is not one of the five: "Unknown operation" -/
theorem unknown_contact_property_detected (t : Str) (h1 : t ∉ actionRowTypes)
    (h2 : setContactPrefix.isPrefixOf t = true) (h3 : removeAll setContactPrefix t ∉ contactProperties) :
    checkRowType t = .error (.unknownContactProperty (removeAll setContactPrefix t)) := by
  simp [checkRowType, h1, h2, h3]

example : checkRowType "send_mesage".toList = .error (.unknownRowType "send_mesage".toList) ∧
    checkRowType "set_contact_email".toList = .error (.unknownContactProperty "email".toList) ∧
    checkRowType "set_contact_name".toList = .ok () ∧
    -- `replace` removes every occurrence of the prefix (what the code does)
    checkRowType "set_contact_set_contact_name".toList = .ok () := by
  unfold checkRowType
  rw [actionRowTypesD.2, nodeRowTypesD.2, setContactPrefixD.2, contactPropertiesD.2]
  repeat rw [String.toList_ofList]
  decide +kernel

/-- **"Not implemented" is out of reach in a sheet with a `message_text` column**: every type the row
parser lets through there (`mainArgKeyError true t = none`) is either handled before
`_get_row_action` (block rows, exits, go_to, no_op, insert_as_block) or known to it. -/
theorem main_arg_types_known (t : Str) (h : mainArgKeyError true t = none) :
    t ∈ ["begin_block".toList, "begin_for".toList, "end_block".toList, "end_for".toList, "go_to".toList,
         "hard_exit".toList, "insert_as_block".toList, "loose_exit".toList, "no_op".toList] ∨
    checkRowType t = .ok () := by
  have all : ∀ t ∈ mainArgTypes,
      t ∈ ["begin_block".toList, "begin_for".toList, "end_block".toList, "end_for".toList, "go_to".toList,
           "hard_exit".toList, "insert_as_block".toList, "loose_exit".toList, "no_op".toList] ∨
      checkRowType t = .ok () := by
    unfold checkRowType
    rw [mainArgTypesD.2, actionRowTypesD.2, nodeRowTypesD.2, setContactPrefixD.2, contactPropertiesD.2]
    repeat rw [String.toList_ofList]
    decide +kernel
  by_cases hm : t ∈ mainArgTypes
  · exact all t hm
  · simp [mainArgKeyError, hm] at h

/-- with a `message_text` column an unknown type is a `KeyError` of the row parser instead -/
theorem mainArgKeyError_iff (b : Bool) (t : Str) :
    mainArgKeyError b t = some t ↔ (b = true ∧ t ∉ mainArgTypes) := by
  unfold mainArgKeyError
  by_cases hb : b = true <;> by_cases ht : t ∈ mainArgTypes <;> simp [hb, ht]

/-- that `KeyError` stops the sheet at that row **whatever state the machine is in**: inside an omitted
block, with a false `include_if`, even where the row would have terminated a block. -/
theorem row_type_key_error_detected {P : Type} (chk : List Str → P → Except Fault Unit)
    (pre post : List (Row P)) (r : Row P) (s0 s : List Frame × List Str) (t : Str)
    (hpre : steps chk s0 pre = .ok s) (hr : r.keyError = some t) :
    runSheet chk s0.1 s0.2 (pre ++ r :: post) = .error (.rowTypeWithoutMainArg t) := by
  unfold runSheet
  rw [steps_append, hpre]
  simp [steps, step, hr]

example : runSheet Probe0.check [] []
    ([{ type := .other, rowId := "a".toList }, { type := .beginBlock, includeIf := false }] ++
      ({ type := .other, includeIf := false, keyError := mainArgKeyError true "send_mesage".toList } : Row Probe0) ::
        [{ type := .endBlock }]) = .error (.rowTypeWithoutMainArg "send_mesage".toList) := by
  unfold mainArgKeyError
  rw [mainArgTypesD.2]
  repeat rw [String.toList_ofList]
  decide +kernel

/-- the row-type and outcome detectors inside a sheet, through `row_fault_detected` (any position, any depth):
the row type is looked at before the edges, the outcome after the source of the edge was found -/
example : runSheet Probe0.check [] []
    ([{ type := .other, rowId := "a".toList, probes := [.rowType "start_new_flow".toList, .edgeFrom "start".toList] },
      { type := .beginBlock, probes := [.edgeFrom "a".toList] }] ++
      ({ type := .other, probes := [.rowType "send_message".toList, .messageText "x".toList, .edgeFrom "a".toList,
                                   .outcome .enterFlow "maybe".toList false] } : Row Probe0) :: [{ type := .endBlock }]) =
    .error (.badOutcomeCondition true) ∧
  runSheet Probe0.check [] []
    [({ type := .other, probes := [.rowType "frobnicate".toList, .edgeFrom "nosuchrow".toList] } : Row Probe0)] =
    .error (.unknownRowType "frobnicate".toList) := by
  rw [probe0CheckD.2]
  repeat rw [String.toList_ofList]
  decide +kernel

/-! ### template arguments -/

theorem bindArgs_cons (d : ArgDef) (ds : List ArgDef) (args ctx : List Str) :
    bindArgs (d :: ds) args ctx =
      if d.name ∈ ctx then .error (.argDoublyDefined d.name)
      else if argValue (args.headD []) d.default = [] then .error (.argMissing d.name)
      else bindArgs ds args.tail (d.name :: ctx) := rfl

theorem bindArgs_append (pre rest : List ArgDef) (args ctx : List Str) :
    bindArgs (pre ++ rest) args ctx =
      match bindArgs pre args ctx with
      | .error f => .error f
      | .ok ctx' => bindArgs rest (args.drop pre.length) ctx' := by
  fun_induction bindArgs pre args ctx with
  | case1 => rfl
  | case2 d ds args ctx h => rw [List.cons_append, bindArgs_cons, if_pos h]
  | case3 d ds args ctx h1 h2 => rw [List.cons_append, bindArgs_cons, if_neg h1, if_pos h2]
  | case4 d ds args ctx h1 h2 ih =>
    rw [List.cons_append, bindArgs_cons, if_neg h1, if_neg h2, ih]
    cases args <;> simp

/-- **Missing template argument**: after any prefix of definitions that binds, a definition
whose name is still free, with no default, and no (non-blank) argument at its position is
reported as not provided — at any position in the definition list. -/
theorem arg_missing_detected (pre post : List ArgDef) (d : ArgDef) (args ctx ctx' : List Str)
    (hpre : bindArgs pre args ctx = .ok ctx') (hfree : d.name ∉ ctx')
    (hdef : d.default = []) (harg : (args.drop pre.length).headD [] = []) :
    bindArgs (pre ++ d :: post) args ctx = .error (.argMissing d.name) := by
  rw [bindArgs_append, hpre]
  show bindArgs (d :: post) _ _ = _
  rw [bindArgs_cons, if_neg hfree, harg, hdef, if_pos (by rfl)]

example : bindArgs ([⟨"a".toList, [], []⟩] ++ ⟨"b".toList, [], []⟩ :: []) ["x".toList] ["w".toList] =
    .error (.argMissing "b".toList) := by decide +kernel

/-- **Doubly defined template argument**: a definition whose name is already in the context
(a data-row field, or an earlier argument) is rejected, whatever value it gets. -/
theorem arg_doubly_defined_detected (pre post : List ArgDef) (d : ArgDef)
    (args ctx ctx' : List Str) (hpre : bindArgs pre args ctx = .ok ctx') (hdup : d.name ∈ ctx') :
    bindArgs (pre ++ d :: post) args ctx = .error (.argDoublyDefined d.name) := by
  rw [bindArgs_append, hpre]
  show bindArgs (d :: post) _ _ = _
  rw [bindArgs_cons, if_pos hdup]

example : bindArgs ([⟨"a".toList, [], []⟩] ++ ⟨"word".toList, [], "d".toList⟩ :: [])
    ["x".toList, "y".toList] ["word".toList] = .error (.argDoublyDefined "word".toList) := by decide +kernel

/-- the bound names are added to the context (and nothing leaves it), so a name defined twice
in the definition list itself is caught too -/
theorem bindArgs_ok_mem {ds : List ArgDef} {args ctx ctx' : List Str} (h : bindArgs ds args ctx = .ok ctx') :
    ctx ⊆ ctx' ∧ ∀ d ∈ ds, d.name ∈ ctx' := by
  fun_induction bindArgs ds args ctx with
  | case1 => cases h; exact ⟨fun _ hx => hx, nofun⟩
  | case2 => cases h
  | case3 => cases h
  | case4 d0 ds args ctx _ _ ih =>
    obtain ⟨mono, mem⟩ := ih h
    refine ⟨fun x hx => mono (List.mem_cons_of_mem _ hx), fun d hd => ?_⟩
    rcases List.mem_cons.1 hd with rfl | hd
    · exact mono (List.mem_cons_self ..)
    · exact mem d hd

theorem arg_defined_twice_detected (pre post : List ArgDef) (d d' : ArgDef)
    (args ctx ctx' : List Str) (hpre : bindArgs pre args ctx = .ok ctx')
    (hd' : d' ∈ pre) (hsame : d.name = d'.name) :
    bindArgs (pre ++ d :: post) args ctx = .error (.argDoublyDefined d.name) :=
  arg_doubly_defined_detected pre post d args ctx ctx' hpre
    (hsame ▸ (bindArgs_ok_mem hpre).2 d' hd')

/-- non-vacuity: arguments that are all provided (or defaulted) and fresh bind -/
example : bindArgs [⟨"a".toList, [], []⟩, ⟨"b".toList, [], "dflt".toList⟩] ["x".toList] ["w".toList] =
    .ok ["b".toList, "a".toList, "w".toList] := by decide +kernel

/-! ### UUID dictionary, triggers, index -/

/-- two different non-empty uuids for one name are rejected, whenever the second arrives -/
theorem uuid_conflict_detected (d : List (Str × Str)) (name u1 u2 : Str)
    (h1 : lookup name d = some u1) (hu1 : u1 ≠ []) (hu2 : u2 ≠ []) (hne : u2 ≠ u1) :
    recordUuid d name u2 = .error (.uuidConflict name) := by
  simp [recordUuid, h1, hu1, hu2, hne]

example : recordAll [] [("G".toList, "u1".toList), ("H".toList, []), ("G".toList, "u2".toList)] =
    .error (.uuidConflict "G".toList) := by decide +kernel

/-- a trigger whose flow the dictionary does not know stops the run (the dictionary also
knows flows that are merely referenced — finding F-C06-b — hence `flowNames`, not "created") -/
theorem trigger_unknown_flow_detected (names pre post : List Str) (t : Str)
    (hpre : ∀ x ∈ pre, x ∈ names) (ht : t ∉ names) :
    checkTriggers names (pre ++ t :: post) = .error (.triggerUnknownFlow t) := by
  rw [checkTriggers_eq]
  exact allOk_error_at (fun x hx => if_pos (hpre x hx)) (if_neg ht)

theorem no_content_index_detected {D : Type} (doc : Workbook → D) (w : Workbook)
    (h : w.hasIndex = false) : createFlows doc w = .error .noContentIndex := by
  simp [createFlows, h]

/-- a sheet named by the index that the reader does not offer -/
theorem missing_sheet_detected (sheets models : List Str) (m : Bool) (pre post : List IndexRow)
    (n : Str) (hpre : ∀ r ∈ pre, r.check sheets m models = .ok ()) (hn : n ∉ sheets) :
    checkIndex sheets m models (pre ++ .sheetRef n :: post) = .error (.missingSheet n) :=
  checkIndex_error_at sheets models m pre post _ _ hpre (by simp [IndexRow.check, hn])

/-- an operation that is none of concat / filter / sort (with a new_name given) -/
theorem unknown_operation_detected (sheets models : List Str) (m : Bool) (op newName : Str)
    (srcs : List DataSource) (h1 : op ≠ []) (h2 : newName ≠ []) (h3 : op ∉ knownOps) :
    (IndexRow.dataSheet op newName srcs).check sheets m models = .error .unknownOperation := by
  have h4 : op ≠ "concat".toList := by
    intro h; apply h3; rw [h]; decide
  show (if op = [] then _ else _) = _
  rw [if_neg h1, if_neg h2, if_neg h4, if_neg h3]

theorem operation_without_new_name_detected (sheets models : List Str) (m : Bool) (op : Str)
    (srcs : List DataSource) (h1 : op ≠ []) :
    (IndexRow.dataSheet op [] srcs).check sheets m models = .error .operationWithoutNewName := by
  simp [IndexRow.check, h1]

/-- a data row the registered data sheet does not contain (create_flow or insert_as_block) -/
theorem missing_data_row_detected (reg : DataReg) (sheet id : Str) (ids : List Str)
    (hs : sheet ≠ []) (hi : id ≠ []) (hreg : lookupRows sheet reg = some ids) (hid : id ∉ ids) :
    checkDataRow reg sheet id = .error (.missingDataRow id) := by
  simp [checkDataRow, hs, hi, hreg, hid]

/-- the model name is looked up only when a module was given: with a module, an unknown
name is an error before the sheet is even read -/
theorem unknown_data_model_detected (sheets models : List Str) (s : DataSource)
    (hc : s.cached = false) (hm : s.dataModel ≠ []) (hu : s.dataModel ∉ models) :
    checkSource sheets true models s = .error (.unknownDataModel s.dataModel) := by
  simp [checkSource, hc, hm, hu]

/-- without a module the name of the data model is not looked at (what the code does) -/
theorem unknown_data_model_needs_module (sheets models : List Str) (s : DataSource)
    (hs : s.name ∈ sheets) : checkSource sheets false models s = .ok () := by
  simp [checkSource, hs]

/-! ### the end-to-end statement and what is proved of it -/

/-- Full statement (NOT proved; needs a model of the Python process): for every real
workbook `wb` and its abstraction `w`, the real command's observable (status, file) equals
`cliFs (createFlows doc) encode pre w`.  `real` is the uninterpreted behaviour of the
process; the check `c15.py` samples this equation on every fault class × position. -/
def C15_full {D : Type} (doc : Workbook → D) (encode : D → Str)
    (real : Workbook → Option Str → CliResult) : Prop :=
  ∀ (w : Workbook) (pre : Option Str), real w pre = cliFs (createFlows doc) encode pre w

/-- What is proved: *if* the process behaves like `cliFs` on the model's verdict (the
unproved tie), then every detected fault gives a non-zero status and leaves the output
path as it was, and a file only appears for a complete document. -/
theorem C15_partial {D : Type} (doc : Workbook → D) (encode : D → Str)
    (real : Workbook → Option Str → CliResult) (hfull : C15_full doc encode real)
    (w : Workbook) (pre : Option Str) :
    (∀ e, createFlows doc w = .error e → (real w pre).exit ≠ 0 ∧ (real w pre).file = pre) ∧
    (∀ d, createFlows doc w = .ok d → real w pre = ⟨0, some (encode d)⟩) := by
  rw [hfull w pre]
  constructor
  · rintro e h; rw [cli_error_keeps_file _ _ _ _ e h]; exact ⟨by simp, rfl⟩
  · intro d h; exact cli_ok_writes_document _ _ _ _ d h

end Rpft.Props.C15
