/-
C19 — Campaign and trigger sheets compile row for row into resolvable definitions.

All statements are for sheets of unbounded length and arbitrary cell strings.  "Accepted" means:
no exception and no `LOGGER.critical` (`parse… = .ok (out, [])`); "rejected" is its negation.

Reference resolution (one name, one UUID) is not modelled here: the model renders symbolic
UUIDs that are a function of (kind, name) by construction, so a theorem about it would be
vacuous; that part of the statement is C06's model (UUID dictionary) and, here, the direct
oracle of the check, evaluated on every real output.
-/
import Rpft.Lemmas.Campaign
import Rpft.Gen.Tables
import Rpft.Canon
import Rpft.Lemmas.Str
namespace Rpft.Props.C19
open Rpft Rpft.Campaign

/-- T1: the constants of the model are the constants of the source (regenerated each run by probing
the behaviour of the validators / constructors / parser: `harness/tables/t19_campaign.py`).  The code
words a validator accepts are sets (compared up to order); the field lists are in declaration order
(exact: a validator sees the fields declared before it, failing fields are reported in that order). -/
theorem tables_agree :
    Canon.sameSet Gen.campaignUnits units ∧ Canon.sameSet Gen.campaignStartModes startModes ∧
    Canon.sameSet Gen.campaignEventTypes eventTypes ∧ Gen.campaignCtorEventTypes = [evMessage, evFlow] ∧
    Canon.sameSet Gen.triggerTypes trigTypes ∧ Canon.sameSet Gen.triggerMatchTypes matchTypes ∧
    Gen.triggerMatchGuard = trigKeyword ∧ Gen.triggerCtorKeyword = trigKeyword ∧
    Gen.triggerDefaultMatch = defaultMatch ∧ Gen.fieldKeyMaxLen = maxKeyLen ∧
    Gen.campaignMessageKey = none ∧ Gen.campaignDefaultLang = defaultLang ∧
    Gen.campaignDefaultHour = defaultHour ∧
    Gen.campaignRowFields = campFields ∧ Gen.triggerRowFields = trigFields := by
  -- the kernel decodes a string literal byte by byte: the literals are spelt as character lists first
  unfold units startModes eventTypes evMessage evFlow trigTypes matchTypes trigKeyword defaultMatch defaultLang
    campFields trigFields
  repeat rw [String.toList_ofList]
  decide +kernel

theorem field_key_checks (raw k : Str) :
    (if ¬ (raw.length ≤ maxKeyLen) then (.error .keyTooLong : Except Exc Str)
     else if ¬ (raw.any isAsciiLetter) then .error .keyNoLetter else .ok raw) = .ok k ↔
      k = raw ∧ k.length ≤ 36 ∧ ∃ c ∈ k, isAsciiLetter c = true := by
  by_cases hlen : raw.length ≤ maxKeyLen
  · by_cases hany : raw.any isAsciiLetter = true
    · simp only [hlen, hany, not_true_eq_false, if_false]
      constructor
      · intro h
        injection h with h
        subst h
        exact ⟨rfl, hlen, by simpa using hany⟩
      · rintro ⟨rfl, _, _⟩; rfl
    · simp only [hlen, hany, not_true_eq_false, if_false]
      constructor
      · intro h; cases h
      · rintro ⟨rfl, _, hc⟩
        exact absurd (by simpa using hc) hany
  · simp only [hlen, not_false_eq_true, if_true]
    constructor
    · intro h; cases h
    · rintro ⟨rfl, hl, _⟩; exact absurd hl hlen

/-- `generate_field_key` succeeds exactly with the label trimmed, lower-cased, spaces → `_`,
provided that is at most 36 characters long and contains a letter. -/
theorem field_key_spec (label k : Str) :
    generateFieldKey label = .ok k ↔
      k = replace1 ' ' ['_'] ((strip pyWs label).map lowerAscii) ∧ k.length ≤ 36 ∧
      ∃ c ∈ k, isAsciiLetter c = true :=
  field_key_checks (fieldKeyRaw label) k

/-- a generated key never contains a space -/
theorem field_key_no_space (label k : Str) (h : generateFieldKey label = .ok k) : ' ' ∉ k := by
  rw [((field_key_spec label k).1 h).1]
  exact not_mem_replace1 (by decide) _

example : generateFieldKey " Created On ".toList = .ok "created_on".toList := by decide +kernel
example : generateFieldKey "1 2 3".toList = .error .keyNoLetter := by decide +kernel
example : generateFieldKey "abcdefghijklmnopqrstuvwxyz abcdefghij".toList = .error .keyTooLong := by decide +kernel

/-- the statement's field list for one row, written out -/
def eventSpec (r : CampRow) (e : Event) : Prop :=
  pyInt r.offset = some e.offset ∧
  e.unit = r.unit ∧
  e.eventType = r.eventType ∧
  (if r.deliveryHour = [] then e.deliveryHour = -1 else pyInt r.deliveryHour = some e.deliveryHour) ∧
  e.startMode = r.startMode ∧
  e.relLabel = r.relativeTo ∧
  generateFieldKey r.relativeTo = .ok e.relKey ∧
  e.message = (if r.message = [] then none else
    some ((if r.baseLanguage = [] then defaultLang else r.baseLanguage), r.message)) ∧
  e.baseLanguage =
    (if r.message = [] then none else some (if r.baseLanguage = [] then defaultLang else r.baseLanguage)) ∧
  e.flowName = (if r.flow = [] then none else some r.flow)

theorem eventOfRow_ok {r : CampRow} {e : Event} :
    eventOfRow r = .ok e ↔
      ∃ dh off key, (if r.deliveryHour = [] then some defaultHour else pyInt r.deliveryHour) = some dh ∧
        pyInt r.offset = some off ∧ generateFieldKey r.relativeTo = .ok key ∧
        (r.eventType = evMessage → r.message ≠ []) ∧
        e = { offset := off, unit := r.unit, eventType := r.eventType, deliveryHour := dh,
              startMode := r.startMode, relLabel := r.relativeTo, relKey := key,
              message := if r.message = [] then none else
                some ((if r.baseLanguage = [] then defaultLang else r.baseLanguage), r.message),
              flowName := if r.flow = [] then none else some r.flow,
              baseLanguage := if r.message = [] then none else
                some (if r.baseLanguage = [] then defaultLang else r.baseLanguage) } := by
  unfold eventOfRow
  simp only [ne_eq, ite_not]
  cases (if r.deliveryHour = [] then some defaultHour else pyInt r.deliveryHour) with
  | none => simp
  | some dh =>
    cases pyInt r.offset with
    | none => simp
    | some off =>
      cases generateFieldKey r.relativeTo with
      | error x => simp
      | ok key =>
        rw [ite_crit_eq_ok]
        by_cases hm : r.message = [] <;> simp [hm, eq_comm]

theorem eventOfRow_spec {r : CampRow} {e : Event} (h : eventOfRow r = .ok e) : eventSpec r e := by
  obtain ⟨dh, off, key, hd, ho, hk, -, rfl⟩ := eventOfRow_ok.1 h
  refine ⟨ho, rfl, rfl, ?_, rfl, rfl, hk, rfl, rfl, rfl⟩
  by_cases hdh : r.deliveryHour = []
  · simpa [hdh, defaultHour, eq_comm] using hd
  · simpa [hdh] using hd

/-- **Campaign sheets compile row for row**: an accepted sheet has exactly one event per
row, in row order, and the k-th event carries the k-th row's fields as stated. -/
theorem campaign_rowwise (rows : List CampRow) (evs : List Event)
    (h : parseCampaign rows = .ok (evs, [])) :
    evs.length = rows.length ∧
    ∀ k (hk : k < rows.length) (hk' : k < evs.length), eventSpec rows[k] evs[k] := by
  have := parseSheet_rowwise (v := validateCampRow) (f := eventOfRow) h
  exact ⟨this.1, fun k hk hk' => eventOfRow_spec (this.2 k hk hk')⟩

/-- **Library reading** (`LOGGER.critical` does not stop the run): whatever is reported, the
events are exactly the individually accepted rows, in row order, and every critical names
the row that caused it. -/
theorem campaign_library_rowwise (rows : List CampRow) (evs : List Event) (cs : List (Nat × Crit))
    (h : parseCampaign rows = .ok (evs, cs)) :
    evs = accepted eventOfRow rows ∧
    ∀ p ∈ cs, ∃ (hk : p.1 < rows.length), eventOfRow rows[p.1] = .crit p.2 :=
  parseSheet_library (v := validateCampRow) h

/-- rendering keeps one entry per event -/
theorem render_events_length (c : Nat) (evs : List Event) :
    ∀ i, (renderEventsFrom c i evs).length = evs.length := by
  induction evs with
  | nil => intro i; rfl
  | cons e es ih => intro i; simp [renderEventsFrom, ih]

def row1 : CampRow :=
  { offset := "1_0".toList, unit := "H".toList, eventType := "M".toList, deliveryHour := "7".toList,
    message := "hi".toList, relativeTo := "Created On".toList, startMode := "I".toList }
def row2 : CampRow :=
  { offset := "-3".toList, unit := "W".toList, eventType := "F".toList,
    relativeTo := "x".toList, startMode := "P".toList, flow := "f".toList }

/-- non-vacuity of `campaign_rowwise`: a two-row sheet that is accepted -/
example : (match parseCampaign [row1, row2] with
    | .ok (evs, []) => evs.length == 2
    | _ => false) = true := by decide +kernel

/-- what the statement lists as invalid in a campaign row -/
def CampInvalid (r : CampRow) : Prop :=
  r.unit ∉ units ∨ r.startMode ∉ startModes ∨ r.eventType ∉ eventTypes ∨
  (r.eventType = evMessage ∧ r.message = [])

/-- everything the code needs of a campaign row -/
def CampValid (r : CampRow) : Prop :=
  r.unit ∈ units ∧ r.startMode ∈ startModes ∧ r.eventType ∈ eventTypes ∧
  (r.eventType = evMessage → r.message ≠ []) ∧
  (pyInt r.offset).isSome ∧
  (r.deliveryHour = [] ∨ (pyInt r.deliveryHour).isSome) ∧
  (∃ k, generateFieldKey r.relativeTo = .ok k)

theorem validateCampRow_none_iff (r : CampRow) :
    validateCampRow r = none ↔ r.unit ∈ units ∧ r.startMode ∈ startModes ∧ r.eventType ∈ eventTypes := by
  unfold validateCampRow campInvalidFields
  by_cases h1 : r.unit ∈ units <;> by_cases h2 : r.eventType ∈ eventTypes <;>
    by_cases h3 : r.startMode ∈ startModes <;> simp [h1, h2, h3]

theorem eventOfRow_ok_iff (r : CampRow) :
    (∃ e, eventOfRow r = .ok e) ↔
      (r.eventType = evMessage → r.message ≠ []) ∧ (pyInt r.offset).isSome ∧
      (r.deliveryHour = [] ∨ (pyInt r.deliveryHour).isSome) ∧
      (∃ k, generateFieldKey r.relativeTo = .ok k) := by
  have hdh : (∃ dh, (if r.deliveryHour = [] then some defaultHour else pyInt r.deliveryHour) = some dh) ↔
      r.deliveryHour = [] ∨ (pyInt r.deliveryHour).isSome := by
    by_cases h : r.deliveryHour = [] <;> simp [h, Option.isSome_iff_exists]
  constructor
  · rintro ⟨e, he⟩
    obtain ⟨dh, off, key, hd, ho, hk, hm, -⟩ := eventOfRow_ok.1 he
    exact ⟨hm, by simp [ho], hdh.1 ⟨dh, hd⟩, key, hk⟩
  · rintro ⟨hm, ho, hd, key, hk⟩
    obtain ⟨off, ho⟩ := Option.isSome_iff_exists.1 ho
    obtain ⟨dh, hd⟩ := hdh.2 hd
    exact ⟨_, eventOfRow_ok.2 ⟨dh, off, key, hd, ho, hk, hm, rfl⟩⟩

/-- **A campaign sheet is accepted exactly when every row is valid** (both directions:
`campaign_valid_accepted` and, contrapositively, every kind of rejection). -/
theorem campaign_accepted_iff (rows : List CampRow) :
    (∃ evs, parseCampaign rows = .ok (evs, [])) ↔ ∀ r ∈ rows, CampValid r := by
  refine (parseSheet_accepted_iff (v := validateCampRow) (f := eventOfRow)).trans (forall₂_congr fun r _ => ?_)
  rw [validateCampRow_none_iff, eventOfRow_ok_iff]
  exact ⟨fun ⟨⟨a, b, c⟩, d⟩ => ⟨a, b, c, d⟩, fun ⟨a, b, c, d⟩ => ⟨⟨a, b, c⟩, d⟩⟩

/-- **Invalid campaign rows are rejected**: a sheet containing a row with an invalid unit,
start mode or event type, or a message event without text, is not accepted. -/
theorem campaign_invalid_rejected (rows : List CampRow) (r : CampRow) (hr : r ∈ rows)
    (h : CampInvalid r) : ∀ evs, parseCampaign rows ≠ .ok (evs, []) := by
  intro evs hok
  have hv := (campaign_accepted_iff rows).1 ⟨evs, hok⟩ r hr
  rcases h with h | h | h | ⟨h1, h2⟩
  · exact h hv.1
  · exact h hv.2.1
  · exact h hv.2.2.1
  · exact hv.2.2.2.1 h1 h2

/-- **Valid campaign sheets are accepted.** -/
theorem campaign_valid_accepted (rows : List CampRow) (h : ∀ r ∈ rows, CampValid r) :
    ∃ evs, parseCampaign rows = .ok (evs, []) ∧ evs.length = rows.length := by
  obtain ⟨evs, he⟩ := (campaign_accepted_iff rows).2 h
  exact ⟨evs, he, (campaign_rowwise rows evs he).1⟩

example : CampValid row1 ∧ CampValid row2 := by
  refine ⟨⟨by decide +kernel, by decide +kernel, by decide +kernel, by decide +kernel, by decide +kernel, by decide +kernel,
            ⟨"created_on".toList, by decide +kernel⟩⟩,
          ⟨by decide +kernel, by decide +kernel, by decide +kernel, by decide +kernel, by decide +kernel, by decide +kernel, ⟨"x".toList, by decide +kernel⟩⟩⟩
example : CampInvalid { row1 with unit := "X".toList } := Or.inl (by decide +kernel)
example : CampInvalid { row1 with message := [] } := Or.inr (Or.inr (Or.inr ⟨by decide +kernel, rfl⟩))

/-- "The message with its base language": the message dict is keyed by the event's base
language (finding F-C19-a, fixed in /repo: without the fix the key is the literal `eng`). -/
theorem campaign_message_lang (r : CampRow) (e : Event) (h : eventOfRow r = .ok e) :
    ∀ k t l, e.message = some (k, t) → e.baseLanguage = some l → k = l := by
  obtain ⟨_, _, _, _, _, _, _, rfl⟩ := eventOfRow_ok.1 h
  intro k t l h1 h2
  by_cases hmsg : r.message = []
  · simp [hmsg] at h1
  · simp only [hmsg, if_false, Option.some.injEq, Prod.mk.injEq] at h1 h2
    exact h1.1.symm.trans h2

example : eventOfRow row1 = .ok
    { offset := 10, unit := "H".toList, eventType := "M".toList, deliveryHour := 7,
      startMode := "I".toList, relLabel := "Created On".toList, relKey := "created_on".toList,
      message := some ("eng".toList, "hi".toList), flowName := none,
      baseLanguage := some "eng".toList } := by decide +kernel

/-- the statement's field list for one trigger row, written out -/
def triggerSpec (r : TrigRow) (t : Trigger) : Prop :=
  t.type = r.type ∧
  t.keywords = r.keywords ∧
  t.matchType =
    (if r.type = trigKeyword ∧ r.matchType.getD [] = [] then some defaultMatch
     else if r.matchType.getD [] = [] then none else some (r.matchType.getD [])) ∧
  t.channel = (if r.channel = [] then none else some r.channel) ∧
  t.flowName = r.flow ∧
  t.groups = r.groups ∧
  t.excludeGroups = r.excludeGroups

theorem triggerOfRow_ok {r : TrigRow} {t : Trigger} :
    triggerOfRow r = .ok t ↔
      (r.type = trigKeyword → r.keywords ≠ [] ∧ r.keywords.head? ≠ some []) ∧
      r.flow ≠ [] ∧ (∀ g ∈ r.groups, g ≠ []) ∧ (∀ g ∈ r.excludeGroups, g ≠ []) ∧
      t = { type := r.type, keywords := r.keywords,
            matchType := if r.type = trigKeyword ∧ r.matchType.getD [] = [] then some defaultMatch
              else orNone (r.matchType.getD []),
            channel := orNone r.channel, flowName := r.flow, groups := r.groups,
            excludeGroups := r.excludeGroups } := by
  simp only [triggerOfRow, ite_crit_eq_ok, RowRes.ok.injEq, not_and, not_or, List.any_eq_true, decide_eq_true_eq,
    not_exists, ne_eq, eq_comm (b := t)]

theorem triggerOfRow_spec {r : TrigRow} {t : Trigger} (h : triggerOfRow r = .ok t) :
    triggerSpec r t := by
  obtain ⟨-, -, -, -, rfl⟩ := triggerOfRow_ok.1 h
  simp only [triggerSpec, orNone, ne_eq, ite_not, and_self]

/-- **Trigger sheets compile row for row.** -/
theorem trigger_rowwise (rows : List TrigRow) (ts : List Trigger)
    (h : parseTriggers rows = .ok (ts, [])) :
    ts.length = rows.length ∧
    ∀ k (hk : k < rows.length) (hk' : k < ts.length), triggerSpec rows[k] ts[k] := by
  have := parseSheet_rowwise (v := validateTrigRow) (f := triggerOfRow) h
  exact ⟨this.1, fun k hk hk' => triggerOfRow_spec (this.2 k hk hk')⟩

/-- **Library reading** for trigger sheets. -/
theorem trigger_library_rowwise (rows : List TrigRow) (ts : List Trigger) (cs : List (Nat × Crit))
    (h : parseTriggers rows = .ok (ts, cs)) :
    ts = accepted triggerOfRow rows ∧
    ∀ p ∈ cs, ∃ (hk : p.1 < rows.length), triggerOfRow rows[p.1] = .crit p.2 :=
  parseSheet_library (v := validateTrigRow) h

def trow1 : TrigRow :=
  { type := "K".toList, keywords := ["hello".toList, "hi".toList], flow := "f".toList,
    groups := ["G".toList], matchType := some [] }
def trow2 : TrigRow := { type := "C".toList, flow := "f".toList, excludeGroups := ["G".toList] }

example : (match parseTriggers [trow1, trow2] with
    | .ok (ts, []) => ts.length == 2
    | _ => false) = true := by decide +kernel

/-- what the statement lists as invalid in a trigger row (plus: keyword trigger without keyword) -/
def TrigInvalid (r : TrigRow) : Prop :=
  r.type ∉ trigTypes ∨
  (r.type = trigKeyword ∧ ∃ m, r.matchType = some m ∧ m ∉ matchTypes) ∨
  (r.type = trigKeyword ∧ (r.keywords = [] ∨ r.keywords.head? = some []))

/-- everything the code needs of a trigger row -/
def TrigValid (r : TrigRow) : Prop :=
  r.type ∈ trigTypes ∧
  (r.type = trigKeyword → ∀ m, r.matchType = some m → m ∈ matchTypes) ∧
  (r.type = trigKeyword → r.keywords ≠ [] ∧ r.keywords.head? ≠ some []) ∧
  r.flow ≠ [] ∧ (∀ g ∈ r.groups, g ≠ []) ∧ (∀ g ∈ r.excludeGroups, g ≠ [])

theorem validateTrigRow_none_iff (r : TrigRow) :
    validateTrigRow r = none ↔
      r.type ∈ trigTypes ∧ (r.type = trigKeyword → ∀ m, r.matchType = some m → m ∈ matchTypes) := by
  unfold validateTrigRow
  by_cases ht : r.type ∈ trigTypes
  · rw [if_pos ht]
    cases hm : r.matchType with
    | none =>
      refine ⟨fun _ => ⟨ht, fun _ m h => by cases h⟩, fun _ => rfl⟩
    | some m =>
      by_cases hc : r.type = trigKeyword ∧ m ∉ matchTypes
      · show (if r.type = trigKeyword ∧ m ∉ matchTypes then _ else _) = none ↔ _
        rw [if_pos hc]
        refine ⟨fun h => (by cases h), fun h => ?_⟩
        exact absurd (h.2 hc.1 m rfl) hc.2
      · show (if r.type = trigKeyword ∧ m ∉ matchTypes then _ else _) = none ↔ _
        rw [if_neg hc]
        refine ⟨fun _ => ⟨ht, fun hk m' hm' => ?_⟩, fun _ => rfl⟩
        injection hm' with hm'
        subst hm'
        exact Classical.byContradiction fun hn => hc ⟨hk, hn⟩
  · rw [if_neg ht]
    cases r.matchType <;> exact ⟨fun h => (by cases h), fun h => absurd h.1 ht⟩

theorem triggerOfRow_ok_iff (r : TrigRow) :
    (∃ t, triggerOfRow r = .ok t) ↔
      (r.type = trigKeyword → r.keywords ≠ [] ∧ r.keywords.head? ≠ some []) ∧
      r.flow ≠ [] ∧ (∀ g ∈ r.groups, g ≠ []) ∧ (∀ g ∈ r.excludeGroups, g ≠ []) := by
  simp only [triggerOfRow_ok, exists_and_left, exists_eq, and_true]

/-- **A trigger sheet is accepted exactly when every row is valid.** -/
theorem trigger_accepted_iff (rows : List TrigRow) :
    (∃ ts, parseTriggers rows = .ok (ts, [])) ↔ ∀ r ∈ rows, TrigValid r := by
  refine (parseSheet_accepted_iff (v := validateTrigRow) (f := triggerOfRow)).trans (forall₂_congr fun r _ => ?_)
  rw [validateTrigRow_none_iff, triggerOfRow_ok_iff]
  exact ⟨fun ⟨⟨a, b⟩, c⟩ => ⟨a, b, c⟩, fun ⟨a, b, c⟩ => ⟨⟨a, b⟩, c⟩⟩

/-- **Invalid trigger rows are rejected**: invalid type, invalid match type of a keyword
trigger, keyword trigger without a (first) keyword. -/
theorem trigger_invalid_rejected (rows : List TrigRow) (r : TrigRow) (hr : r ∈ rows)
    (h : TrigInvalid r) : ∀ ts, parseTriggers rows ≠ .ok (ts, []) := by
  intro ts hok
  have hv := (trigger_accepted_iff rows).1 ⟨ts, hok⟩ r hr
  rcases h with h | ⟨hk, m, hm, hmm⟩ | ⟨hk, h⟩
  · exact h hv.1
  · exact hmm (hv.2.1 hk m hm)
  · have := hv.2.2.1 hk
    rcases h with h | h
    · exact this.1 h
    · exact this.2 h

/-- **Valid trigger sheets are accepted.** -/
theorem trigger_valid_accepted (rows : List TrigRow) (h : ∀ r ∈ rows, TrigValid r) :
    ∃ ts, parseTriggers rows = .ok (ts, []) ∧ ts.length = rows.length := by
  obtain ⟨ts, ht⟩ := (trigger_accepted_iff rows).2 h
  exact ⟨ts, ht, (trigger_rowwise rows ts ht).1⟩

example : TrigValid trow1 ∧ TrigValid trow2 := by
  refine ⟨⟨by decide +kernel, ?_, ?_, by decide +kernel, by decide +kernel, by decide +kernel⟩,
          ⟨by decide +kernel, ?_, ?_, by decide +kernel, by decide +kernel, by decide +kernel⟩⟩
  · intro _ m hm; cases hm; decide +kernel
  · rintro _; exact ⟨by decide +kernel, by decide +kernel⟩
  · intro h; exact absurd h (by decide +kernel)
  · intro h; exact absurd h (by decide +kernel)
example : TrigInvalid { trow1 with keywords := [[], "x".toList] } :=
  Or.inr (Or.inr ⟨rfl, Or.inr rfl⟩)
example : TrigInvalid { trow1 with matchType := some "Z".toList } :=
  Or.inr (Or.inl ⟨rfl, _, rfl, by decide +kernel⟩)

/-- the statement says rows with an invalid match type are rejected; the code only looks
at the match type of keyword triggers — for other types anything goes -/
def trigger_match_type_full : Prop :=
  ∀ rows r, r ∈ rows → (∃ m, r.matchType = some m ∧ m ∉ matchTypes) →
    ∀ ts, parseTriggers rows ≠ .ok (ts, [])

/-- witness against `trigger_match_type_full`: a catch-all trigger with match type `Z` is accepted. -/
theorem match_type_needs_keyword_trigger : ¬ trigger_match_type_full := by
  intro h
  exact h [{ trow2 with matchType := some "Z".toList }] _ (List.mem_cons_self ..)
    ⟨_, rfl, by decide +kernel⟩ _ (by decide +kernel : parseTriggers _ = .ok
      ([{ type := "C".toList, keywords := [], matchType := some "Z".toList, channel := none,
          flowName := "f".toList, groups := [], excludeGroups := ["G".toList] }], []))

end Rpft.Props.C19
