/-
C13 — output is a function of the input: deterministic, repeatable, history-free (PARTIAL).
-/
import Rpft.Lemmas.Determinism
import Rpft.Gen.Tables
import Rpft.Canon
import Rpft.Lemmas.ListFacts
namespace Rpft.Props.C13
open Rpft Rpft.Det

/-! ## (a) the logging context is a balanced stack -/

/-- a body leaves both module-global lists as it found them, whatever its outcome -/
def Balanced {α : Type} (body : LState → Except Err α × LState) : Prop :=
  ∀ s, (body s).2.stack = s.stack ∧ (body s).2.vars = s.vars

theorem withCtx_balanced {α : Type} (n : Str) (kv : Vars) (body : LState → Except Err α × LState)
    (hb : Balanced body) (st : LState) :
    (withCtx n kv body st).2.stack = st.stack ∧ (withCtx n kv body st).2.vars = st.vars ∧
    (withCtx n kv body st).1 = (body (add n kv st)).1 := by
  have h := hb (add n kv st)
  simp only [withCtx, pop, h.1, h.2]
  simp [add]

mutual
  theorem exec_den : ∀ (p : Prog) (st : LState),
      exec p st = ((den p st.stack).1, { st with seen := st.seen ++ (den p st.stack).2 })
    | .work m, st => by simp [exec, den]
    | .fail m, st => by simp [exec, den]
    | .call n body, st => by
        have h := execList_den body (add n [] st)
        simp only [exec, den, withCtx, h, pop]
        simp [add]
    | .attempt body, st => by
        simp [exec, den, execList_den body st]
  theorem execList_den : ∀ (ps : List Prog) (st : LState),
      execList ps st = ((denList ps st.stack).1, { st with seen := st.seen ++ (denList ps st.stack).2 })
    | [], st => by simp [execList, denList]
    | p :: ps, st => by
        rw [execList, exec_den p st, denList]
        rcases h : den p st.stack with ⟨r, recs⟩
        cases r with
        | ok u => simp [execList_den ps, List.append_assoc]
        | error e => simp
end

/-- every nesting / sequence of `with logging_context` blocks, failing or not, restores both
module-global lists: the stack an API call leaves behind is the stack it found -/
theorem stack_restored (p : Prog) (st : LState) :
    (exec p st).2.stack = st.stack ∧ (exec p st).2.vars = st.vars := by
  simp [exec_den]

theorem stack_restored_list (ps : List Prog) (st : LState) :
    (execList ps st).2.stack = st.stack ∧ (execList ps st).2.vars = st.vars := by
  simp [execList_den]

/-- the body of a `call` is balanced, so `withCtx_balanced` applies at every level -/
theorem body_balanced (ps : List Prog) : Balanced (execList ps) :=
  fun s => stack_restored_list ps s

/-- a whole process history of survived calls leaves the logger as it was at import time -/
theorem history_stack_restored (calls : List Prog) (st : LState) :
    (runHistory calls st).stack = st.stack ∧ (runHistory calls st).vars = st.vars :=
  Prod.mk.inj (foldl_preserves _ (fun s => (s.stack, s.vars)) (fun s p => by simp [exec_den]) calls st)

/-- what the observed call raises and logs (with the processing stack on each record) does not
depend on the history that preceded it -/
theorem observed_history_free (p : Prog) (calls : List Prog) (st : LState) :
    (exec p (runHistory calls st)).1 = (exec p st).1 ∧
    records p (runHistory calls st) = records p st := by
  have h := (history_stack_restored calls st).1
  simp [records, exec_den, h]

/-- depth 0 after every call of a fresh process: the prediction the global-state audit checks -/
theorem depth_zero_after_history (calls : List Prog) :
    (runHistory calls LState.empty).stack = [] ∧ (runHistory calls LState.empty).vars = [] :=
  history_stack_restored calls LState.empty

example : Balanced (execList [.work "w".toList, .call "inner".toList [.fail "boom".toList], .work "never".toList]) :=
  body_balanced _

/-- `withCtx_balanced` needs a balanced body: a body that calls `add` itself leaks -/
theorem withCtx_needs_balanced_body :
    ¬ ((withCtx "n".toList [] (fun s => ((.ok () : Except Err Unit), add "x".toList [] s)) LState.empty).2.stack
        = LState.empty.stack) := by decide +kernel

/-- the theorem is about *this* `__exit__`: one that does not pop on exceptions leaks an entry
into the next call (the mutation the audit is meant to catch) -/
theorem leaky_exit_not_restored :
    (execLeaky (.attempt [.call "a".toList [.fail "x".toList]]) LState.empty).2.stack = ["a".toList] ∧
    (execLeaky (.work "w".toList)
        (execLeaky (.attempt [.call "a".toList [.fail "x".toList]]) LState.empty).2).2.seen
      = [(["a".toList], "w".toList)] := by decide +kernel

/-! ## (b) fresh ids: never reused, given ids verbatim -/

/-- ids invented along ANY sequence of calls that share the id source are pairwise distinct —
between objects of one run and between runs — provided the source never repeats itself
(injective stream; `uuid4` entropy is the unmodelled assumption behind that) -/
theorem invented_never_reused {I : Type} (f : Nat → I) (hf : Injective f) (ss : List Shape) (c : Nat) :
    (inventedAll (fillAll f ss c).1).Nodup := by
  rw [fillAll_invented]
  exact nodup_map_on f _ (List.nodup_range' (step := 1)) fun a _ b _ => hf a b

example : (inventedAll (fillAll (fun k => k + 100) [.node [] .hole (.given "g".toList), .hole] 3).1).Nodup :=
  invented_never_reused _ (by intro a b h; simpa using h) _ _

example : (inventedAll (fillAll id [.node [] .hole (.given "g".toList), .hole, .node [] .hole .hole] 0).1)
    = [0, 1, 2, 3] := by decide +kernel

/-- a repeating source does repeat ids: injectivity is forced -/
theorem invented_needs_injective :
    ¬ (inventedAll (fillAll (fun _ => 7) [.hole, .hole] 0).1).Nodup := by decide +kernel

/-- every id present in the input appears unchanged in the output position it belongs to:
erasing the invented ids from the output gives back the input, so in particular the given ids
are the same, in the same order -/
theorem given_ids_verbatim {I : Type} (f : Nat → I) (s : Shape) (c : Nat) :
    (fillWith f s c).1.erase = s ∧ (fillWith f s c).1.givens = s.givens := by
  refine ⟨fillWith_erase f s c, ?_⟩
  rw [← erase_givens, fillWith_erase]

/-! ## (c) two runs differ by a bijection on invented ids -/

/-- for injective streams the induced correspondence is one-to-one in both directions -/
theorem induced_bijective {I J : Type} (f : Nat → I) (g : Nat → J) (hf : Injective f) (hg : Injective g) :
    (∀ a b b', Induced f g a b → Induced f g a b' → b = b') ∧
    (∀ a a' b, Induced f g a b → Induced f g a' b → a = a') := by
  constructor
  · rintro a b b' ⟨k, hk, hb⟩ ⟨k', hk', hb'⟩
    have : k = k' := hf _ _ (hk ▸ hk')
    subst this; rw [hb, hb']
  · rintro a a' b ⟨k, hk, hb⟩ ⟨k', hk', hb'⟩
    have : k = k' := hg _ _ (hb ▸ hb')
    subst this; rw [hk, hk']

/-- injectivity is forced: a repeating stream relates one id of run 1 to two ids of run 2 -/
theorem induced_needs_injective :
    ¬ (∀ a b b', Induced (fun _ : Nat => (0 : Nat)) (id : Nat → Nat) a b →
        Induced (fun _ : Nat => (0 : Nat)) id a b' → b = b') := by
  intro h
  have := h 0 1 2 ⟨1, rfl, rfl⟩ ⟨2, rfl, rfl⟩
  omega

/-- two runs of the same id-consuming program on the same input with different fresh-id
streams produce outputs that agree everywhere except on invented ids, which correspond through
the induced relation — a bijection when both streams are injective (`induced_bijective`) -/
theorem renaming_class {I J : Type} (f : Nat → I) (g : Nat → J) (s : Shape) (c c' : Nat) :
    TreeRel (Induced (fun k => f (c + k)) (fun k => g (c' + k)))
      (fillWith f s c).1 (fillWith g s c').1 := by
  rw [fillWith_eq, fillWith_eq]
  exact treeRel_map _ _ _

example : TreeRel (Induced (fun k => 10 + k) (fun k => 20 + k))
    (fillWith (fun k => 10 + k) (.node [] .hole (.node [] (.given "g".toList) .hole)) 0).1
    (fillWith (fun k => 20 + k) (.node [] .hole (.node [] (.given "g".toList) .hole)) 0).1 := by
  simpa using renaming_class (fun k => 10 + k) (fun k => 20 + k) (.node [] .hole (.node [] (.given "g".toList) .hole)) 0 0

/-- the relation is not vacuous: outputs of different inputs are not related -/
theorem treeRel_distinguishes :
    ¬ TreeRel (Induced (id : Nat → Nat) id) (fill (.given "a".toList) 0).1 (fill (.given "b".toList) 0).1 := by
  -- related `given` leaves carry the same id
  have inv : ∀ g g' : Str, TreeRel (Induced (id : Nat → Nat) id) (.given g) (.given g') → g = g' := by
    intro g g' h; cases h; rfl
  exact fun h => absurd (inv _ _ h) (by decide +kernel)

theorem canon_fillWith_any {I : Type} [DecidableEq I] (f : Nat → I) (hf : Injective f) (s : Shape) (c : Nat) :
    canon (fillWith f s c).1 = (fill s 0).1 := by
  rw [fillWith_eq, canon_map _ (shift_injective f hf c), canon_fill]

/-- two runs with different injective id streams have the same canonical output, equal
to the counter run: comparing canonical forms (as the check does) decides the renaming class -/
theorem canon_run_independent {I : Type} [DecidableEq I] (f : Nat → I) (hf : Injective f) (s : Shape) :
    canon (fillWith f s 0).1 = (fill s 0).1 :=
  canon_fillWith_any f hf s 0

/-- injectivity is forced: a repeating stream is canonicalised differently -/
theorem canon_needs_injective :
    canon (fillWith (fun _ => (7 : Nat)) (.node [] .hole .hole) 0).1 ≠ (fill (.node [] .hole .hole) 0).1 := by
  decide +kernel

/-! ## (d) UUIDDict: `validate` is idempotent -/

/-- `generate_missing_uuids` twice = once: the second pass changes nothing and draws no id -/
theorem generate_idem (d : PyDict) (c c' : Nat) :
    generateMissing (generateMissing d c).1 c' = ((generateMissing d c).1, c') :=
  generateMissing_of_allTruthy _ _ (generateMissing_allTruthy d c)

/-- recording a reference again after `generate` is a no-op when it is consistent with what is
recorded (blank, or the recorded uuid itself) -/
theorem record_after_generate_noop (d : PyDict) (n : Str) (u : Option Str)
    (ht : allTruthy d = true) (hn : n ∈ keys d) (hc : truthy u = false ∨ u = d.get n) :
    recordUuid d n u = .ok d := by
  have := truthy_get_of_mem d n ht hn
  unfold recordUuid
  simp only [this, if_true]
  rcases hc with hc | hc
  · simp [hc]
  · simp [hc]

example : recordUuid [("g".toList, some "u1".toList)] "g".toList none = .ok [("g".toList, some "u1".toList)] :=
  record_after_generate_noop _ _ _ (by decide +kernel) (by decide +kernel) (Or.inl rfl)

/-- consistency is forced: a different uuid for a recorded name is an error, not a no-op -/
theorem record_needs_consistent :
    recordUuid [("g".toList, some "u1".toList)] "g".toList (some "u2".toList) = .error "multiple uuids".toList := by
  rfl

theorem recordAll_assigned (d : PyDict) (refs : List (Str × Option Str))
    (ht : allTruthy d = true) (hk : ∀ r, r ∈ refs → r.1 ∈ keys d) :
    recordAll d (assign d refs) = .ok d := by
  induction refs with
  | nil => simp [assign, recordAll]
  | cons r rs ih =>
    have h1 := record_after_generate_noop d r.1 (d.get r.1) ht (hk r (by simp)) (Or.inr rfl)
    have h2 := ih (fun r' hr' => hk r' (by simp [hr']))
    simp only [assign, List.map_cons, recordAll, h1] at h2 ⊢
    exact h2

theorem validate_ok {d d' : PyDict} {refs refs' : List (Str × Option Str)} {c c' : Nat}
    (h : validate d refs c = .ok (d', refs', c')) :
    ∃ d1, recordAll d refs = .ok d1 ∧ d' = (generateMissing d1 c).1 ∧ refs' = assign d' refs := by
  unfold validate at h
  split at h
  · cases h
  · next d1 h1 => cases h; exact ⟨d1, h1, rfl, rfl⟩

/-- the second `validate()` changes nothing: same dictionary, same assigned references, no id
drawn — so `render(); render()` and `render(); to_rows()` see the same object state -/
theorem validate_idem (d d' : PyDict) (refs refs' : List (Str × Option Str)) (c c' c2 : Nat)
    (h : validate d refs c = .ok (d', refs', c')) :
    validate d' refs' c2 = .ok (d', refs', c2) := by
  obtain ⟨d1, h1, rfl, rfl⟩ := validate_ok h
  have ht := generateMissing_allTruthy d1 c
  have hkeys : ∀ r, r ∈ refs → r.1 ∈ keys (generateMissing d1 c).1 := by
    intro r hr
    rw [generateMissing_keys]
    exact (recordAll_mem_keys_iff h1).2 (.inr (List.mem_map_of_mem hr))
  unfold validate
  rw [recordAll_assigned _ refs ht hkeys]
  simp only [generateMissing_of_allTruthy _ c2 ht, assign_idem]

example : validate [("f".toList, none)] [("f".toList, none), ("g".toList, some "u".toList)] 0
    = .ok ([("f".toList, some "#0".toList), ("g".toList, some "u".toList)],
           [("f".toList, some "#0".toList), ("g".toList, some "u".toList)], 1) := by rfl

/-! ### render / to_rows commute exactly when every reference carries its uuid

`to_rows` exports the uuid of a group / flow reference as `obj_id`; `render` = `validate` then a
pure function.  So `to_rows` before and after `render` agree iff `validate` leaves the references
as they are.  The hypothesis forced by the proof is the trigger of known finding F-C13-a. -/

/-- `to_rows(); render(); to_rows()` — the export sees the same references before and after,
PROVIDED every reference carries a uuid in the input -/
theorem render_toRows_commute (d d' : PyDict) (refs refs' : List (Str × Option Str)) (c c' : Nat)
    (h : validate d refs c = .ok (d', refs', c')) (hall : ∀ r, r ∈ refs → truthy r.2 = true) :
    refs' = refs := by
  obtain ⟨d1, h1, rfl, rfl⟩ := validate_ok h
  refine map_eq_self fun r hr => ?_
  have e1 : d1.get r.1 = r.2 := by rw [get_eq, (recordAll_truthy_iff h1 (hall r hr)).2 (.inr hr)]; rfl
  rw [generateMissing_keeps d1 c r.1 (by rw [e1]; exact hall r hr), e1]

example : validate [] [("g".toList, some "u".toList)] 0 = .ok ([("g".toList, some "u".toList)], [("g".toList, some "u".toList)], 0) := by rfl

/-- the hypothesis is forced (known finding F-C13-a): a reference without uuid comes back from
`render` with an invented one, which the next `to_rows` exports -/
theorem render_toRows_commute_needs_given :
    validate [] [("g".toList, none)] 0 = .ok ([("g".toList, some "#0".toList)], [("g".toList, some "#0".toList)], 1) := by rfl

/-! ## (e) export scratch state (thin: the DFS is an arbitrary function) -/

/-- `to_rows` twice gives the same rows, whatever the DFS computes, because the scratch state is
reset at entry and the nodes are not written -/
theorem toRows_idem {N S : Type} (empty : S) (dfs : N → S → S) (fl : Flow N S) :
    (toRows empty dfs (toRows empty dfs fl).2).1 = (toRows empty dfs fl).1 := by
  simp [toRows]

/-- `to_rows` gives the same rows whatever an earlier export (or anything else) left in the scratch attributes -/
theorem toRows_scratch_free {N S : Type} (empty : S) (dfs : N → S → S) (fl : Flow N S) (junk : S) :
    (toRows empty dfs { fl with scratch := junk }).1 = (toRows empty dfs fl).1 := by
  simp [toRows]

/-- the reset is what carries it: without it a DFS that accumulates returns more the second time -/
theorem toRows_needs_clear :
    (toRowsNoClear (fun (n : Nat) (s : List Nat) => s ++ [n]) (toRowsNoClear (fun n s => s ++ [n]) ⟨1, []⟩).2).1
      ≠ (toRowsNoClear (fun (n : Nat) (s : List Nat) => s ++ [n]) ⟨1, []⟩).1 := by decide +kernel

/-! ## T1: the behaviour of the source the model stands for -/

/-- T1 (`harness/tables/t13_determinism.py`, behaviour probes re-run on every check): `add` grows and
`pop` restores exactly the two observables of the model's stack state (a set: compared up to order);
entering a `logging_context` block pushes one frame, leaving it pops one, also when it is left by an
exception, which is not swallowed; `to_rows` gives the same rows whatever junk its scratch attributes
hold at entry and empties the row models of every node. -/
theorem tables_agree :
    Canon.sameSet Gen.loggerAddAppends stackFields ∧ Canon.sameSet Gen.loggerPopPops stackFields ∧
    Gen.loggerEnterAdds = 1 ∧ Gen.loggerExitPops = 1 ∧ Gen.loggerExitConditionalPops = 0 ∧
    Gen.loggerExitSwallows = 0 ∧
    Gen.toRowsScratchReset = true ∧ Gen.toRowsClearsRowModels = 1 := by
  -- string literals spelt as character lists before evaluation, as in `C05.tables_agree`
  simp only [stackFields]
  repeat rw [String.toList_ofList]
  decide +kernel

/-! ## What is NOT proved (kept visible)

The property is about the REAL process: every API call answers as a function of its arguments, up
to the renaming class, whatever the process did before — including hash randomisation, import-time
side effects and `uuid4` entropy.  Those are runtime facts no Lean model exhibits.  `C13_full` is
that statement as a predicate of an arbitrary process (state space `S`, transition `api`); it is
proved below for the MODEL process, whose cross-call state is exactly {logging stacks, id counter}
(`C13_model_partial`).  That the real process has no other cross-call state is what the
global-state audit and the history differential of `harness/props/c13.py` decide per explored
history. -/

/-- a process answers history-free: the observation of a call after any history of other calls is
equivalent to its observation in the initial state -/
def C13_full {S Call Out : Type} (api : Call → S → Out × S) (init : S) (eqv : Out → Out → Prop) : Prop :=
  ∀ (hist : List Call) (c : Call),
    eqv (api c (hist.foldl (fun s h => (api h s).2) init)).1 (api c init).1

/-- not a triviality: a process that caches its first argument in a global is not history-free -/
theorem C13_full_fails_for_a_cache :
    ¬ C13_full (fun (c : Nat) (s : Option Nat) => (s.getD c, some (s.getD c))) none Eq := by
  intro h
  have := h [1] 2
  simp at this

/-- abstract process state: logger, id counter -/
structure Proc where
  log : LState
  ctr : Nat

/-- an API call in the model: a logger program plus an id-consuming program on the same input -/
structure Call where
  prog : Prog
  shape : Shape

/-- observation of a call: outcome, output tree, records emitted (with processing stacks) -/
abbrev Obs := Except Err Unit × Tree Str × List (List Str × Str)

def Call.run (f : Nat → Str) (c : Call) (p : Proc) : Obs × Proc :=
  let r := exec c.prog p.log
  let t := fillWith f c.shape p.ctr
  ((r.1, t.1, (r.2.seen).drop p.log.seen.length), ⟨r.2, t.2⟩)

def runCalls (f : Nat → Str) (cs : List Call) (p : Proc) : Proc :=
  cs.foldl (fun s c => (c.run f s).2) p

/-- same outcome, same records, outputs in the same renaming class (equal canonical forms) -/
def ObsEquiv (a b : Obs) : Prop := a.1 = b.1 ∧ a.2.2 = b.2.2 ∧ canon a.2.1 = canon b.2.1

theorem runCalls_log_stack (f : Nat → Str) (hist : List Call) (p : Proc) :
    (runCalls f hist p).log.stack = p.log.stack :=
  foldl_preserves _ (fun p => p.log.stack) (fun p c => by simp [Call.run, exec_den]) hist p

/-- the modelled part of C13, for ALL histories, calls, initial states and injective id sources:
what the observed call raises, the records it logs (with their processing stacks) and its output up
to the renaming of invented ids are the same in a used process as in a fresh one. -/
theorem C13_model_partial (f : Nat → Str) (hf : Injective f) (p : Proc) :
    C13_full (fun c s => Call.run f c s) p ObsEquiv := by
  intro hist c
  have hs : (runCalls f hist p).log.stack = p.log.stack := runCalls_log_stack f hist p
  show ObsEquiv (c.run f (runCalls f hist p)).1 (c.run f p).1
  refine ⟨?_, ?_, ?_⟩
  · simp [Call.run, exec_den, hs]
  · simp [Call.run, exec_den, hs]
  · simp only [Call.run]
    rw [canon_fillWith_any f hf, canon_fillWith_any f hf]

example : C13_full (fun c s => Call.run (fun k => List.replicate k 'a') c s) ⟨LState.empty, 0⟩ ObsEquiv :=
  C13_model_partial _ (by intro a b h; simpa using congrArg List.length h) _

end Rpft.Props.C13
