/-
C03 — loops, blocks, include_if and inserted blocks are pure sugar over plain rows.

(1) Equivalence "for all contact input sequences" between the flow compiled from a sugared
sheet and the flow compiled from its desugared twin is decided per pair by the verified
certificate checker at the FULL observation level (category names and result names
included): `sugar_equiv_of_cert`.
(2) The block structure of the parser and the desugaring are modelled in `Rpft/Sugar.lean`
(row instantiation and the NodeGroup machinery are abstract parameters).  `events_desugar`:
for EVERY sheet tree, context and interface satisfying `Laws`, the parser performs exactly
the same sequence of row / open-group / close-group events on the sheet and on its desugared
form, and fails with the same error when it fails — loops unrolled in order with the loop and
index variables bound, rows and blocks with a false include_if dropped without their contents
being instantiated, nesting to any depth.
(3) The block clause ("an edge that names a block leaves from every still-unconnected ordinary
exit of the block but never from a hard exit") on the compiler model (`Rpft/Compile.lean`, tied to
the real parser in C01), for ALL machine states: node level `block_edge_exits`; group level
`connect_loose_group`, `block_edge_group` (frame + exactly the nodes of `Compile.Reach` are
connected), `block_edge_frame`, `block_edge_connects_reach`; `block_edge_inside` (only nodes of the
block's subtree when no begin row leaks) and the kernel-checked witness
`block_edge_reaches_outside` for the open finding F-C03-a (`Reach` of a block leaves the block
through the parents of the begin row's `no_op` group).
(4) End to end on the models, `compile_desugar`: the parser's events fed to the compiler model give the SAME output
for a sheet and for its desugared form.  At the end a toy interface: `Laws` can be met (`toy_laws`).
-/
import Rpft.Props.C02_Cert
import Rpft.Lemmas.Sugar
import Rpft.Props.C01

/-! ### the subtree of a block (compiler model): what the block reaches lies in it unless a begin row leaks -/

namespace Rpft.Compile

/-- every `no_op` group below `b` that has no router node has all its parents below `b` -/
def NoParentLeak (gs : Array Grp) (b : Nat) : Prop :=
  ∀ (x : Nat) (ps : List (Nat × Cond)) (p : Nat × Cond), Desc (kidsF gs) b x →
    gs[x]? = some (.noop ps none) → p ∈ ps → Desc (kidsF gs) b p.1

/-- node `i` is held by a group of the subtree of `b` -/
def InSubtree (gs : Array Grp) (b i : Nat) : Prop :=
  ∃ (y : Nat) (grp : Grp), Desc (kidsF gs) b y ∧ gs[y]? = some grp ∧ i ∈ held grp

theorem reach_in_subtree {gs : Array Grp} {b : Nat} (h : NoParentLeak gs b) :
    ∀ {x i : Nat}, Reach gs x i → Desc (kidsF gs) b x → InSubtree gs b i := by
  intro x i r
  induction r with
  | @row g nodes t i h1 h2 =>
    intro hd
    exact ⟨g, _, hd, h1, by simp only [held]; exact List.mem_of_getLast? h2⟩
  | @router g ps i h1 =>
    intro hd
    exact ⟨g, _, hd, h1, by simp [held]⟩
  | @parent g ps p i h1 hp _ ih =>
    intro hd
    exact ih (h g ps p hd h1 hp)
  | @child g ch c i h1 hc _ ih =>
    intro hd
    exact ih (hd.snoc (by simp [kidsF, h1, kids]) hc)

end Rpft.Compile

namespace Rpft.Props.C03
open Rpft Rpft.Bisim Rpft.Flow Rpft.Sugar

/-- the observation level of C03: everything (operands, tests, arguments, order, category
names, timeouts, result names, action content) -/
def fullLvl : ObsLevel := ⟨true, true⟩

theorem sugar_equiv_of_cert (sugared desugared : Flow.Flow) (R : List (St × St))
    (h : certOk fullLvl sugared desugared R = true) :
    ∀ (env : Nat → Nat) (n : Nat), trace fullLvl sugared env n = trace fullLvl desugared env n :=
  Props.C02.flows_equiv_of_cert fullLvl sugared desugared R h

variable {Raw Inst Ctx Val Hdr Err : Type}

/-- **Desugaring preserves what the parser does**: if the desugared form of `its` in context
`ctx` is `its'`, then parsing `its` in `ctx` succeeds with some event sequence `es`, and
parsing `its'` gives the same `es` in ANY context (the desugared rows are literal). -/
theorem events_desugar (I : Iface Raw Inst Ctx Val Hdr Err) (L : Laws I)
    (its its' : List (Item Raw)) (ctx : Ctx) (h : dsItems I ctx its = .ok its') :
    ∃ es, evItems I ctx its = .ok es ∧ ∀ ctx', evItems I ctx' its' = .ok es := by
  have := agree_items I L its ctx
  unfold Agree at this
  simpa [h] using this

/-- …and when desugaring fails (a row cannot be instantiated, a loop has no variable), parsing
the sugared sheet fails with the same error. -/
theorem errors_desugar (I : Iface Raw Inst Ctx Val Hdr Err) (L : Laws I)
    (its : List (Item Raw)) (ctx : Ctx) (e : Err) (h : dsItems I ctx its = .error e) :
    evItems I ctx its = .error e := by
  have := agree_items I L its ctx
  unfold Agree at this
  simpa [h] using this

/-- A block whose include_if is false contributes nothing, whatever it contains: its contents
are never instantiated (replace them by anything). -/
theorem omitted_block_unevaluated (I : Iface Raw Inst Ctx Val Hdr Err) (ctx : Ctx) (b : Raw) (i : Inst)
    (body body' : List (Item Raw)) (hi : I.inst ctx b = .ok i) (hinc : I.includeIf i = false) :
    evItem I ctx (.block b body) = .ok [] ∧ evItem I ctx (.block b body') = .ok [] ∧
    evItem I ctx (.forLoop b body) = .ok [] := by
  simp [evItem, hi, hinc]

/-- A loop over the empty list is an empty group: it opens and closes, nothing in between,
and its body is not instantiated. -/
theorem zero_iterations (I : Iface Raw Inst Ctx Val Hdr Err) (ctx : Ctx) (b : Raw) (i : Inst)
    (body : List (Item Raw)) (v : Str) (idx : Option Str)
    (hi : I.inst ctx b = .ok i) (hinc : I.includeIf i = true) (hv : I.loopVars i = some (v, idx))
    (h0 : I.iterList i = []) :
    evItem I ctx (.forLoop b body) = .ok [.open_ (I.hdr i), .close (I.hdr i)] := by
  simp [evItem, hi, hinc, hv, h0, sequence]

/-- Loop variables are gone after `end_for`: the items after a loop are parsed in the context
before the loop (the loop's bindings are visible to its body only). -/
theorem for_scope (I : Iface Raw Inst Ctx Val Hdr Err) (ctx : Ctx) (b : Raw)
    (body rest : List (Item Raw)) (a r : List (Ev Inst Hdr))
    (ha : evItem I ctx (.forLoop b body) = .ok a) (hr : evItems I ctx rest = .ok r) :
    evItems I ctx (.forLoop b body :: rest) = .ok (a ++ r) := by
  rw [evItems_cons]; simp [ha, hr]

/-- A begin_for without a loop variable is an error (when the row is included). -/
theorem loop_without_variable (I : Iface Raw Inst Ctx Val Hdr Err) (ctx : Ctx) (b : Raw) (i : Inst)
    (body : List (Item Raw)) (hi : I.inst ctx b = .ok i) (hinc : I.includeIf i = true)
    (hv : I.loopVars i = none) :
    evItem I ctx (.forLoop b body) = .error I.noVarErr := by
  simp [evItem, hi, hinc, hv]

/-! ### the block clause on the compiler model (node level) -/

/-- **An edge that names a block leaves from the still-unconnected ordinary exits, never from a
hard exit** — at the level of one node of the compiler model (`connect_loose_exits` of the node's
exits, reached from `add_exit` of a block through `NodeGroup.connect_loose_exits`): the exits that
lead nowhere are re-targeted to the edge's destination, every other exit keeps its destination
(a hard exit stays a hard exit, an exit into a node stays there), and number and order of the exits
are unchanged.  Which nodes of the block are visited is the group recursion of `Compile.connectLoose`
(tied to the real parser by the exact comparison of C01; decided on the real code by the
with/without-edge oracle). -/
theorem block_edge_exits (n : Compile.NodeM) (d : Compile.Dest) :
    (n.connectLoose d).exitDests = n.exitDests.map (Compile.fillLoose d) ∧
    Compile.fillLoose d .hard = .hard ∧ (∀ u, Compile.fillLoose d (.node u) = .node u) ∧
    Compile.fillLoose d .none = d :=
  ⟨Compile.connectLoose_exitDests n d, Compile.fillLoose_hard d, Compile.fillLoose_node d,
   Compile.fillLoose_none d⟩

/-- …and afterwards the node has no loose exit left (so a second edge naming the block finds
"no loose exit to connect to", as the real parser reports). -/
theorem block_edge_consumes_loose (n : Compile.NodeM) (d : Compile.Dest) (hd : d ≠ .none) :
    (n.connectLoose d).hasLoose = false := Compile.connectLoose_no_loose n d hd

/-! ### the block clause on the compiler model (group level) -/

/-- **Group recursion of `connect_loose_exits`** (`Compile.connectLoose`), for ALL machine states,
groups, destinations and fuels: when it succeeds (running out of fuel is a failure of the model,
so a successful run had enough), nothing but the contents of the node arena changes, and an arena
node is replaced by `n.connectLoose d` exactly when the recursion reaches it (`Compile.Reach`: the
last node of a row group; the router node of a `no_op` group or else what its parents reach; what
the children of a block reach) — every other node is untouched. -/
theorem connect_loose_group (fuel g : Nat) (d : Compile.Dest) (s s' : Compile.St)
    (hr : (Compile.connectLoose fuel g d).run s = .ok ((), s')) :
    s' = { s with nodes := s'.nodes } ∧ s'.nodes.size = s.nodes.size ∧
    ∀ (i : Nat) (n : Compile.NodeM), s.nodes[i]? = some n →
      (Compile.Reach s.groups g i → s'.nodes[i]? = some (n.connectLoose d)) ∧
      (¬ Compile.Reach s.groups g i → s'.nodes[i]? = some n) := by
  have := Compile.wp_of_run (Compile.connectLoose_conn d fuel g s) hr
  exact ⟨this.1.1, this.1.2, this.2⟩

/-- **An edge that names a block, group level** (`add_exit` of a block group), for ALL machine
states: it is accepted only with a blank condition and when some reached node has an exit that
leads nowhere; then groups, stack, row ids, node names and the identifier counter are unchanged,
the arena keeps its size, and a node is replaced by `n.connectLoose d` exactly when it is reached
from the block — nothing outside `Reach` changes.  (A child without loose exit is skipped by the
real code; connecting it would not change it.) -/
theorem block_edge_group (fuel g : Nat) (d : Compile.Dest) (c : Compile.Cond) (s s' : Compile.St)
    (children : List Nat) (hg : s.groups[g]? = some (.block children))
    (hr : (Compile.addExit fuel g d c).run s = .ok ((), s')) :
    c.blank = true ∧
    (s'.groups = s.groups ∧ s'.stack = s.stack ∧ s'.rowIds = s.rowIds ∧ s'.names = s.names ∧
      s'.next = s.next ∧ s'.nodes.size = s.nodes.size) ∧
    (∀ (i : Nat) (n : Compile.NodeM), s.nodes[i]? = some n →
      (Compile.Reach s.groups g i → s'.nodes[i]? = some (n.connectLoose d)) ∧
      (¬ Compile.Reach s.groups g i → s'.nodes[i]? = some n)) ∧
    (∃ (i : Nat) (n : Compile.NodeM), Compile.Reach s.groups g i ∧ s.nodes[i]? = some n ∧ n.hasLoose = true) := by
  obtain ⟨hc, hconn, hl⟩ := Compile.wp_of_run (Compile.addExit_block_conn hg) hr
  refine ⟨hc, ?_, hconn.2, hl⟩
  have e := hconn.1.1
  refine ⟨?_, ?_, ?_, ?_, ?_, hconn.1.2⟩ <;> rw [e]

/-- **Frame**: after an edge naming a block every arena node has the same identifier, actions and
router (operand, cases, categories, timeout) and the same exits in the same order as before; an
exit that led somewhere — a hard exit, an exit into a node — keeps its destination, everywhere in
the arena; only exits that led nowhere may now lead to `d`. -/
theorem block_edge_frame (fuel g : Nat) (d : Compile.Dest) (c : Compile.Cond) (s s' : Compile.St)
    (children : List Nat) (hg : s.groups[g]? = some (.block children))
    (hr : (Compile.addExit fuel g d c).run s = .ok ((), s')) :
    ∀ (i : Nat) (n : Compile.NodeM), s.nodes[i]? = some n → ∃ n', s'.nodes[i]? = some n' ∧
      (Compile.renderNode n').uuid = (Compile.renderNode n).uuid ∧
      (Compile.renderNode n').actions = (Compile.renderNode n).actions ∧
      (Compile.renderNode n').router = (Compile.renderNode n).router ∧
      (Compile.renderNode n').exits.map (·.uuid) = (Compile.renderNode n).exits.map (·.uuid) ∧
      (n'.exitDests = n.exitDests ∨ n'.exitDests = n.exitDests.map (Compile.fillLoose d)) ∧
      (∀ (k : Nat) (x : Compile.Dest), n.exitDests[k]? = some x → x ≠ .none → n'.exitDests[k]? = some x) := by
  obtain ⟨_, _, hn, _⟩ := block_edge_group fuel g d c s s' children hg hr
  intro i n hi
  by_cases hreach : Compile.Reach s.groups g i
  · obtain ⟨h1, h2, h3, h4⟩ := Compile.connectLoose_eq n d ▸ Compile.renderNode_mapDests n _
    refine ⟨_, (hn i n hi).1 hreach, h1, h2, h3, h4, .inr (Compile.connectLoose_exitDests n d), ?_⟩
    intro k x hk hx
    rw [Compile.connectLoose_exitDests, List.getElem?_map, hk, Option.map_some]
    cases x with
    | none => exact absurd rfl hx
    | hard => rw [Compile.fillLoose_hard]
    | node u => rw [Compile.fillLoose_node]
  · exact ⟨n, (hn i n hi).2 hreach, rfl, rfl, rfl, rfl, .inl rfl, fun k x hk _ => hk⟩

/-- **Every still-unconnected exit of every reached node now leads to the edge's destination**
(when the edge has one), hard exits and connected exits as before; afterwards the node has no
loose exit left. -/
theorem block_edge_connects_reach (fuel g : Nat) (d : Compile.Dest) (c : Compile.Cond) (s s' : Compile.St)
    (children : List Nat) (hg : s.groups[g]? = some (.block children))
    (hr : (Compile.addExit fuel g d c).run s = .ok ((), s')) (hd : d ≠ .none) :
    ∀ (i : Nat) (n : Compile.NodeM), Compile.Reach s.groups g i → s.nodes[i]? = some n →
      ∃ n', s'.nodes[i]? = some n' ∧ n'.exitDests = n.exitDests.map (Compile.fillLoose d) ∧
        n'.hasLoose = false := by
  obtain ⟨_, _, hn, _⟩ := block_edge_group fuel g d c s s' children hg hr
  intro i n hreach hi
  exact ⟨_, (hn i n hi).1 hreach, Compile.connectLoose_exitDests n d, Compile.connectLoose_no_loose n d hd⟩

/-- **Only nodes of the block are touched — when no begin row leaks**: if every `no_op` group in
the block's subtree that has no router node has all its parents inside the subtree
(`Compile.NoParentLeak`), every node reached from the block — hence every node an edge naming the
block changes — is held by a group of the block's subtree. -/
theorem block_edge_inside (gs : Array Compile.Grp) (b : Nat) (h : Compile.NoParentLeak gs b)
    (i : Nat) (hr : Compile.Reach gs b i) : Compile.InSubtree gs b i :=
  Compile.reach_in_subtree h hr (.refl b)

/-- a sufficient, decidable condition: no router-less `no_op` group of the arena has a parent -/
def noNoopParents (gs : Array Compile.Grp) : Bool :=
  gs.toList.all fun g => match g with
    | .noop (_ :: _) none => false
    | _ => true

theorem noParentLeak_of_noNoopParents (gs : Array Compile.Grp) (b : Nat) (h : noNoopParents gs = true) :
    Compile.NoParentLeak gs b := by
  intro x ps p _ hx hp
  have hm : Compile.Grp.noop ps none ∈ gs.toList := by
    rw [Array.mem_toList_iff]
    exact Array.mem_of_getElem? hx
  unfold noNoopParents at h
  rw [List.all_eq_true] at h
  have := h _ hm
  cases ps with
  | nil => cases hp
  | cons q qs => simp at this

/-! #### finding F-C03-a: the begin row, kept as a `no_op` group INSIDE the block, has the row that
leads into the block as its parent — so `Reach` of the block leaves the block -/

/-- `w` waits for a response; the block `B` is entered on the answer "yes" and contains the row `x` -/
def leakPrefix : List Compile.Event :=
  [ .row (C01.mkRow "w" "wait_for_response" [C01.edgeFrom "start"]),
    .openGroup [C01.edgeFrom "w" "yes"] false,
    .row (C01.mkRow "x" "send_message" [C01.edgeFrom ""] (some "in block")),
    .closeGroup "B".toList ]

/-- the row after the block, with an edge that names the block -/
def leakRow : Compile.Event :=
  .row (C01.mkRow "R" "send_message" [C01.edgeFrom "B"] (some "after the block"))

/-- the machine state after the events (when they succeed) -/
def runEvents (noArgs testTypes : List Str) (evs : List Compile.Event) : Option Compile.St :=
  match (Compile.steps evs).run (Compile.initSt noArgs testTypes) with
  | .ok (_, s) => some s
  | .error _ => none

theorem runEvents_eq_some {noArgs testTypes : List Str} {evs : List Compile.Event} {s : Compile.St} :
    runEvents noArgs testTypes evs = some s ↔
      (Compile.steps evs).run (Compile.initSt noArgs testTypes) = .ok ((), s) := by
  unfold runEvents
  split <;> simp_all

/-- the state before the row after the block, evaluated once: the groups around the block, and
that the machine accepts an edge naming the block there -/
theorem leakPrefix_state : ∃ a, (Compile.steps leakPrefix).run (Compile.initSt [] C01.exTests) = .ok a ∧
    a.2.groups[2]? = some (.block [3, 4]) ∧
    a.2.groups[3]? = some (.noop [(1, (C01.edgeFrom "w" "yes").cond)] none) ∧
    a.2.groups[1]? = some (.row [0] "wait_for_response".toList) ∧
    a.2.groups[4]? = some (.row [1] "send_message".toList) ∧
    C01.succeedsWith ((Compile.addExit (2 * a.2.groups.size + 8) 2 (.node "R".toList) C01.blankCond).run a.2)
      (fun _ => True) = true :=
  C01.of_succeedsWith (by decide +kernel)

/-- **F-C03-a, kernel-checked on the model** (the real code behaves the same, tied in C01): in the
state reached before the row after the block, group 2 is the block (children: the begin row's
`no_op` group 3 and the row group 4 of `x`), group 3 has the row group 1 of `w` — OUTSIDE the block —
as its parent, so node 0 (the router of `w`) is reached from the block although no group of the
block's subtree holds it; and the compiled flow shows it: without the row `R` the default exit of
`w` leads nowhere, with it that exit leads to `R`'s node. -/
theorem block_edge_reaches_outside :
    ∃ s, runEvents [] C01.exTests leakPrefix = some s ∧
      s.groups[2]? = some (.block [3, 4]) ∧ Compile.Reach s.groups 2 0 ∧
      ¬ Compile.InSubtree s.groups 2 0 ∧ ¬ Compile.NoParentLeak s.groups 2 ∧
      (Compile.compile [] C01.exTests leakPrefix).toOption.map
          (fun o => (Compile.renderOut o).nodes.map (fun n => n.exits.map (·.dest))) =
        some [[some "~5".toList, none], [none]] ∧
      (Compile.compile [] C01.exTests (leakPrefix ++ [leakRow])).toOption.map
          (fun o => (Compile.renderOut o).nodes.map (fun n => n.exits.map (·.dest))) =
        some [[some "~5".toList, some "~12".toList], [some "~12".toList], [none]] := by
  obtain ⟨⟨_, s⟩, hs, h2, h3, h1, h4, _⟩ := leakPrefix_state
  have hreach : Compile.Reach s.groups 2 0 :=
    .child h2 (by simp) (.parent h3 (List.mem_singleton.mpr rfl) (.row h1 rfl))
  have hb := Compile.final_binv hs
  have hnot : ¬ Compile.InSubtree s.groups 2 0 := by
    rintro ⟨y, grp, hd, hy, hm⟩
    have : y = 1 := hb.n.huniq y 1 (Compile.held grp) [0] 0 (by simp [Compile.heldF, hy])
      (by simp [Compile.heldF, h1, Compile.held]) hm (by simp)
    subst this
    have := hd.le hb.g
    omega
  refine ⟨s, runEvents_eq_some.mpr hs, h2, hreach, hnot, fun hnl => hnot (block_edge_inside _ _ hnl 0 hreach), ?_⟩
  decide +kernel

/-- non-vacuity of `block_edge_group` / `block_edge_frame` / `block_edge_connects_reach`: in the
state of `block_edge_reaches_outside` the edge naming the block (group 2) is accepted with the
machine's own fuel -/
example : ∃ s s', runEvents [] C01.exTests leakPrefix = some s ∧
    s.groups[2]? = some (.block [3, 4]) ∧
    (Compile.addExit (2 * s.groups.size + 8) 2 (.node "R".toList) C01.blankCond).run s = .ok ((), s') := by
  obtain ⟨⟨_, s⟩, hs, h2, _, _, _, ha⟩ := leakPrefix_state
  obtain ⟨⟨_, s'⟩, hs', _⟩ := C01.of_succeedsWith ha
  exact ⟨s, s', runEvents_eq_some.mpr hs, h2, hs'⟩

/-- a block that is not entered through an edge: nothing leaks, `block_edge_inside` applies -/
def tightPrefix : List Compile.Event :=
  [ .openGroup [] true,
    .row (C01.mkRow "x" "send_message" [C01.edgeFrom ""] (some "in block")),
    .closeGroup "B".toList ]

example : ∃ s, runEvents [] C01.exTests tightPrefix = some s ∧ s.groups[1]? = some (.block [2]) ∧
    Compile.NoParentLeak s.groups 1 ∧ Compile.Reach s.groups 1 0 := by
  obtain ⟨⟨_, s⟩, hs, h1, h2, h3⟩ := C01.of_succeedsWith
    (x := (Compile.steps tightPrefix).run (Compile.initSt [] C01.exTests))
    (p := fun a => a.2.groups[1]? = some (.block [2]) ∧
      a.2.groups[2]? = some (.row [0] "send_message".toList) ∧ noNoopParents a.2.groups = true)
    (by decide +kernel)
  exact ⟨s, runEvents_eq_some.mpr hs, h1, noParentLeak_of_noNoopParents _ _ h3,
    .child h1 (by simp) (.row h2 rfl)⟩

/-! ### end to end on the models: parser structure ∘ compiler -/

/-- what the compiler model reads of a begin row -/
structure BeginHdr where
  edges : List Compile.Edge
  starting : Bool
  rowId : Str
  deriving DecidableEq, Repr

def toCompileEvent : Ev Compile.Row BeginHdr → Compile.Event
  | .row r => .row r
  | .open_ h => .openGroup h.edges h.starting
  | .close h => .closeGroup h.rowId

/-- the flow the models assign to a sheet tree in a context: parser events, then the compiler
machine (`Rpft/Compile.lean`, tied to the real FlowParser by exact comparison) -/
def compileSheet {Raw Ctx Val Err : Type} (I : Iface Raw Compile.Row Ctx Val BeginHdr Err)
    (noArgs testTypes : List Str) (ctx : Ctx) (its : List (Item Raw)) :
    Except Err (Except Compile.Err Compile.Out) :=
  match evItems I ctx its with
  | .error e => .error e
  | .ok es => .ok (Compile.compile noArgs testTypes (es.map toCompileEvent))

/-- **compile ∘ desugar = compile**: on the models, for every sheet tree, context and template
interface satisfying `Laws`, the sugared sheet and its desugared form compile to the SAME flow
(the same final machine output, identifier counter included) — not merely to equivalent ones. -/
theorem compile_desugar {Raw Ctx Val Err : Type} (I : Iface Raw Compile.Row Ctx Val BeginHdr Err)
    (L : Laws I) (noArgs testTypes : List Str) (its its' : List (Item Raw)) (ctx ctx' : Ctx)
    (h : dsItems I ctx its = .ok its') :
    compileSheet I noArgs testTypes ctx' its' = compileSheet I noArgs testTypes ctx its := by
  obtain ⟨es, h1, h2⟩ := events_desugar I L its its' ctx h
  simp [compileSheet, h1, h2 ctx']

/-! ### a concrete interface: non-vacuity of `Laws` and a worked unrolling -/

/-- toy raw rows: a number, optionally "plus the loop variable" -/
structure TRaw where
  base : Nat
  useVar : Bool
  incl : Bool
  loop : Option (List Nat)  -- a begin_for row: the list it iterates over
  deriving DecidableEq, Repr

structure TRow where
  text : Nat
  incl : Bool
  loop : Option (List Nat)
  deriving DecidableEq, Repr

def toy : Iface TRaw TRow (Option Nat) Nat Nat Unit :=
  { inst := fun ctx r => .ok { text := if r.useVar then r.base + ctx.getD 0 else r.base, incl := r.incl, loop := r.loop }
    includeIf := fun i => i.incl
    loopVars := fun i => if i.loop.isSome then some ("v".toList, none) else none
    iterList := fun i => i.loop.getD []
    bind := fun _ _ x => some x
    bindIdx := fun c _ _ => c
    hdr := fun i => i.text
    noVarErr := ()
    lit := fun i => { base := i.text, useVar := false, incl := i.incl, loop := i.loop }
    asBlock := fun i => { i with loop := none } }

theorem toy_laws : Laws toy := by
  refine ⟨?_, ?_, ?_⟩
  · intro ctx i; rfl
  · intro i; rfl
  · intro i h; exact h

def toySheet : List (Item TRaw) :=
  [.forLoop ⟨5, false, true, some [7, 8]⟩ [.row ⟨100, true, true, none⟩, .row ⟨2, false, false, none⟩]]

def toyEvents : List (Ev TRow Nat) :=
  [.open_ 5, .row ⟨107, true, none⟩, .row ⟨108, true, none⟩, .close 5]

/-- a loop over [7, 8] around two rows (one excluded) unrolls into a block of two literal rows,
and the parser performs the same events on the sheet and on its desugared form -/
example : (evItems toy none toySheet).toOption = some toyEvents := by decide

example : (dsItems toy none toySheet).toOption.bind (fun tw => (evItems toy (some 3) tw).toOption) =
    some toyEvents := by decide

end Rpft.Props.C03
