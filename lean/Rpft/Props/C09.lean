/-
C09 — The same data in different column layouts parses to the same row.

Property theorems and their witnesses (model: Rpft/RowParse.lean; lemmas: Rpft/Lemmas/RowStar, RowPerm,
RowLeaf, RowFlow, RowShort, RowRecord, RowEnc and the C07 development).
-/
import Rpft.Props.C07
import Rpft.Lemmas.RowPerm
import Rpft.Lemmas.RowShort
import Rpft.Lemmas.RowEnc
namespace Rpft.Props.C09
open Rpft Rpft.Row Rpft.Props.C07

/-! ### spread vs packed -/

theorem parse_eq_of_roundTrips {sch : Schema} {l₁ l₂ : Layout} {v : Val} {c₁ c₂ : Out}
    (r₁ : RoundTrip sch l₁ v) (r₂ : RoundTrip sch l₂ v)
    (hc₁ : unparseRow sch l₁ v = .ok c₁) (hc₂ : unparseRow sch l₂ v = .ok c₂) :
    parseRow sch c₁ = parseRow sch c₂ := by
  obtain ⟨d₁, e₁, p₁⟩ := r₁
  obtain ⟨d₂, e₂, p₂⟩ := r₂
  rw [hc₁] at e₁; rw [hc₂] at e₂
  cases e₁; cases e₂
  rw [p₁, p₂]

/-- **Layout independence (general)**: for every row model of the family `goodTop` (any
nesting, remapped headers), any two layouts that are `LayoutOk` for the value give rows that
parse equally — a list as `f.1, f.2, …` or one `f` cell, a sub-record as `f.a, f.b` or one
cell, list elements packed or spread one by one, at every depth.  Corollary of
`C07.parse_unparse`. -/
theorem layout_independent (sch : Schema) (l₁ l₂ : Layout) (v : Val) (c₁ c₂ : Out)
    (hg : goodTop sch.top = true) (hr : Representable sch.top v = true)
    (h₁ : LayoutOk sch l₁ v = true) (h₂ : LayoutOk sch l₂ v = true)
    (r₁ : RemapConsistent sch l₁ v = true) (r₂ : RemapConsistent sch l₂ v = true)
    (hc₁ : unparseRow sch l₁ v = .ok c₁) (hc₂ : unparseRow sch l₂ v = .ok c₂) :
    parseRow sch c₁ = parseRow sch c₂ :=
  parse_eq_of_roundTrips (parse_unparse sch l₁ v hg hr h₁ r₁) (parse_unparse sch l₂ v hg hr h₂ r₂) hc₁ hc₂

/-- layout independence for flow rows (`FlowRowModel` with its remapped headers); corollary of
`C07.flow_row_roundtrip` -/
theorem layout_independent_flow (l₁ l₂ : Layout) (kvs : List (Str × Val)) (c₁ c₂ : Out)
    (hr : Representable flowRowSchema.top (.model kvs) = true) (hm : flowMainOk kvs = true)
    (h₁ : LayoutOk flowRowSchema l₁ (.model kvs) = true)
    (h₂ : LayoutOk flowRowSchema l₂ (.model kvs) = true)
    (hc₁ : unparseRow flowRowSchema l₁ (.model kvs) = .ok c₁)
    (hc₂ : unparseRow flowRowSchema l₂ (.model kvs) = .ok c₂) :
    parseRow flowRowSchema c₁ = parseRow flowRowSchema c₂ :=
  parse_eq_of_roundTrips (flow_row_roundtrip l₁ kvs hr h₁ hm) (flow_row_roundtrip l₂ kvs hr h₂ hm) hc₁ hc₂

/-- non-vacuity: the deep example of C07 in two layouts gives two different rows (19 and 15
cells) that parse to the same value -/
example :
    (match unparseRow exDeepSch exDeepLays[0]! exDeepVal, unparseRow exDeepSch exDeepLays[2]! exDeepVal with
      | .ok c₁, .ok c₂ => c₁.length != c₂.length && (match parseRow exDeepSch c₁, parseRow exDeepSch c₂ with
        | .ok a, .ok b => a == b
        | _, _ => false)
      | _, _ => false) = true := by decide +kernel

/-- **Layout independence on the static family** (corollary of C07's `parse_unparse_partial`, with the
static `Admissible`): a list given as `f.1, f.2, …` or as one `f` cell, a sub-record given as
`f.a, f.b` or as one cell — per field independently — parse to the same row. -/
theorem layout_independent_partial (fs : List Field) (l₁ l₂ : Layout) (v : Val) (c₁ c₂ : Out)
    (hwf : wfFieldNames fs = true) (hfam : family fs = true)
    (hr : Representable (plainTop fs) v = true)
    (h₁ : Admissible { top := plainTop fs } l₁ = true) (h₂ : Admissible { top := plainTop fs } l₂ = true)
    (ha₁ : AnySpreadOk { top := plainTop fs } l₁ v = true)
    (ha₂ : AnySpreadOk { top := plainTop fs } l₂ v = true)
    (hc₁ : unparseRow { top := plainTop fs } l₁ v = .ok c₁)
    (hc₂ : unparseRow { top := plainTop fs } l₂ v = .ok c₂) :
    parseRow { top := plainTop fs } c₁ = parseRow { top := plainTop fs } c₂ :=
  parse_eq_of_roundTrips (parse_unparse_partial fs l₁ v hwf hfam hr h₁ ha₁)
    (parse_unparse_partial fs l₂ v hwf hfam hr h₂ ha₂) hc₁ hc₂

/-- non-vacuity: the example of C07 in two different layouts gives two different cell rows
that parse to the same value -/
example :
    (match unparseRow { top := plainTop exFam } {} exFamVal,
           unparseRow { top := plainTop exFam } { targets := ["xs".toList, "s".toList] } exFamVal with
      | .ok c₁, .ok c₂ => c₁.length != c₂.length
      | _, _ => false) = true := by decide +kernel

/-! ### `*` columns -/

/-- **Asterisk expansion**: a `*` column holding the list `[x₁ … xₙ]` stands for the `n`
entries `….1.… ↦ x₁, …, ….n.… ↦ xₙ` (every `*` replaced by the index) -/
theorem asterisk_expand (all : List (Str × ColVal)) (k : Str) (xs : List PV) :
    expandCol all (k, Sum.inr (.list xs)) =
      (enumFrom1 1 xs).map fun ie => (replace1 '*' (printNat ie.1) k, Sum.inr ie.2) := rfl

/-- **Asterisk broadcast**, for every schema and every row: a single value in a `*` column
is the same as the list of `n` copies of it, where `n` is the longest list among the `*`
columns with the same prefix (at least 1) -/
theorem asterisk_broadcast (pre post : List (Str × ColVal)) (k s : Str) :
    expandAll (pre ++ [(k, Sum.inr (.atom s))] ++ post) =
    expandAll (pre ++ [(k, Sum.inr (.list (List.replicate
      (starLen (starPrefix k) (pre ++ [(k, Sum.inr (.atom s))] ++ post)) (.atom s))))] ++ post) := by
  have hlen := fun pfx => (starLen_broadcast pre post k s pfx).symm
  unfold expandAll
  rw [funext (expandCol_congr hlen)]
  simp only [List.flatMap_append, List.flatMap_cons, List.flatMap_nil, List.append_nil]
  congr 2
  simp only [expandCol, starLen_broadcast]

/-- non-vacuity / concrete instance: `from = "a"` with two conditions is `from = "a|a"` -/
example :
    expandAll [("e.*.f".toList, Sum.inr (.atom "a".toList)),
      ("e.*.c".toList, Sum.inr (.list [.atom "x".toList, .atom "y".toList]))] =
    [("e.1.f".toList, Sum.inr (.atom "a".toList)), ("e.2.f".toList, Sum.inr (.atom "a".toList)),
     ("e.1.c".toList, Sum.inr (.atom "x".toList)), ("e.2.c".toList, Sum.inr (.atom "y".toList))] := by
  decide +kernel

/-- the broadcast length is taken per prefix: a longer list under another prefix is ignored -/
example : starLen "e.".toList [("g.*".toList, Sum.inr (.list [.atom [], .atom [], .atom []])),
    ("e.*.c".toList, Sum.inr (.list [.atom [], .atom []]))] = 2 := by decide

/-! ### the flow sheet's short headers -/

/-- is `path` (segments; `*` or a number for a list index) a position of the schema? -/
def validPath : Ty → List Str → Bool
  | _, [] => true
  | ty, seg :: rest =>
    match ty with
    | .list t => (seg = "*".toList || (pyInt seg).isSome) && validPath t rest
    | .anyList => (seg = "*".toList || (pyInt seg).isSome) && rest.isEmpty
    | .model fs h2f _ =>
      match fieldLookup (remap h2f seg) fs with
      | some f => validPath f.2.1 rest
      | none => false
    | _ => false

/-- T1 side conditions (re-checked against the regenerated tables on every run): every short
header of `basic_header_dict` leads to a position of the flow row schema; every target of
`row_type_to_main_arg` is a position of the schema; every key of `field_name_to_header_name` is a
field of `FlowRowModel` or `webhook.body`.  (That the long forms are not themselves remapped and the
type column is not a short header is `Row.flow_ctx_static`.) -/
theorem short_headers_are_valid_paths :
    (∀ p ∈ Gen.flowBasicHeaderDict, validPath flowRowTy (splitDot p.2) = true) ∧
    (∀ p ∈ Gen.flowRowTypeToMainArg, validPath flowRowTy (splitDot p.2) = true) ∧
    (∀ p ∈ Gen.flowF2H, p.1 ∈ Gen.fieldNamesFlowRowModel ∨ p.1 = "webhook.body".toList) := by
  flow_decode
  decide +kernel

/-- **Short = long (context-free headers)**: for every entry `short ↦ long` of the source's
`basic_header_dict` (`from ↦ edges.*.from_`, `condition ↦ edges.*.condition.value`,
`condition_var ↦ edges.*.condition.variable`, `_nodeId ↦ node_uuid`, …), any cell text and any
other columns, a row written with the short header parses exactly as the row written with
the long header. (The long `*` forms are in turn the indexed columns `edges.k.…` by
`asterisk_expand` / `asterisk_broadcast`.) -/
theorem short_eq_long (p : Str × Str) (hp : p ∈ flowBasicHeaders) (pre post : List (Str × Str))
    (c : Str) :
    parseRow flowRowSchema (pre ++ [(p.1, c)] ++ post) =
    parseRow flowRowSchema (pre ++ [(p.2, c)] ++ post) := by
  obtain ⟨h1, h2, h3, h4, h5⟩ := flow_ctx_static.1 p hp
  refine parseRow_header_swap _ pre post p.1 p.2 c (fun _ _ _ hm => (flow_main_inj hm).2.1 ▸ ⟨h4, h5⟩) ?_
  rw [ctxRemap_basic flowRowSchema _ p.1 p.2 h1, flow_ctxRemap_id _ h2 h3]

/-- **Short = long (main argument)**: `message_text` is the main-argument field selected by
the row's `type` cell through the source's `row_type_to_main_arg` table — by the TRIMMED text of that
cell (fix 7d69602: a type cell with surrounding whitespace is trimmed like every other cell; before, the
raw text was looked up and `"send_message "` raised KeyError under the short header only). -/
theorem message_text_eq_main_arg (p : Str × Str) (hp : p ∈ flowMainArg)
    (pre post : List (Str × Str)) (c t : Str)
    (htype : alookup typeCol (pre ++ post) = some t) (htrim : strip pyWs t = p.1) :
    parseRow flowRowSchema (pre ++ [(msgHdr, c)] ++ post) =
    parseRow flowRowSchema (pre ++ [(p.2, c)] ++ post) := by
  obtain ⟨h1, _, h2, h3, h4⟩ := flow_ctx_static.2.1 p hp
  obtain ⟨h5, h6⟩ := flow_ctx_static.2.2
  refine parseRow_header_swap _ pre post msgHdr p.2 c (fun _ _ _ hm => (flow_main_inj hm).2.1 ▸ ⟨h6, h4⟩) ?_
  have ht : alookup typeCol (pre ++ [(p.2, c)] ++ post) = some t := by
    rw [← htype]
    simp [alookup_append, alookup, h4]
  rw [ctxRemap_main flowRowSchema _ msgHdr typeCol flowMainArg flow_main h5 t p.2 ht (by rw [htrim]; exact h1),
    flow_ctxRemap_id _ h2 h3]

/-- non-vacuity of the trimming: a padded type cell (spaces, a no-break space, a tab) still selects the
main argument; computed by the kernel on the regenerated table -/
example : strip pyWs " send_message\u00a0\t".toList = "send_message".toList ∧
    ("send_message".toList, "mainarg_message_text".toList) ∈ flowMainArg := by
  flow_decode
  decide +kernel

/-- non-vacuity: the tables are not empty and a concrete short row parses to an edge -/
example : ("from".toList, "edges.*.from_".toList) ∈ flowBasicHeaders ∧
    ("send_message".toList, "mainarg_message_text".toList) ∈ flowMainArg := by
  flow_decode
  decide +kernel

example :
    (match parseRow flowRowSchema [("type".toList, "send_message".toList),
        ("from".toList, "start".toList), ("condition".toList, "a|b".toList),
        ("message_text".toList, "hi; there".toList)],
      parseRow flowRowSchema [("type".toList, "send_message".toList),
        ("edges.1.from".toList, "start".toList), ("edges.2.from".toList, "start".toList),
        ("edges.1.condition.value".toList, "a".toList), ("edges.2.condition.value".toList, "b".toList),
        ("mainarg_message_text".toList, "hi; there".toList)] with
    | .ok a, .ok b => a == b
    | _, _ => false) = true := by
  flow_decode
  decode_literals
  decide +kernel

/-! ### from the `*` forms to the indexed columns -/

theorem edgeLeaves_are_the_long_forms :
    (flowBasicHeaders.filter (fun p => p.2.take 8 == "edges.*.".toList)).all
      (fun p => edgeLeaves.contains (p.2.drop 8)) = true ∧
    edgeLeaves.all (fun b => flowBasicHeaders.any (fun p => p.2 == "edges.*.".toList ++ b)) = true := by
  flow_decode
  decide +kernel

/-- **From `*` to indexed columns**: the `k`-th element `x` of a `*` column
`edges.*.b` (what `from`, `condition`, `condition_var`, … expand to by `short_eq_long` and
`asterisk_expand`) is assigned exactly like the cell `t` of the long-form column
`edges.k.b`, for any cell text `t` that reads as `x` — the entries are string fields
(`posTy` computed on the T1-tied schema). -/
theorem star_element_eq_indexed_cell (k : Nat) (b : Str) (hb : b ∈ edgeLeaves) (out : Tree)
    (x t : Str) (h : parseAsString t = .ok x) :
    parseEntry flowRowTy out (idxKey k b, Sum.inr (.atom x)) =
    parseEntry flowRowTy out (idxKey k b, Sum.inl t) :=
  star_elem_eq_cell k hb out h

/-! ### whole rows: short headers and `*` columns = the fully indexed row -/

/-- the fully indexed form of a flow row: headers renamed by the context remap
(`from` ↦ `edges.*.from_`, `message_text` ↦ the main argument of the row type, …), then
every `*` column split into one column per element (`edges.1.from_`, `edges.2.from_`, …; a
single value broadcast to the longest list with the same prefix) -/
def indexedOf (d : List (Str × Str)) : List (Str × Str) :=
  match rekey flowRowSchema d with
  | .ok d1 =>
    match preParse d1 with
    | .ok cols => indexedRow cols
    | .error _ => []
  | .error _ => []

/-- the rows covered: the header remap succeeds (a `message_text` column needs a known row
type); the `*` columns are those the short headers stand for (`edges.*.b`, `b` a string leaf of
an edge) and hold one string or a flat list of strings; the indexed columns are pairwise
different (the indexed row is a row, i.e. a Python `dict`) -/
def shortRowOk (d : List (Str × Str)) : Bool :=
  match rekey flowRowSchema d with
  | .ok d1 =>
    match preParse d1 with
    | .ok cols => flowStarOk cols && decide (((indexedRow cols).map Prod.fst).Nodup)
    | .error _ => false
  | .error _ => false

/-- **Short row = fully indexed row**, as ONE statement about whole rows: a flow row given
with short headers and `*` columns (any mixture with long and plain headers, any cell texts,
any number of edges) parses exactly like its fully indexed form, whose headers are all long,
`*`-free and untouched by the context remap.  It says of the row as a whole what `short_eq_long`,
`message_text_eq_main_arg`, `asterisk_expand`, `asterisk_broadcast` and
`star_element_eq_indexed_cell` say of one column (`Row.flow_short_eq_indexed`, along the fold of
`parse_row`). -/
theorem short_row_eq_indexed_row (d : List (Str × Str)) (h : shortRowOk d = true) :
    parseRow flowRowSchema d = parseRow flowRowSchema (indexedOf d) ∧
    ∀ kv ∈ indexedOf d, hasStar kv.1 = false ∧
      ctxRemap flowRowSchema (indexedOf d) kv.1 = .ok kv.1 := by
  unfold shortRowOk at h
  unfold indexedOf
  cases h1 : rekey flowRowSchema d with
  | error e => simp [h1] at h
  | ok d1 =>
    simp only [h1] at h ⊢
    cases h2 : preParse d1 with
    | error e => simp [h2] at h
    | ok cols =>
      simp only [h2, Bool.and_eq_true, decide_eq_true_eq] at h ⊢
      exact flow_short_eq_indexed h1 h2 h.1 h.2

def exShortRow : List (Str × Str) :=
  [("type".toList, "send_message".toList), ("from".toList, "start".toList),
   ("condition".toList, "a\\|x|b".toList), ("condition_type".toList, "has_phrase".toList),
   ("message_text".toList, "hi; there".toList), ("_nodeId".toList, "n1".toList)]

/-- non-vacuity: a short row with two edges (one broadcast `from`, a two-element `condition`
with an escaped separator, a broadcast `condition_type`) is covered, and its indexed form is
the expected row -/
example : shortRowOk exShortRow = true ∧
    indexedOf exShortRow =
      [("type".toList, "send_message".toList),
       ("edges.1.from_".toList, "start".toList), ("edges.2.from_".toList, "start".toList),
       ("edges.1.condition.value".toList, "a|x".toList), ("edges.2.condition.value".toList, "b".toList),
       ("edges.1.condition.type".toList, "has_phrase".toList),
       ("edges.2.condition.type".toList, "has_phrase".toList),
       ("mainarg_message_text".toList, "hi; there".toList), ("node_uuid".toList, "n1".toList)] ∧
    (parseRow flowRowSchema exShortRow).toOption.isSome = true := by
  simp only [shortRowOk, indexedOf, flowStarOk, exShortRow]
  flow_decode
  decode_literals
  decide +kernel

/-- the `*` columns must be string leaves: an element of `edges.*.condition` is taken as ONE
value, the cell `edges.1.condition` with the same text is split again -/
theorem short_row_needs_string_leaves :
    let d := [("type".toList, "send_message".toList), ("edges.*.condition".toList, "a\\;b|c".toList)]
    shortRowOk d = false ∧
    (match parseRow flowRowSchema d, parseRow flowRowSchema (indexedOf d) with
      | .ok a, .ok b => a != b
      | _, _ => false) = true := by
  simp only [shortRowOk, indexedOf, flowStarOk]
  flow_decode
  decode_literals
  decide +kernel

/-- the `*` cells must be flat: an element that is itself a list is not a string cell -/
theorem short_row_needs_flat_star_cells :
    let d := [("type".toList, "send_message".toList), ("from".toList, "a;b|c".toList)]
    shortRowOk d = false ∧ (parseRow flowRowSchema d).toOption.isSome = false ∧
    (parseRow flowRowSchema (indexedOf d)).toOption.isSome = true := by
  simp only [shortRowOk, indexedOf, flowStarOk]
  flow_decode
  decode_literals
  decide +kernel

/-! ### positional vs keyword records -/

def kwSub0 : List Field :=
  [("word".toList, .str, some (.str [])), ("number".toList, .int, some (.int 0))]

/-- **Positional = keyword = mixed, in general**: `Enc ty v pv` says that the parsed cell value `pv` — strings
and nested lists, what `CellParser.parse` returns or what a `*` column / spread layout
delivers — is AN encoding of `v : ty`: lists element by element (or a single value), records
by entries that are each positional (at the index of their field) or `key;value` (any field,
the key remapped by `header_name_to_field_name`), every field at most once and the others at
their defaults, entries being encodings of the field values in turn — to any depth (a
sub-record or a list given positionally inside a record, a list of records, …); with the
side condition that no positional entry and not the whole value looks like a `key;value` pair
(the keyword-first rule of `assign_value`, finding F-C09-a).  Any two encodings of the same
value decode equally — to the value.  By rule induction on `Enc`. -/
theorem positional_eq_keyword {ty : Ty} {v : Val} {pv₁ pv₂ : PV}
    (h₁ : Enc ty v pv₁) (h₂ : Enc ty v pv₂) :
    decode ty pv₁ = decode ty pv₂ ∧ decode ty pv₁ = .ok v := by
  rw [decode_of_decodes (enc_decodes h₁), decode_of_decodes (enc_decodes h₂)]
  exact ⟨rfl, rfl⟩

/-- `positional_eq_keyword` on cell texts: two cells that parse to encodings of the same value are read
equally — as the value -/
theorem positional_eq_keyword_cells {ty : Ty} {v : Val} {t₁ t₂ : Str} {pv₁ pv₂ : PV}
    (c₁ : cellParse t₁ = .ok pv₁) (c₂ : cellParse t₂ = .ok pv₂)
    (h₁ : Enc ty v pv₁) (h₂ : Enc ty v pv₂) :
    readCell ty t₁ = readCell ty t₂ ∧ readCell ty t₁ = .ok v := by
  rw [readCell_eq_decode c₁, readCell_eq_decode c₂]
  exact positional_eq_keyword h₁ h₂

def exOuter : List Field :=
  [("a".toList, .str, some (.str [])),
   ("s".toList, plainTop kwSub0, some (.model [("word".toList, .str []), ("number".toList, .int 0)])),
   ("xs".toList, .list .str, some (.list []))]
def exOuterVal : Val :=
  .model [("a".toList, .str "v".toList),
    ("s".toList, .model [("word".toList, .str "x".toList), ("number".toList, .int 7)]),
    ("xs".toList, .list [])]

theorem forall_mem_pair {α : Type} {p : α → Prop} {a b : α} (ha : p a) (hb : p b) : ∀ x ∈ [a, b], p x :=
  List.forall_mem_cons.mpr ⟨ha, List.forall_mem_cons.mpr ⟨hb, fun _ h => nomatch h⟩⟩

/-- non-vacuity of `positional_eq_keyword`: `Outer(a="v", s=Sub(word="x", number=7))` — the
sub-record given positionally inside the positional record (`v|x;7`) and given by keyword with
its own fields by keyword (`s;(number;7|word;x)|a;v`, three levels: not a cell, but what
spread `*` columns deliver) are both encodings -/
example :
    Enc (plainTop exOuter) exOuterVal
      (.list [.atom "v".toList, .list [.atom "x".toList, .atom "7".toList]]) ∧
    Enc (plainTop exOuter) exOuterVal
      (.list [.list [.atom "s".toList, .list [.list [.atom "number".toList, .atom "7".toList],
        .list [.atom "word".toList, .atom "x".toList]]], .list [.atom "a".toList, .atom "v".toList]]) := by
  let fA : Field := ("a".toList, .str, some (.str []))
  let fS : Field := ("s".toList, plainTop kwSub0,
    some (.model [("word".toList, .str []), ("number".toList, .int 0)]))
  let fW : Field := ("word".toList, .str, some (.str []))
  let fN : Field := ("number".toList, .int, some (.int 0))
  let sv : Val := .model [("word".toList, .str "x".toList), ("number".toList, .int 7)]
  have hW : Enc Ty.str (.str "x".toList) (.atom "x".toList) := Enc.basic (v := .str "x".toList) rfl (by decide)
  have hN : Enc Ty.int (.int 7) (.atom "7".toList) := Enc.basic (v := .int 7) rfl (by decide)
  have hA : Enc Ty.str (.str "v".toList) (.atom "v".toList) := Enc.basic (v := .str "v".toList) rfl (by decide)
  -- the sub-record, positionally and by keyword
  have hSpos : Enc (plainTop kwSub0) sv (.list [.atom "x".toList, .atom "7".toList]) :=
    Enc.model (sfs := kwSub0) (h2f := []) (f2h := [])
      [⟨false, [], fW, .str "x".toList, .atom "x".toList⟩, ⟨false, [], fN, .int 7, .atom "7".toList⟩]
      rfl (by decide) (forall_mem_pair (.head _) (.tail _ (.head _)))
      ⟨fun _ => rfl, fun _ => rfl, trivial⟩ (by decide) (forall_mem_pair hW hN)
      (forall_mem_pair nofun nofun) (forall_mem_pair (fun _ => rfl) (fun _ => rfl)) (by decide)
      (forall_mem_pair (.inl ⟨_, .head _, rfl⟩) (.inl ⟨_, .tail _ (.head _), rfl⟩))
  have hSkw : Enc (plainTop kwSub0) sv (.list [.list [.atom "number".toList, .atom "7".toList],
      .list [.atom "word".toList, .atom "x".toList]]) :=
    Enc.model (sfs := kwSub0) (h2f := []) (f2h := [])
      [⟨true, "number".toList, fN, .int 7, .atom "7".toList⟩, ⟨true, "word".toList, fW, .str "x".toList, .atom "x".toList⟩]
      rfl (by decide) (forall_mem_pair (.tail _ (.head _)) (.head _))
      ⟨nofun, nofun, trivial⟩ (by decide) (forall_mem_pair hN hW)
      (forall_mem_pair (fun _ => rfl) (fun _ => rfl)) (forall_mem_pair nofun nofun) (by decide)
      (forall_mem_pair (.inl ⟨_, .tail _ (.head _), rfl⟩) (.inl ⟨_, .head _, rfl⟩))
  constructor
  · exact Enc.model (sfs := exOuter) (h2f := []) (f2h := [])
      [⟨false, [], fA, .str "v".toList, .atom "v".toList⟩,
       ⟨false, [], fS, sv, .list [.atom "x".toList, .atom "7".toList]⟩]
      rfl (by decide) (forall_mem_pair (.head _) (.tail _ (.head _)))
      ⟨fun _ => rfl, fun _ => rfl, trivial⟩ (by decide) (forall_mem_pair hA hSpos)
      (forall_mem_pair nofun nofun) (forall_mem_pair (fun _ => by decide) (fun _ => by decide)) (by decide)
      (List.forall_mem_cons.mpr ⟨.inl ⟨_, .head _, rfl⟩,
        forall_mem_pair (.inl ⟨_, .tail _ (.head _), rfl⟩) (.inr rfl)⟩)
  · exact Enc.model (sfs := exOuter) (h2f := []) (f2h := [])
      [⟨true, "s".toList, fS, sv, .list [.list [.atom "number".toList, .atom "7".toList],
          .list [.atom "word".toList, .atom "x".toList]]⟩,
       ⟨true, "a".toList, fA, .str "v".toList, .atom "v".toList⟩]
      rfl (by decide) (forall_mem_pair (.tail _ (.head _)) (.head _))
      ⟨nofun, nofun, trivial⟩ (by decide) (forall_mem_pair hSkw hA)
      (forall_mem_pair (fun _ => rfl) (fun _ => rfl)) (forall_mem_pair nofun nofun) (by decide)
      (List.forall_mem_cons.mpr ⟨.inl ⟨_, .tail _ (.head _), rfl⟩,
        forall_mem_pair (.inl ⟨_, .head _, rfl⟩) (.inr rfl)⟩)

theorem keyword_cell_reads {sfs : List Field} {skvs : List (Str × Val)}
    (hfam : subFamily sfs = true)
    (hr : reprOk false (plainTop sfs) (.model skvs) = true)
    (hfo : fieldOk false (plainTop sfs) (.model skvs) = true) :
    readCell (plainTop sfs)
      (Cell.joinCell (.list (((sfs.zip (skvs.map Prod.snd)).filter nonDefault).map subElem))) =
        .ok (.model skvs) := by
  obtain ⟨_, h, hv⟩ := sub_cell hfam (fun _ _ => remap_nil _) hr hfo
  show readCell _ (subText sfs skvs) = _
  simp only [leafFn, leafValue, isListTy, isModelTy, Bool.false_or, if_true] at h
  unfold readCell
  cases hc : cellParse (subText sfs skvs) with
  | error e => simp [hc] at h
  | ok pv =>
    simp only [hc] at h
    simp only [h, Option.getD_some]
    exact hv

/-- **Positional = keyword** for records of basic-typed fields: the cell `v1|…|vm` with the
values of the first `m` fields (the remaining fields at their defaults) decodes to the same
record as the key/value cell `a;va|b;vb|…` of its non-default fields written by `unparse`
— namely to the record itself — whenever `Unambiguous`. -/
theorem positional_eq_keyword_partial {sfs : List Field} {skvs : List (Str × Val)}
    (hfam : subFamily sfs = true)
    (hr : reprOk false (plainTop sfs) (.model skvs) = true)
    (hfo : fieldOk false (plainTop sfs) (.model skvs) = true)
    (pm pr : List SPair) (hpairs : pm ++ pr = sfs.zip (skvs.map Prod.snd)) (hne : pm ≠ [])
    (hok : ∀ p ∈ pm, reprOk false p.1.2.1 p.2 = true)
    (hlast : ∀ p, pm.getLast? = some p → printBasic p.2 ≠ [])
    (hdef : ∀ p ∈ pr, p.1.2.2 = some p.2)
    (hun : Unambiguous sfs (pm.map fun p => printBasic p.2) = true) :
    readCell (plainTop sfs) (Cell.joinCell (.list (pm.map posElem))) = .ok (.model skvs) ∧
    readCell (plainTop sfs)
      (Cell.joinCell (.list (((sfs.zip (skvs.map Prod.snd)).filter nonDefault).map subElem))) =
        .ok (.model skvs) := by
  have D := subData_of_repr hfam hr hfo
  constructor
  · exact readCell_positional hpairs D.hnames hfam hne hok hlast hdef hun
  · exact keyword_cell_reads hfam hr hfo

/-- **Mixed positional / keyword = keyword** for records of basic-typed fields: a cell whose
`i`-th entry is either the plain value of the `i`-th field (`MEntry.pos`; the index counts the
keyword entries too, as `enumerate` does) or a `name;value` pair for ANY field (`MEntry.kw`),
every field given at most once and the fields not given at their defaults, decodes to the
same record as the key/value cell written by `unparse` — namely to the record itself —
whenever the whole-cell keyword rule does not fire (`UnambiguousM`).  All-positional and
all-keyword cells are the special cases. -/
theorem mixed_eq_keyword {sfs : List Field} {skvs : List (Str × Val)}
    (hfam : subFamily sfs = true)
    (hr : reprOk false (plainTop sfs) (.model skvs) = true)
    (hfo : fieldOk false (plainTop sfs) (.model skvs) = true)
    (es : List MEntry) (hne : es ≠ [])
    (hmem : ∀ e ∈ es, e.pair ∈ sfs.zip (skvs.map Prod.snd))
    (hat : PosAt sfs 0 es) (hndE : (es.map (·.pair.1.1)).Nodup)
    (hok : ∀ e ∈ es, reprOk false e.pair.1.2.1 e.pair.2 = true)
    (hkwnb : ∀ p, MEntry.kw p ∈ es → printBasic p.2 ≠ [])
    (hlast : ∀ p, es.getLast? = some (.pos p) → printBasic p.2 ≠ [])
    (hrest : ∀ p ∈ sfs.zip (skvs.map Prod.snd), (∃ e ∈ es, e.pair = p) ∨ p.1.2.2 = some p.2)
    (hun : UnambiguousM sfs es = true) :
    readCell (plainTop sfs) (Cell.joinCell (.list (es.map (·.elem)))) =
      readCell (plainTop sfs)
        (Cell.joinCell (.list (((sfs.zip (skvs.map Prod.snd)).filter nonDefault).map subElem))) ∧
    readCell (plainTop sfs) (Cell.joinCell (.list (es.map (·.elem)))) = .ok (.model skvs) := by
  have D := subData_of_repr hfam hr hfo
  have h1 := readCell_mixed D.hnames hfam hne ⟨hmem, hat, hndE, hok, hrest⟩ hkwnb hlast hun
  exact ⟨by rw [h1, keyword_cell_reads hfam hr hfo], h1⟩

def kwSub : List Field :=
  [("word".toList, .str, some (.str [])), ("number".toList, .int, some (.int 0))]

/-- Boolean form of `readCell ty text = .ok v` for the kernel-evaluated witnesses -/
def readsAs (ty : Ty) (text : Str) (v : Val) : Bool :=
  match readCell ty text with
  | .ok v' => v' == v
  | .error _ => false

/-- **`Unambiguous` is needed** (finding F-C09-a): for `Sub(word: str, number: int)` the
positional cell `number;5` (or `number|5`) of `Sub(word="number", number=5)` is decoded as
the keyword argument `number=5`, leaving `word` at its default; the keyword cell of the same
data decodes to the data. -/
theorem positional_needs_Unambiguous :
    Unambiguous kwSub ["number".toList, "5".toList] = false ∧
    readsAs (plainTop kwSub) "number;5".toList
      (.model [("word".toList, .str []), ("number".toList, .int 5)]) = true ∧
    readsAs (plainTop kwSub) "number|5".toList
      (.model [("word".toList, .str []), ("number".toList, .int 5)]) = true ∧
    readsAs (plainTop kwSub) "word;number|number;5".toList
      (.model [("word".toList, .str "number".toList), ("number".toList, .int 5)]) = true := by
  decide +kernel

/-- non-vacuity of `positional_eq_keyword_partial`: `Sub(word="x|y", number=5)` as `x\|y|5` -/
example :
    readsAs (plainTop kwSub) "x\\|y|5".toList
      (.model [("word".toList, .str "x|y".toList), ("number".toList, .int 5)]) = true ∧
    Unambiguous kwSub ["x|y".toList, "5".toList] = true := by decide +kernel

/-- non-vacuity of `mixed_eq_keyword`: `Sub(word="x|y", number=5)` as `x\|y|number;5`
(positional then keyword); `Sub4(q=7, z="end")` as `z;end|7` (keyword first, then the value
of the field at index 1) -/
example :
    readsAs (plainTop kwSub) "x\\|y|number;5".toList
      (.model [("word".toList, .str "x|y".toList), ("number".toList, .int 5)]) = true ∧
    readsAs (plainTop exSub) "z;end|7".toList
      (.model [("p".toList, .str []), ("q".toList, .int 7), ("w".toList, .bool false),
        ("z".toList, .str "end".toList)]) = true := by decide +kernel

/-- `UnambiguousM` is needed: `number|number;5` (positional `word="number"`, keyword
`number=5`) is taken as the ONE keyword argument `number=[number,5]` -/
theorem mixed_needs_UnambiguousM :
    UnambiguousM kwSub [.pos (("word".toList, .str, some (.str [])), .str "number".toList),
      .kw (("number".toList, .int, some (.int 0)), .int 5)] = false ∧
    readsAs (plainTop kwSub) "number|number;5".toList
      (.model [("word".toList, .str "number".toList), ("number".toList, .int 5)]) = false := by
  decide +kernel

/-- the entry-level side condition is needed (finding F-C09-a again): in `v|a;y` the entry
`a;y`, meant as the sub-record `Sub(word="a", number=…)` given positionally, is taken as the
keyword argument `a="y"` of the outer record; the cell `v|x;7` of the example decodes as
intended -/
theorem positional_entry_needs_unambiguous :
    readsAs (plainTop exOuter) "v|x;7".toList exOuterVal = true ∧
    readsAs (plainTop exOuter) "v|a;7".toList
      (.model [("a".toList, .str "v".toList),
        ("s".toList, .model [("word".toList, .str "a".toList), ("number".toList, .int 7)]),
        ("xs".toList, .list [])]) = false := by decide +kernel

/-! ### column order -/

/-- **Column permutation**, for every schema (with or without header remaps, `*` columns
and context remap already applied): reordering the entries of a row by swaps of adjacent
entries that belong to different top-level fields — i.e. any permutation that keeps the
relative order of the entries of each field — does not change the parsed row.  Frame
lemma of `find_entry` (`parseEntry_eff`): an entry reads and writes only the dictionary
slot of its own top-level field. -/
theorem column_perm (fs : List Field) (h2f f2h : List (Str × Str))
    {cols cols' : List (Str × ColVal)} (h : FieldPerm h2f cols cols') :
    parseEntries (.model fs h2f f2h) cols = parseEntries (.model fs h2f f2h) cols' := by
  induction h with
  | refl _ => rfl
  | swap pre post c₁ c₂ hk => exact column_swap fs f2h pre post hk
  | trans _ _ ih1 ih2 => exact ih1.trans ih2

/-- `column_perm` on `parse_row` itself: rows whose entries (headers remapped, `*` columns expanded:
`rowEntries`) differ by a `FieldPerm` parse to the same value, or both fail (`toOpt`: exception classes
are not compared) -/
theorem column_perm_parseRow (sch : Schema) (fs : List Field) (h2f f2h : List (Str × Str))
    (htop : sch.top = .model fs h2f f2h) (d d' : List (Str × Str)) (es es' : List (Str × ColVal))
    (he : rowEntries sch d = .ok es) (he' : rowEntries sch d' = .ok es')
    (h : FieldPerm h2f es es') : toOpt (parseRow sch d) = toOpt (parseRow sch d') := by
  rw [parseRow_obs he, parseRow_obs he', htop]
  exact column_perm fs h2f f2h h

def exPerm : List Field :=
  [("a".toList, .str, some (.str [])), ("xs".toList, .list .str, some (.list [])),
   ("b".toList, .int, some (.int 0))]

/-- non-vacuity: `a, xs.1, xs.2, b` reordered to `xs.1, b, xs.2, a` (the two `xs` columns keep
their order) is a `FieldPerm`, and both parse -/
example : FieldPerm []
    [("a".toList, Sum.inl "x".toList), ("xs.1".toList, Sum.inl "p".toList),
     ("xs.2".toList, Sum.inl "q".toList), ("b".toList, Sum.inl "5".toList)]
    [("xs.1".toList, Sum.inl "p".toList), ("b".toList, Sum.inl "5".toList),
     ("xs.2".toList, Sum.inl "q".toList), ("a".toList, Sum.inl "x".toList)] := by
  refine .trans (.swap [] _ _ _ (by decide)) ?_
  refine .trans (.swap [_] _ _ _ (by decide)) ?_
  refine .trans (.swap [_, _] _ _ _ (by decide)) ?_
  exact .swap [_] _ _ _ (by decide)

/-- columns of ONE list field must stay in index order (the code asserts it): swapping `xs.1`
and `xs.2` turns a row that parses into an error — "belong to different fields" is needed -/
theorem column_perm_needs_different_fields :
    (parseEntries (plainTop exPerm)
      [("xs.1".toList, Sum.inl "p".toList), ("xs.2".toList, Sum.inl "q".toList)]).isSome = true ∧
    (parseEntries (plainTop exPerm)
      [("xs.2".toList, Sum.inl "q".toList), ("xs.1".toList, Sum.inl "p".toList)]).isSome = false := by
  decide +kernel

end Rpft.Props.C09
