/-
C14 — Workbook format does not matter: CSV, XLSX and JSON inputs compile identically.  (PARTIAL)

From the bytes upwards:

1. The CSV byte format is INSIDE the model (`Rpft/Csv.lean`: `csv.writer` with the project's dialect,
   text-mode line iteration with `newline=""`, the `csv.reader` automaton with its field limit, UTF-8)
   and its round trip is proved for ALL grids (`csv_read_write`, `csv_reader_grammar`); the model of
   the library is tied to the real `csv` module on every run.
2. The JSON text is inside the model too (`Rpft/JsonText.lean`: `json.dumps(…, ensure_ascii=False,
   indent=2)` and `json.loads` for strings / arrays / objects): `json_string_roundtrip`,
   `json_document_roundtrip`.
3. The repo's own post-processing of the grids the libraries deliver — tablib's CSV record loop,
   `to_json` (`table.dict`), `JSONSheetReader` (`table.dict = …`) and `XLSXSheetReader._sanitize`, all
   in `Rpft/Sheets.lean` — is the identity on rectangular text sheets under explicit hypotheses (and,
   in general, "the sheet with its all-empty rows removed": every reader omits them, the CSV and JSON
   readers through `omit_empty_rows`), each of which is shown necessary by a kernel-checked witness
   that is replayed on the real code by `harness/props/c14.py`.
4. Files: 1–3 composed, with UTF-8, text-mode reading and, for JSON, the `book` value of `to_json` and
   `JSONSheetReader`'s loop over it (`csv_file_roundtrip`, `json_file_roundtrip`).
5. The three readers deliver the same sheet (`readers_agree_on_blank_rows`, `formats_agree`), also
   after `convert`; `c14_partial`.

What is NOT proved (`C14_full`): that the XLSX byte format (openpyxl: zip + XML) delivers the
written grid.  That part is library code; it is exercised on every run by the harness
(trusted base §3.4), not modelled.
-/
import Rpft.Lemmas.Sheets
import Rpft.Lemmas.Csv
import Rpft.Lemmas.JsonText
import Rpft.Lemmas.JsonBook
import Rpft.Gen.Tables
import Rpft.Canon
namespace Rpft.Props.C14
open Rpft Rpft.Sheets

/-! ## CSV, the byte format: `csv.writer` → `newline=""` lines → `csv.reader` -/

section CsvBytes
open Rpft.Csv

/-- every field fits the reader's field limit (`csv.field_size_limit()`) -/
def FieldsFit (limit : Nat) (recs : List (List Str)) : Prop := ∀ r ∈ recs, ∀ f ∈ r, f.length ≤ limit

instance (limit : Nat) (recs : List (List Str)) : Decidable (FieldsFit limit recs) := by
  unfold FieldsFit; infer_instance

theorem csv_read_write_with (limit : Nat) (recs : List (List Str)) (hfit : FieldsFit limit recs) :
    parseCsvWith limit (writeCsv recs) = .ok recs :=
  parse_writeRows (.inl rfl) (.inr (.inl rfl)) hfit

/-- **CSV round trip**: what `csv.writer` (excel dialect, CRLF) writes for ANY list of records — any
number of records and fields, empty records, empty fields, fields with commas, quotes, CR, LF, CRLF,
any Unicode — `csv.reader` reads back as exactly those records, provided no field is longer than the
reader's field limit (131072 characters). -/
theorem csv_read_write (recs : List (List Str)) (hfit : FieldsFit fieldLimit recs) :
    parseCsv (writeCsv recs) = .ok recs :=
  csv_read_write_with fieldLimit recs hfit

/-- non-vacuity, and the round trip computed by the kernel on a grid with every special character,
an empty record, a record that is one empty field, and a ragged record -/
def gHostile : List (List Str) :=
  [["a,b".toList, "say \"hi\"".toList, "l1\r\nl2\rl3\nl4".toList, "é日本".toList, [], " x ".toList],
   [], [[]], [[], []], ["\"".toList], ["\r".toList, "\n".toList, ",".toList]]

example : FieldsFit fieldLimit gHostile := by
  unfold gHostile
  -- literals spelt as character lists before the evaluation: see `Sheets.loadJson_toJsonBytes`
  repeat rw [String.toList_ofList]
  decide +kernel

example : parseCsv (writeCsv gHostile) = .ok gHostile := by
  unfold gHostile
  repeat rw [String.toList_ofList]
  decide +kernel

/-- the hypothesis is forced: a field one character over the limit makes the reader raise
(`_csv.Error: field larger than field limit`) — checked by the kernel at a small limit, replayed on
the real reader at 131072 / 131073 by the harness -/
theorem needs_fieldsFit :
    parseCsvWith 3 (writeCsv [["abc".toList]]) = .ok [["abc".toList]] ∧
    parseCsvWith 3 (writeCsv [["abcd".toList]]) = .error .fieldLimit ∧
    parseCsvWith 3 (writeCsv [["a\"\"b".toList]]) = .error .fieldLimit := by decide +kernel

theorem fieldsFit_mono {a b : Nat} (h : a ≤ b) {recs : List (List Str)} (hf : FieldsFit a recs) :
    FieldsFit b recs := fun r hr f hf' => Nat.le_trans (hf r hr f hf') h

theorem exists_fieldsFit (recs : List (List Str)) : ∃ L, FieldsFit L recs :=
  ⟨((recs.flatten.map List.length).max?).getD 0, fun r hr _ hf =>
    List.le_max?_getD_of_mem (List.mem_map_of_mem (List.mem_flatten.2 ⟨r, hr, hf⟩))⟩

/-- **the writer loses nothing**: two lists of records with the same CSV text are the same list —
unconditionally (the field limit belongs to the reader, not to the text). -/
theorem writeCsv_injective (a b : List (List Str)) (h : writeCsv a = writeCsv b) : a = b := by
  obtain ⟨L, hL⟩ := exists_fieldsFit (a ++ b)
  have h1 := csv_read_write_with L a fun r hr => hL r (List.mem_append_left _ hr)
  rw [h, csv_read_write_with L b fun r hr => hL r (List.mem_append_right _ hr)] at h1
  exact (Except.ok.inj h1).symm

/-- **the guard of `csv_read_write` is exact**, at any field limit -/
theorem csv_read_write_iff (limit : Nat) (recs : List (List Str)) :
    parseCsvWith limit (writeCsv recs) = .ok recs ↔ FieldsFit limit recs :=
  ⟨parse_output_fits, csv_read_write_with limit recs⟩

/-- outside the guard the reader RAISES (`_csv.Error: field larger than field limit`): it never
delivers different records for a text the project's writer produced. -/
theorem csv_unfit_raises (limit : Nat) (recs : List (List Str)) (h : ¬ FieldsFit limit recs) :
    parseCsvWith limit (writeCsv recs) = .error .fieldLimit := by
  obtain ⟨L0, hL0⟩ := exists_fieldsFit recs
  rcases parse_sound (Nat.le_max_left limit L0) (writeCsv recs) with hx | ⟨a, hx, hy, ha⟩
  · exact hx
  · rw [csv_read_write_with (max limit L0) recs (fieldsFit_mono (Nat.le_max_right _ _) hL0)] at hy
    cases hy
    exact absurd ha h

example : ¬ FieldsFit 3 [["abcd".toList]] := by decide +kernel

/-- **the reader on ANY text** (not only written ones): it either delivers records whose fields fit
the limit or raises the field-limit error — the "new-line character seen in unquoted field" error
of `csv.reader` cannot occur behind `newline=""` line iteration. -/
theorem csv_reader_total (limit : Nat) (text : Str) :
    (∃ recs, parseCsvWith limit text = .ok recs ∧ FieldsFit limit recs) ∨
      parseCsvWith limit text = .error .fieldLimit :=
  (parse_sound (Nat.le_refl limit) text).symm.imp (fun ⟨a, h, _, ha⟩ => ⟨a, h, ha⟩) id

/-- **the reader on the grammar of CSV texts** (not only on what the project's writer produces):
records terminated by CRLF or by LF, comma-separated fields, each field EITHER between quotes with
its quotes doubled OR written as is when it has no comma, quote, CR or LF (and a record that is one
empty field is quoted).  Covers QUOTE_ALL files, LF files, needlessly quoted fields. -/
theorem csv_reader_grammar (limit : Nat) (lt : Str) (hlt : lt = crlf ∨ lt = lf)
    (rs : List (List (Bool × Str))) (hv : ∀ r ∈ rs, ValidRow r)
    (hn : ∀ r ∈ rs, ∀ p ∈ r, p.2.length ≤ limit) :
    parseCsvWith limit (encRows lt rs) = .ok (rs.map (fun r => r.map Prod.snd)) :=
  parse_encRows hlt hv (List.forall_mem_map.2 fun r hr => List.forall_mem_map.2 (hn r hr))

example :
    let rs : List (List (Bool × Str)) :=
      [[(true, "a".toList), (false, "b c".toList), (true, "x\"y\n".toList)], [], [(true, [])], [(false, []), (false, [])]]
    (∀ r ∈ rs, ValidRow r) ∧ (∀ r ∈ rs, ∀ p ∈ r, p.2.length ≤ fieldLimit) ∧
      encRows lf rs = "\"a\",b c,\"x\"\"y\n\"\n\n\"\"\n,\n".toList := by
  repeat rw [String.toList_ofList]
  decide +kernel

/-- both validity conditions are forced: an unquoted field with a CR is cut into two records, an
unquoted quote in the middle of a field is kept but a leading one opens a quoted field, and a
record that is one unquoted empty field is a blank line (which tablib then skips) -/
theorem needs_validRow :
    parseCsv (encRows lf [[(false, "a\rb".toList)]]) = .ok [["a".toList], ["b".toList]] ∧
    parseCsv (encRows lf [[(false, "\"a".toList), (false, "b".toList)]]) = .ok [["a,b\n".toList]] ∧
    parseCsv (encRows lf [[(false, [])]]) = .ok [[]] := by decide +kernel

/-- the line terminator matters: with any other separator of records the text is one record -/
theorem needs_lineTerminator :
    (∀ r ∈ [[(false, "a".toList)], [(false, "b".toList)]], ValidRow r) ∧
    parseCsv (encRows [';'] [[(false, "a".toList)], [(false, "b".toList)]]) = .ok [["a;b;".toList]] := by
  decide +kernel

/-- **the other dialects of `csv.writer`** the reader has to understand (the harness and other
tools write them): LF line ends and/or QUOTE_ALL.  With QUOTE_MINIMAL and LF line ends CPython 3.12
does NOT quote a field for a CR, so the round trip needs CR-free cells there. -/
theorem csv_read_write_dialect (limit : Nat) (lt : Str) (hlt : lt = crlf ∨ lt = lf) (qa : Bool)
    (recs : List (List Str))
    (hcr : qa = true ∨ lt = crlf ∨ ∀ r ∈ recs, ∀ f ∈ r, '\r' ∉ f)
    (hfit : FieldsFit limit recs) :
    parseCsvWith limit (writeRows lt qa recs) = .ok recs :=
  parse_writeRows hlt hcr hfit

example : (true = true ∨ lf = crlf ∨ ∀ r ∈ gHostile, ∀ f ∈ r, '\r' ∉ f) ∧ FieldsFit fieldLimit gHostile :=
  ⟨Or.inl rfl, by decide +kernel⟩

/-- the CR hypothesis is forced: `csv.writer(lineterminator="\n")` of CPython 3.12 writes a cell with
a lone CR unquoted, and `csv.reader` then reads two records — a loss inside the library pair
(never on the project's own CRLF dialect) -/
theorem lf_minimal_loses_cr :
    writeRows lf false [["a\rb".toList]] = "a\rb\n".toList ∧
    parseCsv (writeRows lf false [["a\rb".toList]]) = .ok [["a".toList], ["b".toList]] ∧
    parseCsv (writeRows lf true [["a\rb".toList]]) = .ok [["a\rb".toList]] ∧
    parseCsv (writeCsv [["a\rb".toList]]) = .ok [["a\rb".toList]] := by decide +kernel

/-- unusual but legal texts: bare LF / bare CR line ends, no final line end, an unfinished quoted
field at end of file, characters after a closing quote (the reader is not strict) -/
theorem csv_reader_quirks :
    parseCsv "a,b\nc,d".toList = .ok [["a".toList, "b".toList], ["c".toList, "d".toList]] ∧
    parseCsv "a\rb\r".toList = .ok [["a".toList], ["b".toList]] ∧
    parseCsv "a,\"b\nc".toList = .ok [["a".toList, "b\nc".toList]] ∧
    parseCsv "\"a\"b,\"c\" \n".toList = .ok [["ab".toList, "c ".toList]] ∧
    parseCsv "a\"b, \"c\"\n".toList = .ok [["a\"b".toList, " \"c\"".toList]] ∧
    parseCsv "x\r\r\ny".toList = .ok [["x".toList], [], ["y".toList]] := by
  repeat rw [String.toList_ofList]
  decide +kernel

end CsvBytes

/-! ## JSON, the text: `json.dumps(…, ensure_ascii=False, indent=2)` → `json.loads` -/

section JsonText
open Rpft.JsonText

/-- **JSON string literal round trip**: what `to_json` writes for a cell / header / sheet name,
`json.load`'s strict string scanner reads back as exactly that text, and it stops right after the
closing quote — for EVERY string (quotes, backslashes, control characters, newlines, DEL, U+2028,
any Unicode), with no hypothesis. -/
theorem json_string_roundtrip (s rest : Str) : scanStr (encodeString s ++ rest) = .ok (s, rest) :=
  scanStr_encodeString s rest

theorem encodeString_injective (a b : Str) (h : encodeString a = encodeString b) : a = b := by
  have h1 := json_string_roundtrip a []
  have h2 := json_string_roundtrip b []
  rw [h] at h1
  rw [h1] at h2
  exact congrArg Prod.fst (Except.ok.inj h2)

/-- what the literal looks like, and what the scanner accepts beyond the writer's output: `\/`,
upper-case hex, surrogate pairs; what it refuses: a raw control character (strict), an unknown
escape, three hex digits, `\uXXXX` as the very last characters; a lone surrogate is outside `Char` -/
theorem json_string_facts :
    encodeString "a\"b\\c/\n\r\t\x08\x0c\x00\x1f\x7fé".toList
      = "\"a\\\"b\\\\c/\\n\\r\\t\\b\\f\\u0000\\u001f\x7fé\"".toList ∧
    scanStr "\"\\/\\u00E9\\ud83d\\uDE00\"x".toList = .ok ("/é😀".toList, "x".toList) ∧
    scanStr "\"a\nb\"".toList = .error .controlChar ∧
    scanStr "\"\\a\"".toList = .error .invalidEscape ∧
    scanStr "\"\\u12\"".toList = .error .invalidUnicodeEscape ∧
    scanStr "\"\\u0041".toList = .error .invalidUnicodeEscape ∧
    scanStr "\"\\ud83d\\uzzzz\"".toList = .error .invalidUnicodeEscape ∧
    scanStr "\"abc".toList = .error .unterminated ∧
    scanStr "\"\\ud83dx\"".toList = .error .loneSurrogate := by
  repeat rw [String.toList_ofList]
  decide +kernel

/-- **JSON document round trip**: `json.loads(json.dumps(v, ensure_ascii=False, indent=2)) = v` for
every value made of strings, arrays and objects whose keys are distinct (any nesting, any text). -/
theorem json_document_roundtrip (v : JV) (huk : ukV v) : loads (dumps v) = .ok v :=
  loads_dumps v huk

def vDemo : JV :=
  .obj (.cons "k\"1".toList (.arr (.cons (.str "a\nb".toList) (.cons (.obj .nil) (.cons (.arr .nil) .nil))))
    (.cons "é".toList (.obj (.cons [] (.str [] ) .nil)) .nil))

example : ukV vDemo := by
  simp only [vDemo, ukV, ukVs, ukMs, jmKeys]
  exact ⟨by decide, ⟨⟨trivial, ⟨by decide, trivial⟩, trivial, trivial⟩, ⟨by decide, trivial, trivial⟩, trivial⟩⟩

example : dumps vDemo = "{\n  \"k\\\"1\": [\n    \"a\\nb\",\n    {},\n    []\n  ],\n  \"é\": {\n    \"\": \"\"\n  }\n}".toList ∧
    loads (dumps vDemo) = .ok vDemo := by
  repeat rw [String.toList_ofList]
  decide +kernel

/-- the distinct-keys hypothesis is forced (and is what a Python dict guarantees): a repeated key
keeps its first position and its last value -/
theorem needs_unique_keys :
    loads (dumps (.obj (.cons "a".toList (.str "1".toList) (.cons "b".toList (.str "2".toList)
        (.cons "a".toList (.str "3".toList) .nil)))))
      = .ok (.obj (.cons "a".toList (.str "3".toList) (.cons "b".toList (.str "2".toList) .nil))) := by
  decide +kernel

end JsonText

/-! ## the readers' post-processing of what the libraries deliver -/

def Rect (s : Sheet) : Prop := ∀ r ∈ s.rows, r.length = s.headers.length

def NoBlankRow (s : Sheet) : Prop := ∀ r ∈ s.rows, r.any (fun c => !c.isEmpty) = true

def LastHeaderPresent (s : Sheet) : Prop :=
  ∃ l, s.headers.getLast? = some l ∧ l ≠ []

instance (s : Sheet) : Decidable (Rect s) := by unfold Rect; infer_instance
instance (s : Sheet) : Decidable (NoBlankRow s) := by unfold NoBlankRow; infer_instance

/-- all headers are non-empty text (the property's "unique non-empty headers") -/
def HeadersPresent (s : Sheet) : Prop := s.headers ≠ [] ∧ ∀ h ∈ s.headers, h ≠ []

instance (s : Sheet) : Decidable (HeadersPresent s) := by unfold HeadersPresent; infer_instance

theorem lastHeaderPresent_of_headersPresent {s : Sheet} (h : HeadersPresent s) :
    LastHeaderPresent s := by
  obtain ⟨hne, hall⟩ := h
  cases hl : s.headers.getLast? with
  | none => rw [List.getLast?_eq_none_iff] at hl; exact absurd hl hne
  | some l => exact ⟨l, hl, hall l (List.mem_of_getLast? hl)⟩

/-! ### `omit_empty_rows` (what `load_csv` and `JSONSheetReader` apply to the Dataset tablib built) -/

/-- **`omit_empty_rows` changes nothing exactly on the sheets without an all-empty row** -/
theorem omitEmpty_eq_self_iff (s : Sheet) : s.omitEmpty = s ↔ NoBlankRow s := by
  obtain ⟨name, headers, rows⟩ := s
  simp only [Sheet.omitEmpty, NoBlankRow, Sheet.mk.injEq, true_and]
  exact omitEmptyRows_eq_self_iff rows

theorem omitEmpty_noBlank (s : Sheet) : NoBlankRow s.omitEmpty := by
  intro r hr
  exact (mem_omitEmptyRows.mp hr).2

theorem omitEmpty_idem (s : Sheet) : s.omitEmpty.omitEmpty = s.omitEmpty :=
  (omitEmpty_eq_self_iff _).2 (omitEmpty_noBlank s)

theorem omitEmpty_rect (s : Sheet) (h : Rect s) : Rect s.omitEmpty := by
  intro r hr
  exact h r (mem_omitEmptyRows.mp hr).1

theorem map_omitEmpty_id (w : Workbook) (h : ∀ s ∈ w, NoBlankRow s) : w.map Sheet.omitEmpty = w :=
  map_eq_self_iff.2 (fun s hs => (omitEmpty_eq_self_iff s).2 (h s hs))

/-- start / middle / end, several in a row; a cell of one blank is NOT empty -/
theorem omitEmpty_example :
    (⟨"s".toList, ["a".toList, "b".toList],
      [[[], []], ["1".toList, []], [[], []], [[], []], [" ".toList, []], [[], []]]⟩ : Sheet).omitEmpty
      = ⟨"s".toList, ["a".toList, "b".toList], [["1".toList, []], [" ".toList, []]]⟩ := by decide +kernel

/-! ### CSV: tablib's record loop -/

/-- the CSV record loop is the identity on rectangular sheets that have a header -/
theorem csv_read_id (s : Sheet) (hrect : Rect s) (hne : s.headers ≠ []) :
    readCsv s.name (toCsvRecords s) = .ok s := by
  obtain ⟨name, headers, rows⟩ := s
  simp [readCsv, toCsvRecords, csvRows_ok headers hne rows [] hrect nofun]

/-- without a header the (empty) records are blank lines and disappear -/
def wNoHeader : Sheet := ⟨"s".toList, [], [[], []]⟩

theorem csv_needs_header :
    Rect wNoHeader ∧ readCsv wNoHeader.name (toCsvRecords wNoHeader) ≠ .ok wNoHeader := by decide +kernel

/-- **the CSV reader, every sheet**: tablib's loop followed by `omit_empty_rows` delivers the sheet
WITHOUT its all-empty rows. -/
theorem csv_reader_general (s : Sheet) (hrect : Rect s) (hne : s.headers ≠ []) :
    readCsvSheet s.name (toCsvRecords s) = .ok s.omitEmpty := by
  simp [readCsvSheet, csv_read_id s hrect hne]

theorem csv_reader_id (s : Sheet) (hrect : Rect s) (hne : s.headers ≠ []) (hnb : NoBlankRow s) :
    readCsvSheet s.name (toCsvRecords s) = .ok s := by
  rw [csv_reader_general s hrect hne, (omitEmpty_eq_self_iff s).2 hnb]

example :
    let s : Sheet := ⟨"s".toList, ["a".toList], [["1".toList], [" ".toList]]⟩
    Rect s ∧ s.headers ≠ [] ∧ NoBlankRow s := by decide +kernel

/-! ### JSON: `convert` then `JSONSheetReader` -/

/-- **JSON round trip**: what `to_json` writes for a sheet, `JSONSheetReader` reads back as the
same sheet — for rectangular sheets with distinct headers and at least one row. -/
theorem json_roundtrip (s : Sheet) (hrect : Rect s) (hnd : s.headers.Nodup) (hrows : s.rows ≠ []) :
    readJson s.name (toJson s) = .ok s := by
  obtain ⟨name, headers, rows⟩ := s
  have happ := appendAll_ok headers rows [] hrect nofun
  cases rows with
  | nil => exact absurd rfl hrows
  | cons r rs =>
    cases headers with
    | nil => simp [toJson, tableDict, readJson, happ]
    | cons h hs =>
      have hmap : (r :: rs).map (fun x => odOfPairs ((h :: hs).zip x))
          = (r :: rs).map (fun x => (h :: hs).zip x) :=
        List.map_congr_left fun x hx => odOfPairs_zip hnd (hrect x hx)
      have hsnd : ((r :: rs).map (fun x => (h :: hs).zip x)).map (fun p => p.map Prod.snd)
          = r :: rs :=
        map_map_eq_self fun x hx => List.map_snd_zip (Nat.le_of_eq (hrect x hx))
      simp only [toJson, tableDict, List.isEmpty_cons, Bool.false_eq_true, if_false, hmap]
      simp only [List.map_cons] at hsnd ⊢
      simp only [readJson, List.map_fst_zip (Nat.le_of_eq (hrect r (.head _)).symm), List.map_cons]
      rw [hsnd, happ]
      rfl

example : Rect ⟨"s".toList, ["a".toList, "b".toList], [["1".toList, [] ], [[], "x".toList]]⟩ ∧
    (["a".toList, "b".toList] : List Str).Nodup ∧
    ([["1".toList, [] ], [[], "x".toList]] : List (List Str)) ≠ [] := by decide +kernel

/-- a header-only sheet loses its headers through JSON (`table.dict == []`) — genuine on the
real code, known finding F-C14-b. -/
def wHeaderOnly : Sheet := ⟨"s".toList, ["a".toList, "b".toList], []⟩

theorem needs_rows :
    Rect wHeaderOnly ∧ wHeaderOnly.headers.Nodup ∧ readJson wHeaderOnly.name (toJson wHeaderOnly) ≠ .ok wHeaderOnly := by decide +kernel

/-- duplicate headers collapse in `table.dict`: the row comes back one cell short -/
def wDupHeaders : Sheet := ⟨"s".toList, ["a".toList, "a".toList], [["1".toList, "2".toList]]⟩

theorem needs_nodup :
    Rect wDupHeaders ∧ wDupHeaders.rows ≠ [] ∧ readJson wDupHeaders.name (toJson wDupHeaders) ≠ .ok wDupHeaders := by decide +kernel

/-- a row longer than the header list is cut by `zip` -/
def wLongRow : Sheet := ⟨"s".toList, ["a".toList], [["1".toList, "2".toList]]⟩

theorem needs_rect :
    wLongRow.headers.Nodup ∧ wLongRow.rows ≠ [] ∧ readJson wLongRow.name (toJson wLongRow) ≠ .ok wLongRow := by decide +kernel

/-- **the JSON reader, every sheet**: what `to_json` writes, `JSONSheetReader` (`table.dict = …`
then `omit_empty_rows`) reads back as the sheet WITHOUT its all-empty rows. -/
theorem json_reader_general (s : Sheet) (hrect : Rect s) (hnd : s.headers.Nodup) (hrows : s.rows ≠ []) :
    readJsonSheet s.name (toJson s) = .ok s.omitEmpty := by
  simp [readJsonSheet, json_roundtrip s hrect hnd hrows]

theorem json_reader_id (s : Sheet) (hrect : Rect s) (hnd : s.headers.Nodup) (hrows : s.rows ≠ [])
    (hnb : NoBlankRow s) : readJsonSheet s.name (toJson s) = .ok s := by
  rw [json_reader_general s hrect hnd hrows, (omitEmpty_eq_self_iff s).2 hnb]

example :
    let s : Sheet := ⟨"s".toList, ["a".toList, "b".toList], [["1".toList, [] ], [[], "x".toList]]⟩
    Rect s ∧ s.headers.Nodup ∧ s.rows ≠ [] ∧ NoBlankRow s := by decide +kernel

/-! ### XLSX: `_sanitize` -/

/-- `_sanitize` on what openpyxl delivers for ANY rectangular text sheet with a last header (empty
cells AND empty header cells arrive as `None`): the all-empty rows are gone, the other rows
unchanged, headers unchanged except that an empty header that is not the last stays `None`. -/
theorem xlsx_sanitize_grid_general (s : Sheet) (hrect : Rect s) (hlast : LastHeaderPresent s) :
    xlsxSanitize (toXlsxGrid s) = .ok ⟨s.headers.map toXHeader, omitEmptyRows s.rows⟩ := by
  obtain ⟨name, headers, rows⟩ := s
  obtain ⟨l, hl, hlne⟩ := hlast
  exact xlsxSanitize_text (hs := headers.map toXHeader) (l := toXHeader l)
    (by rw [List.getLast?_map, hl]; rfl)
    (by cases l with
      | nil => exact absurd rfl hlne
      | cons a t => rfl)
    cellStr_toXCell rows (fun r hr => by rw [List.length_map]; exact hrect r hr)

theorem xlsx_sanitize_grid (s : Sheet) (hrect : Rect s) (hnb : NoBlankRow s)
    (hlast : LastHeaderPresent s) :
    xlsxSanitize (toXlsxGrid s) = .ok ⟨s.headers.map toXHeader, s.rows⟩ := by
  rw [xlsx_sanitize_grid_general s hrect hlast, (omitEmptyRows_eq_self_iff s.rows).2 hnb]

/-- **`_sanitize` on every rectangular text sheet with non-empty headers**: the sheet without its
all-empty rows (the same table `omit_empty_rows` gives the CSV and JSON readers). -/
theorem xlsx_sanitize_general (s : Sheet) (hrect : Rect s) (hh : HeadersPresent s) :
    xlsxSanitize (toXlsxGrid s) = .ok (XTable.ofSheet s.omitEmpty) := by
  rw [xlsx_sanitize_grid_general s hrect (lastHeaderPresent_of_headersPresent hh)]
  have : s.headers.map toXHeader = s.headers.map some :=
    List.map_congr_left fun h hmem => if_neg (by simpa using hh.2 h hmem)
  simp [XTable.ofSheet, Sheet.omitEmpty, this]

/-- **`_sanitize` is the identity** on rectangular text sheets with non-empty headers and no
all-empty row. -/
theorem xlsx_sanitize_id (s : Sheet) (hrect : Rect s) (hnb : NoBlankRow s)
    (hh : HeadersPresent s) :
    xlsxSanitize (toXlsxGrid s) = .ok (XTable.ofSheet s) := by
  rw [xlsx_sanitize_general s hrect hh, (omitEmpty_eq_self_iff s).2 hnb]

/-- **EVERY grid** openpyxl can deliver (ragged, `None`s and non-text values anywhere): whenever
`_sanitize` returns a table, its rows are `omit_empty_rows` of the stringified rows cut to the header
count — the XLSX reader and the helper of the CSV / JSON readers drop the same rows. -/
theorem xlsx_rows_eq_omitEmptyRows (g : XGrid) (t : XTable) (h : xlsxSanitize g = .ok t) :
    t.rows = omitEmptyRows (g.rows.map (fun r => (r.map cellStr).take t.headers.length)) := by
  obtain ⟨-, hk, -⟩ := xlsxSanitize_ok h
  exact hk

example : xlsxSanitize ⟨some [some "a".toList, none], [[.none, .str "x".toList], [.int 0, .none]]⟩
    = .ok ⟨[some "a".toList], [["0".toList]]⟩ := by decide +kernel

theorem ofSheet_toSheet (s : Sheet) : (XTable.ofSheet s).toSheet? s.name = some s := by
  simp [XTable.ofSheet, XTable.toSheet?, List.filterMap_map]

example :
    let s : Sheet := ⟨"s".toList, ["a".toList, "b".toList], [["1".toList, [] ], [[], "0".toList]]⟩
    Rect s ∧ NoBlankRow s ∧ HeadersPresent s := by decide +kernel

/-- an all-empty row is dropped by `_sanitize`, and by the CSV and JSON readers as well (tablib's own
loops, `readCsv` / `readJson`, keep it: the readers remove it afterwards with `omit_empty_rows`,
F-C14-a).  So no reader is the identity on such a sheet, and all agree. -/
def wBlankRow : Sheet := ⟨"s".toList, ["a".toList, "b".toList],
      [["1".toList, "2".toList], [[], []], ["3".toList, "4".toList]]⟩

def wBlankRowRead : Sheet := ⟨"s".toList, ["a".toList, "b".toList],
      [["1".toList, "2".toList], ["3".toList, "4".toList]]⟩

theorem needs_NoBlankRow :
    Rect wBlankRow ∧ HeadersPresent wBlankRow ∧ wBlankRow.headers.Nodup ∧ wBlankRow.rows ≠ [] ∧
      xlsxSanitize (toXlsxGrid wBlankRow) ≠ .ok (XTable.ofSheet wBlankRow) ∧
      readCsvSheet wBlankRow.name (toCsvRecords wBlankRow) ≠ .ok wBlankRow ∧
      readJsonSheet wBlankRow.name (toJson wBlankRow) ≠ .ok wBlankRow ∧
      xlsxSanitize (toXlsxGrid wBlankRow) = .ok (XTable.ofSheet wBlankRowRead) ∧
      readCsvSheet wBlankRow.name (toCsvRecords wBlankRow) = .ok wBlankRowRead ∧
      readJsonSheet wBlankRow.name (toJson wBlankRow) = .ok wBlankRowRead ∧
      readCsv wBlankRow.name (toCsvRecords wBlankRow) = .ok wBlankRow ∧
      readJson wBlankRow.name (toJson wBlankRow) = .ok wBlankRow := by decide +kernel

/-- a column whose header is empty and last is cut off together with its cells -/
def wEmptyLastHeader : Sheet := ⟨"s".toList, ["a".toList, []], [["1".toList, "2".toList]]⟩

theorem needs_last_header :
    Rect wEmptyLastHeader ∧ NoBlankRow wEmptyLastHeader ∧
      xlsxSanitize (toXlsxGrid wEmptyLastHeader) = .ok ⟨[some "a".toList], [["1".toList]]⟩ := by decide +kernel

/-- an empty header that is not the last stays `None` (and is not a string any more) -/
def wEmptyFirstHeader : Sheet := ⟨"s".toList, [[], "b".toList], [["1".toList, "2".toList]]⟩

theorem needs_headers_present :
    Rect wEmptyFirstHeader ∧ NoBlankRow wEmptyFirstHeader ∧ LastHeaderPresent wEmptyFirstHeader ∧
      xlsxSanitize (toXlsxGrid wEmptyFirstHeader) ≠ .ok (XTable.ofSheet wEmptyFirstHeader) := by
  refine ⟨by decide +kernel, by decide +kernel, ⟨"b".toList, by decide +kernel, by decide +kernel⟩, by decide +kernel⟩

/-- ragged input: a row longer than the header list is truncated, not rejected -/
theorem sanitize_truncates :
    xlsxSanitize ⟨some [some "a".toList, none], [[.str "1".toList, .str "2".toList]]⟩
      = .ok ⟨[some "a".toList], [["1".toList]]⟩ := by decide +kernel

/-- truthiness is that of the STRING: `"0"` and `"False"` keep their row -/
theorem sanitize_keeps_zero_row :
    xlsxSanitize ⟨some [some "a".toList], [[.str "0".toList], [.bool false], [.int 0], [.none]]⟩
      = .ok ⟨[some "a".toList], [["0".toList], ["False".toList], ["0".toList]]⟩ := by decide +kernel

/-- **`_sanitize` is idempotent**: whatever it returns, it returns again when fed its own output
(as text cells) — for EVERY input grid, also ragged ones with `None`s anywhere. -/
theorem sanitize_idem (g : XGrid) (t : XTable) (h : xlsxSanitize g = .ok t) :
    xlsxSanitize t.toGrid = .ok t := by
  obtain ⟨⟨l, hl, hsome⟩, hk, hlen⟩ := xlsxSanitize_ok h
  have := xlsxSanitize_text (g := XVal.str) hl hsome (fun _ => rfl) t.rows hlen
  rwa [show omitEmptyRows t.rows = t.rows by rw [hk, keptRows, omitEmptyRows_idem]] at this

/-! ## files -/

section CsvFiles
open Rpft.Csv

/-- every cell of the sheet (headers included) fits the CSV reader's field limit -/
def CellsFit (s : Sheet) : Prop := FieldsFit fieldLimit (toCsvRecords s)

instance (s : Sheet) : Decidable (CellsFit s) := by unfold CellsFit; infer_instance

theorem loadCsv_of_parse (s : Sheet) (hrect : Rect s) (hne : s.headers ≠ []) {text : Str}
    (h : parseCsv text = .ok (toCsvRecords s)) :
    loadCsv s.name (encodeUtf8 text) = .ok s.omitEmpty := by
  rw [loadCsv_encodeUtf8]
  simp only [loadCsvText, h, csv_reader_general s hrect hne]

/-- **a sheet through a CSV file, every sheet**: `table.export("csv")`, UTF-8, and back through
`load_csv` (`open(…, encoding="utf-8", newline="")` + `tablib.import_set` + `omit_empty_rows`) gives
the sheet WITHOUT its all-empty rows, for every rectangular sheet that has a header — whatever the
cells contain, up to the reader's field limit. -/
theorem csv_file_roundtrip_general (s : Sheet) (hrect : Rect s) (hne : s.headers ≠ []) (hfit : CellsFit s) :
    loadCsv s.name (exportCsvBytes s) = .ok s.omitEmpty := by
  have hpk : packageRecords s = toCsvRecords s := by simp [packageRecords, toCsvRecords, hne]
  exact loadCsv_of_parse s hrect hne (by rw [exportCsv, hpk]; exact csv_read_write _ hfit)

/-- **a sheet through a CSV file is the same sheet** when it has no all-empty row (`NoBlankRow`, decidable). -/
theorem csv_file_roundtrip (s : Sheet) (hrect : Rect s) (hne : s.headers ≠ []) (hnb : NoBlankRow s)
    (hfit : CellsFit s) :
    loadCsv s.name (exportCsvBytes s) = .ok s := by
  rw [csv_file_roundtrip_general s hrect hne hfit, (omitEmpty_eq_self_iff s).2 hnb]

example :
    let s : Sheet := ⟨"s".toList, ["a".toList, "b,c".toList], [["1\r\n2".toList, [] ], [[], "\"".toList], [[], " ".toList]]⟩
    Rect s ∧ s.headers ≠ [] ∧ NoBlankRow s ∧ CellsFit s := by decide +kernel

example :
    let s : Sheet := ⟨"s".toList, ["a".toList, "b,c".toList], [[[], []], ["1\r\n2".toList, [] ], [[], []]]⟩
    Rect s ∧ s.headers ≠ [] ∧ CellsFit s ∧ s.omitEmpty ≠ s := by decide +kernel

/-- the hypothesis is forced (and is exact: `omitEmpty_eq_self_iff`): the all-empty row of `wBlankRow`
does not come back from the file -/
theorem csv_file_needs_NoBlankRow :
    Rect wBlankRow ∧ wBlankRow.headers ≠ [] ∧ CellsFit wBlankRow ∧
      loadCsv wBlankRow.name (exportCsvBytes wBlankRow) = .ok wBlankRowRead ∧ wBlankRowRead ≠ wBlankRow := by
  -- past the UTF-8 coding by its lemma: the kernel evaluates the text level only
  rw [exportCsvBytes, loadCsv_encodeUtf8]
  decide +kernel

/-- **a sheet through ANY valid CSV encoding of its records** (every dialect of the writer family;
files written by the harness, by spreadsheet programs, by hand): read as the project's own export -/
theorem csv_any_encoding_general (s : Sheet) (hrect : Rect s) (hne : s.headers ≠ []) (lt : Str)
    (hlt : lt = crlf ∨ lt = lf) (rs : List (List (Bool × Str)))
    (henc : rs.map (fun r => r.map Prod.snd) = toCsvRecords s) (hv : ∀ r ∈ rs, ValidRow r)
    (hfit : CellsFit s) :
    loadCsv s.name (encodeUtf8 (encRows lt rs)) = .ok s.omitEmpty :=
  loadCsv_of_parse s hrect hne (henc ▸ parse_encRows hlt hv (by rw [henc]; exact hfit))

theorem csv_any_encoding (s : Sheet) (hrect : Rect s) (hne : s.headers ≠ []) (hnb : NoBlankRow s) (lt : Str)
    (hlt : lt = crlf ∨ lt = lf) (rs : List (List (Bool × Str)))
    (henc : rs.map (fun r => r.map Prod.snd) = toCsvRecords s) (hv : ∀ r ∈ rs, ValidRow r)
    (hfit : CellsFit s) :
    loadCsv s.name (encodeUtf8 (encRows lt rs)) = .ok s := by
  rw [csv_any_encoding_general s hrect hne lt hlt rs henc hv hfit, (omitEmpty_eq_self_iff s).2 hnb]

example :
    let s : Sheet := ⟨"s".toList, ["a".toList, "b".toList], [["1".toList, []]]⟩
    let rs : List (List (Bool × Str)) := [[(true, "a".toList), (false, "b".toList)], [(false, "1".toList), (true, [])]]
    Rect s ∧ s.headers ≠ [] ∧ NoBlankRow s ∧ rs.map (fun r => r.map Prod.snd) = toCsvRecords s ∧ (∀ r ∈ rs, ValidRow r) ∧ CellsFit s := by
  decide +kernel

/-- every way `load_csv` can fail on a file: not UTF-8, a field over the limit, or a record longer
than the first one (`tablib.InvalidDimensions`) — nothing else, for EVERY byte string. -/
theorem loadCsv_errors (name : Str) (bytes : ByteArray) (e : LoadErr)
    (h : loadCsv name bytes = .error e) :
    e = .csv .decode ∨ e = .csv .fieldLimit ∨ e = .sheet .invalidDimensions := by
  unfold loadCsv at h
  split at h
  · cases h; exact Or.inl rfl
  · rename_i text _
    unfold loadCsvText at h
    split at h
    · rename_i e' he'
      cases h
      exact Or.inr (Or.inl (by rw [parse_error_is_fieldLimit he']))
    · rename_i records _
      split at h
      · cases h
      · rename_i e' he'
        cases h
        refine Or.inr (Or.inr ?_)
        unfold readCsvSheet at he'
        split at he'
        · cases he'
        · rename_i e'' he''
          cases he'
          rw [readCsv_error he'']

/-- outside the guard, where the real pipeline loses information: (1) a sheet WITHOUT headers is
exported without a header record, so its first row comes back as the headers; (2) a short row is
padded by tablib, a long row is refused; (3) a header-less sheet of empty rows is a file of blank
lines, which vanish. -/
def wNoHeaderRows : Sheet := ⟨"s".toList, [], [["x".toList], ["y".toList]]⟩
def wShortRow : Sheet := ⟨"s".toList, ["a".toList, "b".toList], [["1".toList]]⟩

theorem csv_file_needs_header_and_rect :
    loadCsv wNoHeaderRows.name (exportCsvBytes wNoHeaderRows) = .ok ⟨"s".toList, ["x".toList], [["y".toList]]⟩ ∧
    loadCsv wShortRow.name (exportCsvBytes wShortRow) = .ok ⟨"s".toList, ["a".toList, "b".toList], [["1".toList, []]]⟩ ∧
    loadCsv wLongRow.name (exportCsvBytes wLongRow) = .error (.sheet .invalidDimensions) ∧
    loadCsv wNoHeader.name (exportCsvBytes wNoHeader) = .ok ⟨"s".toList, [], []⟩ := by
  simp only [exportCsvBytes, loadCsv_encodeUtf8]
  decide +kernel

/-- blank lines and the all-empty row: in a CSV file a blank LINE is skipped by tablib's loop, a row
of empty cells (`,,` or `""`) is kept by that loop and then removed by `omit_empty_rows` (F-C14-a,
fixed) — a cell of one blank keeps its row -/
theorem csv_blank_line_vs_blank_row :
    loadCsvText [] "a,b\r\n\r\n1,2\r\n".toList = .ok ⟨[], ["a".toList, "b".toList], [["1".toList, "2".toList]]⟩ ∧
    loadCsvText [] "a,b\r\n,\r\n1,2\r\n".toList
      = .ok ⟨[], ["a".toList, "b".toList], [["1".toList, "2".toList]]⟩ ∧
    loadCsvText [] "a\r\n\"\"\r\n1\r\n".toList = .ok ⟨[], ["a".toList], [["1".toList]]⟩ ∧
    loadCsvText [] "a,b\r\n, \r\n,\r\n".toList = .ok ⟨[], ["a".toList, "b".toList], [[[], " ".toList]]⟩ ∧
    (Csv.parseCsv "a,b\r\n,\r\n1,2\r\n".toList).map (readCsv [])
      = .ok (.ok ⟨[], ["a".toList, "b".toList], [[[], []], ["1".toList, "2".toList]]⟩) := by
  repeat rw [String.toList_ofList]
  decide +kernel

end CsvFiles

section JsonFiles
open Rpft.JsonText

/-- **a workbook through a JSON file, every workbook**: `to_json(reader)` written as UTF-8
(`rpft convert`) and read back by `JSONSheetReader` (`load_json` in text mode + `table.dict = content`
+ `omit_empty_rows`) is the same workbook — sheet names, order, headers, every cell — WITHOUT the
all-empty rows, for rectangular sheets with distinct headers and at least one row each (the
hypotheses of `json_roundtrip`; the sheet names are the keys of a dict). -/
theorem json_file_roundtrip_general (w : Workbook) (hn : (w.map Sheet.name).Nodup)
    (h : ∀ s ∈ w, Rect s ∧ s.headers.Nodup ∧ s.rows ≠ []) :
    loadJson (toJsonBytes w) = .ok (w.map Sheet.omitEmpty) := by
  rw [loadJson_toJsonBytes w (ukV_book w hn (fun s hs => ⟨(h s hs).1, (h s hs).2.1⟩))]
  exact sheetsOfMembers_book_gen Sheet.omitEmpty w
    (fun s hs => json_reader_general s (h s hs).1 (h s hs).2.1 (h s hs).2.2)

/-- **a workbook through a JSON file is the same workbook** when no sheet has an all-empty row. -/
theorem json_file_roundtrip (w : Workbook) (hn : (w.map Sheet.name).Nodup)
    (h : ∀ s ∈ w, Rect s ∧ s.headers.Nodup ∧ s.rows ≠ [] ∧ NoBlankRow s) :
    loadJson (toJsonBytes w) = .ok w := by
  rw [json_file_roundtrip_general w hn (fun s hs => ⟨(h s hs).1, (h s hs).2.1, (h s hs).2.2.1⟩),
    map_omitEmpty_id w (fun s hs => (h s hs).2.2.2)]

example :
    let w : Workbook := [⟨"s1".toList, ["a".toList, "b".toList], [["1\r\n2".toList, [] ], [[], "\"".toList]]⟩,
                         ⟨"s 2".toList, ["x".toList], [[" ".toList]]⟩]
    (w.map Sheet.name).Nodup ∧ ∀ s ∈ w, Rect s ∧ s.headers.Nodup ∧ s.rows ≠ [] ∧ NoBlankRow s := by decide +kernel

example :
    let w : Workbook := [⟨"s1".toList, ["a".toList, "b".toList], [[[], []], ["1".toList, [] ]]⟩, ⟨"s 2".toList, ["x".toList], [[[]]]⟩]
    (w.map Sheet.name).Nodup ∧ (∀ s ∈ w, Rect s ∧ s.headers.Nodup ∧ s.rows ≠ []) ∧ w.map Sheet.omitEmpty ≠ w := by decide +kernel

/-- the hypothesis is forced: through the file the all-empty row is gone -/
theorem json_file_needs_NoBlankRow :
    loadJsonText (toJsonText [wBlankRow]) = .ok [wBlankRowRead] ∧ [wBlankRowRead] ≠ [wBlankRow] := by decide +kernel

/-- the distinct-names hypothesis is forced in the model (a reader's sheets are the values of a dict,
so it always holds on the real side): two sheets of the same name come back as one, with the
content of the second -/
theorem json_file_needs_distinct_names :
    loadJsonText (toJsonText [⟨"s".toList, ["a".toList], [["1".toList]]⟩, ⟨"s".toList, ["a".toList], [["2".toList]]⟩])
      = .ok [⟨"s".toList, ["a".toList], [["2".toList]]⟩] := by decide +kernel

/-- texts `to_json` never writes but `JSONSheetReader` must read alike (compact separators, other
whitespace, other member order, `meta` absent), and what it refuses; a header-only sheet comes back
without headers (known finding F-C14-b, recorded at the `table.dict` level by `needs_rows`) -/
theorem json_reader_facts :
    loadJsonText "{\"sheets\":{\"s\":[{\"a\":\"1\",\"b\":\"\"}]}}".toList
      = .ok [⟨"s".toList, ["a".toList, "b".toList], [["1".toList, []]]⟩] ∧
    loadJsonText " {\r\n\t\"sheets\" : { \"s\" : [ [ \"1\" , \"2\" ] ] } , \"meta\" : { } } \n".toList
      = .ok [⟨"s".toList, [], [["1".toList, "2".toList]]⟩] ∧
    loadJsonText "{\"sheets\": {\"s\": [{\"a\": \"1\"}, {\"a\": \"2\", \"b\": \"3\"}]}}".toList
      = .error (.sheet .invalidDimensions) ∧
    loadJsonText "{\"sheets\": {\"s\": [{\"a\": \"1\"},]}}".toList = .error (.json .expectingValue) ∧
    loadJsonText "{\"meta\": {}}".toList = .error .shape ∧
    loadJsonText "{\"sheets\": {\"s\": [{\"a\": 1}]}}".toList = .error (.json .unsupported) ∧
    loadJsonText (toJsonText [wHeaderOnly]) = .ok [⟨"s".toList, [], []⟩] := by
  repeat rw [String.toList_ofList]
  decide +kernel

end JsonFiles

/-! ## the three formats together, and `convert` followed by compilation -/

/-- T1: the format → reader table of the model is the one of the source (regenerated each run by
probing `create_sheet_reader`).  A lookup on distinct format words: compared up to order. -/
theorem tables_agree :
    Canon.sameMap Gen.sheetFormatReaders formatReaders ∧ Canon.uniqueKeys formatReaders = true := by
  unfold formatReaders
  repeat rw [String.toList_ofList]
  decide +kernel

/-- the property's domain: rectangular, distinct non-empty headers, at least one row, no
all-empty row -/
structure Good (s : Sheet) : Prop where
  rect : Rect s
  nodup : s.headers.Nodup
  headers : HeadersPresent s
  rows : s.rows ≠ []
  noBlank : NoBlankRow s

/-- `to_json(reader)` over the sheets of a reader / `JSONSheetReader` over the sheets of the
file.  (Sheet names are the keys of a Python dict on both sides, hence distinct; the order of the
keys is the order of the sheets.) -/
def convertBook (w : Workbook) : List (Str × JContent) := w.map (fun s => (s.name, toJson s))

def readJsonBook (b : List (Str × JContent)) : Except SErr Workbook :=
  b.mapM (fun p => readJsonSheet p.1 p.2)

def readXlsxBook (b : List (Str × XGrid)) : Except SErr (List (Str × XTable)) :=
  b.mapM (fun p => (xlsxSanitize p.2).map (fun t => (p.1, t)))

/-- **the readers agree on all-empty rows** (the statement the fix of F-C14-a is about): for EVERY
rectangular sheet with distinct non-empty headers and a row — all-empty rows anywhere, any number of
them, even nothing but them — the CSV reader, the XLSX reader and the JSON reader deliver the same
table: the sheet without its all-empty rows.  No `NoBlankRow` hypothesis. -/
theorem readers_agree_on_blank_rows (s : Sheet) (hrect : Rect s) (hnd : s.headers.Nodup)
    (hh : HeadersPresent s) (hrows : s.rows ≠ []) :
    readCsvSheet s.name (toCsvRecords s) = .ok s.omitEmpty ∧
    (xlsxSanitize (toXlsxGrid s)).map (fun t => t.toSheet? s.name) = .ok (some s.omitEmpty) ∧
    readJsonSheet s.name (toJson s) = .ok s.omitEmpty := by
  refine ⟨csv_reader_general s hrect hh.1, ?_, json_reader_general s hrect hnd hrows⟩
  rw [xlsx_sanitize_general s hrect hh]
  have := ofSheet_toSheet s.omitEmpty
  simpa [Except.map, Sheet.omitEmpty] using this

/-- the three readers give the same answer as each other (whatever it is) -/
theorem readers_agree (s : Sheet) (hrect : Rect s) (hnd : s.headers.Nodup)
    (hh : HeadersPresent s) (hrows : s.rows ≠ []) :
    (readCsvSheet s.name (toCsvRecords s)).map some
        = (xlsxSanitize (toXlsxGrid s)).map (fun t => t.toSheet? s.name) ∧
      readCsvSheet s.name (toCsvRecords s) = readJsonSheet s.name (toJson s) := by
  obtain ⟨h1, h2, h3⟩ := readers_agree_on_blank_rows s hrect hnd hh hrows
  rw [h1, h2, h3]
  exact ⟨rfl, rfl⟩

/-- non-vacuity on a sheet WITH all-empty rows (first, middle, two in a row, last), and what the
readers make of it, computed by the kernel -/
def wBlankRows : Sheet := ⟨"s".toList, ["a".toList, "b".toList],
  [[[], []], ["1".toList, []], [[], []], [[], []], [" ".toList, []], [[], []]]⟩

example : Rect wBlankRows ∧ wBlankRows.headers.Nodup ∧ HeadersPresent wBlankRows ∧ wBlankRows.rows ≠ [] ∧
    ¬ NoBlankRow wBlankRows := by decide +kernel

theorem readers_agree_example :
    readCsvSheet wBlankRows.name (toCsvRecords wBlankRows)
      = .ok ⟨"s".toList, ["a".toList, "b".toList], [["1".toList, []], [" ".toList, []]]⟩ ∧
    xlsxSanitize (toXlsxGrid wBlankRows)
      = .ok ⟨[some "a".toList, some "b".toList], [["1".toList, []], [" ".toList, []]]⟩ ∧
    readJsonSheet wBlankRows.name (toJson wBlankRows)
      = .ok ⟨"s".toList, ["a".toList, "b".toList], [["1".toList, []], [" ".toList, []]]⟩ := by decide +kernel

/-- **all three readers deliver the same sheet** — the written one, when it has no all-empty row -/
theorem formats_agree (s : Sheet) (g : Good s) :
    readCsvSheet s.name (toCsvRecords s) = .ok s ∧
    (xlsxSanitize (toXlsxGrid s)).map (fun t => t.toSheet? s.name) = .ok (some s) ∧
    readJsonSheet s.name (toJson s) = .ok s := by
  have h := readers_agree_on_blank_rows s g.rect g.nodup g.headers g.rows
  rw [(omitEmpty_eq_self_iff s).2 g.noBlank] at h
  exact h

/-- `convert` then `JSONSheetReader`, every workbook: the sheets without their all-empty rows -/
theorem convert_then_read_general (w : Workbook)
    (h : ∀ s ∈ w, Rect s ∧ s.headers.Nodup ∧ s.rows ≠ []) :
    readJsonBook (convertBook w) = .ok (w.map Sheet.omitEmpty) := by
  unfold readJsonBook convertBook
  induction w with
  | nil => rfl
  | cons s w ih =>
    obtain ⟨h1, h2, h3⟩ := h s (by simp)
    have ih' := ih (fun x hx => h x (by simp [hx]))
    simp only [List.map_cons, List.mapM_cons, json_reader_general s h1 h2 h3]
    simp only [bind, Except.bind, pure, Except.pure] at ih' ⊢
    rw [ih']

theorem convert_then_read (w : Workbook)
    (h : ∀ s ∈ w, Rect s ∧ s.headers.Nodup ∧ s.rows ≠ [] ∧ NoBlankRow s) :
    readJsonBook (convertBook w) = .ok w := by
  rw [convert_then_read_general w (fun s hs => ⟨(h s hs).1, (h s hs).2.1, (h s hs).2.2.1⟩),
    map_omitEmpty_id w (fun s hs => (h s hs).2.2.2)]

/-- the hypothesis is forced: the all-empty row is not in what `convert` + `JSONSheetReader` deliver
(as it is not in what any reader delivers for the source) -/
theorem convert_needs_NoBlankRow :
    readJsonBook (convertBook [wBlankRow]) = .ok [wBlankRowRead] ∧ [wBlankRowRead] ≠ [wBlankRow] := by decide +kernel

/-- **`convert` followed by compilation = compiling what the source's reader delivers** — for ANY
compiler that is a function of the sheets.  (Thin by design: the whole content is
`convert_then_read`; that the real `create_flows` is a function of `reader.sheets` up to invented
UUIDs is C13's business and is exercised, not proved, here.) -/
theorem convert_then_compile_general {β : Type} (compile : Workbook → β) (w : Workbook)
    (h : ∀ s ∈ w, Rect s ∧ s.headers.Nodup ∧ s.rows ≠ []) :
    (readJsonBook (convertBook w)).map compile = .ok (compile (w.map Sheet.omitEmpty)) := by
  rw [convert_then_read_general w h]; rfl

theorem convert_then_compile {β : Type} (compile : Workbook → β) (w : Workbook)
    (h : ∀ s ∈ w, Rect s ∧ s.headers.Nodup ∧ s.rows ≠ [] ∧ NoBlankRow s) :
    (readJsonBook (convertBook w)).map compile = .ok (compile w) := by
  rw [convert_then_read w h]; rfl

example :
    let w : Workbook := [⟨"s".toList, ["a".toList, "b".toList], [["1".toList, [] ], [[], "0".toList]]⟩]
    ∀ s ∈ w, Rect s ∧ s.headers.Nodup ∧ s.rows ≠ [] ∧ NoBlankRow s := by decide +kernel

example : Good ⟨"s".toList, ["a".toList, "b".toList], [["1".toList, [] ], [[], "0".toList]]⟩ :=
  ⟨by decide +kernel, by decide +kernel, by decide +kernel, by decide +kernel, by decide +kernel⟩

/-- The full statement of C14, kept visible: for EVERY byte-level writer/reader pair of the XLSX
format that is faithful on grids (`parseXlsx (writeXlsx s) = toXlsxGrid s`), the three readers agree on
workbooks of `Good` sheets with distinct names whose cells fit the CSV reader's field limit.  The CSV
and the JSON legs have no premise: they go through the modelled bytes (`exportCsvBytes` /
`loadCsv`, `toJsonBytes` / `loadJson`).  The one faithfulness premise (openpyxl: zip + XML) is
exactly the part that is library code; it is exercised by the harness on every run, not proved. -/
def C14_full : Prop :=
  ∀ (Bytes : Type) (writeXlsx : Sheet → Bytes) (parseXlsx : Bytes → XGrid),
    (∀ s, parseXlsx (writeXlsx s) = toXlsxGrid s) →
    ∀ w : Workbook, (w.map Sheet.name).Nodup → (∀ s ∈ w, Good s ∧ CellsFit s) →
      (∀ s ∈ w, loadCsv s.name (exportCsvBytes s) = .ok s ∧
        (xlsxSanitize (parseXlsx (writeXlsx s))).map (fun t => t.toSheet? s.name) = .ok (some s)) ∧
      loadJson (toJsonBytes w) = .ok w

/-- `C14_full` holds *relative to* the one library premise it names (XLSX); the CSV and JSON
byte formats are proved (`csv_file_roundtrip`, `json_file_roundtrip`).  Hence the claim stays
PARTIAL. -/
theorem c14_partial : C14_full := by
  intro Bytes wx px hx w hn hw
  refine ⟨fun s hs => ?_, json_file_roundtrip w hn
    (fun s hs => ⟨(hw s hs).1.rect, (hw s hs).1.nodup, (hw s hs).1.rows, (hw s hs).1.noBlank⟩)⟩
  rw [hx]
  exact ⟨csv_file_roundtrip s (hw s hs).1.rect (hw s hs).1.headers.1 (hw s hs).1.noBlank (hw s hs).2,
    (formats_agree s (hw s hs).1).2.1⟩

example :
    let w : Workbook := [⟨"s".toList, ["a".toList, "b".toList], [["1".toList, [] ], [[], "0".toList]]⟩]
    (w.map Sheet.name).Nodup ∧ ∀ s ∈ w, Good s ∧ CellsFit s := by
  refine ⟨by decide +kernel, ?_⟩
  intro s hs
  simp only [List.mem_singleton] at hs
  subst hs
  exact ⟨⟨by decide +kernel, by decide +kernel, by decide +kernel, by decide +kernel, by decide +kernel⟩, by decide +kernel⟩

end Rpft.Props.C14
