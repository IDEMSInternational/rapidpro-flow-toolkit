/-
C04 (graph level) — the sheet exporter `FlowContainer.to_rows` preserves the flow's GRAPH.

"Flow JSON → sheet → flow JSON preserves behaviour … same destinations, including joins and
cycles": here, for the exporter half, universally.  The sheet is READ as a graph the way the sheet
compiler resolves it (`Rpft/ExportGraph.lean`), independently of the exporter, and the
theorems say that this graph is the flow's graph: for EVERY flow (any graph: joins, cycles, self
loops, several edges between the same nodes, unreachable nodes, duplicate uuids, exits that lead
nowhere), unbounded, by DFS invariants (`Rpft/Lemmas/ExportGraph*.lean`).  The clauses the docstrings refer to:
(a) the node rows of the sheet are the rows of the reachable nodes, with their content; (b) the edges that leave
a node are its connected exits — as a multiset always, in exit order under the criteria of the ORDER section;
(c) the sheet has no other edge, and none for an exit that leads nowhere; (d) when the export fails.

The exporter model `Rpft/Export.lean` is tied to the real `to_rows` on every generated flow by the
C17 check; the reading `edgesOfS` is tied to the real flow's edge list by the C04 check
(driver op `export.graph`).
-/
import Rpft.Lemmas.ExportGraphSorted
import Rpft.Lemmas.ExportGraphGroups
import Rpft.Props.C17
namespace Rpft.Props.C04
open Rpft Rpft.Export

variable {U : Type} [DecidableEq U]

/-! ### (a) + (b) + (c): the sheet graph is the flow's reachable graph -/

/-- **Exporter correctness at the graph level.**  For every flow the exporter accepts there is an
order of the nodes (the sheet order) such that
1. it lists exactly the nodes REACHABLE from the first node, each once (by uuid), the first node first,
   every one with at least one row;
2. the node rows of the sheet (everything that is not a `go_to` row) are exactly the rows of these
   nodes, node after node, each node's rows consecutive and in order, with their content, `_nodeId`
   and `obj_id` (`nodeSig`);
3. as a multiset, the graph READ from the sheet consists of exactly: the `"start"` edge into the first
   row of the first node; inside each node the blank edge from row `i` to row `i+1` (`chain`: how
   the compiler merges / chains the rows of one node); and for each node and each exit
   `(label, some d)` ONE edge with that label from the node's LAST row to the FIRST row of the node
   `find_node d` (`exitsEdges`) — nothing else (no invented edge), nothing for an exit that leads
   nowhere;
4. every `go_to` row has exactly one edge and exactly one target, the first row of a reachable node. -/
theorem export_preserves_graph (f : FlowX U) (rows : List (RowT U)) (h : toRowsT f = .ok rows) :
    ∃ order : List (NodeX U),
      ((order.map (·.uuid)).Nodup ∧ (∀ m, m ∈ order ↔ Reach f m) ∧ order.head? = f.head? ∧ (∀ m ∈ order, m.rows ≠ [])) ∧
      nodeRowsT rows = order.flatMap nodeSig ∧
      (edgesOfT rows).Perm ((f.head?.map startEdge).toList ++ order.flatMap (fun n => chain n ++ exitsEdges f n)) ∧
      (∀ r ∈ rows, r.goto ≠ [] → ∃ k c e, r = gotoRow k c e ∧ Reach f c) := by
  rcases export_cases h with ⟨rfl, rfl⟩ | ⟨n0, items, vis, sk⟩
  · exact ⟨[], ⟨List.nodup_nil, fun _ => mem_nil_iff_reach, rfl, fun _ hm => (nomatch hm)⟩, rfl, by simp [edgesOfT],
      fun _ hr => (nomatch hr)⟩
  · exact ⟨blockNodes items, ⟨sk.nodup, sk.reach, by rw [sk.order_head, sk.head], fun _ hm => sk.rows_ne hm⟩, sk.nodeRows,
      by rw [sk.head]; exact sk.perm, sk.goto_rows⟩

/-- (a) the rows of a reachable node stand together, in order, with their content -/
theorem payloads_preserved (f : FlowX U) (rows : List (RowT U)) (h : toRowsT f = .ok rows) (n : NodeX U) (hn : Reach f n) :
    ∃ A B, nodeRowsT rows = A ++ nodeSig n ++ B ∧
      nodeSig n = n.rows.zipIdx.map (fun x => (rowId n x.2, some n.uuid, x.1.2, x.1.1)) ∧ n.rows ≠ [] := by
  obtain ⟨order, ⟨_, hreach, _, hrows⟩, hnr, _⟩ := export_preserves_graph f rows h
  have hm := (hreach n).2 hn
  obtain ⟨A, B, hAB⟩ := List.append_of_mem hm
  refine ⟨A.flatMap nodeSig, B.flatMap nodeSig, ?_, rfl, hrows n hm⟩
  rw [hnr, hAB]
  simp

/-- (a) a node that is not reachable from the first node has no row in the sheet -/
theorem unreachable_not_exported (f : FlowX U) (rows : List (RowT U)) (h : toRowsT f = .ok rows) (n : NodeX U)
    (hc : findNode f n.uuid = some n) (hn : ¬ Reach f n) : ∀ r ∈ rows, r.nodeId ≠ some n.uuid := by
  intro r hr heq
  rcases export_cases h with ⟨_, rfl⟩ | ⟨n0, items, vis, sk⟩
  · cases hr
  · obtain ⟨m, hm, hu⟩ := sk.nodeId_mem hr heq
    have hmr := (sk.reach m).1 hm
    exact hn (Canon.eq hmr.canon hc hu ▸ hmr)

/-- (b) **per node, as a multiset**: the edges that leave the last row of a reachable node `n` are,
one for one, the exits of `n` that lead somewhere — same label, into the FIRST row of the node
`find_node` returns for the destination (a `go_to` row is read through: `edgesOfT` enters the row it
names). -/
theorem out_edges_perm (f : FlowX U) (rows : List (RowT U)) (h : toRowsT f = .ok rows) (n : NodeX U) (hn : Reach f n) :
    (outOf (lastId n) (edgesOfT rows)).Perm (exitsEdges f n) := by
  obtain ⟨n0, items, vis, sk, hm⟩ := export_node h hn
  exact sk.outOf_perm hm

/-- (b) every exit of a reachable node that leads somewhere leads to a node of the flow, which is
reachable and has a first row -/
theorem exit_target_exported (f : FlowX U) (rows : List (RowT U)) (h : toRowsT f = .ok rows) (n : NodeX U) (hn : Reach f n)
    (lab : Label) (d : U) (hd : (lab, some d) ∈ n.edges) :
    ∃ c, findNode f d = some c ∧ Reach f c ∧ firstId c ∈ rows.map (·.id) ∧
      (⟨some (lastId n), lab, firstId c⟩ : SEdge (TempId U)) ∈ edgesOfT rows := by
  obtain ⟨n0, items, vis, sk, hn'⟩ := export_node h hn
  obtain ⟨c, hc, _⟩ := sk.closed n hn' lab d hd
  have hrc := Reach.step hn hd hc
  have hm := (sk.reach c).2 hrc
  refine ⟨c, hc, hrc, sk.rowId_mem hm (sk.rows_pos hm), ?_⟩
  have := (sk.outOf_perm hn').mem_iff.2 (mem_exitsEdges.2 ⟨lab, d, c, hd, hc, rfl⟩)
  exact (List.mem_filter.1 this).1

/-- (c) **no invented edge**: every edge of the sheet is the `"start"` edge, a blank edge between two
consecutive rows of one reachable node, or the edge of an exit of a reachable node -/
theorem export_no_invented_edges (f : FlowX U) (rows : List (RowT U)) (h : toRowsT f = .ok rows) :
    ∀ e ∈ edgesOfT rows, (∃ n0, f.head? = some n0 ∧ e = startEdge n0) ∨
      ∃ n, Reach f n ∧ (e ∈ chain n ∨ e ∈ exitsEdges f n) := by
  intro e he
  rcases export_cases h with ⟨_, rfl⟩ | ⟨n0, items, vis, sk⟩
  · cases he
  · rcases sk.mem_edges.1 he with rfl | ⟨n, hn, hen⟩
    · exact .inl ⟨n0, sk.head, rfl⟩
    · exact .inr ⟨n, (sk.reach n).1 hn, hen⟩

/-- (c) **exits that lead nowhere are dropped** (the model-level statement of finding F-C04-a):
the sheet has exactly as many edges leaving `n` as `n` has exits with a destination, with exactly
their labels; an exit `(lab, none)` whose label no connected exit of `n` shares leaves NO trace in
the sheet — after recompilation the router has no case for it. -/
theorem export_drops_dangling_exits (f : FlowX U) (rows : List (RowT U)) (h : toRowsT f = .ok rows) (n : NodeX U)
    (hn : Reach f n) :
    ((outOf (lastId n) (edgesOfT rows)).map (·.label)).Perm ((n.edges.filter (fun e => e.2.isSome)).map (·.1)) ∧
    ∀ lab, (lab, none) ∈ n.edges → (∀ d, (lab, some d) ∉ n.edges) →
      ∀ e ∈ edgesOfT rows, e.src = some (lastId n) → e.label ≠ lab := by
  obtain ⟨n0, items, vis, sk, hm⟩ := export_node h hn
  have hp := out_edges_perm f rows h n hn
  have hcl := sk.closed n hm
  have hlab : (exitsEdges f n).map (·.label) = (n.edges.filter (fun e => e.2.isSome)).map (·.1) := by
    simp only [exitsEdges, loopEdges]
    generalize hes : n.edges = es at hcl
    clear hes
    induction es with
    | nil => rfl
    | cons x es ih =>
      have ih' := ih (fun lab d hd => hcl lab d (List.mem_cons_of_mem _ hd))
      obtain ⟨lab, d⟩ := x
      cases d with
      | none => simpa [List.filterMap_cons, exitEdge, List.filter_cons] using ih'
      | some d =>
        obtain ⟨c, hc, _⟩ := hcl lab d (List.mem_cons_self ..)
        simp [exitEdge, hc, ih']
  refine ⟨hlab ▸ hp.map _, ?_⟩
  intro lab _ hno e he hsrc heq
  have hmem : e ∈ outOf (lastId n) (edgesOfT rows) := by simp [outOf, he, hsrc]
  have := hp.mem_iff.1 hmem
  obtain ⟨lab', d, c, hd, _, rfl⟩ := mem_exitsEdges.1 this
  simp only at heq
  subst heq
  exact hno d hd

/-! ### which NODE a row belongs to; the node graph -/

/-- **Rows of one node.**  The compiler merges a row into the node its `_nodeId` names iff the row has
exactly one edge, unconditional, coming from a row of that node (`groupRows`, flowparser.py `_parse_row`).
On an exported sheet this rule regroups the rows exactly as the exporter grouped them: row `j` of a
reachable node `n` (`rowId n j`, `j < |rows of n|`) belongs to the node whose FIRST row is `firstId n`;
the first row of each block starts a node (it never merges into another one). -/
theorem rows_grouped_as_exported (f : FlowX U) (rows : List (RowT U)) (h : toRowsT f = .ok rows) :
    ∃ order : List (NodeX U), (∀ m, m ∈ order ↔ Reach f m) ∧ (order.map (·.uuid)).Nodup ∧
      groupsT rows = order.flatMap nodeGroup ∧
      ∀ (n : NodeX U) (p : TempId U × TempId U), p ∈ nodeGroup n ↔ ∃ j, j < n.rows.length ∧ p = (rowId n j, firstId n) := by
  rcases export_cases h with ⟨rfl, rfl⟩ | ⟨n0, items, vis, sk⟩
  · exact ⟨[], fun _ => mem_nil_iff_reach, List.nodup_nil, rfl, fun _ _ => mem_nodeGroup⟩
  · exact ⟨blockNodes items, sk.reach, sk.nodup, sk.groups, fun _ _ => mem_nodeGroup⟩

/-- **The node graph is preserved.**  Read with the compiler's node merging, the sheet is, as a multiset
of edges between NODES (each identified by its first row): the start edge into the first node and, for
every reachable node and every exit `(label, some d)` of it, one edge with that label to the node
`find_node d` — joins, cycles, self loops and parallel edges included; the blank edges between the rows
of one node are absorbed by the merging. -/
theorem node_graph_preserved (f : FlowX U) (rows : List (RowT U)) (h : toRowsT f = .ok rows) :
    ∃ order : List (NodeX U), (∀ m, m ∈ order ↔ Reach f m) ∧ (order.map (·.uuid)).Nodup ∧
      (nodeEdges (groupsT rows) (edgesOfT rows)).Perm ((f.head?.map startEdge).toList ++ order.flatMap (nodeExits f)) := by
  rcases export_cases h with ⟨rfl, rfl⟩ | ⟨n0, items, vis, sk⟩
  · exact ⟨[], fun _ => mem_nil_iff_reach, List.nodup_nil, by simp [nodeEdges, edgesOfT]⟩
  · exact ⟨blockNodes items, sk.reach, sk.nodup, by rw [sk.head]; exact sk.node_graph⟩

/-- without `_nodeId` (`--strip_uuids`) the merge rule never fires: every row is its own node — a node
with several actions comes back as a chain of one-action nodes linked by the blank edges of `chain` -/
theorem ungrouped_without_node_ids {I : Type} [DecidableEq I] (rows : List (I × List (Option I × Label))) :
    groupRows (N := Unit) (rows.map (fun r => (r.1, none, r.2))) = rows.map (fun r => (r.1, r.1)) := by
  have key : ∀ (l : List (I × List (Option I × Label))) (names : List (Unit × I)) (rep : List (I × I)),
      (l.map (fun r => (r.1, (none : Option Unit), r.2))).foldl groupStep (names, rep)
        = (names, (l.map (fun r => (r.1, r.1))).reverse ++ rep) := by
    intro l
    induction l with
    | nil => intro names rep; rfl
    | cons r l ih =>
      intro names rep
      have : groupStep (names, rep) (r.1, (none : Option Unit), r.2) = (names, (r.1, r.1) :: rep) := by
        simp [groupStep, joinTarget]
      simp only [List.map_cons, List.foldl_cons, this, ih]
      simp
  simp [groupRows, key]

/-! ### (b) ORDER: in which order does a router get its cases back?

The compiler appends the cases of the router that ends in row `s` in the order `outOf s (edgesOf sheet)`
(rows top to bottom, cells left to right).  `_to_rows_recurse` walks the exits of a node in REVERSE and
puts each edge either on a row that is inserted at the FRONT of the sheet (a new node's block; a `go_to`
row) or at the front of the edge list of the first row of an already completed node — wherever that row
stands.  Hence: -/

/-- (b) **edges into the same row keep their exit order** — always.  For every reachable node `n` and
every row `t`: the edges from `n` into `t` appear in the sheet in the order of the exits.  (With
`out_edges_perm`: the sheet order of the exits of `n` is their exit order, stably re-sorted by the
position of the row that carries each edge.) -/
theorem out_edges_same_target_order (f : FlowX U) (rows : List (RowT U)) (h : toRowsT f = .ok rows) (n : NodeX U)
    (hn : Reach f n) (t : TempId U) :
    (outOf (lastId n) (edgesOfT rows)).filter (fun e => decide (e.dst = t)) =
      (exitsEdges f n).filter (fun e => decide (e.dst = t)) := by
  obtain ⟨n0, items, vis, sk⟩ := export_skeleton h hn.ne_nil
  rw [outOf_filter_eq_sel]
  exact sk.sel_eq sk.run hn _ (doneOk_dst f DTrue _ t)

/-- (b) **order preserved, criterion 1** (covers cycles, self loops, any number of `go_to` rows): if in
the exported sheet no edge that leaves `n` was PREPENDED to an existing row — every edge cell that names
the last row of `n` is the LAST edge cell of its row, i.e. each target of `n` was reached from `n`
first — then the sheet lists the exits of `n` exactly in exit order. -/
theorem out_edges_order_of_not_prepended (f : FlowX U) (rows : List (RowT U)) (h : toRowsT f = .ok rows) (n : NodeX U)
    (hn : Reach f n) (hlast : ∀ r ∈ rows, ∀ e ∈ r.edges.dropLast, e.from_ ≠ some (lastId n)) :
    outOf (lastId n) (edgesOfT rows) = exitsEdges f n := by
  obtain ⟨n0, items, vis, sk⟩ := export_skeleton h hn.ne_nil
  have hp : ∀ e, Prepended items e → e.from_ ≠ some (lastId n) := by
    rintro e ⟨m, es, hm, he⟩
    obtain ⟨r, hr, hre⟩ := head_blockRows es (sk.inv.canonB m es hm).2
    exact hlast r (sk.rows_eq ▸ List.mem_flatMap.2 ⟨_, hm, hr⟩) e (hre ▸ he)
  have r' := run_noPrepended (lastId n) sk.run (fun _ _ hm => nomatch hm) hp
  have := sk.sel_eq r' hn (fun _ => true) (doneOk_ne f _ _)
  rw [← outOf_eq_sel] at this
  rw [this]
  exact List.filter_eq_self.2 (fun _ _ => rfl)

/-- (b) **order preserved on a sheet WITHOUT JOINS** (no row has more than one edge cell: a tree with back
edges): every node's exit order is preserved — no edge can have been prepended, so criterion 1 applies. -/
theorem out_edges_order_of_join_free (f : FlowX U) (rows : List (RowT U)) (h : toRowsT f = .ok rows)
    (hjf : ∀ r ∈ rows, r.edges.length ≤ 1) (n : NodeX U) (hn : Reach f n) :
    outOf (lastId n) (edgesOfT rows) = exitsEdges f n := by
  apply out_edges_order_of_not_prepended f rows h n hn
  intro r hr e he
  have := hjf r hr
  have hl : r.edges.dropLast.length = 0 := by simp; omega
  rw [List.length_eq_zero_iff.1 hl] at he
  cases he

/-- (b) **order preserved, criterion 2 — exact** (finding F-C04-b is its negation).  For a reachable
node `n` none of whose edges is carried by a `go_to` row (no exit of `n` leads back to `n` or to an
ancestor): the sheet lists the exits of `n` in exit order IF AND ONLY IF the targets of the exits appear
in the sheet in the order of the exits — no exit's target is exported LATER (further down) than the
target of a following exit. -/
theorem out_edges_order_iff_targets_sorted (f : FlowX U) (rows : List (RowT U)) (h : toRowsT f = .ok rows) (n : NodeX U)
    (hn : Reach f n) (hg : ∀ r ∈ rows, r.goto ≠ [] → ∀ e ∈ r.edges, e.from_ ≠ some (lastId n)) :
    outOf (lastId n) (edgesOfT rows) = exitsEdges f n ↔
      (exitsEdges f n).Pairwise (fun a b => pos (rows.map (·.id)) a.dst ≤ pos (rows.map (·.id)) b.dst) := by
  have hnd := toRowsT_ids_nodup h
  have hsorted := outOf_sorted (lastId n) rows hnd hg
  constructor
  · intro heq
    rw [← heq]; exact hsorted
  · intro hX
    apply eq_of_sorted_filters (fun e : SEdge (TempId U) => e.dst) (pos (rows.map (·.id))) _ _ hsorted hX
    · intro a ha b hb hab
      have hmem : ∀ e ∈ exitsEdges f n, e.dst ∈ rows.map (·.id) := by
        intro e he
        obtain ⟨lab, d, c, hd, hc, rfl⟩ := mem_exitsEdges.1 he
        obtain ⟨c', hc', _, hin, _⟩ := exit_target_exported f rows h n hn lab d hd
        rw [hc] at hc'
        cases hc'
        exact hin
      exact pos_inj (hmem a ha) (hmem b hb) hab
    · intro t
      exact out_edges_same_target_order f rows h n hn t

/-! ### (d) errors -/

/-- (d) what each error value proves: `noNode` (`find_node` raises ValueError) — a reachable exit names a
uuid that is no node of the flow; `noRows` (IndexError) — a reachable node has no row model; no other
error value occurs -/
theorem export_error_cases (f : FlowX U) (x : Err) (h : toRowsT f = .error x) :
    (x = .noNode ∧ ∃ m lab d, Reach f m ∧ (lab, some d) ∈ m.edges ∧ findNode f d = none) ∨
    (x = .noRows ∧ ∃ m, Reach f m ∧ m.rows = []) := by
  have hdef := toRowsT_error f x h
  cases x with
  | fuel => exact hdef.elim
  | noRows => exact Or.inr ⟨rfl, hdef⟩
  | noNode => exact Or.inl ⟨rfl, hdef⟩
  | keyError => exact hdef.elim
  | counterFuel => exact hdef.elim

/-- (d) the exporter accepts a flow IF AND ONLY IF every reachable node has at least one row model and
every exit of a reachable node that names a destination names a node of the flow -/
theorem export_ok_iff (f : FlowX U) :
    (∃ rows, toRowsT f = .ok rows) ↔
      ∀ m, Reach f m → m.rows ≠ [] ∧ ∀ lab d, (lab, some d) ∈ m.edges → findNode f d ≠ none := by
  constructor
  · rintro ⟨rows, h⟩ m hm
    obtain ⟨n0, items, vis, sk, hmem⟩ := export_node h hm
    refine ⟨sk.rows_ne hmem, ?_⟩
    intro lab d hd
    obtain ⟨c, hc, _⟩ := sk.closed m hmem lab d hd
    simp [hc]
  · intro hall
    cases hr : toRowsT f with
    | ok rows => exact ⟨rows, rfl⟩
    | error x =>
      exfalso
      rcases export_error_cases f x hr with ⟨_, m, lab, d, hm, hd, hf⟩ | ⟨_, m, hm, hrows⟩
      · exact (hall m hm).2 lab d hd hf
      · exact (hall m hm).1 hrows

/-- (d) when every reachable node has a row model: the export fails with `noNode` IF AND ONLY IF some
reachable exit names a uuid that is no node of the flow -/
theorem export_noNode_iff (f : FlowX U) (hrows : ∀ m, Reach f m → m.rows ≠ []) :
    toRowsT f = .error .noNode ↔ ∃ m lab d, Reach f m ∧ (lab, some d) ∈ m.edges ∧ findNode f d = none := by
  constructor
  · intro h
    rcases export_error_cases f _ h with ⟨_, h1⟩ | ⟨h1, _⟩
    · exact h1
    · cases h1
  · rintro ⟨m, lab, d, hm, hd, hf⟩
    cases hr : toRowsT f with
    | ok rows => exact absurd hf (((export_ok_iff f).1 ⟨rows, hr⟩ m hm).2 lab d hd)
    | error x =>
      rcases export_error_cases f x hr with ⟨h1, _⟩ | ⟨_, m', hm', hr'⟩
      · rw [h1]
      · exact absurd hr' (hrows m' hm')

/-- (d) when every reachable exit that names a destination names a node of the flow: the export fails with
`noRows` IF AND ONLY IF some reachable node has no row model -/
theorem export_noRows_iff (f : FlowX U)
    (hnodes : ∀ m, Reach f m → ∀ lab d, (lab, some d) ∈ m.edges → findNode f d ≠ none) :
    toRowsT f = .error .noRows ↔ ∃ m, Reach f m ∧ m.rows = [] := by
  constructor
  · intro h
    rcases export_error_cases f _ h with ⟨h1, _⟩ | ⟨_, h1⟩
    · cases h1
    · exact h1
  · rintro ⟨m, hm, hr0⟩
    cases hr : toRowsT f with
    | ok rows => exact absurd hr0 (((export_ok_iff f).1 ⟨rows, hr⟩ m hm).1)
    | error x =>
      rcases export_error_cases f x hr with ⟨_, m', lab, d, hm', hd, hf⟩ | ⟨h1, _⟩
      · exact absurd hf (hnodes m' hm' lab d hd)
      · rw [h1]

/-- (d) the id remapping adds no failure: `to_rows(numbered)` fails exactly when the DFS fails, with
the same error (in particular `KeyError` never happens: every id a row mentions is the id of a row) -/
theorem stripped_error_iff (numbered : Bool) (f : FlowX U) (x : Err) :
    strippedRows numbered f = .error x ↔ toRowsT f = .error x := by
  cases hr : toRowsT f with
  | error y => simp [strippedRows, hr]
  | ok rows =>
    obtain ⟨out, ho⟩ := strippedRows_ok numbered hr
    simp [ho]

/-! ### the final sheet (readable or numbered ids) -/

/-- **The graph of the FINAL sheet.**  In both id modes the rows `to_rows` returns are the temp-id rows
with every id replaced by `σ`, where `σ` is injective on the row ids and never `"start"`; every id a row
mentions is the id of a row.  Hence the graph the compiler reads from the final sheet (`edgesOfS`) is the
renamed graph of the temp-id sheet, the node rows keep their content, and the edges leaving a row keep
their order: every statement above holds for the final sheet, read through `σ`. -/
theorem export_preserves_graph_stripped (numbered : Bool) (f : FlowX U) (out : List RowS)
    (h : strippedRows numbered f = .ok out) :
    ∃ (rows : List (RowT U)) (σ : TempId U → Str), toRowsT f = .ok rows ∧ out = rows.map (renameRow σ) ∧
      (∀ a ∈ rows.map (·.id), σ a ≠ startStr) ∧
      (∀ a ∈ rows.map (·.id), ∀ b ∈ rows.map (·.id), σ a = σ b → a = b) ∧
      (∀ r ∈ rows, RowRefs (rows.map (·.id)) r) ∧
      edgesOfS out = (edgesOfT rows).map (SEdge.map σ) ∧
      nodeRowsS out = (nodeRowsT rows).map (fun x => (σ x.1, x.2.2.2)) ∧
      (∀ s ∈ rows.map (·.id), outOf (σ s) (edgesOfS out) = (outOf s (edgesOfT rows)).map (SEdge.map σ)) := by
  obtain ⟨rows, hr, hre⟩ := strippedRows_ok_iff.1 h
  have hnd := toRowsT_ids_nodup hr
  obtain ⟨σ, ho, hrefs, hst, hinj⟩ := remap_spec hnd hre
  have hne : ∀ r ∈ rows, ∀ e ∈ r.edges, ∀ k, e.from_ = some k → σ k ≠ startStr :=
    fun r hr' e he k hk => hst k ((hrefs r hr').2.1 e he k hk)
  have hE : edgesOfS out = (edgesOfT rows).map (SEdge.map σ) := ho ▸ edgesOfS_rename σ rows hne
  refine ⟨rows, σ, hr, ho, hst, hinj, hrefs, hE, ho ▸ nodeRowsS_rename σ rows, ?_⟩
  intro s hs
  rw [hE]
  apply outOf_map_of_inj σ (rows.map (·.id)) _ s hs _ hinj
  intro e he k hk
  rcases export_cases hr with ⟨_, rfl⟩ | ⟨n0, items, vis, sk⟩
  · exact absurd he (by simp [edgesOfT])
  · exact sk.src_mem (sk.edges ▸ he) k hk

/-! ### non-vacuity and negative witnesses (kernel-evaluated)

`exG`: a two-row node, a router with a JOIN (c1, c3 → node 2; c2 and node 2 → node 3), several edges
between the same nodes (c1, c3), an exit that leads nowhere (c4), a SELF LOOP (c5), a CYCLE back to the
first node (c6) and an UNREACHABLE node (4). -/

deriving instance DecidableEq for NodeX

def exG : FlowX Nat :=
  [ ⟨0, "msg.a".toList, [("a1".toList, none), ("a2".toList, some 70)], [([], some 1)]⟩,
    ⟨1, "split.x".toList, [("w".toList, none)],
      [("c1".toList, some 2), ("c2".toList, some 3), ("c3".toList, some 2), ("c4".toList, none),
       ("c5".toList, some 1), ("c6".toList, some 0)]⟩,
    ⟨2, "msg.b".toList, [("b".toList, none)], [([], some 3)]⟩,
    ⟨3, "msg.c".toList, [("c".toList, none)], [([], none)]⟩,
    ⟨4, "msg.z".toList, [("z".toList, none)], [([], some 0)]⟩ ]

def gA : NodeX Nat := ⟨0, "msg.a".toList, [("a1".toList, none), ("a2".toList, some 70)], [([], some 1)]⟩
def gX : NodeX Nat := ⟨1, "split.x".toList, [("w".toList, none)],
      [("c1".toList, some 2), ("c2".toList, some 3), ("c3".toList, some 2), ("c4".toList, none),
       ("c5".toList, some 1), ("c6".toList, some 0)]⟩
def gZ : NodeX Nat := ⟨4, "msg.z".toList, [("z".toList, none)], [([], some 0)]⟩

/-- the exported temp-id rows of `exG` -/
def rowsG : List (RowT Nat) := (toRowsT exG).toOption.getD []

/-- a result that is not an error is `ok` of whatever is read off it (the default is not used): the kernel only has
to run the export as far as the outermost constructor -/
theorem ok_getD {α : Type} {r : Except Err α} (d : α) (h : r.toOption.isSome = true) : r = .ok (r.toOption.getD d) := by
  cases r with
  | error e => cases h
  | ok a => rfl

theorem rowsG_ok : toRowsT exG = .ok rowsG := ok_getD [] (by decide +kernel)

theorem reach_gA : Reach exG gA := Reach.start rfl
theorem reach_gX : Reach exG gX := Reach.step (lab := []) (d := 1) reach_gA (by decide +kernel) (by decide +kernel)

/-- a printable view: (source row | "start", label, target row) with the readable row names -/
def view (es : List (SEdge (TempId Nat))) : List (Str × Label × Str) :=
  es.map (fun e => ((e.src.map (·.2)).getD startStr, e.label, e.dst.2))

/-- the graph read from the exported sheet of `exG`: start edge, the chain inside the two-row node, the
five connected exits of the router (c5 and c6 through `go_to` rows), the join into msg.c — and nothing
for c4, nothing of the unreachable node -/
theorem exG_graph : view (edgesOfT rowsG) =
    [ ("start".toList, [], "msg.a".toList), ("msg.a".toList, [], "msg.a.1".toList),
      ("msg.a.1".toList, [], "split.x".toList),
      ("split.x".toList, "c1".toList, "msg.b".toList), ("split.x".toList, "c3".toList, "msg.b".toList),
      ("split.x".toList, "c2".toList, "msg.c".toList), ("msg.b".toList, [], "msg.c".toList),
      ("split.x".toList, "c5".toList, "split.x".toList), ("split.x".toList, "c6".toList, "msg.a".toList) ] := by
  decide +kernel

/-- the graph of `exG_graph` is also the one read from the FINAL sheet, with readable and (`exG_graph_numbered`)
with numbered ids -/
theorem exG_graph_named : (strippedRows false exG).toOption.map edgesOfS = some
    [ ⟨none, [], "msg.a".toList⟩, ⟨some "msg.a".toList, [], "msg.a.1".toList⟩,
      ⟨some "msg.a.1".toList, [], "split.x".toList⟩,
      ⟨some "split.x".toList, "c1".toList, "msg.b".toList⟩, ⟨some "split.x".toList, "c3".toList, "msg.b".toList⟩,
      ⟨some "split.x".toList, "c2".toList, "msg.c".toList⟩, ⟨some "msg.b".toList, [], "msg.c".toList⟩,
      ⟨some "split.x".toList, "c5".toList, "split.x".toList⟩, ⟨some "split.x".toList, "c6".toList, "msg.a".toList⟩ ] := by
  decide +kernel

theorem exG_graph_numbered : (strippedRows true exG).toOption.map edgesOfS = some
    [ ⟨none, [], "1".toList⟩, ⟨some "1".toList, [], "2".toList⟩, ⟨some "2".toList, [], "3".toList⟩,
      ⟨some "3".toList, "c1".toList, "4".toList⟩, ⟨some "3".toList, "c3".toList, "4".toList⟩,
      ⟨some "3".toList, "c2".toList, "5".toList⟩, ⟨some "4".toList, [], "5".toList⟩,
      ⟨some "3".toList, "c5".toList, "3".toList⟩, ⟨some "3".toList, "c6".toList, "1".toList⟩ ] := by
  decide +kernel

/-- non-vacuity of `export_preserves_graph` (2): the node rows, node after node, in order, with content -/
theorem exG_node_rows : (nodeRowsT rowsG).map (fun x => (x.1.2, x.2.1, x.2.2.2)) =
    [ ("msg.a".toList, some 0, "a1".toList), ("msg.a.1".toList, some 0, "a2".toList),
      ("split.x".toList, some 1, "w".toList), ("msg.b".toList, some 2, "b".toList),
      ("msg.c".toList, some 3, "c".toList) ] := by decide +kernel

/-- the compiler's merge rule on the sheet of `exG`: the two rows of msg.a form one node, and the node
graph is the flow's reachable graph -/
theorem exG_groups_and_node_graph :
    (groupsT rowsG).map (fun p => (p.1.2, p.2.2)) =
      [ ("msg.a".toList, "msg.a".toList), ("msg.a.1".toList, "msg.a".toList), ("split.x".toList, "split.x".toList),
        ("msg.b".toList, "msg.b".toList), ("msg.c".toList, "msg.c".toList) ] ∧
    view (nodeEdges (groupsT rowsG) (edgesOfT rowsG)) =
      [ ("start".toList, [], "msg.a".toList), ("msg.a".toList, [], "split.x".toList),
        ("split.x".toList, "c1".toList, "msg.b".toList), ("split.x".toList, "c3".toList, "msg.b".toList),
        ("split.x".toList, "c2".toList, "msg.c".toList), ("msg.b".toList, [], "msg.c".toList),
        ("split.x".toList, "c5".toList, "split.x".toList), ("split.x".toList, "c6".toList, "msg.a".toList) ] := by
  decide +kernel

/-- instances of the per-node theorems at the router of `exG` (hypotheses are satisfiable) -/
example : (outOf (lastId gX) (edgesOfT rowsG)).Perm (exitsEdges exG gX) :=
  out_edges_perm exG rowsG rowsG_ok gX reach_gX
example : (outOf (lastId gX) (edgesOfT rowsG)).filter (fun e => decide (e.dst = firstId gA)) =
    (exitsEdges exG gX).filter (fun e => decide (e.dst = firstId gA)) :=
  out_edges_same_target_order exG rowsG rowsG_ok gX reach_gX _
example : ∃ A B, nodeRowsT rowsG = A ++ nodeSig gA ++ B ∧
    nodeSig gA = gA.rows.zipIdx.map (fun x => (rowId gA x.2, some gA.uuid, x.1.2, x.1.1)) ∧ gA.rows ≠ [] :=
  payloads_preserved exG rowsG rowsG_ok gA reach_gA

/-- (a) the unreachable node of `exG` (`exG_gZ_not_reach`) is a node of the flow and has no row -/
theorem exG_unreachable : findNode exG gZ.uuid = some gZ ∧ (∀ r ∈ rowsG, r.nodeId ≠ some gZ.uuid) := by
  decide +kernel

theorem exG_gZ_not_reach : ¬ Reach exG gZ := by
  intro h
  have key : ∀ m, Reach exG m → m.uuid ≠ 4 := by
    intro m hm
    induction hm with
    | start h0 => simp only [exG, List.head?_cons, Option.some.injEq] at h0; subst h0; decide
    | @step n c lab d _ hmem hfn ih =>
      have hcu := findNode_uuid hfn
      have hn : n ∈ exG := findNode_mem (Reach.canon ‹_›)
      have : ∀ n ∈ exG, n.uuid ≠ 4 → ∀ le ∈ n.edges, le.2 ≠ some 4 := by decide +kernel
      intro h4
      exact this n hn ih (lab, some d) hmem (by rw [← hcu, h4])
  exact key gZ h rfl

example : ∀ r ∈ rowsG, r.nodeId ≠ some gZ.uuid :=
  unreachable_not_exported exG rowsG rowsG_ok gZ (by decide +kernel) exG_gZ_not_reach

/-- **F-C04-a, at the model level**: the router of `exG` has six exits, c4 leads nowhere; the sheet has
five edges leaving it, none labelled c4 — after recompilation the router has no case for c4 (the
recorded finding: "router categories whose exit leads nowhere are not exported: their tests vanish") -/
theorem dangling_category_vanishes :
    gX.edges.map (·.1) = ["c1", "c2", "c3", "c4", "c5", "c6"].map String.toList ∧
    (outOf (lastId gX) (edgesOfT rowsG)).map (·.label) = ["c1", "c3", "c2", "c5", "c6"].map String.toList := by
  decide +kernel

example : ∀ e ∈ edgesOfT rowsG, e.src = some (lastId gX) → e.label ≠ "c4".toList :=
  (export_drops_dangling_exits exG rowsG rowsG_ok gX reach_gX).2 _ (by decide +kernel) (by intro d hd; simp [gX] at hd)

/-- **F-C04-b, at the model level** (the recorded finding: "the order of a router's tests changes when a
test's target is exported later than the target of a following test (joins)"): the minimal flow
`t1 → x, t2 → y, y → x`.  The DFS walks the exits in reverse, exports `y` (and below it `x`) first, then
finds `x` completed and prepends `t1` to its row — which stands BELOW the row of `y`: the compiler gets
the tests back as `t2, t1`. -/
def exB : FlowX Nat :=
  [ ⟨0, "split".toList, [("r".toList, none)], [("t1".toList, some 1), ("t2".toList, some 2)]⟩,
    ⟨1, "msg.x".toList, [("x".toList, none)], [([], none)]⟩,
    ⟨2, "msg.y".toList, [("y".toList, none)], [([], some 1)]⟩ ]
def bR : NodeX Nat := ⟨0, "split".toList, [("r".toList, none)], [("t1".toList, some 1), ("t2".toList, some 2)]⟩
def rowsB : List (RowT Nat) := (toRowsT exB).toOption.getD []
theorem rowsB_ok : toRowsT exB = .ok rowsB := ok_getD [] (by decide +kernel)

theorem order_changes_at_join :
    (exitsEdges exB bR).map (·.label) = ["t1".toList, "t2".toList] ∧
    (outOf (lastId bR) (edgesOfT rowsB)).map (·.label) = ["t2".toList, "t1".toList] ∧
    rowsB.map (·.id.2) = ["split".toList, "msg.y".toList, "msg.x".toList] ∧
    -- the trigger, exactly as recorded: the target of t1 stands further down than the target of t2
    ¬ (exitsEdges exB bR).Pairwise (fun a b => pos (rowsB.map (·.id)) a.dst ≤ pos (rowsB.map (·.id)) b.dst) ∧
    -- … and in the final sheet, both id modes
    (strippedRows false exB).toOption.map (fun out => (outOf "split".toList (edgesOfS out)).map (·.label)) =
      some ["t2".toList, "t1".toList] ∧
    (strippedRows true exB).toOption.map (fun out => (outOf "1".toList (edgesOfS out)).map (·.label)) =
      some ["t2".toList, "t1".toList] := by
  decide +kernel

/-- `order_changes_at_join` is an instance of the exact criterion (no `go_to` row in that sheet) -/
example : outOf (lastId bR) (edgesOfT rowsB) = exitsEdges exB bR ↔
    (exitsEdges exB bR).Pairwise (fun a b => pos (rowsB.map (·.id)) a.dst ≤ pos (rowsB.map (·.id)) b.dst) :=
  out_edges_order_iff_targets_sorted exB rowsB rowsB_ok bR (Reach.start rfl) (by decide +kernel)

/-- the hypothesis of criterion 1 is needed: in `exB` the edge t1 was prepended, and the order changed;
in `exG` likewise (c1 was prepended to the row of msg.b, c2 to the row of msg.c): c1, c2, c3 come back as
c1, c3, c2 -/
theorem needs_not_prepended :
    (¬ ∀ r ∈ rowsB, ∀ e ∈ r.edges.dropLast, e.from_ ≠ some (lastId bR)) ∧
    outOf (lastId bR) (edgesOfT rowsB) ≠ exitsEdges exB bR ∧
    (¬ ∀ r ∈ rowsG, ∀ e ∈ r.edges.dropLast, e.from_ ≠ some (lastId gX)) ∧
    outOf (lastId gX) (edgesOfT rowsG) ≠ exitsEdges exG gX :=
  ⟨by decide +kernel, by decide +kernel, by decide +kernel⟩

/-- a DIAMOND (join at node 3) whose order IS preserved: both criteria apply to the router although the
sheet has a row with two edges (so `out_edges_order_of_join_free` does not) -/
def exD : FlowX Nat :=
  [ ⟨0, "split".toList, [("r".toList, none)], [("t1".toList, some 1), ("t2".toList, some 2)]⟩,
    ⟨1, "msg.x".toList, [("x".toList, none)], [([], some 3)]⟩,
    ⟨2, "msg.y".toList, [("y".toList, none)], [([], some 3)]⟩,
    ⟨3, "msg.j".toList, [("j".toList, none)], [([], none)]⟩ ]
def rowsD : List (RowT Nat) := (toRowsT exD).toOption.getD []
theorem rowsD_ok : toRowsT exD = .ok rowsD := ok_getD [] (by decide +kernel)

theorem diamond_order_preserved :
    (¬ ∀ r ∈ rowsD, r.edges.length ≤ 1) ∧
    (∀ r ∈ rowsD, ∀ e ∈ r.edges.dropLast, e.from_ ≠ some (lastId bR)) ∧
    (∀ r ∈ rowsD, r.goto ≠ [] → ∀ e ∈ r.edges, e.from_ ≠ some (lastId bR)) ∧
    (exitsEdges exD bR).Pairwise (fun a b => pos (rowsD.map (·.id)) a.dst ≤ pos (rowsD.map (·.id)) b.dst) ∧
    outOf (lastId bR) (edgesOfT rowsD) = exitsEdges exD bR :=
  ⟨by decide +kernel, by decide +kernel, by decide +kernel, by decide +kernel⟩

example : outOf (lastId bR) (edgesOfT rowsD) = exitsEdges exD bR :=
  out_edges_order_of_not_prepended exD rowsD rowsD_ok bR (Reach.start rfl) diamond_order_preserved.2.1

/-- criterion 2 is strictly more general than criterion 1 on go_to-free nodes: two tests with the SAME
target — the first one is prepended (criterion 1 does not apply), the targets are sorted, the order is
preserved -/
def exP : FlowX Nat :=
  [ ⟨0, "split".toList, [("r".toList, none)], [("t1".toList, some 1), ("t2".toList, some 1)]⟩,
    ⟨1, "msg.x".toList, [("x".toList, none)], [([], none)]⟩ ]
def pR : NodeX Nat := ⟨0, "split".toList, [("r".toList, none)], [("t1".toList, some 1), ("t2".toList, some 1)]⟩
def rowsP : List (RowT Nat) := (toRowsT exP).toOption.getD []
theorem rowsP_ok : toRowsT exP = .ok rowsP := ok_getD [] (by decide +kernel)

theorem same_target_prepended_but_sorted :
    (¬ ∀ r ∈ rowsP, ∀ e ∈ r.edges.dropLast, e.from_ ≠ some (lastId pR)) ∧
    (exitsEdges exP pR).Pairwise (fun a b => pos (rowsP.map (·.id)) a.dst ≤ pos (rowsP.map (·.id)) b.dst) ∧
    outOf (lastId pR) (edgesOfT rowsP) = exitsEdges exP pR := by
  decide +kernel

/-- the go_to hypothesis of criterion 2 is needed: `t1 → x, t2 → back to the router itself`; the `go_to`
row that carries t2 stands BELOW the row of x although its target (the router's own row) stands above:
the order is preserved while the targets are "not sorted" -/
def exL : FlowX Nat :=
  [ ⟨0, "split".toList, [("r".toList, none)], [("t1".toList, some 1), ("t2".toList, some 0)]⟩,
    ⟨1, "msg.x".toList, [("x".toList, none)], [([], none)]⟩ ]
def lR : NodeX Nat := ⟨0, "split".toList, [("r".toList, none)], [("t1".toList, some 1), ("t2".toList, some 0)]⟩
def rowsL : List (RowT Nat) := (toRowsT exL).toOption.getD []
theorem rowsL_ok : toRowsT exL = .ok rowsL := ok_getD [] (by decide +kernel)

theorem needs_no_goto_from_node :
    (¬ ∀ r ∈ rowsL, r.goto ≠ [] → ∀ e ∈ r.edges, e.from_ ≠ some (lastId lR)) ∧
    outOf (lastId lR) (edgesOfT rowsL) = exitsEdges exL lR ∧
    ¬ (exitsEdges exL lR).Pairwise (fun a b => pos (rowsL.map (·.id)) a.dst ≤ pos (rowsL.map (·.id)) b.dst) := by
  decide +kernel

/-- the self-loop sheet of `exL` is join-free: criterion 1 applies (cycles are covered by it) -/
example : outOf (lastId lR) (edgesOfT rowsL) = exitsEdges exL lR :=
  out_edges_order_of_join_free exL rowsL rowsL_ok (by decide +kernel) lR (Reach.start rfl)

/-- reachability is needed in the per-node statements: the unreachable node of `exG` has an exit to the
first node, the sheet has no edge for it -/
theorem needs_reachable :
    outOf (lastId gZ) (edgesOfT rowsG) = [] ∧ (exitsEdges exG gZ).length = 1 := by
  decide +kernel

/-- the join-free hypothesis is needed: the sheet of `exB` has a row with two edges, and the order changed -/
theorem needs_join_free :
    (¬ ∀ r ∈ rowsB, r.edges.length ≤ 1) ∧ outOf (lastId bR) (edgesOfT rowsB) ≠ exitsEdges exB bR := by
  decide +kernel

/-- `unreachable_not_exported` is about the node `find_node` returns for its uuid: a second node with the
uuid of a reachable one is not reachable (it can never be found), yet rows carry "its" uuid -/
theorem needs_canonical :
    let f : FlowX Nat := [⟨0, "a".toList, [("r".toList, none)], [([], none)]⟩, ⟨0, "b".toList, [("s".toList, none)], [([], none)]⟩]
    findNode f 0 ≠ some ⟨0, "b".toList, [("s".toList, none)], [([], none)]⟩ ∧
    (toRowsT f).toOption.map (fun rows => rows.map (·.nodeId)) = some [some 0] := by
  decide +kernel

/-! #### errors -/

/-- a reachable exit names a uuid that is no node of the flow: `find_node` raises -/
theorem error_noNode_witness :
    toRowsT ([⟨0, "a".toList, [("r".toList, none)], [([], some 7)]⟩] : FlowX Nat) = .error .noNode ∧
    strippedRows true ([⟨0, "a".toList, [("r".toList, none)], [([], some 7)]⟩] : FlowX Nat) = .error .noNode := by
  decide +kernel

/-- a reachable node without row model (a `BasicNode` without actions): IndexError -/
theorem error_noRows_witness :
    toRowsT ([⟨0, "a".toList, [], [([], none)]⟩] : FlowX Nat) = .error .noRows := by decide +kernel

/-- defects of UNREACHABLE nodes do not matter: an unreachable node without rows and with an exit to a
missing node is simply not exported -/
theorem unreachable_defects_ignored :
    (toRowsT ([⟨0, "a".toList, [("r".toList, none)], [([], none)]⟩, ⟨1, "b".toList, [], [([], some 9)]⟩] : FlowX Nat)).toOption.map
      List.length = some 1 := by decide +kernel

/-- the side hypotheses of `export_noNode_iff` / `export_noRows_iff` are needed: with both defects
reachable, the error reported is the one the reverse walk meets first -/
theorem needs_rows_for_noNode_iff :
    toRowsT ([⟨0, "a".toList, [("r".toList, none)], [("l1".toList, some 9), ("l2".toList, some 1)]⟩,
              ⟨1, "b".toList, [], []⟩] : FlowX Nat) = .error .noRows ∧
    toRowsT ([⟨0, "a".toList, [("r".toList, none)], [("l1".toList, some 1), ("l2".toList, some 9)]⟩,
              ⟨1, "b".toList, [], []⟩] : FlowX Nat) = .error .noNode := by
  decide +kernel

/-- non-vacuity of `export_ok_iff` (←) / `export_preserves_graph_stripped`: `exG` is accepted in both id modes -/
example : ∃ rows, toRowsT exG = .ok rows := ⟨rowsG, rowsG_ok⟩
example : ((strippedRows false exG).toOption.map List.length, (strippedRows true exG).toOption.map List.length) = (some 7, some 7) := by
  decide +kernel

end Rpft.Props.C04
