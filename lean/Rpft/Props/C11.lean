/-
C11 — Data-sheet concat, filter and sort do exactly that, and never touch their source.

All statements are for sheets of any length, any IDs / payloads / key functions, and chains
of operations of any length.  A `Sheet` is Python's `OrderedDict` ID → row; `WF s` (IDs
pairwise distinct) is the dict invariant, shown to hold for everything the model ever builds
(`result_nodup`, `wf_runOps`).
-/
import Rpft.Lemmas.DataOps
import Rpft.Gen.Tables
import Rpft.Canon
namespace Rpft.Props.C11
open Rpft Rpft.DataOps

/-- T1: the operation names / order word / `Operation` fields of the model are those of the source.
Operation names and single-source operations are sets (distinct constants of an equality dispatch /
a membership test): compared up to order.  The field order of `Operation` is exact (an operation
written in one cell is read positionally). -/
theorem tables_agree :
    Canon.sameSet Gen.dataOpTypeNames opTypeNames ∧
    Canon.sameSet Gen.dataOpSingleSource singleSourceTypes ∧
    Gen.dataOpOrderWords = [descendingWord] ∧
    Gen.dataOpFields = ["type".toList, "expression".toList, "order".toList] := by
  -- the kernel decodes a string literal byte by byte: the literals are spelt as character
  -- lists first
  unfold opTypeNames singleSourceTypes descendingWord
  repeat rw [String.toList_ofList]
  decide +kernel

/-- the dict invariant: every row ID appears once -/
abbrev WF (s : Sheet) : Prop := (Dict.keys s).Nodup

def WFSt (st : St) : Prop := (Dict.keys st.data).Nodup ∧ ∀ n s, st.data.get n = some s → WF s

/-- **concat**: the IDs of the result are the IDs of the sources' rows, in source order, each at
the position of its FIRST occurrence; the content of an ID is that of its LAST occurrence;
every ID appears once. -/
theorem concat_spec (ss : List Sheet) :
    Dict.keys (concatSheets ss) = firstOcc (ss.flatten.map (·.1)) ∧
    (∀ i, Dict.get (concatSheets ss) i = lastVal ss.flatten i) ∧
    WF (concatSheets ss) := by
  rw [concatSheets_eq]
  exact ⟨Dict.keys_ofList _, Dict.get_ofList _, Dict.nodup_ofList _⟩

/-- sources with pairwise distinct IDs are simply appended -/
theorem concat_disjoint (ss : List Sheet) (h : (ss.flatten.map (·.1)).Nodup) :
    concatSheets ss = ss.flatten := by
  rw [concatSheets_eq, Dict.ofList_of_nodup h]

/-- a fresh sheet is parsed the same way (`OrderedDict((row.ID, row) …)`) -/
theorem fresh_spec (rows : List Row) :
    Dict.keys (Dict.ofList rows) = firstOcc (rows.map (·.1)) ∧
    (∀ i, Dict.get (Dict.ofList rows) i = lastVal rows i) ∧ WF (Dict.ofList rows) :=
  ⟨Dict.keys_ofList _, Dict.get_ofList _, Dict.nodup_ofList _⟩

example : concatSheets [[("a".toList, 0), ("b".toList, 1)], [("c".toList, 2), ("a".toList, 3)]]
    = [("a".toList, 3), ("b".toList, 1), ("c".toList, 2)] := by decide +kernel

/-- **filter**: exactly the rows whose expression value `is True`, in original order. -/
theorem filter_spec (p : Payload → FKey) (s : Sheet) (hs : WF s) :
    filterSheet p s = s.filter (fun r => p r.2 = .isTrue) := by
  rw [filterSheet_eq]
  exact Dict.ofList_of_nodup ((List.filter_sublist.map _).nodup hs)

example : WF [("a".toList, 0), ("b".toList, 1)] := by decide +kernel

/-- without the dict invariant the statement is false (a list with a repeated ID is not a dict) -/
theorem filter_needs_wf :
    ¬ (filterSheet (fun _ => .isTrue) [("a".toList, 0), ("a".toList, 1)]
        = [("a".toList, 0), ("a".toList, 1)].filter (fun r => (fun _ => FKey.isTrue) r.2 = .isTrue)) := by
  decide +kernel

/-- a truthy value that is not the object `True` keeps nothing -/
theorem filter_other_drops (s : Sheet) (hs : WF s) : filterSheet (fun _ => .other) s = [] := by
  rw [filter_spec _ s hs]; simp

theorem filter_sublist (p : Payload → FKey) (s : Sheet) (hs : WF s) :
    List.Sublist (filterSheet p s) s := by
  rw [filter_spec p s hs]; exact List.filter_sublist

theorem sort_any_spec (k : Payload → Key) (desc : Bool) (s : Sheet) (hs : WF s) :
    (sortSheet k desc s).Perm s ∧
    (sortSheet k desc s).Pairwise (fun a b => sortLe k desc a b = true) ∧
    (∀ v, (sortSheet k desc s).filter (fun r => k r.2 = v) = s.filter (fun r => k r.2 = v)) := by
  rw [sortSheet_eq k desc s hs]
  refine ⟨List.mergeSort_perm _ _,
    List.pairwise_mergeSort (sortLe_trans k desc) (sortLe_total k desc) s, fun v => ?_⟩
  apply mergeSort_filter_eq _ (sortLe_trans k desc) (sortLe_total k desc)
  intro a b ha hb
  simp only [decide_eq_true_eq] at ha hb
  cases desc <;> simp [sortLe, ha, hb, Key.le_refl]

/-- **sort** (ascending): a permutation of the rows, ordered by key, and stable: the rows having
any given key value appear in their input order. -/
theorem sort_spec (k : Payload → Key) (s : Sheet) (hs : WF s) :
    (sortSheet k false s).Perm s ∧
    (sortSheet k false s).Pairwise (fun a b => (k a.2).le (k b.2) = true) ∧
    (∀ v, (sortSheet k false s).filter (fun r => k r.2 = v) = s.filter (fun r => k r.2 = v)) := by
  simpa [sortLe] using sort_any_spec k false s hs

/-- **sort descending**: a permutation, ordered by key from large to small, and ties STILL in
input order (`sorted(reverse=True)` does not reverse equal elements). -/
theorem sort_desc_spec (k : Payload → Key) (s : Sheet) (hs : WF s) :
    (sortSheet k true s).Perm s ∧
    (sortSheet k true s).Pairwise (fun a b => (k b.2).le (k a.2) = true) ∧
    (∀ v, (sortSheet k true s).filter (fun r => k r.2 = v) = s.filter (fun r => k r.2 = v)) := by
  simpa [sortLe] using sort_any_spec k true s hs

theorem sort_sorted_id (k : Payload → Key) (desc : Bool) (s : Sheet) (hs : WF s)
    (h : s.Pairwise (fun a b => sortLe k desc a b = true)) : sortSheet k desc s = s := by
  rw [sortSheet_eq k desc s hs, List.mergeSort_of_pairwise h]

/-- descending is NOT "ascending, then reversed": on a tie the two differ -/
theorem desc_is_not_reverse :
    sortSheet (fun _ => .int 0) true [("a".toList, 0), ("b".toList, 1)]
      ≠ (sortSheet (fun _ => .int 0) false [("a".toList, 0), ("b".toList, 1)]).reverse := by
  rw [sort_sorted_id _ _ _ (by decide) (by decide), sort_sorted_id _ _ _ (by decide) (by decide)]
  decide +kernel

/-- whatever a `data_sheet` row computes is a dict: every row ID appears once -/
theorem result_nodup (env : Env) (st : St) (op : Op) (c : Nat) (s : Sheet)
    (h : opResult env st op = .ok (c, s)) : WF s := by
  unfold opResult at h
  cases hk : op.kind <;>
    simp only [hk, dataSheetsConcat, Except.bind_eq_ok, Except.pure_eq_ok, Except.throw_eq_ok,
      Prod.mk.injEq] at h
  case none | concat =>
    obtain ⟨_, ⟨ss, _, rfl⟩, _, rfl⟩ := h
    exact (concat_spec ss).2.2
  case filter p =>
    obtain ⟨_, _, s', _, _, rfl⟩ := h
    exact filterSheet_eq p s' ▸ Dict.nodup_ofList _
  case sort k desc =>
    obtain ⟨_, _, s', _, h⟩ := h
    split at h
    · simp only [Except.pure_eq_ok, Prod.mk.injEq] at h
      exact h.2 ▸ Dict.nodup_ofList _
    · exact (Except.throw_eq_ok.1 h).elim

/-- **nodup_preserved**: each of the three operations maps a dict to a dict -/
theorem nodup_preserved (p : Payload → FKey) (k : Payload → Key) (desc : Bool) (ss : List Sheet)
    (s : Sheet) :
    WF (concatSheets ss) ∧ WF (filterSheet p s) ∧ WF (sortSheet k desc s) :=
  ⟨(concat_spec ss).2.2, filterSheet_eq p s ▸ Dict.nodup_ofList _, Dict.nodup_ofList _⟩

theorem process_ok {env : Env} {st st' : St} {op : Op}
    (h : processDataSheet env st op = .ok st') :
    ∃ c s t, opResult env st op = .ok (c, s) ∧ targetName op = .ok t ∧
      st'.data = st.data.set t s := by
  simp only [processDataSheet, Except.bind_eq_ok, Except.pure_eq_ok] at h
  obtain ⟨⟨c, s⟩, hr, t, ht, rfl⟩ := h
  exact ⟨c, s, t, hr, ht, rfl⟩

/-- **registered under the new name**: after the step, the new name holds exactly the computed
sheet, and the set of registered names grew by at most that name (earlier names keep their
position). -/
theorem registered_spec {env : Env} {st st' : St} {op : Op}
    (h : processDataSheet env st op = .ok st') :
    ∃ c s t, opResult env st op = .ok (c, s) ∧ targetName op = .ok t ∧
      st'.data.get t = some s ∧
      Dict.keys st'.data = (if t ∈ Dict.keys st.data then Dict.keys st.data
                            else Dict.keys st.data ++ [t]) := by
  obtain ⟨c, s, t, h1, h2, h3⟩ := process_ok h
  exact ⟨c, s, t, h1, h2, by rw [h3, Dict.get_set_self], by rw [h3, Dict.keys_set_inst]⟩

/-- the new name is the given `new_name` whenever there is one -/
theorem target_is_new_name (op : Op) (h : op.newName ≠ []) : targetName op = .ok op.newName := by
  simp [targetName, h, pure, Except.pure]

/-- **sources_untouched** (one step): every other registered name — in particular every source
of the operation — still holds the same rows in the same order. -/
theorem sources_untouched {env : Env} {st st' : St} {op : Op}
    (h : processDataSheet env st op = .ok st') (n : Str) (hn : targetName op ≠ .ok n) :
    st'.data.get n = st.data.get n := by
  obtain ⟨c, s, t, _, h2, h3⟩ := process_ok h
  rw [h3]
  apply Dict.get_set_ne
  intro e
  exact hn (e ▸ h2)

/-- **sources_untouched** (chains): after any chain of operations, a name that no operation of
the chain registers under holds what it held before. -/
theorem chain_untouched {env : Env} (ops : List Op) {st st' : St}
    (h : runOps env st ops = .ok st') (n : Str) (hn : ∀ op ∈ ops, targetName op ≠ .ok n) :
    st'.data.get n = st.data.get n := by
  induction ops generalizing st with
  | nil => rw [Except.pure_eq_ok.1 h]
  | cons op ops ih =>
    simp only [runOps, Except.bind_eq_ok] at h
    obtain ⟨st1, hp, h⟩ := h
    rw [ih h (fun o ho => hn o (List.mem_cons_of_mem _ ho))]
    exact sources_untouched hp n (hn op (List.mem_cons_self))

/-- **chains**: the sheet registered by step `op` of a chain `pre ++ op :: post`, if no later
step re-registers its name, is still exactly that sheet at the end — whatever the later steps
(which may use it as a source, repeatedly, directly or through derived sheets) do. -/
theorem registered_persists {env : Env} (pre post : List Op) (op : Op) {st0 st1 st3 : St}
    (h1 : runOps env st0 pre = .ok st1)
    (h3 : runOps env st0 (pre ++ op :: post) = .ok st3)
    (t : Str) (ht : targetName op = .ok t) (hpost : ∀ o ∈ post, targetName o ≠ .ok t) :
    ∃ c s, opResult env st1 op = .ok (c, s) ∧ st3.data.get t = some s := by
  rw [runOps_append, h1] at h3
  simp only [Except.bind, runOps, Except.bind_eq_ok] at h3
  obtain ⟨st2, hp, h3⟩ := h3
  obtain ⟨c, s, t', hr, ht', hg, _⟩ := registered_spec hp
  obtain rfl : t' = t := Except.ok.inj (ht'.symm.trans ht)
  exact ⟨c, s, hr, by rw [chain_untouched post h3 t' hpost, hg]⟩

theorem wf_process {env : Env} {st st' : St} {op : Op} (hst : WFSt st)
    (h : processDataSheet env st op = .ok st') : WFSt st' := by
  obtain ⟨c, s, t, h1, h2, h3⟩ := process_ok h
  constructor
  · rw [h3]; exact Dict.nodup_set hst.1 _ _
  · intro n s' hs'
    rw [h3, Dict.get_set] at hs'
    split at hs'
    · cases hs'; exact result_nodup env st op c s h1
    · exact hst.2 n s' hs'

theorem wf_runOps {env : Env} (ops : List Op) {st st' : St} (hst : WFSt st)
    (h : runOps env st ops = .ok st') : WFSt st' := by
  induction ops generalizing st with
  | nil => exact Except.pure_eq_ok.1 h ▸ hst
  | cons op ops ih =>
    simp only [runOps, Except.bind_eq_ok] at h
    obtain ⟨st1, hp, h⟩ := h
    exact ih (wf_process hst hp) h

theorem wf_init : WFSt {} := by
  constructor
  · simp [Dict.keys]
  · intro n s h; simp [Dict.get] at h

/-- **every row ID appears once** in every sheet registered after any chain from the start -/
theorem ids_once {env : Env} (ops : List Op) {st : St} (h : runOps env {} ops = .ok st)
    (n : Str) (s : Sheet) (hs : st.data.get n = some s) : WF s :=
  (wf_runOps ops wf_init h).2 n s hs

/-- `_get_data_sheet`: a registered name is reused as is -/
theorem source_registered (env : Env) (st : St) (n : Str) (s : Sheet)
    (h : st.data.get n = some s) : getDataSheet env st n = .ok s := by
  simp [getDataSheet, h, pure, Except.pure]

/-- `_get_data_sheet`: an unregistered name is parsed fresh from the reader (and not registered: `getDataSheet`
returns no state). -/
theorem source_fresh (env : Env) (st : St) (n : Str) (rows : List Row)
    (h : st.data.get n = none) (hr : env n = some rows) :
    getDataSheet env st n = .ok (Dict.ofList rows) := by
  simp [getDataSheet, getNew, h, hr, pure, Except.pure]

/-- **to_dict**: the saved document lists exactly the registered names, in registration order,
and per name exactly its rows in sheet order. -/
theorem to_dict_spec (st : St) :
    (dataSheetsToDict st).map (·.1) = Dict.keys st.data ∧
    (dataSheetsToDict st).map (·.2) = st.data.map (fun ns => ns.2.map (·.2)) ∧
    (∀ n, Dict.get (dataSheetsToDict st) n = (st.data.get n).map (fun s => s.map (·.2))) := by
  exact ⟨Dict.keys_map _ _, by simp [dataSheetsToDict], Dict.get_map _ _⟩

end Rpft.Props.C11
