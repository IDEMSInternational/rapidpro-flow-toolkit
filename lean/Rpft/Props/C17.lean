/-
C17 — `--strip_uuids` sheets do not depend on the UUIDs in the flow file.

Property theorems only (helper lemmas: `Rpft/Lemmas/Export.lean`, `ExportIds.lean`, `ExportDfs.lean`,
`ExportGraphInv.lean` for the distinct temp ids, `ExportGraphReach.lean` for the errors).  The exporter model `Rpft/Export.lean` is polymorphic in the identifier type
`U` (it only ever compares identifiers for equality / tests membership in sets of identifiers);
all statements are for ALL flows (any graph: joins, cycles, self loops, dangling exits,
duplicate node ids), unbounded.  Header order (`networkx.topological_sort`), `unparse_row` and
the file writer are uninterpreted functions of the uuid-free rows.
-/
import Rpft.Lemmas.Export
import Rpft.Lemmas.ExportGraphReach
import Rpft.Gen.Tables
import Rpft.Canon
namespace Rpft.Props.C17
open Rpft Rpft.Export Function

deriving instance DecidableEq for Except

/-- T1: the constants of the model are the constants of the source (regenerated each run):
the excluded headers are exactly the headers of the two uuid-carrying row fields the stripped row
type drops; `"start"`; the `"|goto."` literal and `go_to` type of back-edge rows; the `|` of temp ids.
The two header lists are sets (compared up to order). -/
theorem tables_agree :
    Canon.sameSet Gen.exportExcludedHeaders excludedHeaders ∧
    Canon.sameSet Gen.exportIdFieldHeaders idFieldHeaders ∧
    (∀ h ∈ idFieldHeaders, h ∈ excludedHeaders) ∧
    Gen.exportStartFrom = startStr ∧ Gen.exportStartDict = [(startStr, startStr)] ∧
    Gen.exportGotoIdLiteral = tempIdSeparator ++ gotoPrefix ∧ Gen.exportGotoType = gotoPayload ∧
    Gen.exportTempIdSeparator = tempIdSeparator := by
  -- the kernel decodes a string literal byte by byte; the literals are spelt as character lists first
  unfold excludedHeaders idFieldHeaders startStr tempIdSeparator gotoPrefix gotoPayload
  repeat rw [String.toList_ofList]
  decide +kernel

variable {U V : Type} [DecidableEq U] [DecidableEq V]

/-- `find_node` ("first node with this uuid") commutes with injective renamings — the front end. -/
theorem find_node_equivariant {ρ : U → V} (h : Injective ρ) (f : FlowX U) (u : U) :
    findNode (mapU ρ f) (ρ u) = (findNode f u).map (NodeX.map ρ) := findNode_map h f u

/-- The DFS `_to_rows_recurse` is equivariant: exporting the renamed flow gives the renamed rows
(same row order, same edges per row in the same order, same go_to rows, same errors). -/
theorem toRows_equivariant {ρ : U → V} (h : Injective ρ) (f : FlowX U) :
    toRowsT (mapU ρ f) = exMap (List.map (RowT.map ρ)) (toRowsT f) := toRowsT_map h f

/-- The remapping of temp ids (numbered or named) does not look inside a temp id. -/
theorem remap_equivariant {ρ : U → V} (h : Injective ρ) (numbered : Bool) (rows : List (RowT U)) :
    remap numbered (rows.map (RowT.map ρ)) = remap numbered rows := remap_map h numbered rows

/-- **C17** (rows): a consistent injective renaming of ALL identifiers of a flow does not change
the stripped rows — ids, payloads, `from`s, edge order, go_to targets — with and without
`numbered`. -/
theorem strip_renaming_invariant {ρ : U → V} (h : Injective ρ) (numbered : Bool) (f : FlowX U) :
    strippedRows numbered (mapU ρ f) = strippedRows numbered f := strippedRows_map h numbered f

/-- **C17** (file): for every `unparse_row`, every header-ordering function and every file writer,
the bytes written for the renamed flow are the bytes written for the flow. -/
theorem sheet_renaming_invariant {ρ : U → V} (h : Injective ρ) {Bytes : Type}
    (unparse : RowS → List (Str × Str)) (topo : List (List Str) → List Str)
    (write : List Str → List (List Str) → Bytes) (numbered : Bool) (f : FlowX U) :
    sheetBytes unparse topo write numbered (mapU ρ f) = sheetBytes unparse topo write numbered f := by
  simp only [sheetBytes, strip_renaming_invariant h]

/-- non-vacuity: a flow with a join, a back edge (go_to row) and a two-action node, renamed by the
injective `n ↦ n + 7`; the stripped rows are the expected five rows. -/
def exFlow : FlowX Nat :=
  [ ⟨0, "msg.hi".toList, [("a".toList, none), ("b".toList, some 9)], [([], some 1)]⟩,
    ⟨1, "wait_for.x".toList, [("w".toList, none)], [("yes".toList, some 2), ("no".toList, some 0), ([], some 2)]⟩,
    ⟨2, "msg.hi".toList, [("c".toList, none)], [([], none)]⟩ ]

example : Injective (fun n : Nat => n + 7) := fun a b h => by simpa using h

example : strippedRows false (mapU (fun n : Nat => n + 7) exFlow) = .ok
    [ ⟨"msg.hi".toList, "a".toList, [("start".toList, [])], []⟩,
      ⟨"msg.hi.1".toList, "b".toList, [("msg.hi".toList, [])], []⟩,
      ⟨"wait_for.x".toList, "w".toList, [("msg.hi.1".toList, [])], []⟩,
      ⟨"goto.msg.hi".toList, "go_to".toList, [("wait_for.x".toList, "no".toList)], ["msg.hi".toList]⟩,
      ⟨"msg.hi.2".toList, "c".toList, [("wait_for.x".toList, "yes".toList), ("wait_for.x".toList, [])], []⟩ ] := by
  -- literals as character lists first, as in `tables_agree`
  unfold exFlow
  repeat rw [String.toList_ofList]
  decide +kernel

/-- The stripped output has no identifier component: for every identifier type `U` the result
lives in the one fixed type `Except Err (List RowS)`, and `RowS` is declared without `U`
(`obj_id`, `_nodeId`, temp ids and fresh go_to ids cannot occur in it — a typing fact). -/
theorem stripped_rows_U_free (numbered : Bool) :
    ∀ (U : Type) [DecidableEq U] (f : FlowX U), ∃ r : Except Err (List RowS), strippedRows numbered f = r :=
  fun _ _ f => ⟨strippedRows numbered f, rfl⟩

/-- The temp ids of the exported rows are pairwise distinct (every flow, any graph). -/
theorem toRows_temp_ids_nodup (f : FlowX U) (rows : List (RowT U)) (h : toRowsT f = .ok rows) :
    (rows.map (·.id)).Nodup := toRowsT_ids_nodup h

/-- The recursion fuel of the model (`|nodes| + 1`) is never exhausted: every recursive call visits a
node of the flow that was not visited before (the termination argument of `_to_rows_recurse`). -/
theorem toRows_fuel_sufficient (f : FlowX U) : toRowsT f ≠ .error .fuel := toRowsT_error f .fuel

/-- The uniqueness counter always finds a free readable name (pigeonhole over `|used| + 1` pairwise
different candidates `base`, `base.1`, …): the only error the remapping can report is a failed
lookup. -/
theorem remap_only_key_error (numbered : Bool) (rows : List (RowT U)) (e : Err)
    (h : remap numbered rows = .error e) : e = .keyError := remap_error h

/-- With `numbered` the row ids are `1..n` in row order. -/
theorem numbered_ids (f : FlowX U) (out : List RowS) (h : strippedRows true f = .ok out) :
    out.map (·.id) = (List.range out.length).map (fun i => natStr (i + 1)) := by
  obtain ⟨rows, ht, h⟩ := strippedRows_ok_iff.1 h
  exact (remap_ids (toRowsT_ids_nodup ht) h).1 rfl

/-- Without `numbered` the row ids are pairwise distinct and none of them is `"start"`. -/
theorem named_ids_nodup (f : FlowX U) (out : List RowS) (h : strippedRows false f = .ok out) :
    (out.map (·.id)).Nodup ∧ startStr ∉ out.map (·.id) := by
  obtain ⟨rows, ht, h⟩ := strippedRows_ok_iff.1 h
  have := (remap_ids (toRowsT_ids_nodup ht) h).2 rfl
  rw [List.nodup_cons] at this
  exact ⟨this.2, this.1⟩

/-- non-vacuity of `numbered_ids` / `named_ids_nodup`: the example flow is exported without error -/
example : (strippedRows true exFlow).toOption.map List.length = some 5 := by decide +kernel

/-- Injectivity is needed: the renaming that merges the two nodes of `a → b` turns the edge into a
self loop, and the sheet gets a `go_to` row. -/
def mergeFlow : FlowX Nat :=
  [ ⟨0, "msg.a".toList, [("a".toList, none)], [([], some 1)]⟩,
    ⟨1, "msg.b".toList, [("b".toList, none)], [([], none)]⟩ ]

theorem needs_injective :
    ¬ (∀ (ρ : Nat → Nat) (numbered : Bool) (f : FlowX Nat),
        strippedRows numbered (mapU ρ f) = strippedRows numbered f) := by
  intro h
  have := h (fun _ => 0) false mergeFlow
  revert this
  decide +kernel

/-- Injectivity is needed with `numbered` as well: the same renaming of `mergeFlow` changes the numbered sheet. -/
theorem needs_injective_numbered :
    strippedRows true (mapU (fun _ : Nat => 0) mergeFlow) ≠ strippedRows true mergeFlow := by
  decide +kernel

end Rpft.Props.C17
