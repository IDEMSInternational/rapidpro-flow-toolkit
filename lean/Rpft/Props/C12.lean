/-
C12 — a template instantiated in bulk equals the same template instantiated row by row.

Property theorems over the model `Rpft/Bulk.lean` (`parse_all_flows`, `_parse_flow`,
`map_template_arguments_to_context`).  The model is a pure function and the template compiler
is an abstract function of (template sheet, flow name, context), so most statements are close
to definitional: what they settle is the *specification* the real code is compared against
(harness/props/c12.py): which instances a bulk row stands for, their names and order, the
context each one is compiled in, and that this context mentions nothing of another instance.
Whether the real compiler really is such a function (deep copy of the context per flow, no
state carried from one instance to the next) is the content of the tie, not of these theorems.
-/
import Rpft.Bulk
import Rpft.Lemmas.Dict
namespace Rpft.Props.C12
open Rpft Rpft.Bulk

variable {V Out α β : Type}

/-! The model's `dictSet` / `dictGet` / `keys` are `Dict.set` / `Dict.get` / `Dict.keys` at key type
`Str`; the facts come from `Lemmas/Dict.lean`. -/

theorem dictSet_eq (d : List (Str × α)) (k : Str) (v : α) : dictSet d k v = Dict.set d k v := by
  induction d with
  | nil => rfl
  | cons p t ih => simp only [dictSet, Dict.set, ih]

theorem dictGet_eq (d : List (Str × α)) (k : Str) : dictGet d k = Dict.get d k := by
  induction d with
  | nil => rfl
  | cons p t ih => simp only [dictGet, Dict.get, ih]

theorem dictGet_dictSet_same (d : List (Str × α)) (k : Str) (v : α) :
    dictGet (dictSet d k v) k = some v := by
  rw [dictSet_eq, dictGet_eq, Dict.get_set_self]

theorem dictGet_dictSet_other (d : List (Str × α)) {k k' : Str} (v : α) (h : k ≠ k') :
    dictGet (dictSet d k v) k' = dictGet d k' := by
  rw [dictSet_eq, dictGet_eq, dictGet_eq, Dict.get_set_ne d v h.symm]

theorem dictGet_none_iff {d : List (Str × α)} {k : Str} : dictGet d k = none ↔ k ∉ keys d := by
  rw [dictGet_eq]; exact Dict.get_eq_none_iff

theorem dictSet_new {d : List (Str × α)} {k : Str} {v : α} (h : dictGet d k = none) :
    dictSet d k v = d ++ [(k, v)] := by
  rw [dictSet_eq, Dict.set_of_not_mem (dictGet_none_iff.1 h)]

theorem keys_dictSet_old (d : List (Str × α)) (k : Str) (v : α) (h : k ∈ keys d) :
    keys (dictSet d k v) = keys d := by
  rw [dictSet_eq]; exact (Dict.keys_set d k v).trans (if_pos h)

theorem keys_nodup_dictSet (d : List (Str × α)) (k : Str) (v : α) (h : (keys d).Nodup) :
    (keys (dictSet d k v)).Nodup := by
  rw [dictSet_eq]; exact Dict.nodup_set h k v

theorem foldl_dictSet_eq (l d : List (Str × β)) :
    l.foldl (fun d p => dictSet d p.1 p.2) d = Dict.update d l :=
  congrArg (fun g => l.foldl g d) (funext fun a => funext fun b => dictSet_eq a b.1 b.2)

/-- the row IDs of a data sheet are pairwise distinct, whatever the sheet's rows are
(`OrderedDict((row.ID, row) …)`: a repeated ID overwrites) -/
theorem ofRows_keys_nodup (rows : List (Str × Row V)) : (keys (ofRows rows)).Nodup := by
  unfold ofRows
  rw [foldl_dictSet_eq]
  exact Dict.nodup_ofList rows

/-- `flows[flow.name] = flow` for a list of flows is `dict.update` -/
theorem foldl_addFlow_eq (outs : List (Str × β)) (fl : Flows β) :
    outs.foldl addFlow fl = Dict.update fl outs :=
  foldl_dictSet_eq outs fl

theorem dictGet_foldl_addFlow {outs : List (Str × β)} {k : Str} {v : β}
    (hall : ∀ p ∈ outs, p.1 = k → p.2 = v) (fl : Flows β) (hk : ∃ p ∈ outs, p.1 = k) :
    dictGet (outs.foldl addFlow fl) k = some v := by
  rw [foldl_addFlow_eq, dictGet_eq, Dict.get_update]
  cases hl : lastVal outs k with
  | none =>
    obtain ⟨p, hp, e⟩ := hk
    exact absurd e (lastVal_eq_none_iff.1 hl p hp)
  | some w => rw [show w = v from hall _ (mem_of_lastVal hl) rfl]; rfl

theorem dictGet_foldl_addFlow_none (outs : List (Str × β)) (k : Str)
    (hno : ∀ p ∈ outs, p.1 ≠ k) (fl : Flows β) :
    dictGet (outs.foldl addFlow fl) k = dictGet fl k := by
  rw [foldl_addFlow_eq, dictGet_eq, dictGet_eq, Dict.get_update, lastVal_eq_none_iff.2 hno]
  rfl

theorem foldl_addFlow_nil {outs : List (Str × β)} (h : (keys outs).Nodup) :
    outs.foldl addFlow [] = outs := by
  rw [foldl_addFlow_eq]
  exact Dict.ofList_of_nodup h

/-- left-to-right `map` that stops at the first error -/
def mapE {γ δ : Type} (f : γ → Except Err δ) : List γ → Except Err (List δ)
  | [] => .ok []
  | a :: as =>
    match f a with
    | .error e => .error e
    | .ok b =>
      match mapE f as with
      | .error e => .error e
      | .ok bs => .ok (b :: bs)

/-- instance of the row's template for data row `i`: mentions the index row, the registries
and `i` — and nothing else -/
def inst (env : Env V Out) (r : FlowRow) (i : Str) : Except Err (Str × Out) :=
  parseFlow env r.sheetName r.dataSheet i r.args r.newName

/-- the instances one `create_flow` row stands for -/
def expandRow (env : Env V Out) (r : FlowRow) : Except Err (List (Str × Out)) :=
  if r.dataSheet ≠ [] ∧ r.dataRowId = [] then
    match dictGet env.sheets r.dataSheet with
    | none => .error (.sheetNotFound r.dataSheet)
    | some ds => mapE (inst env r) (keys ds)
  else if r.dataSheet = [] ∧ r.dataRowId ≠ [] then .error .rowIdWithoutSheet
  else
    match inst env r r.dataRowId with
    | .error e => .error e
    | .ok f => .ok [f]

/-- all instances of an index, in generation order -/
def instances (env : Env V Out) (rs : List FlowRow) : Except Err (List (Str × Out)) :=
  match mapE (expandRow env) rs with
  | .error e => .error e
  | .ok outss => .ok outss.flatten

theorem bulkLoop_eq (env : Env V Out) (r : FlowRow) (ids : List Str) (fl : Flows Out) :
    bulkLoop env r ids fl =
      match mapE (inst env r) ids with
      | .error e => .error e
      | .ok outs => .ok (outs.foldl addFlow fl) := by
  induction ids generalizing fl with
  | nil => simp [bulkLoop, mapE]
  | cons i t ih =>
    simp only [bulkLoop, mapE, inst]
    cases h : parseFlow env r.sheetName r.dataSheet i r.args r.newName with
    | error e => rfl
    | ok f =>
      simp only []
      rw [ih]
      cases h2 : mapE (inst env r) t <;> simp [List.foldl_cons]

theorem stepRow_eq (env : Env V Out) (fl : Flows Out) (r : FlowRow) :
    stepRow env fl r =
      match expandRow env r with
      | .error e => .error e
      | .ok outs => .ok (outs.foldl addFlow fl) := by
  unfold stepRow expandRow
  split
  · cases h : dictGet env.sheets r.dataSheet with
    | none => simp
    | some ds => simp only []; exact bulkLoop_eq env r (keys ds) fl
  · split
    · rfl
    · simp only [inst]
      cases h : parseFlow env r.sheetName r.dataSheet r.dataRowId r.args r.newName <;> simp

theorem runRows_eq (env : Env V Out) (rs : List FlowRow) (fl : Flows Out) :
    runRows env rs fl =
      match instances env rs with
      | .error e => .error e
      | .ok outs => .ok (outs.foldl addFlow fl) := by
  induction rs generalizing fl with
  | nil => simp [runRows, instances, mapE]
  | cons r t ih =>
    simp only [runRows, instances, mapE]
    rw [stepRow_eq]
    cases h : expandRow env r with
    | error e => simp
    | ok outs =>
      simp only []
      rw [ih]
      simp only [instances]
      cases h2 : mapE (expandRow env) t <;> simp [List.foldl_append]

theorem runRows_append (env : Env V Out) (a b : List FlowRow) (fl : Flows Out) :
    runRows env (a ++ b) fl = (runRows env a fl).bind (runRows env b) := by
  induction a generalizing fl with
  | nil => rfl
  | cons r t ih =>
    simp only [List.cons_append, runRows]
    cases stepRow env fl r with
    | error e => rfl
    | ok fl' => exact ih fl'

theorem runRows_singles {env : Env V Out} {r : FlowRow} (hds : r.dataSheet ≠ [])
    {ids : List Str} (hid : ∀ i ∈ ids, i ≠ []) (fl : Flows Out) :
    runRows env (singles r ids) fl = bulkLoop env r ids fl := by
  induction ids generalizing fl with
  | nil => simp [singles, runRows, bulkLoop]
  | cons i t ih =>
    have hi : i ≠ [] := hid i List.mem_cons_self
    have ht : ∀ j ∈ t, j ≠ [] := fun j hj => hid j (List.mem_cons_of_mem _ hj)
    simp only [singles, List.map_cons, runRows, bulkLoop]
    have hstep : stepRow env fl { r with dataRowId := i } =
        match parseFlow env r.sheetName r.dataSheet i r.args r.newName with
        | .error e => .error e
        | .ok f => .ok (addFlow fl f) := by
      simp [stepRow, hds, hi]
      rfl
    rw [hstep]
    cases h : parseFlow env r.sheetName r.dataSheet i r.args r.newName with
    | error e => simp
    | ok f => simp only []; exact ih ht (addFlow fl f)

/-- **bulk = row by row.**  Anywhere in a content index, and whatever flows were defined before
(`fl`), a bulk `create_flow` row (data sheet given, row ID blank) may be replaced by the list of
single rows naming each data row, in data order: `parse_all_flows` returns the same flows, in
the same order — or the same error. -/
theorem bulk_eq_singles (env : Env V Out) (r : FlowRow) (ds : DataSheet V)
    (hds : r.dataSheet ≠ []) (hb : r.dataRowId = [])
    (hs : dictGet env.sheets r.dataSheet = some ds) (hid : ∀ i ∈ keys ds, i ≠ [])
    (pre post : List FlowRow) (fl : Flows Out) :
    runRows env (pre ++ r :: post) fl = runRows env (pre ++ (singles r (keys ds) ++ post)) fl := by
  rw [runRows_append, runRows_append]
  congr 1
  funext fl₁
  rw [runRows_append, runRows_singles hds hid]
  simp [runRows, stepRow, hds, hb, hs]
  cases bulkLoop env r (keys ds) fl₁ <;> rfl

/-- the statement for an index holding just the bulk row -/
theorem bulk_eq_singles_alone (env : Env V Out) (r : FlowRow) (ds : DataSheet V)
    (hds : r.dataSheet ≠ []) (hb : r.dataRowId = [])
    (hs : dictGet env.sheets r.dataSheet = some ds) (hid : ∀ i ∈ keys ds, i ≠ []) :
    parseAllFlows env [r] = parseAllFlows env (singles r (keys ds)) := by
  have := bulk_eq_singles env r ds hds hb hs hid [] [] []
  simpa [parseAllFlows] using this

/-- **zero rows, zero flows.**  Anywhere in a content index, a bulk `create_flow` row over a data
sheet that holds NO row (a header-only sheet, a filter that keeps nothing) may be deleted:
it defines no flow and raises no error, whatever its template — which is never looked up — and
its arguments. -/
theorem bulk_empty_sheet (env : Env V Out) (r : FlowRow)
    (hds : r.dataSheet ≠ []) (hb : r.dataRowId = [])
    (hs : dictGet env.sheets r.dataSheet = some [])
    (pre post : List FlowRow) (fl : Flows Out) :
    runRows env (pre ++ r :: post) fl = runRows env (pre ++ post) fl := by
  have h := bulk_eq_singles env r [] hds hb hs (by simp [keys]) pre post fl
  simpa [singles, keys] using h

/-- alone in an index it gives the empty container -/
theorem bulk_empty_sheet_alone (env : Env V Out) (r : FlowRow)
    (hds : r.dataSheet ≠ []) (hb : r.dataRowId = [])
    (hs : dictGet env.sheets r.dataSheet = some []) :
    parseAllFlows env [r] = .ok [] := by
  have h := bulk_empty_sheet env r hds hb hs [] [] []
  simpa [parseAllFlows, runRows] using h

theorem flowName_inj (base : Str) {i j : Str} (h : flowName base i = flowName base j) : i = j := by
  unfold flowName at h
  exact List.append_cancel_left h

theorem inst_name {env : Env V Out} {r : FlowRow} (hds : r.dataSheet ≠ []) {i : Str} (hi : i ≠ [])
    {f : Str × Out} (h : inst env r i = .ok f) :
    f.1 = flowName (baseName r.sheetName r.newName) i := by
  unfold inst parseFlow nameAndRow at h
  simp only [hds, hi, ne_eq, not_false_eq_true, and_self, if_true] at h
  cases h1 : dictGet env.sheets r.dataSheet with
  | none => simp [h1] at h
  | some ds =>
    cases h2 : dictGet ds i with
    | none => simp [h1, h2] at h
    | some row =>
      simp only [h1, h2] at h
      cases h3 : dictGet env.templates r.sheetName with
      | none => simp [h3] at h
      | some defs =>
        simp only [h3] at h
        cases h4 : mapArgs env.sheets defs r.args (rowCtx row) with
        | error e => simp [h4] at h
        | ok c => simp [h4] at h; rw [← h]

theorem mapE_names {env : Env V Out} {r : FlowRow} (hds : r.dataSheet ≠ []) {ids : List Str}
    {outs : List (Str × Out)} (hid : ∀ i ∈ ids, i ≠ []) (h : mapE (inst env r) ids = .ok outs) :
    keys outs = ids.map (flowName (baseName r.sheetName r.newName)) := by
  induction ids generalizing outs with
  | nil => simp [mapE] at h; subst h; simp [keys]
  | cons i t ih =>
    simp only [mapE] at h
    cases h1 : inst env r i with
    | error e => simp [h1] at h
    | ok f =>
      cases h2 : mapE (inst env r) t with
      | error e => simp [h1, h2] at h
      | ok bs =>
        simp [h1, h2] at h; subst h
        have := ih (fun j hj => hid j (List.mem_cons_of_mem _ hj)) h2
        have hn := inst_name hds (hid i List.mem_cons_self) h1
        simp only [keys, List.map_cons] at this ⊢
        rw [hn, this]

/-- **names and order.**  A bulk row alone produces exactly one flow per data row, in data
order, named `<name> - <ID>`; the k-th one is the instance for the k-th data row. -/
theorem bulk_names (env : Env V Out) (r : FlowRow) (ds : DataSheet V)
    (hds : r.dataSheet ≠ []) (hb : r.dataRowId = [])
    (hs : dictGet env.sheets r.dataSheet = some ds) (hid : ∀ i ∈ keys ds, i ≠ [])
    (hnd : (keys ds).Nodup) {fl : Flows Out} (h : parseAllFlows env [r] = .ok fl) :
    keys fl = (keys ds).map (flowName (baseName r.sheetName r.newName)) ∧
    fl.length = ds.length ∧
    mapE (inst env r) (keys ds) = .ok fl := by
  unfold parseAllFlows at h
  simp only [runRows, stepRow, hds, hb, hs, ne_eq, not_false_eq_true, and_self, if_true] at h
  rw [bulkLoop_eq] at h
  cases h1 : mapE (inst env r) (keys ds) with
  | error e => simp [h1] at h
  | ok outs =>
    simp [h1] at h
    have hk := mapE_names hds hid h1
    rw [foldl_addFlow_nil (hk ▸ List.Pairwise.map _ (fun a b hab e => hab (flowName_inj _ e)) hnd)] at h
    subst h
    refine ⟨hk, ?_, rfl⟩
    have := congrArg List.length hk
    simpa [keys] using this

/-- positional pairing of declared arguments with given ones: the k-th declared name gets the
k-th given argument, or `""` if there is none; arguments beyond the declared ones pair with nothing -/
def zipPad : List ArgDef → List Str → List (ArgDef × Str)
  | [], _ => []
  | d :: ds, [] => (d, []) :: zipPad ds []
  | d :: ds, a :: as => (d, a) :: zipPad ds as

theorem zip_replicate_nil (defs : List ArgDef) (n : Nat) (h : defs.length ≤ n) :
    defs.zip (List.replicate n ([] : Str)) = zipPad defs [] := by
  induction defs generalizing n with
  | nil => simp [zipPad]
  | cons d t ih =>
    cases n with
    | zero => simp at h
    | succ m => simp [List.replicate_succ, zipPad, ih m (by simpa using h)]

/-- **positional binding, padding, extras.**  The truncate / pad / zip preamble of
`map_template_arguments_to_context` is positional pairing: extras are dropped whatever they
contain, missing trailing arguments count as blank. -/
theorem args_positional (defs : List ArgDef) (args : List Str) :
    defs.zip (padArgs defs (truncArgs defs args)) = zipPad defs args := by
  have ht : truncArgs defs args = args.take defs.length := by
    unfold truncArgs
    split
    · rfl
    · exact (List.take_of_length_le (by omega)).symm
  rw [ht, padArgs]
  clear ht
  induction defs generalizing args with
  | nil => simp [zipPad]
  | cons d t ih =>
    cases args with
    | nil => simpa [zipPad, List.replicate_succ] using zip_replicate_nil t t.length (Nat.le_refl _)
    | cons a as => simpa [zipPad] using ih as

theorem mapArgs_eq (sheets : List (Str × DataSheet V)) (defs : List ArgDef) (args : List Str) (ctx : Ctx V) :
    mapArgs sheets defs args ctx = mapArgsLoop sheets (zipPad defs args) ctx := by
  unfold mapArgs; rw [args_positional]

/-- **extras.**  Arguments beyond the declared ones never change the result. -/
theorem args_extras_ignored (sheets : List (Str × DataSheet V)) (defs : List ArgDef)
    (args extra : List Str) (ctx : Ctx V) (h : defs.length ≤ args.length) :
    mapArgs sheets defs (args ++ extra) ctx = mapArgs sheets defs args ctx := by
  rw [mapArgs_eq, mapArgs_eq]
  congr 1
  induction defs generalizing args with
  | nil => simp [zipPad]
  | cons d t ih =>
    cases args with
    | nil => simp at h
    | cons a as => simp [zipPad, ih as (by simpa using h)]

/-- **extras.**  They are reported ("Too many arguments") exactly when one of them is not blank. -/
theorem args_extras_warn (defs : List ArgDef) (args : List Str) :
    tooManyWarn defs args = true ↔ ∃ a ∈ args.drop defs.length, a ≠ [] := by
  unfold tooManyWarn
  simp only [Bool.and_eq_true, decide_eq_true_eq, List.any_eq_true]
  constructor
  · rintro ⟨_, a, ha, hne⟩; exact ⟨a, ha, hne⟩
  · rintro ⟨a, ha, hne⟩
    refine ⟨?_, a, ha, hne⟩
    by_cases hl : args.length > defs.length
    · exact hl
    · rw [List.drop_eq_nil_of_le (by omega)] at ha; simp at ha

/-- **padding.**  A blank trailing argument is the same as no argument -/
theorem args_trailing_blank (sheets : List (Str × DataSheet V)) (defs : List ArgDef)
    (args : List Str) (ctx : Ctx V) :
    mapArgs sheets defs (args ++ [[]]) ctx = mapArgs sheets defs args ctx := by
  rw [mapArgs_eq, mapArgs_eq]
  congr 1
  induction defs generalizing args with
  | nil => simp [zipPad]
  | cons d t ih =>
    cases args with
    | nil =>
      simp only [List.nil_append, zipPad]
    | cons a as => simp [zipPad, ih as]

def boundVal (sheets : List (Str × DataSheet V)) (p : ArgDef × Str) : CVal V :=
  if p.1.type = sheetTy then .sheet ((dictGet sheets (argValue p.1 p.2)).getD [])
  else .text (argValue p.1 p.2)

def ArgOk (sheets : List (Str × DataSheet V)) (ctx : Ctx V) (p : ArgDef × Str) : Prop :=
  dictGet ctx p.1.name = none ∧ argValue p.1 p.2 ≠ [] ∧
  (p.1.type = sheetTy → (dictGet sheets (argValue p.1 p.2)).isSome)

theorem bindArg_ok_iff {sheets : List (Str × DataSheet V)} {ctx : Ctx V} {d : ArgDef} {a : Str} {c : Ctx V} :
    bindArg sheets ctx d a = .ok c ↔
      ArgOk sheets ctx (d, a) ∧ c = ctx ++ [(d.name, boundVal sheets (d, a))] := by
  unfold bindArg ArgOk boundVal
  cases hg : dictGet ctx d.name with
  | some x => simp
  | none =>
    simp only [Option.isSome_none, Bool.false_eq_true, if_false, true_and]
    by_cases hv : argValue d a = []
    · simp [hv]
    · simp only [hv, if_false, ne_eq, not_false_eq_true, true_and]
      by_cases ht : d.type = sheetTy
      · simp only [ht, if_true, true_implies]
        cases hs : dictGet sheets (argValue d a) with
        | none => simp
        | some ds =>
          simp only [Option.isSome_some, true_and, Option.getD_some, Except.ok.injEq]
          rw [dictSet_new hg]
          exact eq_comm
      · simp only [ht, if_false, false_implies, true_and, Except.ok.injEq]
        rw [dictSet_new hg]
        exact eq_comm

theorem args_ok_spec {sheets : List (Str × DataSheet V)} {ps : List (ArgDef × Str)} {ctx c : Ctx V}
    (h : mapArgsLoop sheets ps ctx = .ok c) :
    c = ctx ++ ps.map (fun p => (p.1.name, boundVal sheets p)) ∧
    (∀ p ∈ ps, ArgOk sheets ctx p) ∧ (ps.map (fun p => p.1.name)).Nodup := by
  induction ps generalizing ctx with
  | nil => simp [mapArgsLoop] at h; simp [h]
  | cons p t ih =>
    obtain ⟨d, a⟩ := p
    simp only [mapArgsLoop] at h
    cases hb : bindArg sheets ctx d a with
    | error e => simp [hb] at h
    | ok c₁ =>
      simp only [hb] at h
      obtain ⟨hok, hc₁⟩ := bindArg_ok_iff.1 hb
      obtain ⟨hc, hall, hnd⟩ := ih h
      subst hc₁
      have hfresh : ∀ q ∈ t, dictGet ctx q.1.name = none ∧ q.1.name ≠ d.name := by
        intro q hq
        have h1 := (hall q hq).1
        rw [dictGet_none_iff] at h1 ⊢
        simp only [keys, List.map_append, List.map_cons, List.map_nil, List.mem_append,
          List.mem_singleton, not_or] at h1
        exact ⟨by simpa [keys] using h1.1, h1.2⟩
      refine ⟨by simp [hc], ?_, ?_⟩
      · intro q hq
        rcases List.mem_cons.1 hq with rfl | hq
        · exact hok
        · exact ⟨(hfresh q hq).1, (hall q hq).2⟩
      · simp only [List.map_cons, List.nodup_cons]
        refine ⟨?_, hnd⟩
        intro hm
        obtain ⟨q, hq, hqn⟩ := List.mem_map.1 hm
        exact (hfresh q hq).2 hqn

/-- **binding.**  When `map_template_arguments_to_context` succeeds, the context is the data
row's context, unchanged, followed by one binding per declared argument, in declaration order:
the given argument if it is not blank, else the declared default; for type `sheet` the rows of
the data sheet of that name.  Every declared name was new (neither a data column nor an earlier
argument), every value non-blank, every named sheet registered. -/
theorem args_spec (sheets : List (Str × DataSheet V)) (defs : List ArgDef) (args : List Str)
    (ctx c : Ctx V) (h : mapArgs sheets defs args ctx = .ok c) :
    c = ctx ++ (zipPad defs args).map (fun p => (p.1.name, boundVal sheets p)) ∧
    (∀ p ∈ zipPad defs args, dictGet ctx p.1.name = none ∧ argValue p.1 p.2 ≠ [] ∧
        (p.1.type = sheetTy → (dictGet sheets (argValue p.1 p.2)).isSome)) ∧
    ((zipPad defs args).map (fun p => p.1.name)).Nodup := by
  rw [mapArgs_eq] at h
  exact args_ok_spec h

theorem mapArgsLoop_append (sheets : List (Str × DataSheet V)) (ps qs : List (ArgDef × Str)) (ctx : Ctx V) :
    mapArgsLoop sheets (ps ++ qs) ctx = (mapArgsLoop sheets ps ctx).bind (mapArgsLoop sheets qs) := by
  induction ps generalizing ctx with
  | nil => rfl
  | cons p t ih =>
    obtain ⟨d, a⟩ := p
    simp only [List.cons_append, mapArgsLoop]
    cases bindArg sheets ctx d a with
    | error e => rfl
    | ok c => exact ih c

/-- **doubly defined.**  The first declared argument whose name is already in the context — a
data column or an earlier argument — stops the command with `argDoublyDefined`. -/
theorem args_doubly_defined (sheets : List (Str × DataSheet V)) (ps qs : List (ArgDef × Str))
    (d : ArgDef) (a : Str) (ctx c : Ctx V) (hp : mapArgsLoop sheets ps ctx = .ok c)
    (hin : (dictGet c d.name).isSome) :
    mapArgsLoop sheets (ps ++ (d, a) :: qs) ctx = .error (.argDoublyDefined d.name) := by
  rw [mapArgsLoop_append, hp]
  simp [Except.bind, mapArgsLoop, bindArg, hin]

/-- **missing.**  A blank (or absent) argument takes the declared default; if that is blank too
the command stops with `argMissing`. -/
theorem args_missing (sheets : List (Str × DataSheet V)) (ps qs : List (ArgDef × Str))
    (d : ArgDef) (ctx c : Ctx V) (hp : mapArgsLoop sheets ps ctx = .ok c)
    (hnew : dictGet c d.name = none) (hd : d.default = []) :
    mapArgsLoop sheets (ps ++ (d, []) :: qs) ctx = .error (.argMissing d.name) := by
  rw [mapArgsLoop_append, hp]
  simp [Except.bind, mapArgsLoop, bindArg, hnew, argValue, hd]

theorem args_default (d : ArgDef) : argValue d [] = d.default := by simp [argValue]

theorem args_given (d : ArgDef) (a : Str) (h : a ≠ []) : argValue d a = a := by simp [argValue, h]

/-- **sheet.**  A `sheet` argument naming an unregistered data sheet stops the command. -/
theorem args_sheet_unknown (sheets : List (Str × DataSheet V)) (ps qs : List (ArgDef × Str))
    (d : ArgDef) (a : Str) (ctx c : Ctx V) (hp : mapArgsLoop sheets ps ctx = .ok c)
    (hnew : dictGet c d.name = none) (hv : argValue d a ≠ []) (ht : d.type = sheetTy)
    (hs : dictGet sheets (argValue d a) = none) :
    mapArgsLoop sheets (ps ++ (d, a) :: qs) ctx = .error (.sheetNotFound (argValue d a)) := by
  rw [mapArgsLoop_append, hp]
  simp [Except.bind, mapArgsLoop, bindArg, hnew, hv, ht, hs]

theorem mapE_cons_ok {γ δ : Type} {f : γ → Except Err δ} {a : γ} {as : List γ} {outs : List δ} :
    mapE f (a :: as) = .ok outs ↔ ∃ b bs, f a = .ok b ∧ mapE f as = .ok bs ∧ outs = b :: bs := by
  simp only [mapE]
  cases h1 : f a with
  | error e => simp
  | ok b =>
    cases h2 : mapE f as with
    | error e => simp
    | ok bs => simp [eq_comm]

theorem mapE_mem {γ δ : Type} {f : γ → Except Err δ} {l : List γ} {outs : List δ}
    (h : mapE f l = .ok outs) :
    (∀ a ∈ l, ∃ b ∈ outs, f a = .ok b) ∧ (∀ b ∈ outs, ∃ a ∈ l, f a = .ok b) := by
  induction l generalizing outs with
  | nil => simp [mapE] at h; subst h; simp
  | cons a t ih =>
    obtain ⟨b, bs, h1, h2, rfl⟩ := mapE_cons_ok.1 h
    obtain ⟨ih1, ih2⟩ := ih h2
    constructor
    · intro x hx
      rcases List.mem_cons.1 hx with rfl | hx
      · exact ⟨b, List.mem_cons_self, h1⟩
      · obtain ⟨y, hy, hf⟩ := ih1 x hx; exact ⟨y, List.mem_cons_of_mem _ hy, hf⟩
    · intro y hy
      rcases List.mem_cons.1 hy with rfl | hy
      · exact ⟨a, List.mem_cons_self, h1⟩
      · obtain ⟨x, hx, hf⟩ := ih2 y hy; exact ⟨x, List.mem_cons_of_mem _ hx, hf⟩

/-- **no leak (histories).**  Whatever flows were produced before (`fl`) and whatever other data
rows are instantiated before or after (`ids`), the flow a bulk row leaves under the name
`base - i` is `inst env r i` — an expression that mentions the index row, the registries and `i`
only: neither the other data rows, nor their arguments, nor anything computed for them. -/
theorem no_leak (env : Env V Out) (r : FlowRow) (hds : r.dataSheet ≠ [])
    (ids : List Str) (hid : ∀ i ∈ ids, i ≠ []) (fl fl' : Flows Out)
    (h : bulkLoop env r ids fl = .ok fl') (i : Str) (hi : i ∈ ids) :
    ∃ o, inst env r i = .ok (flowName (baseName r.sheetName r.newName) i, o) ∧
      dictGet fl' (flowName (baseName r.sheetName r.newName) i) = some o := by
  rw [bulkLoop_eq] at h
  cases hm : mapE (inst env r) ids with
  | error e => simp [hm] at h
  | ok outs =>
    simp [hm] at h; subst h
    obtain ⟨h1, h2⟩ := mapE_mem hm
    obtain ⟨f, hf, hfi⟩ := h1 i hi
    have hn := inst_name hds (hid i hi) hfi
    refine ⟨f.2, ?_, ?_⟩
    · rw [hfi, ← hn]
    · refine dictGet_foldl_addFlow (fun p hp hpk => ?_) fl ⟨f, hf, hn⟩
      obtain ⟨j, hj, hfj⟩ := h2 p hp
      have hnj := inst_name hds (hid j hj) hfj
      have : j = i := flowName_inj _ (hnj.symm.trans hpk)
      subst this
      rw [hfi] at hfj; cases hfj; rfl

theorem mapArgsLoop_congr {sheets sheets' : List (Str × DataSheet V)} {ps : List (ArgDef × Str)}
    (ctx : Ctx V)
    (h : ∀ p ∈ ps, p.1.type = sheetTy →
      dictGet sheets (argValue p.1 p.2) = dictGet sheets' (argValue p.1 p.2)) :
    mapArgsLoop sheets ps ctx = mapArgsLoop sheets' ps ctx := by
  induction ps generalizing ctx with
  | nil => rfl
  | cons p t ih =>
    obtain ⟨d, a⟩ := p
    have hb : bindArg sheets ctx d a = bindArg sheets' ctx d a := by
      unfold bindArg
      by_cases ht : d.type = sheetTy
      · have := h (d, a) List.mem_cons_self ht
        simp only at this
        simp only [ht, if_true, this]
      · simp only [ht, if_false]
    simp only [mapArgsLoop, hb]
    cases bindArg sheets' ctx d a with
    | error e => rfl
    | ok c => exact ih c (fun p hp => h p (List.mem_cons_of_mem _ hp))

/-- **no leak (data).**  The instance for data row `i` depends on the registered data sheets
only through (a) row `i` of the row's data sheet and (b) the sheets named by its `sheet`
arguments: two registries that agree on those give the same instance — in particular the other
rows of the data sheet are irrelevant. -/
theorem no_leak_frame (env env' : Env V Out) (r : FlowRow) (i : Str)
    (ht : env'.templates = env.templates) (hc : env'.compile = env.compile)
    (hrow : nameAndRow env' (baseName r.sheetName r.newName) r.dataSheet i =
      nameAndRow env (baseName r.sheetName r.newName) r.dataSheet i)
    (hsh : ∀ defs, dictGet env.templates r.sheetName = some defs →
      ∀ p ∈ zipPad defs r.args, p.1.type = sheetTy →
        dictGet env.sheets (argValue p.1 p.2) = dictGet env'.sheets (argValue p.1 p.2)) :
    inst env' r i = inst env r i := by
  unfold inst parseFlow
  rw [hrow, ht, hc]
  cases nameAndRow env (baseName r.sheetName r.newName) r.dataSheet i with
  | error e => rfl
  | ok nc =>
    obtain ⟨name, ctx0⟩ := nc
    simp only []
    cases hd : dictGet env.templates r.sheetName with
    | none => rfl
    | some defs =>
      simp only []
      rw [mapArgs_eq, mapArgs_eq, mapArgsLoop_congr ctx0 (hsh defs hd)]

theorem mapE_perm {γ δ : Type} {f : γ → Except Err δ} {l l' : List γ} (hp : l.Perm l') :
    ∀ {outs : List δ}, mapE f l = .ok outs → ∃ outs', mapE f l' = .ok outs' ∧ outs.Perm outs' := by
  induction hp with
  | nil => intro outs h; exact ⟨outs, h, List.Perm.refl _⟩
  | cons x _ ih =>
    intro outs h
    obtain ⟨b, bs, h1, h2, rfl⟩ := mapE_cons_ok.1 h
    obtain ⟨bs', h3, h4⟩ := ih h2
    exact ⟨b :: bs', mapE_cons_ok.2 ⟨b, bs', h1, h3, rfl⟩, List.Perm.cons b h4⟩
  | swap x y l =>
    intro outs h
    obtain ⟨b, bs, h1, h2, rfl⟩ := mapE_cons_ok.1 h
    obtain ⟨c, cs, h3, h4, rfl⟩ := mapE_cons_ok.1 h2
    refine ⟨c :: b :: cs, ?_, List.Perm.swap c b cs⟩
    exact mapE_cons_ok.2 ⟨c, b :: cs, h3, mapE_cons_ok.2 ⟨b, cs, h1, h4, rfl⟩, rfl⟩
  | trans _ _ ih1 ih2 =>
    intro outs h
    obtain ⟨o1, h1, p1⟩ := ih1 h
    obtain ⟨o2, h2, p2⟩ := ih2 h1
    exact ⟨o2, h2, p1.trans p2⟩

theorem dictGet_perm {l l' : List (Str × β)} (hp : l.Perm l') (hn : (keys l).Nodup) (k : Str) :
    dictGet l' k = dictGet l k := by
  rw [dictGet_eq, dictGet_eq]; exact Dict.get_perm hp hn k

/-- **order of generation.**  If no flow name is defined twice, generating the instances in any
other order of the index rows gives the same flow under each name (and the same set of names);
in particular an index of single rows may be permuted freely. -/
theorem bulk_order_independent (env : Env V Out) (rs rs' : List FlowRow) (hp : rs.Perm rs')
    (outs : List (Str × Out)) (hi : instances env rs = .ok outs) (hn : (keys outs).Nodup) :
    parseAllFlows env rs = .ok outs ∧
    ∃ fl', parseAllFlows env rs' = .ok fl' ∧ outs.Perm fl' ∧ ∀ k, dictGet fl' k = dictGet outs k := by
  unfold parseAllFlows
  rw [runRows_eq, runRows_eq, hi]
  unfold instances at hi ⊢
  cases hm : mapE (expandRow env) rs with
  | error e => simp [hm] at hi
  | ok outss =>
    simp [hm] at hi; subst hi
    obtain ⟨outss', hm', hperm⟩ := mapE_perm hp hm
    have hpf : outss.flatten.Perm outss'.flatten := hperm.flatten
    have hn' : (keys outss'.flatten).Nodup := (List.Perm.nodup_iff (hpf.map Prod.fst)).1 hn
    simp only [hm']
    rw [foldl_addFlow_nil hn, foldl_addFlow_nil hn']
    refine ⟨by simp, outss'.flatten, by simp, hpf, fun k => dictGet_perm hpf hn k⟩

section Witness

/-- opaque data values are numbers here; the "compiler" returns the names bound in the context
and the text values, which is enough to tell instances apart -/
def showCtx (c : Ctx Nat) : List (Str × Str) :=
  c.map (fun p => (p.1, match p.2 with
    | .data n => (toString n).toList
    | .text s => s
    | .sheet rows => (String.intercalate "," (rows.map (fun q => String.ofList q.1))).toList))

abbrev WOut := Str × List (Str × Str)

section
set_option linter.unusedVariables false
def wEnv (ids : List Str) : Env Nat WOut where
  sheets := [("data".toList, ids.zipIdx.map (fun p => (p.1, [("word".toList, p.2)]))),
             ("other".toList, [("o1".toList, [("label".toList, 7)])])]
  templates := [("tmpl".toList, [{ name := "extra".toList, default := "dflt".toList },
                                { name := "sh".toList, type := sheetTy, default := "other".toList }])]
  compile := fun t n c => (t, showCtx c)
end

def wBulk : FlowRow := { sheetName := "tmpl".toList, dataSheet := "data".toList, args := ["X".toList] }

def wIds : List Str := ["r1".toList, "r2".toList, "r3".toList]

instance : DecidableEq (Except Err (Flows WOut)) := fun a b =>
  match a, b with
  | .ok x, .ok y => if h : x = y then isTrue (by rw [h]) else isFalse (by intro e; cases e; exact h rfl)
  | .error x, .error y => if h : x = y then isTrue (by rw [h]) else isFalse (by intro e; cases e; exact h rfl)
  | .ok _, .error _ => isFalse (by intro e; cases e)
  | .error _, .ok _ => isFalse (by intro e; cases e)

/-- the hypotheses of `bulk_eq_singles` / `bulk_names` are satisfiable with a successful,
three-instance run whose contexts hold the data field, the positional argument and the default
`sheet` argument -/
example : parseAllFlows (wEnv wIds) [wBulk] = .ok [
    ("tmpl - r1".toList, ("tmpl".toList, [("word".toList, "0".toList), ("extra".toList, "X".toList), ("sh".toList, "o1".toList)])),
    ("tmpl - r2".toList, ("tmpl".toList, [("word".toList, "1".toList), ("extra".toList, "X".toList), ("sh".toList, "o1".toList)])),
    ("tmpl - r3".toList, ("tmpl".toList, [("word".toList, "2".toList), ("extra".toList, "X".toList), ("sh".toList, "o1".toList)]))] := by
  decide +kernel

example : parseAllFlows (wEnv wIds) [wBulk] = parseAllFlows (wEnv wIds) (singles wBulk wIds) := by decide +kernel

/-- `bulk_names` needs "no blank row ID": a data row with a blank ID is instantiated by the bulk
row as a flow called `tmpl` (not `tmpl - `) with an EMPTY context — the code's
`if data_sheet and data_row_id` is false for it, so the data row is never looked up.
(`bulk_eq_singles` keeps the same hypothesis because "the single row naming a blank ID" is not a
single row at all: it is the bulk row again.) -/
theorem needs_nonblank_ids :
    parseAllFlows (wEnv ["r1".toList, []]) [wBulk] = .ok [
      ("tmpl - r1".toList, ("tmpl".toList, [("word".toList, "0".toList), ("extra".toList, "X".toList), ("sh".toList, "o1".toList)])),
      ("tmpl".toList, ("tmpl".toList, [("extra".toList, "X".toList), ("sh".toList, "o1".toList)]))] ∧
    ¬ (∀ fl, parseAllFlows (wEnv ["r1".toList, []]) [wBulk] = .ok fl →
        keys fl = ["r1".toList, []].map (flowName "tmpl".toList)) := by
  exact (fun e => ⟨e, fun h => absurd (h _ e) (by decide +kernel)⟩) (by decide +kernel)

/-- `bulk_order_independent` needs "no name defined twice": two single rows for the same data
row with different arguments — the later one wins, so the order matters. -/
theorem needs_distinct_names :
    let a : FlowRow := { wBulk with dataRowId := "r1".toList, args := ["A".toList] }
    let b : FlowRow := { wBulk with dataRowId := "r1".toList, args := ["B".toList] }
    parseAllFlows (wEnv wIds) [a, b] ≠ parseAllFlows (wEnv wIds) [b, a] := by
  decide +kernel

/-- the error clauses of `args_spec` fire on concrete inputs: a declared argument named like a
data column, a required argument left blank, an unregistered sheet; extras are ignored -/
example : mapArgs (V := Nat) [] [{ name := "word".toList }] ["x".toList] [("word".toList, .data 1)]
    = .error (.argDoublyDefined "word".toList) := by rfl
example : mapArgs (V := Nat) [] [{ name := "a".toList }] [[], "x".toList] [] = .error (.argMissing "a".toList) := by rfl
example : mapArgs (V := Nat) [] [{ name := "s".toList, type := sheetTy }] ["nope".toList] []
    = .error (.sheetNotFound "nope".toList) := by rfl
example : tooManyWarn [{ name := "a".toList }] ["x".toList, [], []] = false ∧
    tooManyWarn [{ name := "a".toList }] ["x".toList, [], "y".toList] = true := by decide +kernel

end Witness

end Rpft.Props.C12
