/-
C16 — A template that names an unknown variable is an error, never silently blank.

Model: `Rpft/Template.lean` (M8).  Evaluating an expression turns an undefined reference into an
`Undefined` object (`PVal.Holds`); nothing fails until the object is *used*: printed, found by the
wrapper's search of a native result, or handed to a consumer.  The file follows a reference along that
path: evaluation of expressions; printing and the search; the consumers `|length`, `|first`, `|last`,
`[i]`, `|join`, which may drop the object again (F-C16-d); text templates; native templates; whole
cells and rows.

The statements about text templates are about references that are *reached*
(`Reached ctx t c p k`): a reference inside an `{% if %}` whose condition is false or inside a
`{% for %}` over nothing is not evaluated by Jinja and is harmless — stated separately
(`if_false_unevaluated`, `for_empty_unevaluated`).
-/
import Rpft.Lemmas.Template
import Rpft.Gen.Tables
namespace Rpft.Props.C16
open Rpft Rpft.Cell Rpft.Template

/-! ## T1: the configuration of the source -/

def policyOfGen : Gen.JinjaPolicy → Option Policy
  | .strict => some .strict
  | .strictShallow => some .strictShallow
  | .lenient => some .lenient
  | .other => none

/-- **the obligation that breaks when someone reverts to Jinja's default `Undefined`**, to the
plain `StrictUndefined` (whose `repr()` inside a printed container is the word `Undefined`), or
drops / flattens the check of the native result: both environments are strict — printing the
undefined object fails also inside a container — and the native result is searched through
nested lists / tuples / dicts. -/
theorem policy_is_strict :
    Gen.jinjaPolicy = .strict ∧ Gen.jinjaNativePolicy = .strict ∧
    Gen.nativeUndefinedCheck = true ∧ Gen.nativeUndefinedDeepCheck = true := by decide +kernel

/-- T1: configuration, delimiters, filter and wrapper literals of the model are those of the
source (regenerated on every run). -/
theorem tables_agree :
    policyOfGen Gen.jinjaPolicy = some Conf.repo.textPol ∧
    policyOfGen Gen.jinjaNativePolicy = some Conf.repo.natPol ∧
    Gen.nativeUndefinedCheck = Conf.repo.natCheck ∧
    Gen.nativeUndefinedDeepCheck = Conf.repo.natDeep ∧
    Gen.jinjaUndefinedName = Gen.jinjaUndefinedLiveName ∧
    Gen.jinjaNativeUndefinedName = Gen.jinjaNativeUndefinedLiveName ∧
    Gen.textVarDelims = [varStart, varEnd] ∧ Gen.nativeVarDelims = [natStart, natEnd] ∧
    Gen.blockDelims = [blockStart, blockEnd, blockStart, blockEnd] ∧
    escapeFilter ∈ Gen.jinjaFilters ∧ escapeFilter ∈ Gen.jinjaNativeFilters ∧
    Gen.wrapperNativeStart = natStart ∧ Gen.wrapperNativeEnd = natEnd ∧
    Gen.wrapperNestedNeedle = natStart ∧ Gen.wrapperNestedOffset = nestedOffset ∧
    Gen.wrapperShortcutChar = [shortcutChar] := by decide +kernel

/-! ## evaluation: a stored undefined reference becomes an `Undefined` object -/

/-- induction over expressions (nested through the item lists) -/
theorem Expr.ind {motive : Expr → Prop}
    (ref : ∀ p, motive (.ref p)) (dflt : ∀ p d, motive (.dflt p d))
    (coll : ∀ k items, (∀ kv ∈ items, motive kv.2) → motive (.coll k items)) : ∀ e, motive e := by
  intro e
  exact Expr.rec (motive_1 := motive) (motive_2 := fun items => ∀ kv ∈ items, motive kv.2)
    (motive_3 := fun kv => motive kv.2) ref dflt (fun k items ih => coll k items ih)
    (fun _ h => nomatch h) (fun _ _ h1 h2 => List.forall_mem_cons.mpr ⟨h1, h2⟩)
    (fun k e h => h) e

/-- no `Undefined` object inside -/
def Clean (pv : PVal) : Prop := ∀ q, ¬ pv.Holds q

theorem clean_val {v : Val} : Clean (.val v) := fun q h => by cases h
theorem clean_num {n : Nat} : Clean (.num n) := fun q h => by cases h

theorem evalE_spec (ctx : Ctx) (e : Expr) :
    match evalE ctx e with
    | .error x => ∃ p, Stored e p ∧ ¬ Defined ctx p ∧ x = .undefined p
    | .ok pv => ∀ q, pv.Holds q ↔ Stored e q ∧ ¬ Defined ctx q := by
  induction e using Expr.ind with
  | ref p =>
    simp only [evalE]
    cases hr : resolve ctx p with
    | val v => exact fun q => ⟨nofun, fun ⟨hs, hd⟩ => by cases hs; exact absurd ⟨v, hr⟩ hd⟩
    | undef =>
      exact fun q => ⟨fun h => by cases h; exact ⟨.ref, not_defined_iff.mpr (.inl hr)⟩,
        fun ⟨hs, _⟩ => by cases hs; exact .undef⟩
    | broken => exact ⟨p, .ref, not_defined_iff.mpr (.inr hr), rfl⟩
  | dflt y d =>
    simp only [evalE]
    cases ctx.lookup y <;> exact fun q => ⟨nofun, fun ⟨hs, _⟩ => nomatch hs⟩
  | coll k items ih =>
    simp only [evalE, evalItems_eq]
    cases hr : mapItems (evalE ctx) items with
    | error x =>
      obtain ⟨kv, hm, hkv⟩ := mapItems_error hr
      have := ih kv hm
      rw [hkv] at this
      obtain ⟨p, hs, hd, rfl⟩ := this
      exact ⟨p, .coll hm hs, hd, rfl⟩
    | ok pvs =>
      obtain ⟨h1, h2⟩ := mapItems_mem hr
      refine fun q => ⟨fun hh => ?_, fun ⟨hs, hd⟩ => ?_⟩
      · cases hh with
        | @coll _ _ pkv _ hpm hph =>
          obtain ⟨kv, hm, hkv⟩ := h1 pkv hpm
          have := ih kv hm
          rw [hkv] at this
          exact ⟨.coll hm ((this q).mp hph).1, ((this q).mp hph).2⟩
      · cases hs with
        | @coll _ _ kv _ hm hs =>
          obtain ⟨pkv, hpm, hkv⟩ := h2 kv hm
          have := ih kv hm
          rw [hkv] at this
          exact .coll hpm ((this q).mpr ⟨hs, hd⟩)

/-- **a stored undefined reference survives evaluation as an `Undefined` object** (or the
evaluation already failed): this is what every later use — print, concatenation, the
wrapper's search — then meets. -/
theorem stored_undefined {ctx : Ctx} {e : Expr} {p : Path} (h : Stored e p) (hu : ¬ Defined ctx p) :
    (∃ x, evalE ctx e = .error x) ∨ (∃ pv, evalE ctx e = .ok pv ∧ pv.Holds p) := by
  have := evalE_spec ctx e
  cases hr : evalE ctx e with
  | error x => exact .inl ⟨x, rfl⟩
  | ok pv => rw [hr] at this; exact .inr ⟨pv, rfl, (this p).mpr ⟨h, hu⟩⟩

/-- evaluation fails only on a stored reference that is undefined (one that takes a step ON an
undefined object, `Res.broken`) -/
theorem evalE_error_cause {ctx : Ctx} (e : Expr) : ∀ x, evalE ctx e = .error x →
    ∃ p, Stored e p ∧ ¬ Defined ctx p ∧ x = .undefined p := fun x h => by
  have := evalE_spec ctx e
  rwa [h] at this

/-- an `Undefined` object in the value of an expression is a stored reference the context does
not define -/
theorem evalE_holds_cause {ctx : Ctx} (e : Expr) : ∀ pv q, evalE ctx e = .ok pv → pv.Holds q →
    Stored e q ∧ ¬ Defined ctx q := fun pv q h hh => by
  have := evalE_spec ctx e
  rw [h] at this
  exact (this q).mp hh

theorem evalE_clean {ctx : Ctx} {e : Expr} (h : ∀ p, Stored e p → Defined ctx p) :
    ∃ pv, evalE ctx e = .ok pv ∧ Clean pv := by
  cases hr : evalE ctx e with
  | error x => obtain ⟨p, hs, hd, _⟩ := evalE_error_cause e x hr; exact absurd (h p hs) hd
  | ok pv => exact ⟨pv, rfl, fun q hq => let ⟨hs, hd⟩ := evalE_holds_cause e pv q hr hq; hd (h q hs)⟩

/-! ## printing and the search: `Holds` is what the wrapper's deep search finds, and what a strict print fails on -/

theorem PVal.ind {motive : PVal → Prop}
    (val : ∀ v, motive (.val v)) (undef : ∀ p, motive (.undef p))
    (coll : ∀ k items, (∀ kv ∈ items, motive kv.2) → motive (.coll k items))
    (num : ∀ n, motive (.num n)) : ∀ pv, motive pv := by
  intro pv
  exact PVal.rec (motive_1 := motive) (motive_2 := fun items => ∀ kv ∈ items, motive kv.2)
    (motive_3 := fun kv => motive kv.2) val undef (fun k items ih => coll k items ih) num
    (fun _ h => nomatch h) (fun _ _ h1 h2 => List.forall_mem_cons.mpr ⟨h1, h2⟩)
    (fun k e h => h) pv

/-- the deep search of the wrapper finds an `Undefined` object in every value that holds one -/
theorem holds_findUndef {pv : PVal} {q : Path} (h : pv.Holds q) : pv.findUndef.isSome := by
  induction h with
  | undef => rfl
  | @coll k items kv p hm _ ih =>
    rw [PVal.findUndef, findUndefItems_eq, List.findSome?_isSome_iff]
    exact ⟨kv.2, List.mem_map_of_mem hm, ih⟩

theorem findUndef_holds {pv : PVal} {q : Path} (h : pv.findUndef = some q) : pv.Holds q := by
  induction pv using PVal.ind with
  | val v => simp [PVal.findUndef] at h
  | undef p => simp [PVal.findUndef] at h; subst h; exact .undef
  | num n => simp [PVal.findUndef] at h
  | coll k items ih =>
    rw [PVal.findUndef, findUndefItems_eq] at h
    obtain ⟨pv, hm, hpv⟩ := List.exists_of_findSome?_eq_some h
    obtain ⟨kv, hk, rfl⟩ := List.mem_map.mp hm
    exact .coll hk (ih kv hk hpv)

theorem findUndef_none_iff_clean (pv : PVal) : pv.findUndef = none ↔ Clean pv := by
  constructor
  · intro h q hq
    have := holds_findUndef hq
    rw [h] at this; cases this
  · intro h
    cases hf : pv.findUndef with
    | none => rfl
    | some q => exact absurd (findUndef_holds hf) (h q)

/-- `repr` and `str` under the strict policy are both `printed .strict pv.findUndef _` (`repr_eq`,
`str_strict`), so what they do with an `Undefined` object is said once, of `printed` -/
theorem holds_printed_error {pv : PVal} {q : Path} {s : Str} (h : pv.Holds q) :
    ∃ x, printed .strict pv.findUndef s = .error x := by
  obtain ⟨p, hp⟩ := Option.isSome_iff_exists.mp (holds_findUndef h)
  exact ⟨_, by rw [hp]; rfl⟩

theorem printed_error_holds {pv : PVal} {s : Str} {x : Err}
    (h : printed .strict pv.findUndef s = .error x) : ∃ q, pv.Holds q ∧ x = .undefined q := by
  cases hf : pv.findUndef with
  | none => rw [hf] at h; cases h
  | some q => rw [hf] at h; exact ⟨q, findUndef_holds hf, (Except.error.inj h).symm⟩

/-- a value that holds an `Undefined` object cannot be printed under the strict policy -/
theorem holds_repr_error {pv : PVal} {q : Path} (h : pv.Holds q) :
    ∃ x, pv.repr .strict = .error x :=
  repr_eq .strict pv ▸ holds_printed_error h

theorem holds_str_error {pv : PVal} {q : Path} (h : pv.Holds q) :
    ∃ x, pv.str .strict = .error x :=
  str_strict pv ▸ holds_printed_error h

/-- a strict print fails only on an `Undefined` object the value holds, and names it -/
theorem repr_error_holds (pv : PVal) : ∀ x, pv.repr .strict = .error x →
    ∃ q, pv.Holds q ∧ x = .undefined q :=
  fun _ h => printed_error_holds (repr_eq .strict pv ▸ h)

/-- a value without `Undefined` objects prints the same under every policy -/
theorem clean_repr (pol : Policy) (pv : PVal) : (∀ q, ¬ pv.Holds q) → pv.repr pol = .ok pv.reprL :=
  fun h => by rw [repr_eq, (findUndef_none_iff_clean pv).mpr h]; rfl

theorem clean_str (pol : Policy) {pv : PVal} (h : Clean pv) : pv.str pol = .ok pv.strL :=
  str_of_findUndef_none pol ((findUndef_none_iff_clean pv).mpr h)

theorem clean_native (cf : Conf) {pv : PVal} (hc : Clean pv) :
    cf.search pv = none ∧ pv.out = .pvalue pv := by
  have hn := (findUndef_none_iff_clean pv).mpr hc
  cases pv with
  | undef p => exact absurd .undef (hc p)
  | _ => simp [Conf.search, PVal.topUndef, PVal.out, hn]

/-! ## consumers of containers: `|length`, `|first`, `|last`, `[i]`, `|join` — what is USED, what is dropped (F-C16-d) -/

/-- **printing `e` fails on an undefined object iff `e` uses one**: text, `{{ e }}` -/
theorem render_error_iff_used (ctx : Ctx) (e : CExpr) :
    (∃ p, renderC .strict ctx e none = .error (.undefined p)) ↔ UsedUndef ctx e = true := by
  unfold renderC UsedUndef
  cases he : evalC ctx e with
  | error x => cases x <;> simp
  | ok pv =>
    simp only [str_strict]
    cases pv.findUndef <;> simp

/-- the same for `{{ e ~ f }}` (both operands inside the fragment): iff one of the operands uses one -/
theorem render_error_iff_used_cat (ctx : Ctx) (e f : CExpr)
    (he : OffFragment ctx e = false) (hf : OffFragment ctx f = false) :
    (∃ p, renderC .strict ctx e (some f) = .error (.undefined p)) ↔
      (UsedUndef ctx e = true ∨ UsedUndef ctx f = true) := by
  cases hee : evalC ctx e with
  | error x =>
    cases x <;> simp [OffFragment, hee] at he <;> simp [renderC, UsedUndef, hee]
  | ok a =>
    cases hff : evalC ctx f with
    | error x =>
      cases x <;> simp [OffFragment, hff] at hf <;> simp [renderC, UsedUndef, hee, hff]
    | ok b =>
      simp only [renderC, UsedUndef, hee, hff, str_strict]
      cases a.findUndef <;> cases b.findUndef <;> simp

/-- the same natively, `{@ e @}`: the wrapper's search fails on exactly the same expressions as the
printer -/
theorem native_error_iff_used (ctx : Ctx) (l r : Str) (e : CExpr) :
    (∃ p, renderSrc Conf.repo ctx (.natC l e r) = .error (.undefined p)) ↔ UsedUndef ctx e = true := by
  unfold UsedUndef
  simp only [renderSrc]
  cases he : evalC ctx e with
  | error x => cases x <;> simp
  | ok pv =>
    simp only [Conf.search, Conf.repo]
    cases hf : pv.findUndef <;> simp

/-! ### `Quiet`: no consumer makes an `Undefined` object of a value that holds none -/

theorem CExpr.ind {motive : CExpr → Prop}
    (ref : ∀ p, motive (.ref p)) (dflt : ∀ p d, motive (.dflt p d))
    (coll : ∀ k items, (∀ kv ∈ items, motive kv.2) → motive (.coll k items))
    (len : ∀ e, motive e → motive (.len e)) (first : ∀ e, motive e → motive (.first e))
    (last : ∀ e, motive e → motive (.last e)) (index : ∀ e i, motive e → motive (.index e i))
    (join : ∀ s e, motive e → motive (.join s e)) : ∀ e, motive e := by
  intro e
  exact CExpr.rec (motive_1 := motive) (motive_2 := fun items => ∀ kv ∈ items, motive kv.2)
    (motive_3 := fun kv => motive kv.2) ref dflt (fun k items ih => coll k items ih)
    len first last index join
    (fun _ h => nomatch h) (fun _ _ h1 h2 => List.forall_mem_cons.mpr ⟨h1, h2⟩)
    (fun k e h => h) e

/-- no failure on an undefined object, and nothing undefined inside the result -/
def Quiet (r : Except Err PVal) : Prop :=
  (∀ p, r ≠ .error (.undefined p)) ∧ (∀ pv, r = .ok pv → Clean pv)

theorem quiet_ok {pv : PVal} (hc : Clean pv) : Quiet (.ok pv) :=
  ⟨by simp, fun _ h => Except.ok.inj h ▸ hc⟩

theorem quiet_error {x : Err} (hx : ∀ p, x ≠ .undefined p) : Quiet (.error x) :=
  ⟨fun p h => hx p (Except.error.inj h), by simp⟩

theorem quiet_iff_not_used {ctx : Ctx} {e : CExpr} :
    Quiet (evalC ctx e) ↔ UsedUndef ctx e = false := by
  unfold UsedUndef
  cases evalC ctx e with
  | error x => cases x <;> simp [Quiet]
  | ok pv => simp [Quiet, ← findUndef_none_iff_clean]

/-- what a consumer sees of `pv` — its `elems`, nothing else — is no `Undefined` object and holds none -/
def CleanElems (pv : PVal) : Prop :=
  (∀ p, pv.elems ≠ .error (.undefined p)) ∧ ∀ xs, pv.elems = .ok xs → ∀ x ∈ xs, Clean x

theorem Clean.elems {pv : PVal} (hc : Clean pv) : CleanElems pv := by
  cases pv with
  | undef p => exact absurd .undef (hc p)
  | num n => exact ⟨nofun, nofun⟩
  | val v =>
    cases v <;> refine ⟨nofun, fun xs h x hx => ?_⟩ <;> obtain rfl := Except.ok.inj h <;>
      obtain ⟨a, _, rfl⟩ := List.mem_map.mp hx <;> exact clean_val
  | coll k items =>
    cases k <;> refine ⟨nofun, fun xs h x hx => ?_⟩ <;> obtain rfl := Except.ok.inj h <;>
      obtain ⟨kv, hm, rfl⟩ := List.mem_map.mp hx
    · exact fun q hq => hc q (.coll hm hq)
    · exact fun q hq => hc q (.coll hm hq)
    · exact clean_val
    · exact clean_val

/-- a dict is consumed through its keys, whatever its values hold -/
theorem cleanElems_dict (items : List (Str × PVal)) : CleanElems (.coll .dict items) :=
  ⟨nofun, fun xs h x hx => by
    obtain rfl := Except.ok.inj h
    obtain ⟨kv, _, rfl⟩ := List.mem_map.mp hx
    exact clean_val⟩

/-- the `match` is the one `evalC` unfolds to at a consumer (in `quiet_of_elems`: the one every consumer
unfolds to), so that the lemma applies as it stands -/
theorem Quiet.consumer {r : Except Err PVal} (hr : Quiet r) {op : PVal → Except Err PVal}
    (hop : ∀ {pv}, CleanElems pv → Quiet (op pv)) :
    Quiet (match (generalizing := false) r with | .error x => .error x | .ok pv => op pv) := by
  cases r with
  | error x => exact hr
  | ok pv => exact hop (hr.2 pv rfl).elems

theorem quiet_of_elems {pv : PVal} (hc : CleanElems pv) {g : List PVal → Except Err PVal}
    (hg : ∀ xs, (∀ x ∈ xs, Clean x) → Quiet (g xs)) :
    Quiet (match (generalizing := false) pv.elems with | .error x => .error x | .ok xs => g xs) := by
  cases h : pv.elems with
  | error x => exact quiet_error fun p hp => hc.1 p (hp ▸ h)
  | ok xs => exact hg xs (hc.2 xs h)

theorem quiet_select {xs : List PVal} (hx : ∀ x ∈ xs, Clean x) {o : Option PVal}
    (ho : ∀ x, o = some x → x ∈ xs) :
    Quiet (match (generalizing := false) o with | some x => .ok x | none => .error .noElement) := by
  cases o with
  | none => exact quiet_error (by simp)
  | some x => exact quiet_ok (hx x (ho x rfl))

theorem quiet_len {pv : PVal} (hc : CleanElems pv) : Quiet pv.len :=
  quiet_of_elems hc fun _ _ => quiet_ok clean_num

theorem quiet_first {pv : PVal} (hc : CleanElems pv) : Quiet pv.first :=
  quiet_of_elems hc fun _ hx => quiet_select hx fun _ h => List.mem_of_mem_head? h

theorem quiet_last {pv : PVal} (hc : CleanElems pv) : Quiet pv.last :=
  quiet_of_elems hc fun _ hx => quiet_select hx fun _ h => List.mem_of_getLast? h

theorem quiet_index {pv : PVal} (i : Nat) (hc : CleanElems pv) : Quiet (pv.index i) :=
  quiet_of_elems hc fun xs hx => by
    split
    · exact quiet_error (by simp)
    · exact quiet_select hx fun x h => List.mem_of_getElem? h

theorem joinStrs_clean (sep : Str) {xs : List PVal} (h : ∀ x ∈ xs, Clean x) :
    ∃ s, joinStrs sep xs = .ok s := by
  induction xs with
  | nil => exact ⟨_, rfl⟩
  | cons a rest ih =>
    obtain ⟨r, hr⟩ := ih (fun x hx => h x (by simp [hx]))
    simp only [joinStrs, clean_str .strict (h a (by simp)), hr]
    exact ⟨_, rfl⟩

theorem quiet_join {pv : PVal} (sep : Str) (hc : CleanElems pv) : Quiet (pv.join sep) :=
  quiet_of_elems hc fun xs hx => by
    obtain ⟨s, hs⟩ := joinStrs_clean sep hx
    simp only [hs]
    exact quiet_ok clean_val

/-- **no undefined reference named ⇒ nothing undefined anywhere**: evaluation does not fail on
an undefined object and its result holds none — through every consumer -/
theorem quiet_of_defined {ctx : Ctx} (e : CExpr) :
    (∀ p ∈ e.bareRefs, Defined ctx p) → Quiet (evalC ctx e) := by
  induction e using CExpr.ind with
  | ref p =>
    intro h
    obtain ⟨v, hv⟩ := h p (by simp [CExpr.bareRefs])
    simp only [evalC, hv]
    exact quiet_ok clean_val
  | dflt x d =>
    intro _
    simp only [evalC]
    cases ctx.lookup x <;> exact quiet_ok clean_val
  | coll k items ih =>
    intro h
    have ih' : ∀ kv ∈ items, Quiet (evalC ctx kv.2) := fun kv hm =>
      ih kv hm fun p hp => h p (by
        rw [CExpr.bareRefs, bareRefsItems_eq]
        exact List.mem_flatMap.mpr ⟨kv, hm, hp⟩)
    simp only [evalC, evalCItems_eq]
    cases hr : mapItems (evalC ctx) items with
    | error x =>
      obtain ⟨kv, hm, hkv⟩ := mapItems_error hr
      exact quiet_error fun p hp => (ih' kv hm).1 p (hp ▸ hkv)
    | ok pvs =>
      refine quiet_ok fun q hq => ?_
      cases hq with
      | @coll _ _ pkv _ hpm hph =>
        obtain ⟨kv, hm, hkv⟩ := (mapItems_mem hr).1 pkv hpm
        exact (ih' kv hm).2 _ hkv q hph
  | len e ih => intro h; simp only [evalC]; exact (ih h).consumer quiet_len
  | first e ih => intro h; simp only [evalC]; exact (ih h).consumer quiet_first
  | last e ih => intro h; simp only [evalC]; exact (ih h).consumer quiet_last
  | index e i ih => intro h; simp only [evalC]; exact (ih h).consumer (quiet_index i)
  | join s e ih => intro h; simp only [evalC]; exact (ih h).consumer (quiet_join s)

theorem namesUndef_false_iff {ctx : Ctx} {e : CExpr} :
    NamesUndef ctx e = false ↔ ∀ p ∈ e.bareRefs, Defined ctx p := by
  simp [NamesUndef, definedB_iff]

/-- **an expression that names no undefined reference uses none** -/
theorem used_names {ctx : Ctx} {e : CExpr} (h : UsedUndef ctx e = true) : NamesUndef ctx e = true := by
  cases hn : NamesUndef ctx e with
  | true => rfl
  | false =>
    rw [quiet_iff_not_used.mp (quiet_of_defined e (namesUndef_false_iff.mp hn))] at h
    cases h

theorem unused_clean {ctx : Ctx} {e : CExpr} (hu : UsedUndef ctx e = false)
    (hoff : OffFragment ctx e = false) : ∃ pv, evalC ctx e = .ok pv ∧ Clean pv := by
  have q := quiet_iff_not_used.mpr hu
  unfold OffFragment at hoff
  cases he : evalC ctx e with
  | error x =>
    rw [he] at hoff q
    cases x <;> simp at hoff
    exact absurd rfl (q.1 _)
  | ok pv => exact ⟨pv, rfl, q.2 pv he⟩

theorem used_not_off {ctx : Ctx} {e : CExpr} (hu : UsedUndef ctx e = true) : OffFragment ctx e = false := by
  unfold UsedUndef at hu
  unfold OffFragment
  cases he : evalC ctx e with
  | error x => rw [he] at hu; cases x <;> simp at hu ⊢
  | ok pv => rfl

/-- **silent_iff_dropped** = F-C16-d's trigger as a theorem: inside the fragment, `{{ e }}` is
DELIVERED iff no undefined reference of `e` is used — every `Undefined` object that `e` makes
was counted, dropped or selected away; what is then delivered is exactly the text of the
(undefined-free) value, natively the value itself: `unused_exact`. -/
theorem silent_iff_dropped (ctx : Ctx) (e : CExpr) (hoff : OffFragment ctx e = false) :
    (∃ s, renderC .strict ctx e none = .ok s) ↔ UsedUndef ctx e = false := by
  constructor
  · rintro ⟨s, hs⟩
    cases hu : UsedUndef ctx e with
    | false => rfl
    | true =>
      obtain ⟨p, hp⟩ := (render_error_iff_used ctx e).mpr hu
      rw [hp] at hs; cases hs
  · intro hu
    obtain ⟨pv, hpv, hc⟩ := unused_clean hu hoff
    exact ⟨pv.strL, by simp [renderC, hpv, clean_str .strict hc]⟩

theorem unused_exact (cf : Conf) (pol : Policy) {ctx : Ctx} {e : CExpr} (l r : Str)
    (hu : UsedUndef ctx e = false) (hoff : OffFragment ctx e = false) :
    ∃ pv, evalC ctx e = .ok pv ∧ Clean pv ∧ renderC pol ctx e none = .ok pv.strL ∧
      renderSrc cf ctx (.natC l e r) = .ok (.pvalue pv) := by
  obtain ⟨pv, hpv, hc⟩ := unused_clean hu hoff
  obtain ⟨hs, ho⟩ := clean_native cf hc
  exact ⟨pv, hpv, hc, by simp [renderC, hpv, clean_str pol hc], by simp [renderSrc, hpv, hs, ho]⟩

/-- **a consumer never CREATES a use**: if `e|length`, `e|first`, `e|last`, `e[i]` or
`e|join(sep)` (inside the fragment) uses an undefined reference, `e` already does — consumers
only DROP uses, which is why F-C16-d goes one way only -/
theorem consumer_used_mono (ctx : Ctx) (e : CExpr) (hu : UsedUndef ctx e = false) :
    (OffFragment ctx (.len e) = false → UsedUndef ctx (.len e) = false) ∧
    (OffFragment ctx (.first e) = false → UsedUndef ctx (.first e) = false) ∧
    (OffFragment ctx (.last e) = false → UsedUndef ctx (.last e) = false) ∧
    (∀ i, OffFragment ctx (.index e i) = false → UsedUndef ctx (.index e i) = false) ∧
    (∀ sep, OffFragment ctx (.join sep e) = false → UsedUndef ctx (.join sep e) = false) := by
  have q := quiet_iff_not_used.mpr hu
  -- the five `OffFragment` hypotheses are not needed
  have drop : ∀ {e'}, Quiet (evalC ctx e') → OffFragment ctx e' = false → UsedUndef ctx e' = false :=
    fun h _ => quiet_iff_not_used.mp h
  exact ⟨drop (by simp only [evalC]; exact q.consumer quiet_len),
    drop (by simp only [evalC]; exact q.consumer quiet_first),
    drop (by simp only [evalC]; exact q.consumer quiet_last),
    fun i => drop (by simp only [evalC]; exact q.consumer (quiet_index i)),
    fun sep => drop (by simp only [evalC]; exact q.consumer (quiet_join sep))⟩

/-! ### `UsedUndef` read structurally: the laws of counting, storing, selecting and joining -/

/-- evaluating `e` fails on an undefined object -/
def Raises (ctx : Ctx) (e : CExpr) : Bool :=
  match evalC ctx e with
  | .error (.undefined _) => true
  | _ => false

/-- `e` evaluates to the bare `Undefined` object -/
def BareUndef (ctx : Ctx) (e : CExpr) : Bool :=
  match evalC ctx e with
  | .ok (.undef _) => true
  | _ => false

/-- evaluating the items fails on an undefined object -/
def RaisesItems (ctx : Ctx) (items : List (Str × CExpr)) : Bool :=
  match evalCItems ctx items with
  | .error (.undefined _) => true
  | _ => false

theorem items_used {ctx : Ctx} {items : List (Str × CExpr)} {pvs : List (Str × PVal)}
    (h : evalCItems ctx items = .ok pvs) :
    items.map (fun kv => UsedUndef ctx kv.2) = pvs.map fun pkv => pkv.2.findUndef.isSome := by
  -- `UsedUndef ctx e` is this function of `evalC ctx e`
  have := congrArg (List.map fun r =>
    match r with
    | .error (.undefined _) => true
    | .error _ => false
    | .ok pv => pv.findUndef.isSome) (mapItems_ok (evalCItems_eq ctx items ▸ h))
  simp only [List.map_map] at this
  exact this

theorem items_used_getElem {ctx : Ctx} {items : List (Str × CExpr)} {pvs : List (Str × PVal)}
    (h : evalCItems ctx items = .ok pvs) (i : Nat) :
    ((items[i]?).map fun kv => UsedUndef ctx kv.2) = ((pvs[i]?).map fun pkv => pkv.2.findUndef.isSome) := by
  simpa only [List.getElem?_map] using congrArg (·[i]?) (items_used h)

theorem joinStrs_used (sep : Str) (pvs : List (Str × PVal)) :
    (match joinStrs sep (pvs.map Prod.snd) with
      | .error (.undefined _) => true
      | .error _ => false
      | .ok _ => false) = (findUndefItems pvs).isSome := by
  induction pvs with
  | nil => rfl
  | cons a rest ih =>
    simp only [List.map_cons, joinStrs, findUndefItems, str_strict]
    cases a.2.findUndef with
    | some p => rfl
    | none =>
      simp only [printed_none, ← ih]
      cases joinStrs sep (rest.map Prod.snd) with
      | error x => cases x <;> rfl
      | ok r => rfl

section
/- Each law is computed: after a case split on how the operand, or the items of the literal, evaluate, both
sides unfold: `UsedUndef`, `OffFragment` and `RaisesItems` to their `match` on the evaluation, `evalC` at the
consumer, and what a consumer and the search see of a value (`PVal.elems`, `PVal.findUndef`, `CKind.norm`). -/
attribute [local simp] UsedUndef OffFragment RaisesItems evalC PVal.findUndef PVal.elems CKind.norm

theorem used_ref (ctx : Ctx) (p : Path) : UsedUndef ctx (.ref p) = !definedB ctx p := by
  unfold UsedUndef definedB
  cases h : resolve ctx p <;> simp [h]

theorem used_dflt (ctx : Ctx) (x d : Str) : UsedUndef ctx (.dflt x d) = false := by
  unfold UsedUndef
  cases h : ctx.lookup x <;> simp [h]

/-- **counting law**: `e|length` uses an undefined reference only if `e` itself fails or IS the
undefined object — never because of what the counted container HOLDS -/
theorem used_len (ctx : Ctx) (e : CExpr) :
    UsedUndef ctx (.len e) = (Raises ctx e || BareUndef ctx e) := by
  unfold UsedUndef Raises BareUndef
  simp only [evalC]
  cases he : evalC ctx e with
  | error x => cases x <;> simp
  | ok pv =>
    cases pv with
    | val v => cases v <;> simp [PVal.len]
    | undef p => simp [PVal.len]
    | num n => simp [PVal.len]
    | coll k items => cases k <;> simp [PVal.len]

/-- **storing law**: a container literal (inside the fragment) uses an undefined reference iff
one of its items does -/
theorem used_coll (ctx : Ctx) (k : CKind) (items : List (Str × CExpr))
    (hoff : OffFragment ctx (.coll k items) = false) :
    UsedUndef ctx (.coll k items) = items.any fun kv => UsedUndef ctx kv.2 := by
  cases hr : evalCItems ctx items with
  | error x =>
    obtain ⟨kv, hm, hkv⟩ := mapItems_error (evalCItems_eq ctx items ▸ hr)
    cases x <;> simp [hr] at hoff
    simp only [UsedUndef, evalC, hr]
    exact (List.any_eq_true.mpr ⟨kv, hm, by simp only [hkv]⟩).symm
  | ok pvs =>
    have : (items.any fun kv => UsedUndef ctx kv.2) = (items.map fun kv => UsedUndef ctx kv.2).any id := by
      rw [List.any_map]; rfl
    rw [this, items_used hr]
    simp [hr, findUndefItems_eq, List.isSome_findSome?, List.any_map, Function.comp_def]

/-- **selecting law**: `[x, …]|first` (list or tuple literal, inside the fragment) uses an
undefined reference iff the SELECTED item does, or evaluating one of the others fails — what the
other items merely HOLD is dropped (`{{ [a, nope]|first }}` = `A`) -/
theorem used_first_cons (ctx : Ctx) (k : CKind) (key : Str) (x : CExpr) (rest : List (Str × CExpr))
    (hk : k = .list ∨ k = .tuple)
    (hoff : OffFragment ctx (.coll k ((key, x) :: rest)) = false) :
    UsedUndef ctx (.first (.coll k ((key, x) :: rest))) = (UsedUndef ctx x || RaisesItems ctx rest) := by
  cases hx : evalC ctx x with
  | error e =>
    cases e <;> simp [evalCItems, hx] at hoff <;>
      simp [evalCItems, hx]
  | ok pv =>
    cases hr : evalCItems ctx rest with
    | error e =>
      cases e <;> simp [evalCItems, hx, hr] at hoff <;>
        simp [evalCItems, hx, hr]
    | ok pvs =>
      rcases hk with rfl | rfl <;>
        simp [evalCItems, hx, hr, PVal.first]

/-- **indexing law**: `[…][i]` over a list / tuple literal uses an undefined reference iff the
item at `i` does, or evaluating one of the items fails — the other items are dropped -/
theorem used_index_coll (ctx : Ctx) (k : CKind) (items : List (Str × CExpr)) (i : Nat)
    (hk : k = .list ∨ k = .tuple) (hoff : OffFragment ctx (.index (.coll k items) i) = false) :
    UsedUndef ctx (.index (.coll k items) i) =
      (((items[i]?).map fun kv => UsedUndef ctx kv.2).getD false || RaisesItems ctx items) := by
  cases hr : evalCItems ctx items with
  | error x =>
    cases x <;> simp [hr] at hoff <;> simp [hr]
  | ok pvs =>
    rw [items_used_getElem hr i]
    cases hi : pvs[i]? with
    | none =>
      rcases hk with rfl | rfl <;>
        simp [hr, PVal.index, PVal.isDict, hi] at hoff
    | some pkv =>
      rcases hk with rfl | rfl <;>
        simp [hr, PVal.index, PVal.isDict, hi]

/-- **selecting law for `last`** -/
theorem used_last_coll (ctx : Ctx) (k : CKind) (items : List (Str × CExpr))
    (hk : k = .list ∨ k = .tuple) (hoff : OffFragment ctx (.last (.coll k items)) = false) :
    UsedUndef ctx (.last (.coll k items)) =
      (((items.getLast?).map fun kv => UsedUndef ctx kv.2).getD false || RaisesItems ctx items) := by
  cases hr : evalCItems ctx items with
  | error x =>
    cases x <;> simp [hr] at hoff <;> simp [hr]
  | ok pvs =>
    have hl : pvs.length = items.length := by
      simpa only [List.length_map] using congrArg List.length (items_used hr).symm
    rw [List.getLast?_eq_getElem?, ← hl, items_used_getElem hr (pvs.length - 1)]
    have hg : (pvs.map Prod.snd).getLast? = (pvs[pvs.length - 1]?).map Prod.snd := by
      rw [List.getLast?_eq_getElem?]; simp
    cases hi : pvs[pvs.length - 1]? with
    | none =>
      rcases hk with rfl | rfl <;>
        simp [hr, PVal.last, hg, hi] at hoff
    | some pkv =>
      rcases hk with rfl | rfl <;>
        simp [hr, PVal.last, hg, hi]

/-- **joining law**: `[…]|join('sep')` over a list / tuple literal uses an undefined reference
iff one of its items does — every element is printed, nothing is dropped -/
theorem used_join_coll (ctx : Ctx) (sep : Str) (k : CKind) (items : List (Str × CExpr))
    (hk : k = .list ∨ k = .tuple) (hoff : OffFragment ctx (.join sep (.coll k items)) = false) :
    UsedUndef ctx (.join sep (.coll k items)) = items.any fun kv => UsedUndef ctx kv.2 := by
  have hoff' : OffFragment ctx (.coll k items) = false := by
    cases hr : evalCItems ctx items with
    | error x => cases x <;> simp [hr] at hoff ⊢
    | ok pvs => simp [hr]
  rw [← used_coll ctx k items hoff']
  cases hr : evalCItems ctx items with
  | error x => cases x <;> simp [hr]
  | ok pvs =>
    have := joinStrs_used sep pvs
    rcases hk with rfl | rfl <;>
      simp only [UsedUndef, evalC, hr, PVal.join, PVal.elems, CKind.norm, PVal.findUndef, ← this] <;>
      (cases hj : joinStrs sep (pvs.map Prod.snd) with
        | error x => cases x <;> simp
        | ok r => simp)

/-- **keys law**: a dict literal is consumed through its KEYS: `{'k': v, …}|first` never uses
what the values hold (`{{ {'k': nope}|first }}` = `k`) -/
theorem used_first_dict (ctx : Ctx) (k : CKind) (items : List (Str × CExpr))
    (hk : k = .dict ∨ k = .dictCall) (hoff : OffFragment ctx (.first (.coll k items)) = false) :
    UsedUndef ctx (.first (.coll k items)) = RaisesItems ctx items := by
  cases hr : evalCItems ctx items with
  | error e => cases e <;> simp [hr]
  | ok pvs =>
    have q : Quiet (evalC ctx (.first (.coll k items))) := by
      rcases hk with rfl | rfl <;> simp only [evalC, hr, CKind.norm] <;> exact quiet_first (cleanElems_dict pvs)
    rw [quiet_iff_not_used.mp q]
    simp [hr]

/-- **keys law for `last` and `join`**: a dict literal is consumed through its keys -/
theorem used_last_dict (ctx : Ctx) (k : CKind) (items : List (Str × CExpr))
    (hk : k = .dict ∨ k = .dictCall) (hoff : OffFragment ctx (.last (.coll k items)) = false) :
    UsedUndef ctx (.last (.coll k items)) = RaisesItems ctx items := by
  cases hr : evalCItems ctx items with
  | error e => cases e <;> simp [hr]
  | ok pvs =>
    have q : Quiet (evalC ctx (.last (.coll k items))) := by
      rcases hk with rfl | rfl <;> simp only [evalC, hr, CKind.norm] <;> exact quiet_last (cleanElems_dict pvs)
    rw [quiet_iff_not_used.mp q]
    simp [hr]

theorem used_join_dict (ctx : Ctx) (sep : Str) (k : CKind) (items : List (Str × CExpr))
    (hk : k = .dict ∨ k = .dictCall) :
    UsedUndef ctx (.join sep (.coll k items)) = RaisesItems ctx items := by
  cases hr : evalCItems ctx items with
  | error e => cases e <;> simp [hr]
  | ok pvs =>
    have q : Quiet (evalC ctx (.join sep (.coll k items))) := by
      rcases hk with rfl | rfl <;> simp only [evalC, hr, CKind.norm] <;> exact quiet_join sep (cleanElems_dict pvs)
    rw [quiet_iff_not_used.mp q]
    simp [hr]

end

/-- NOT proved: a closed syntactic recursion for `UsedUndef`.  The laws above (`used_ref`,
`used_dflt`, `used_len`, `used_coll`, `used_first_cons`, `used_last_coll`, `used_index_coll`,
`used_join_coll`, `used_first_dict`, `used_last_dict`, `used_join_dict`) rewrite every consumer
applied DIRECTLY to a literal and `consumer_used_mono` bounds the rest; the exact law for a
consumer applied to another consumer's RESULT is missing — its first instance: -/
def selecting_composes_full : Prop :=
  ∀ (ctx : Ctx) (k k' : CKind) (key key' : Str) (x : CExpr) (r rest : List (Str × CExpr)),
    (k = .list ∨ k = .tuple) → (k' = .list ∨ k' = .tuple) →
    OffFragment ctx (.coll k ((key, .coll k' ((key', x) :: r)) :: rest)) = false →
    UsedUndef ctx (.first (.first (.coll k ((key, .coll k' ((key', x) :: r)) :: rest)))) =
      (UsedUndef ctx x || RaisesItems ctx r || RaisesItems ctx rest)

/-! ### the consumer-free fragment: `UsedUndef` is `Stored ∧ ¬ Defined` -/

theorem evalC_toC (ctx : Ctx) (e : Expr) : evalC ctx e.toC = evalE ctx e := by
  exact Expr.rec (motive_1 := fun e => evalC ctx e.toC = evalE ctx e)
    (motive_2 := fun items => evalCItems ctx (itemsToC items) = evalItems ctx items)
    (motive_3 := fun kv => evalC ctx kv.2.toC = evalE ctx kv.2)
    (fun p => by simp [Expr.toC, evalC, evalE]) (fun x d => by simp [Expr.toC, evalC, evalE])
    (fun k items ih => by simp [Expr.toC, evalC, evalE, ih])
    (by simp [itemsToC, evalCItems, evalItems])
    (fun hd tl h1 h2 => by
      obtain ⟨k, e⟩ := hd
      simp only at h1
      simp [itemsToC, evalCItems, evalItems, h1, h2])
    (fun k e h => h) e

/-- the consumer expressions extend the consumer-free fragment conservatively -/
theorem renderC_toC (pol : Policy) (ctx : Ctx) (e : Expr) :
    renderC pol ctx e.toC none = renderT pol ctx (.expr e none) := by
  simp [renderC, renderT, evalC_toC]

/-- **without consumers nothing is dropped**: `UsedUndef` is exactly "stores a reference the
context does not define" — so `undefined_is_error` on the consumer-free fragment is the special
case of `render_error_iff_used` -/
theorem used_consumer_free_iff (ctx : Ctx) (e : Expr) :
    UsedUndef ctx e.toC = true ↔ ∃ p, Stored e p ∧ ¬ Defined ctx p := by
  have := evalE_spec ctx e
  unfold UsedUndef
  rw [evalC_toC]
  cases he : evalE ctx e with
  | error x =>
    rw [he] at this
    obtain ⟨p, hs, hd, rfl⟩ := this
    exact iff_of_true rfl ⟨p, hs, hd⟩
  | ok pv =>
    rw [he] at this
    exact ⟨fun h => let ⟨q, hq⟩ := Option.isSome_iff_exists.mp h; ⟨q, (this q).mp (findUndef_holds hq)⟩,
      fun ⟨p, h⟩ => holds_findUndef ((this p).mpr h)⟩

theorem undefined_is_error_consumer_free {ctx : Ctx} {e : Expr} {p : Path}
    (h : Stored e p) (hu : ¬ Defined ctx p) :
    ∃ q, renderC .strict ctx e.toC none = .error (.undefined q) :=
  (render_error_iff_used ctx e.toC).mpr ((used_consumer_free_iff ctx e).mpr ⟨p, h, hu⟩)

/-! ### kernel-checked witnesses: the shapes of F-C16-d, and their USED counterparts -/

def cA : Ctx := [("a".toList, .str "A".toList)]
def rA : CExpr := .ref ⟨"a".toList, []⟩
def rN : CExpr := .ref ⟨"nope".toList, []⟩
def lst (xs : List CExpr) : CExpr := .coll .list (xs.map fun x => ([], x))

/-- `{{ [nope]|length }}` = `1`, `{{ [a, nope]|first }}` = `A`, `{{ [nope, a]|last }}` = `A`,
`{{ [a, nope][0] }}` = `A`, `{{ {'k': nope}|length }}` = `1`, `{{ {'k': nope}|first }}` = `k`,
`{{ [[a, nope]|length] }}` = `[2]`, `{{ [[nope], a]|first|length }}` = `1`: each NAMES an
undefined reference, USES none, and is delivered — F-C16-d -/
theorem f_c16_d_shapes :
    (renderC .strict cA (.len (lst [rN])) none = .ok "1".toList ∧
      NamesUndef cA (.len (lst [rN])) = true ∧ UsedUndef cA (.len (lst [rN])) = false) ∧
    (renderC .strict cA (.first (lst [rA, rN])) none = .ok "A".toList ∧
      NamesUndef cA (.first (lst [rA, rN])) = true ∧ UsedUndef cA (.first (lst [rA, rN])) = false) ∧
    (renderC .strict cA (.last (lst [rN, rA])) none = .ok "A".toList ∧
      UsedUndef cA (.last (lst [rN, rA])) = false) ∧
    (renderC .strict cA (.index (lst [rA, rN]) 0) none = .ok "A".toList ∧
      UsedUndef cA (.index (lst [rA, rN]) 0) = false) ∧
    (renderC .strict cA (.len (.coll .dict [("k".toList, rN)])) none = .ok "1".toList ∧
      UsedUndef cA (.len (.coll .dict [("k".toList, rN)])) = false) ∧
    (renderC .strict cA (.first (.coll .dict [("k".toList, rN)])) none = .ok "k".toList ∧
      UsedUndef cA (.first (.coll .dict [("k".toList, rN)])) = false) ∧
    (renderC .strict cA (lst [.len (lst [rA, rN])]) none = .ok "[2]".toList ∧
      UsedUndef cA (lst [.len (lst [rA, rN])]) = false) ∧
    (renderC .strict cA (.len (.first (lst [lst [rN], rA]))) none = .ok "1".toList ∧
      UsedUndef cA (.len (.first (lst [lst [rN], rA]))) = false) := by decide +kernel

/-- native: `{@ [nope, a]|length @}` hands over the number 2 -/
theorem f_c16_d_shape_native :
    (match renderSrc Conf.repo cA (.natC " ".toList (.len (lst [rN, rA])) " ".toList) with
      | .ok (.pvalue (.num 2)) => true
      | _ => false) = true ∧
    NamesUndef cA (.len (lst [rN, rA])) = true ∧ UsedUndef cA (.len (lst [rN, rA])) = false := by decide +kernel

/-- the USED counterparts are errors: `{{ [nope, a]|first }}`, `{{ [a, nope]|last }}`,
`{{ [a, nope][1] }}`, `{{ [a, nope]|join('-') }}`, `{{ [a, [nope]]|join('-') }}`,
`{{ [[nope], a]|first }}`, `{{ nope|length }}` -/
theorem used_shapes :
    renderC .strict cA (.first (lst [rN, rA])) none = .error (.undefined ⟨"nope".toList, []⟩) ∧
    renderC .strict cA (.last (lst [rA, rN])) none = .error (.undefined ⟨"nope".toList, []⟩) ∧
    renderC .strict cA (.index (lst [rA, rN]) 1) none = .error (.undefined ⟨"nope".toList, []⟩) ∧
    renderC .strict cA (.join "-".toList (lst [rA, rN])) none = .error (.undefined ⟨"nope".toList, []⟩) ∧
    renderC .strict cA (.join "-".toList (lst [rA, lst [rN]])) none = .error (.undefined ⟨"nope".toList, []⟩) ∧
    renderC .strict cA (.first (lst [lst [rN], rA])) none = .error (.undefined ⟨"nope".toList, []⟩) ∧
    renderC .strict cA (.len rN) none = .error (.undefined ⟨"nope".toList, []⟩) ∧
    UsedUndef cA (.first (lst [rN, rA])) = true ∧ UsedUndef cA (.join "-".toList (lst [rA, rN])) = true ∧
    UsedUndef cA (.len rN) = true := by decide +kernel

/-- defined and `default`-protected twins are delivered exactly -/
example :
    renderC .strict cA (.join "-".toList (lst [rA, lst [rA]])) none = .ok "A-['A']".toList ∧
    renderC .strict cA (.first (lst [.dflt "nope".toList "d".toList, rA])) none = .ok "d".toList ∧
    renderC .strict cA (.len (lst [rA, rA])) (some (.last (lst [rA]))) = .ok "2A".toList := by decide +kernel

/-- **the hypothesis "inside the fragment" of `silent_iff_dropped` is needed**: `{{ []|first }}`
uses no undefined reference and still is not delivered (Jinja: an `Undefined` object made by the
filter itself — no variable is named) -/
theorem needs_in_fragment :
    renderC .strict cA (.first (lst [])) none = .error .noElement ∧
    UsedUndef cA (.first (lst [])) = false ∧ OffFragment cA (.first (lst [])) = true ∧
    NamesUndef cA (.first (lst [])) = false := by decide +kernel

/-- non-vacuity of `render_error_iff_used_cat`: `{{ a ~ [a, nope]|first }}` is delivered,
`{{ [a, nope]|length ~ [nope]|last }}` is not -/
example :
    renderC .strict cA rA (some (.first (lst [rA, rN]))) = .ok "AA".toList ∧
    OffFragment cA rA = false ∧ OffFragment cA (.first (lst [rA, rN])) = false ∧
    renderC .strict cA (.len (lst [rA, rN])) (some (.last (lst [rN])))
      = .error (.undefined ⟨"nope".toList, []⟩) := by decide +kernel

/-! ## text templates

### undefined ⇒ error -/

/-- **undefined_is_error (text)**: under the strict policy, a template that reaches a
reference its context does not define does not render: the result is an error — whatever
else the template contains, and wherever the reference stands: printed, escaped, iterated,
compared, or STORED at any depth of a list / tuple / dict literal or `dict()` call that is
printed or concatenated (no exclusion for nested positions). -/
theorem undefined_is_error {ctx c : Ctx} {t : Tmpl} {p : Path} {k : Use}
    (h : Reached ctx t c p k) (hu : ¬ Defined c p) :
    ∃ e, renderT .strict ctx t = .error e := by
  induction h with
  | var | esc | forHead | ifHead =>
    rcases not_defined_iff.mp hu with hr | hr <;> exact ⟨_, by simp only [renderT, hr]; rfl⟩
  | seqL _ ih =>
    obtain ⟨e, he⟩ := ih hu
    exact ⟨e, by simp [renderT, he]⟩
  | @seqR ctx a b c p k _ ih =>
    obtain ⟨e, he⟩ := ih hu
    cases ha : renderT .strict ctx a with
    | error x => exact ⟨x, by simp [renderT, ha]⟩
    | ok x => exact ⟨e, by simp [renderT, ha, he]⟩
  | @forBody ctx v p body xs e c q k hres hmem _ ih =>
    obtain ⟨x, hx⟩ := ih hu
    obtain ⟨y, hy⟩ := joinM_error_of_mem (f := fun e => renderT .strict ((v, e) :: ctx) body) hmem hx
    exact ⟨y, by simp [renderT, hres, hy]⟩
  | @ifBody ctx p s body c q k hres _ ih =>
    obtain ⟨x, hx⟩ := ih hu
    exact ⟨x, by simp [renderT, hres, hx]⟩
  | @exprL ctx e f p hs =>
    rcases stored_undefined hs hu with ⟨x, hx⟩ | ⟨pv, hpv, hh⟩
    · cases f <;> exact ⟨x, by simp [renderT, hx]⟩
    · obtain ⟨y, hy⟩ := holds_str_error hh
      cases f with
      | none => exact ⟨y, by simp [renderT, hpv, hy]⟩
      | some g =>
        cases hg : evalE ctx g with
        | error z => exact ⟨z, by simp [renderT, hpv, hg]⟩
        | ok b => exact ⟨y, by simp [renderT, hpv, hg, hy]⟩
  | @exprR ctx e f p hs =>
    cases he : evalE ctx e with
    | error z => exact ⟨z, by simp [renderT, he]⟩
    | ok a =>
      rcases stored_undefined hs hu with ⟨x, hx⟩ | ⟨pv, hpv, hh⟩
      · exact ⟨x, by simp [renderT, he, hx]⟩
      · obtain ⟨y, hy⟩ := holds_str_error hh
        cases ha : a.str .strict with
        | error z => exact ⟨z, by simp [renderT, he, hpv, ha]⟩
        | ok sa => exact ⟨y, by simp [renderT, he, hpv, ha, hy]⟩

/-- non-vacuity (the shapes of F-C16-c): `{{ [a, {'k': (nope,)}] }}` and `{{ a ~ dict(k=nope) }}`
store the undefined name two levels deep / behind a concatenation -/
example :
    Reached [("a".toList, .str "A".toList)]
      (.expr (.coll .list [([], .ref ⟨"a".toList, []⟩),
        ([], .coll .dict [("k".toList, .coll .tuple [([], .ref ⟨"nope".toList, []⟩)])])]) none)
      [("a".toList, .str "A".toList)] ⟨"nope".toList, []⟩ .store ∧
    Reached [("a".toList, .str "A".toList)]
      (.expr (.ref ⟨"a".toList, []⟩) (some (.coll .dictCall [("k".toList, .ref ⟨"nope".toList, []⟩)])))
      [("a".toList, .str "A".toList)] ⟨"nope".toList, []⟩ .store ∧
    ¬ Defined [("a".toList, .str "A".toList)] ⟨"nope".toList, []⟩ :=
  ⟨.exprL (.coll (kv := ([], _)) (List.mem_cons_of_mem _ (List.mem_cons_self ..))
      (.coll (kv := ("k".toList, _)) (List.mem_cons_self ..)
        (.coll (kv := ([], _)) (List.mem_cons_self ..) .ref))),
   .exprR (.coll (kv := ("k".toList, _)) (List.mem_cons_self ..) .ref), by decide⟩

/-- the two templates are errors (kernel-evaluated), while the `default`-protected twin and the
defined twin are delivered -/
example :
    renderT .strict [("a".toList, .str "A".toList)]
      (.expr (.coll .list [([], .ref ⟨"a".toList, []⟩),
        ([], .coll .dict [("k".toList, .coll .tuple [([], .ref ⟨"nope".toList, []⟩)])])]) none)
      = .error (.undefined ⟨"nope".toList, []⟩) ∧
    renderT .strict [("a".toList, .str "A".toList)]
      (.expr (.coll .list [([], .ref ⟨"a".toList, []⟩),
        ([], .coll .dict [("k".toList, .coll .tuple [([], .dflt "nope".toList "d".toList)])])]) none)
      = .ok "['A', {'k': ('d',)}]".toList ∧
    renderT .strict [("a".toList, .str "A".toList)]
      (.expr (.ref ⟨"a".toList, []⟩) (some (.coll .dictCall [("k".toList, .ref ⟨"a".toList, []⟩)])))
      = .ok "A{'k': 'A'}".toList := by
  -- the kernel decodes a string literal byte by byte, which is most of the work here: the literals
  -- are rewritten to their characters first (`String.toList_ofList`, reached by congruence)
  conv in (occs := *) String.toList _ => all_goals try rw [String.toList_ofList]
  decide +kernel

/-- **the fix of F-C16-c is needed**: under the plain `StrictUndefined` policy the same kind of
template renders WITHOUT error, the stored name printed as the word `Undefined` … -/
theorem needs_deep_strict :
    renderT .strictShallow [("a".toList, .str "A".toList)]
      (.expr (.coll .list [([], .ref ⟨"nope".toList, []⟩)]) none) = .ok "[Undefined]".toList ∧
    renderT .strictShallow [("a".toList, .str "A".toList)]
      (.expr (.ref ⟨"a".toList, []⟩) (some (.coll .dict [("k".toList, .ref ⟨"nope".toList, []⟩)])))
      = .ok "A{'k': Undefined}".toList ∧
    ¬ (∀ (ctx c : Ctx) (t : Tmpl) (p : Path) (k : Use),
        Reached ctx t c p k → ¬ Defined c p → ∃ e, renderT .strictShallow ctx t = .error e) := by
  refine ⟨?_, ?_, ?_⟩
  iterate 2
    conv in (occs := *) String.toList _ => all_goals try rw [String.toList_ofList]
    decide +kernel
  intro h
  obtain ⟨e, he⟩ := h [] [] (.expr (.coll .list [([], .ref ⟨"nope".toList, []⟩)]) none)
    ⟨"nope".toList, []⟩ .store
    (.exprL (.coll (kv := ([], _)) (List.mem_cons_self ..) .ref)) (by decide)
  have hok : renderT .strictShallow [] (.expr (.coll .list [([], .ref ⟨"nope".toList, []⟩)]) none)
      = .ok "[Undefined]".toList := by decide +kernel
  rw [hok] at he
  cases he

/-- … although the un-nested reference is an error under that policy as well -/
example : renderT .strictShallow [] (.expr (.ref ⟨"nope".toList, []⟩) none)
    = .error (.undefined ⟨"nope".toList, []⟩) := by decide +kernel

/-- non-vacuity: a misspelt field of a defined record, reached inside a loop body -/
example :
    Reached [("rows".toList, .list [.record [("name".toList, .str "N".toList)]])]
      (.forJoin "r".toList ⟨"rows".toList, []⟩ (.var ⟨"r".toList, [.fld "nmae".toList]⟩))
      [("r".toList, .record [("name".toList, .str "N".toList)]),
       ("rows".toList, .list [.record [("name".toList, .str "N".toList)]])]
      ⟨"r".toList, [.fld "nmae".toList]⟩ .print ∧
    ¬ Defined [("r".toList, .record [("name".toList, .str "N".toList)]),
       ("rows".toList, .list [.record [("name".toList, .str "N".toList)]])]
      ⟨"r".toList, [.fld "nmae".toList]⟩ :=
  ⟨.forBody (xs := .list [.record [("name".toList, .str "N".toList)]]) rfl (List.mem_cons_self ..)
     .var, by decide⟩

/-- **the hypothesis `strict` is needed** (negative witness = what the fix removed): under
Jinja's default policy the same kind of template renders, the reference replaced by nothing. -/
theorem needs_strict :
    ¬ (∀ (pol : Policy) (ctx c : Ctx) (t : Tmpl) (p : Path) (k : Use),
        Reached ctx t c p k → ¬ Defined c p → ∃ e, renderT pol ctx t = .error e) := by
  intro h
  obtain ⟨e, he⟩ := h .lenient [] [] (.var ⟨"nope".toList, []⟩) ⟨"nope".toList, []⟩ .print
    .var (by decide)
  simp [renderT, resolve, resolveFrom, rootRes] at he

/-- why a strict rendering fails with `e`: a reached reference is undefined and `e` names it, or
`|escape` met a value that is no string -/
def Cause (ctx : Ctx) (t : Tmpl) (e : Err) : Prop :=
  (∃ c p k, Reached ctx t c p k ∧ ¬ Defined c p ∧ e = .undefined p) ∨
  (∃ c p v, Reached ctx t c p .esc ∧ resolve c p = .val v ∧ (∀ s, v ≠ .str s) ∧
    e = .filterType p)

theorem Cause.mono {ctx ctx' : Ctx} {t t' : Tmpl} {e : Err}
    (lift : ∀ {c p k}, Reached ctx t c p k → Reached ctx' t' c p k) :
    Cause ctx t e → Cause ctx' t' e
  | .inl ⟨c, p, k, hr, h⟩ => .inl ⟨c, p, k, lift hr, h⟩
  | .inr ⟨c, p, v, hr, h⟩ => .inr ⟨c, p, v, lift hr, h⟩

theorem Cause.undefined {ctx : Ctx} {t : Tmpl} {p : Path} {k : Use} (hr : Reached ctx t ctx p k)
    (hu : ¬ Defined ctx p) : Cause ctx t (.undefined p) :=
  .inl ⟨ctx, p, k, hr, hu, rfl⟩

/-- every error has a cause: a strict rendering fails only because a reached reference is
undefined (then the error names it) or because `|escape` was applied to a non-string. -/
theorem error_has_cause {ctx : Ctx} {t : Tmpl} {e : Err}
    (h : renderT .strict ctx t = .error e) :
    (∃ c p k, Reached ctx t c p k ∧ ¬ Defined c p ∧ e = .undefined p) ∨
    (∃ c p v, Reached ctx t c p .esc ∧ resolve c p = .val v ∧ (∀ s, v ≠ .str s) ∧
      e = .filterType p) := by
  show Cause ctx t e
  induction t generalizing ctx e with
  | lit s => cases h
  | var p =>
    cases hr : resolve ctx p <;> simp [renderT, hr] at h <;> subst h <;>
      exact .undefined .var (not_defined_iff.mpr (by simp [hr]))
  | escVar p =>
    cases hr : resolve ctx p with
    | val v =>
      cases v <;> simp [renderT, hr] at h <;> subst h <;>
        exact .inr ⟨ctx, p, _, .esc, hr, by simp, rfl⟩
    | _ =>
      simp [renderT, hr] at h; subst h
      exact .undefined .esc (not_defined_iff.mpr (by simp [hr]))
  | seq a b iha ihb =>
    simp only [renderT] at h
    split at h
    · next x ha => exact Except.error.inj h ▸ (iha ha).mono .seqL
    · split at h
      · next y hb => exact Except.error.inj h ▸ (ihb hb).mono .seqR
      · cases h
  | forJoin v p body ih =>
    cases hr : resolve ctx p with
    | val xs =>
      simp only [renderT, hr] at h
      obtain ⟨el, hel, hfe⟩ := joinM_error h
      exact (ih hfe).mono (.forBody hr hel)
    | _ =>
      simp [renderT, hr] at h; subst h
      exact .undefined .forHead (not_defined_iff.mpr (by simp [hr]))
  | ifEq p s body ih =>
    cases hr : resolve ctx p with
    | val v =>
      cases v with
      | str s' =>
        simp only [renderT, hr] at h
        split at h
        · next hs => exact (ih h).mono (.ifBody (hs ▸ hr))
        · cases h
      | _ => simp [renderT, hr] at h
    | _ =>
      simp [renderT, hr] at h; subst h
      exact .undefined .ifHead (not_defined_iff.mpr (by simp [hr]))
  | expr a f =>
    -- the order of Jinja: both operands are evaluated, then printed, left to right
    have evalFails : ∀ {g : Expr} {x : Err}, (∀ {p}, Stored g p → Reached ctx (.expr a f) ctx p .store) →
        evalE ctx g = .error x → Cause ctx (.expr a f) x := fun lift hg =>
      let ⟨p, hs, hd, hx⟩ := evalE_error_cause _ _ hg
      hx ▸ .undefined (lift hs) hd
    have strFails : ∀ {g : Expr} {pv : PVal} {x : Err},
        (∀ {p}, Stored g p → Reached ctx (.expr a f) ctx p .store) →
        evalE ctx g = .ok pv → pv.str .strict = .error x → Cause ctx (.expr a f) x :=
      fun lift hg hx =>
        let ⟨q, hq, hxq⟩ := printed_error_holds (str_strict _ ▸ hx)
        let ⟨hs, hd⟩ := evalE_holds_cause _ _ q hg hq
        hxq ▸ .undefined (lift hs) hd
    cases ha : evalE ctx a with
    | error x =>
      have : e = x := by cases f <;> simp [renderT, ha] at h <;> exact h.symm
      exact this ▸ evalFails .exprL ha
    | ok pa =>
      cases f with
      | none =>
        simp only [renderT, ha] at h
        exact strFails .exprL ha h
      | some g =>
        cases hg : evalE ctx g with
        | error x =>
          simp [renderT, ha, hg] at h
          exact h ▸ evalFails .exprR hg
        | ok pb =>
          cases hsa : pa.str .strict with
          | error x =>
            simp [renderT, ha, hg, hsa] at h
            exact h ▸ strFails .exprL ha hsa
          | ok sa =>
            cases hsb : pb.str .strict with
            | error x =>
              simp [renderT, ha, hg, hsa, hsb] at h
              exact h ▸ strFails .exprR hg hsb
            | ok sb => simp [renderT, ha, hg, hsa, hsb] at h

/-- every reached `|escape` is applied to a string (no type error can come first) -/
def EscOk (ctx : Ctx) (t : Tmpl) : Prop :=
  ∀ c p v, Reached ctx t c p .esc → resolve c p = .val v → ∃ s, v = .str s

/-- **undefined_is_error, with the error named**: the error is `undefined q` for a reached
reference `q` that its context does not define — not necessarily `p`: Jinja stops at the first it meets. -/
theorem undefined_error_kind {ctx c : Ctx} {t : Tmpl} {p : Path} {k : Use}
    (h : Reached ctx t c p k) (hu : ¬ Defined c p) (hesc : EscOk ctx t) :
    ∃ c' q k', Reached ctx t c' q k' ∧ ¬ Defined c' q ∧
      renderT .strict ctx t = .error (.undefined q) := by
  obtain ⟨e, he⟩ := undefined_is_error h hu
  rcases error_has_cause he with ⟨c', q, k', hr, hd, rfl⟩ | ⟨c', q, v, hr, hv, hs, _⟩
  · exact ⟨c', q, k', hr, hd, he⟩
  · obtain ⟨s, rfl⟩ := hesc c' q v hr hv
    exact absurd rfl (hs s)

/-! ### defined ⇒ exactly the value -/

/-- **defined_exact**: if every reached reference is usable (defined; `|escape` gets a
string), then under EVERY policy the template renders, and the result is the template with
each reference replaced by exactly its value — nothing else changes. -/
theorem defined_exact (pol : Policy) {ctx : Ctx} {t : Tmpl}
    (h : ∀ c p k, Reached ctx t c p k → Usable c p k) :
    renderT pol ctx t = .ok (subst ctx t) := by
  induction t generalizing ctx with
  | lit s => rfl
  | var p =>
    obtain ⟨v, hv, _⟩ := h ctx p .print .var
    simp [renderT, subst, hv]
  | escVar p =>
    obtain ⟨v, hv, hs⟩ := h ctx p .esc .esc
    obtain ⟨s, rfl⟩ := hs rfl
    simp [renderT, subst, hv]
  | seq a b iha ihb =>
    simp [renderT, subst, iha (fun c p k hr => h c p k (.seqL hr)),
      ihb (fun c p k hr => h c p k (.seqR hr))]
  | forJoin v p body ih =>
    obtain ⟨xs, hxs, _⟩ := h ctx p .iter .forHead
    simp only [renderT, subst, hxs]
    exact joinM_ok (g := fun e => subst ((v, e) :: ctx) body)
      (fun e he => ih (fun c q k hr => h c q k (.forBody hxs he hr)))
  | ifEq p s body ih =>
    obtain ⟨v, hv, _⟩ := h ctx p .cmp .ifHead
    cases v with
    | str s' =>
      by_cases hs : s' = s
      · subst hs
        simp [renderT, subst, hv, ih (fun c q k hr => h c q k (.ifBody hv hr))]
      · simp [renderT, subst, hv, hs]
    | _ => simp [renderT, subst, hv]
  | expr a f =>
    have clean : ∀ {g : Expr}, (∀ {p}, Stored g p → Reached ctx (.expr a f) ctx p .store) →
        ∃ pv, evalE ctx g = .ok pv ∧ pv.str pol = .ok pv.strL := fun lift =>
      let ⟨pv, he, hc⟩ := evalE_clean fun p hs => let ⟨v, hv, _⟩ := h ctx p .store (lift hs); ⟨v, hv⟩
      ⟨pv, he, clean_str pol hc⟩
    obtain ⟨pa, hea, hsa⟩ := clean .exprL
    cases f with
    | none => simp [renderT, subst, hea, hsa]
    | some g =>
      obtain ⟨pb, heb, hsb⟩ := clean .exprR
      simp [renderT, subst, hea, heb, hsa, hsb]

/-- non-vacuity and shape of `subst`: literal text is kept, the reference is the value -/
example :
    renderT .strict [("a".toList, .str "A;B".toList)]
      (.seq (.lit "x ".toList) (.seq (.escVar ⟨"a".toList, []⟩) (.lit " y".toList)))
      = .ok "x A\\;B y".toList := by decide +kernel

/-- `subst` on the basic shapes, spelled out: the surrounding text is untouched -/
theorem subst_var_exact (ctx : Ctx) (a b : Str) (p : Path) (v : Val) (h : resolve ctx p = .val v) :
    subst ctx (.seq (.lit a) (.seq (.var p) (.lit b))) = a ++ (v.show ++ b) := by
  simp [subst, h]

theorem policy_irrelevant_when_defined {ctx : Ctx} {t : Tmpl}
    (h : ∀ c p k, Reached ctx t c p k → Usable c p k) :
    renderT .strict ctx t = renderT .lenient ctx t := by
  rw [defined_exact .strict h, defined_exact .lenient h]

/-- needed: "usable", not only "defined" — `|escape` of a list is a type error, not a value -/
theorem needs_usable :
    renderT .strict [("xs".toList, .list [])] (.escVar ⟨"xs".toList, []⟩)
      = .error (.filterType ⟨"xs".toList, []⟩) := by decide +kernel

/-! ### what the fix removed -/

/-- **lenient_blank**: under Jinja's default policy an undefined reference renders as
nothing, the text around it is delivered. -/
theorem lenient_blank {ctx : Ctx} {p : Path} (a b : Str) (h : resolve ctx p = .undef) :
    renderT .lenient ctx (.seq (.lit a) (.seq (.var p) (.lit b))) = .ok (a ++ b) := by
  simp [renderT, h]

example : renderT .lenient [("name".toList, .str "N".toList)]
    (.seq (.lit "Hi ".toList) (.seq (.var ⟨"nmae".toList, []⟩) (.lit "!".toList)))
    = .ok "Hi !".toList := by decide +kernel

/-- the same under strict is an error naming the reference -/
theorem strict_not_blank {ctx : Ctx} {p : Path} (a b : Str) (h : resolve ctx p = .undef) :
    renderT .strict ctx (.seq (.lit a) (.seq (.var p) (.lit b))) = .error (.undefined p) := by
  simp [renderT, h]

/-- lenient loops and conditions on undefined names are silently skipped -/
theorem lenient_blank_for_if {ctx : Ctx} {p : Path} (v c : Str) (body : Tmpl)
    (h : resolve ctx p = .undef) :
    renderT .lenient ctx (.forJoin v p body) = .ok [] ∧
    renderT .lenient ctx (.ifEq p c body) = .ok [] := by
  simp [renderT, h]

/-! ### unreached references are harmless -/

/-- a false condition: the body is not evaluated, whatever it mentions -/
theorem if_false_unevaluated (pol : Policy) {ctx : Ctx} {p : Path} {v : Val} (c : Str) (body : Tmpl)
    (h : resolve ctx p = .val v) (hne : v ≠ .str c) :
    renderT pol ctx (.ifEq p c body) = .ok [] := by
  cases v with
  | str s =>
    have : s ≠ c := fun hs => hne (by rw [hs])
    simp [renderT, h, this]
  | list xs => simp [renderT, h]
  | record fs => simp [renderT, h]

/-- a loop over nothing: the body is not evaluated -/
theorem for_empty_unevaluated (pol : Policy) {ctx : Ctx} {p : Path} {xs : Val} (v : Str) (body : Tmpl)
    (h : resolve ctx p = .val xs) (he : xs.items = []) :
    renderT pol ctx (.forJoin v p body) = .ok [] := by
  simp [renderT, h, he, joinM]

/-- the loop variable is gone after the loop: using it there is an error (strict) -/
example :
    renderT .strict [("xs".toList, .list [.str "a".toList])]
      (.seq (.forJoin "v".toList ⟨"xs".toList, []⟩ (.var ⟨"v".toList, []⟩)) (.var ⟨"v".toList, []⟩))
      = .error (.undefined ⟨"v".toList, []⟩) := by decide +kernel

/-- … and an outer variable of the same name is visible again (Jinja scoping) -/
example :
    renderT .strict [("xs".toList, .list [.str "a".toList]), ("v".toList, .str "OUT".toList)]
      (.seq (.forJoin "v".toList ⟨"xs".toList, []⟩ (.var ⟨"v".toList, []⟩)) (.var ⟨"v".toList, []⟩))
      = .ok "aOUT".toList := by decide +kernel

/-! ## native templates -/

/-- **undefined_is_error (native)**: with a strict native environment AND the check of the
result, `{@ p @}` for an undefined `p` is an error. -/
theorem undefined_is_error_native {cf : Conf} {ctx : Ctx} {p : Path} (l r : Str)
    (hs : cf.natPol = .strict) (hc : cf.natCheck = true) (hu : ¬ Defined ctx p) :
    renderSrc cf ctx (.nat l p r) = .error (.undefined p) := by
  rcases not_defined_iff.mp hu with hr | hr <;> simp [renderSrc, hr, hs, hc]

/-- **defined_exact (native)**: the VALUE, for every configuration -/
theorem defined_exact_native (cf : Conf) {ctx : Ctx} {p : Path} {v : Val} (l r : Str)
    (h : resolve ctx p = .val v) : renderSrc cf ctx (.nat l p r) = .ok (.value v) := by
  simp [renderSrc, h]

/-- lenient native environment: the undefined object is handed over silently -/
theorem lenient_blank_native {cf : Conf} {ctx : Ctx} {p : Path} (l r : Str)
    (hl : cf.natPol = .lenient) (h : resolve ctx p = .undef) :
    ∃ o, renderSrc cf ctx (.nat l p r) = .ok o ∧ (∀ v, renderSrc cf ctx (.nat l p r) ≠ .ok (.value v)) := by
  refine ⟨.undefinedObject, by simp [renderSrc, h, hl], ?_⟩
  intro v hv
  simp [renderSrc, h, hl] at hv

/-- **the check is needed too**: a strict native environment alone still hands over the
undefined object (the second half of the fix). -/
theorem needs_native_check {ctx : Ctx} {p : Path} (l r : Str) (tp : Policy) (deep : Bool)
    (h : resolve ctx p = .undef) :
    ∀ v e, renderSrc ⟨tp, .strict, false, deep⟩ ctx (.nat l p r) ≠ .error e ∧
      renderSrc ⟨tp, .strict, false, deep⟩ ctx (.nat l p r) ≠ .ok (.value v) := by
  intro v e
  simp [renderSrc, h]

/-- a step taken ON an undefined object fails under every configuration -/
theorem broken_always_error (cf : Conf) {ctx : Ctx} {p : Path} (l r : Str)
    (h : resolve ctx p = .broken) : renderSrc cf ctx (.nat l p r) = .error (.undefined p) := by
  simp [renderSrc, h]

/-- **undefined_is_error (native, nested)**: with a strict native environment and the DEEP
check of the result, `{@ e @}` is an error as soon as `e` stores an undefined reference at any
depth of its list / tuple / dict literals. -/
theorem undefined_is_error_nativeE {cf : Conf} {ctx : Ctx} {e : Expr} {p : Path} (l r : Str)
    (hs : cf.natPol ≠ .lenient) (hc : cf.natCheck = true) (hd : cf.natDeep = true)
    (h : Stored e p) (hu : ¬ Defined ctx p) :
    ∃ x, renderSrc cf ctx (.natE l e r) = .error x := by
  rcases stored_undefined h hu with ⟨x, hx⟩ | ⟨pv, hpv, hh⟩
  · exact ⟨x, by simp [renderSrc, hx]⟩
  · obtain ⟨q, hq⟩ := Option.isSome_iff_exists.mp (holds_findUndef hh)
    exact ⟨.undefined q, by simp [renderSrc, hpv, Conf.search, hc, hd, hq, hs]⟩

/-- **defined_exact (native, nested)**: every stored reference defined ⇒ the container of the
values, for every configuration -/
theorem defined_exact_nativeE (cf : Conf) {ctx : Ctx} {e : Expr} (l r : Str)
    (h : ∀ p, Stored e p → Defined ctx p) :
    ∃ pv, evalE ctx e = .ok pv ∧ (∀ q, ¬ pv.Holds q) ∧
      renderSrc cf ctx (.natE l e r) = .ok (.pvalue pv) := by
  obtain ⟨pv, hpv, hc⟩ := evalE_clean h
  obtain ⟨hs, ho⟩ := clean_native cf hc
  exact ⟨pv, hpv, hc, by simp [renderSrc, hpv, hs, ho]⟩

/-- **the deep check is needed** (negative witness = F-C16-c, native half): with the check of
the result at top level only, `{@ [nope] @}` hands over a list that holds the undefined
object — no error — although `{@ nope @}` is an error under the same configuration. -/
theorem needs_deep_check :
    renderSrc Conf.shallow [("a".toList, .str "A".toList)]
      (.natE " ".toList (.coll .list [([], .ref ⟨"nope".toList, []⟩)]) " ".toList)
      = .ok .holdsUndefined ∧
    renderSrc Conf.shallow [("a".toList, .str "A".toList)]
      (.natE " ".toList (.ref ⟨"nope".toList, []⟩) " ".toList)
      = .error (.undefined ⟨"nope".toList, []⟩) ∧
    renderSrc Conf.repo [("a".toList, .str "A".toList)]
      (.natE " ".toList (.coll .list [([], .ref ⟨"nope".toList, []⟩)]) " ".toList)
      = .error (.undefined ⟨"nope".toList, []⟩) := by
  exact ⟨rfl, rfl, rfl⟩

/-! ## cells and rows: the wrapper with its shortcut, omitted templating -/

theorem stored_mem_refs {e : Expr} {p : Path} (h : Stored e p) : p ∈ e.refs := by
  induction h with
  | ref => exact List.mem_singleton.mpr rfl
  | coll hm _ ih =>
    rw [Expr.refs, itemsRefs_eq]
    exact List.mem_flatMap.mpr ⟨_, hm, ih⟩

theorem reached_mem_refs {ctx c : Ctx} {t : Tmpl} {p : Path} {k : Use}
    (h : Reached ctx t c p k) : p ∈ refs t := by
  induction h with
  | @exprL ctx e f p hs => cases f <;> simp [refs, stored_mem_refs hs]
  | @exprR ctx e f p hs => simp [refs, stored_mem_refs hs]
  | _ => simp_all [refs]

theorem brace_mem_starts :
    shortcutChar ∈ varStart ∧ shortcutChar ∈ blockStart ∧ shortcutChar ∈ natStart := by
  decide +kernel

theorem no_brace {t : Tmpl} (h : shortcutChar ∉ t.show) :
    refs t = [] ∧ ∀ pol ctx, renderT pol ctx t = .ok t.show := by
  induction t with
  | lit s => exact ⟨rfl, fun _ _ => rfl⟩
  | seq a b iha ihb =>
    simp only [Tmpl.show, List.mem_append, not_or] at h
    obtain ⟨ra, ha⟩ := iha h.1
    obtain ⟨rb, hb⟩ := ihb h.2
    exact ⟨by simp [refs, ra, rb], fun pol ctx => by simp [renderT, ha, hb, Tmpl.show]⟩
  | expr e f =>
    cases f <;> simp only [Tmpl.show, List.mem_append, brace_mem_starts, true_or, not_true] at h
  | _ => simp only [Tmpl.show, List.mem_append, brace_mem_starts, true_or, not_true] at h

/-- **the no-`{` shortcut never skips a reference** (`no_brace`: there is none to skip), and what
it returns is what rendering would have returned. -/
theorem shortcut_exact (pol : Policy) (ctx : Ctx) {t : Tmpl} (h : shortcutChar ∉ t.show) :
    renderT pol ctx t = .ok t.show :=
  (no_brace h).2 pol ctx

/-- references of a cell that are reached -/
inductive SrcReached : Ctx → Src → Ctx → Path → Prop where
  | text {ctx t c p k} : Reached ctx t c p k → SrcReached ctx (.text t) c p
  | nat {ctx l p r} : SrcReached ctx (.nat l p r) ctx p
  | nat2L {ctx p q} : SrcReached ctx (.nat2 p q) ctx p
  | nat2R {ctx p q} : SrcReached ctx (.nat2 p q) ctx q
  | natE {ctx l e r p} : Stored e p → SrcReached ctx (.natE l e r) ctx p

theorem src_ref_has_brace {ctx c : Ctx} {s : Src} {p : Path} (h : SrcReached ctx s c p) :
    shortcutChar ∈ s.show := by
  cases h with
  | text hr =>
    refine Decidable.byContradiction fun hn => ?_
    have := reached_mem_refs hr
    rw [(no_brace hn).1] at this
    cases this
  | _ => simp [Src.show, brace_mem_starts]

/-- **undefined_is_error for a whole cell**, text or native, under the repo's configuration -/
theorem undefined_is_error_src {ctx c : Ctx} {ast : Src} {p : Path}
    (h : SrcReached ctx ast c p) (hu : ¬ Defined c p) :
    ∃ e, renderSrc Conf.repo ctx ast = .error e := by
  cases h with
  | text hr =>
    obtain ⟨e, he⟩ := undefined_is_error hr hu
    exact ⟨e, by simp [renderSrc, Conf.repo, he]⟩
  | nat => exact ⟨_, undefined_is_error_native _ _ rfl rfl hu⟩
  | nat2L => exact ⟨_, rfl⟩
  | nat2R => exact ⟨_, rfl⟩
  | natE hs => exact undefined_is_error_nativeE _ _ (by decide) rfl rfl hs hu

/-- the wrapper does not turn a failed rendering into a delivery: given a context and a `{` in
the cell it renders, or rejects the cell itself -/
theorem parseAsString_error {cf : Conf} {ctx : Ctx} {value : Str} {ast : Src} {e : Err}
    (hb : shortcutChar ∈ strip pyWs value) (he : renderSrc cf ctx ast = .error e) :
    ∃ e', parseAsString cf (some ctx) value ast = .error e' := by
  have hb : (strip pyWs value).contains shortcutChar = true := by simpa using hb
  unfold parseAsString
  simp only [hb, Bool.not_true, Bool.and_false, Bool.false_eq_true, if_false]
  split
  · split
    · exact ⟨_, rfl⟩
    · exact ⟨e, he⟩
  · exact ⟨e, he⟩

/-- **undefined_is_error at the API boundary** (`parse_as_string` with the repo's
configuration, any context — also the empty one, any padding): a cell that reaches an
undefined reference is an error; no text and no value is delivered. -/
theorem undefined_is_error_cell {cf : Conf} {ctx c : Ctx} {value : Str} {ast : Src} {p : Path}
    (hcf : cf = Conf.repo) (hshow : ast.show = strip pyWs value)
    (h : SrcReached ctx ast c p) (hu : ¬ Defined c p) :
    ∃ e, parseAsString cf (some ctx) value ast = .error e := by
  obtain ⟨e, he⟩ := undefined_is_error_src h hu
  exact hcf ▸ parseAsString_error (hshow ▸ src_ref_has_brace h) he

/-- `parse` (the entry point of list/object columns) fails with `parse_as_string` -/
theorem undefined_is_error_parse {cf : Conf} {ctx c : Ctx} {value : Str} {ast : Src} {p : Path}
    (hcf : cf = Conf.repo) (hshow : ast.show = strip pyWs value)
    (h : SrcReached ctx ast c p) (hu : ¬ Defined c p) :
    ∃ e, parse cf (some ctx) value ast = .error e := by
  obtain ⟨e, he⟩ := undefined_is_error_cell hcf hshow h hu
  exact ⟨e, by simp [parse, he]⟩

/-- non-vacuity: `  {@ row.nmae @} ` with the row defined -/
example :
    (Src.nat " ".toList ⟨"row".toList, [.fld "nmae".toList]⟩ " ".toList).show
      = strip pyWs "  {@ row.nmae @} ".toList ∧
    ¬ Defined [("row".toList, .record [("name".toList, .str "N".toList)])]
      ⟨"row".toList, [.fld "nmae".toList]⟩ := by
  conv in (occs := *) String.toList _ => all_goals try rw [String.toList_ofList]
  decide +kernel

/-- non-vacuity (nested): `{@ {'k': [a, nope]} @}` at the API boundary -/
example :
    (Src.natE " ".toList (.coll .dict [("k".toList, .coll .list [([], .ref ⟨"a".toList, []⟩),
        ([], .ref ⟨"nope".toList, []⟩)])]) " ".toList).show
      = strip pyWs " {@ {'k': [a, nope]} @}".toList ∧
    ¬ Defined [("a".toList, .str "A".toList)] ⟨"nope".toList, []⟩ := by
  conv in (occs := *) String.toList _ => all_goals try rw [String.toList_ofList]
  decide +kernel

/-- **omitted_unevaluated**: with `context=None` (`omit_templating`, the rows inside an
excluded block or an empty loop) the cell is returned stripped; neither the configuration nor
Jinja's reading of the cell plays any role — `render` is never called. -/
theorem omitted_unevaluated (cf cf' : Conf) (value : Str) (ast ast' : Src) :
    parseAsString cf none value ast = .ok (.text (strip pyWs value)) ∧
    parseAsString cf none value ast = parseAsString cf' none value ast' := by
  simp [parseAsString]

/-- a whole omitted row: every cell comes back stripped, none is an error -/
theorem omitted_row_unevaluated (cf : Conf) (ctx : Ctx) (cells : List (Str × Src)) :
    parseRow cf true ctx cells = cells.map fun c => .ok (.text (strip pyWs c.1)) := by
  simp [parseRow, parseAsString]

/-- a row that is templated (a single row whose own `include_if` is false is one:
the flag is a cell of the same row) fails as soon as one cell reaches an undefined name -/
theorem templated_row_fails {ctx c : Ctx} {cells : List (Str × Src)} {cell : Str × Src} {p : Path}
    (hm : cell ∈ cells) (hshow : cell.2.show = strip pyWs cell.1) (h : SrcReached ctx cell.2 c p)
    (hu : ¬ Defined c p) : ∃ e, Except.error e ∈ parseRow Conf.repo false ctx cells := by
  obtain ⟨e, he⟩ := undefined_is_error_cell rfl hshow h hu
  refine ⟨e, ?_⟩
  simp only [parseRow, List.mem_map]
  exact ⟨cell, hm, by simpa using he⟩

/-- **delivered_no_blank (row level)**: if every cell of a templated row was delivered (no
error), then no cell of the row reaches a reference that its context does not define — in
particular nothing was replaced by nothing.  (The sheet-level statement — which context a row
of a loop / an inserted template / a bulk-created flow is instantiated in — has no Lean model;
it is checked on the real compiler for every cell of every explored sheet, see the check.) -/
theorem delivered_no_blank_row {cf : Conf} {ctx : Ctx} {cells : List (Str × Src)}
    (hcf : cf = Conf.repo)
    (hok : ∀ r ∈ parseRow cf false ctx cells, ∃ o, r = .ok o) :
    ∀ cell ∈ cells, cell.2.show = strip pyWs cell.1 →
      ∀ c p, SrcReached ctx cell.2 c p → Defined c p := by
  subst hcf
  intro cell hm hshow c p hr
  apply Decidable.byContradiction
  intro hu
  obtain ⟨e, he⟩ := templated_row_fails hm hshow hr hu
  obtain ⟨o, ho⟩ := hok _ he
  cases ho

/-- non-vacuity: a row of two cells, both delivered -/
example : ∀ r ∈ parseRow Conf.repo false [("a".toList, .str "A".toList)]
    [("{{a}}".toList, .text (.var ⟨"a".toList, []⟩)), ("x".toList, .text (.lit "x".toList))],
    r = .ok (.text "A".toList) ∨ r = .ok (.text "x".toList) := by
  intro r hr
  simp only [parseRow, List.map, List.mem_cons, List.not_mem_nil, or_false] at hr
  rcases hr with rfl | rfl
  · exact .inl rfl
  · exact .inr rfl

/-- the empty-context shortcut returns exactly what rendering returns (text cells) -/
theorem shortcut_is_render {cf : Conf} {value : Str} {t : Tmpl}
    (hshow : t.show = strip pyWs value) (hnb : (strip pyWs value).contains shortcutChar = false) :
    parseAsString cf (some []) value (.text t) = renderSrc cf [] (.text t) := by
  have hn' : shortcutChar ∉ strip pyWs value := by simpa using hnb
  have hn : shortcutChar ∉ t.show := hshow ▸ hn'
  simp [parseAsString, hn', renderSrc, shortcut_exact cf.textPol [] hn, hshow]

/-- two native templates in one cell are rejected whatever they name -/
theorem nested_native_rejected (cf : Conf) (ctx : Ctx) :
    parseAsString cf (some ctx) "{@a@}{@b@}".toList (.nat2 ⟨"a".toList, []⟩ ⟨"b".toList, []⟩)
      = .error .nestedNative := by
  cases ctx <;> rfl

end Rpft.Props.C16
