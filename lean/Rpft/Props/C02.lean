/-
C02 — the compiled flow has exactly the control flow the sheet rows describe.

Two halves.  (1) For ALL infinite answer sequences of the simulated contact: a certificate
accepted by `certOk` implies equal traces (`validCert_sound`, `flows_equiv_of_cert`, in
`Props/C02_Cert`) — the checker is run on every real compiler output against the reference
interpretation `RefFlow.refFlow` of the same parsed rows.  (2) For all sheets: `C02_full` — the
universal claim over sheets needs the compiler model (M4) and is discharged per sheet by (1); for ALL
sheets of the fragment `CoreSheet.inFragment` (every row type of a core sheet except
`insert_as_block`, rows standing for themselves) it is PROVED with the Lean compiler model in place of
the real compiler: `compile_refines_reference` / `C02_fragment`, where the fragment and the proof are
described; `C02_fragment_full` names what is left.

Then, evaluated by the kernel: three sheets of the fragment with their traces (`exRows`, `exNoop`,
`exMerge`: non-vacuity); for each clause of the fragment that is forced, a sheet outside it on which
the two readings differ (`fragment_needs_*`, the findings F-C02-b, F-C02-d, F-C02-e among them), and the
shapes of `no_op` rows that are left out without being shown to be forced.  At the end: without merged
rows the clauses about them hold by themselves; the table of tests without argument is the source's
(`tables_agree`); the reference flow of every sheet is closed (`reference_flow_closed`).
-/
import Rpft.Props.C02_Cert
import Rpft.RefFlow
import Rpft.Lemmas.RefFlowClosed
import Rpft.Gen.Tables
import Rpft.Lemmas.CoreFinal
namespace Rpft.Props.C02
open Rpft Rpft.Bisim Rpft.Flow

/-- The full statement of C02 over sheets: for every well-formed core sheet whose rows the
real compiler accepts, the compiled flow is trace-equivalent to the reference
interpretation.  `compile` is the real compiler (a parameter here: its Lean model is M4);
per sheet this is decided by `flows_equiv_of_cert` on the real output. -/
def C02_full (compile : List RefFlow.RRow → Option Flow.Flow) : Prop :=
  ∀ rows f r, compile rows = some f → RefFlow.refFlow rows = .ok r →
    ∀ env n, trace ⟨false, true⟩ r env n = trace ⟨false, true⟩ f env n

/-- **C02 for ALL sheets of the fragment** (`C02_full` with the Lean compiler model — tied to the
real parser by exact comparison, C01 — in place of the abstract `compile`, restricted to
`CoreSheet.inFragment`): whatever the rows, as long as they are in the fragment, if the compiler
model compiles the sheet and the reference interpretation exists, then for EVERY stream of
environment answers and every length the contact observes the same actions in the same order and
faces the same decisions (operand, ordered tests with their arguments, wait / timeout, result name)
in the compiled flow as in the meaning of the rows.  Both readings are taken from ONE list of parsed
rows (`CoreSheet.CRow`; `toEvent` / `toRRow` are cross-checked against the inputs the harness builds
on every explored sheet).  The fragment (`CoreSheet.inFragment`, decidable):
* rows: action rows; `wait_for_response` (with or without timeout), `split_by_value`,
  `split_by_group`, `split_random`; `start_new_flow`, `call_webhook`, `transfer_airtime` (performing
  their own action); `go_to` (its edges enter the named rows, cycles included); `hard_exit` /
  `loose_exit` (the paths end); no given node identifier, the action as the documentation describes
  it, a node name on action rows only (`rowOk`);
* rows merged into one node: an action row that carries the node name of an earlier action row is
  merged into that row's node (the input rows are marked by `CoreSheet.annotate`: `mergeAt`); it has
  exactly one edge, unconditional, with an explicit `from` (or no row id), from a row of that node
  (`pass1F` exists: the FUSED reading, in which the merged row has no node and no edge and its row id
  stands for the first row of its chain); the chain is a chain (`chainsOk`, checked on the two
  readings' edges): every row but the last is left by exactly that one edge into the next row, the
  out-edges of the last row are the fused reading's out-edges of the first row, and no edge of the
  fused reading enters a merged row (F-C02-d).  The reference has one node per row, the compiler one
  node per chain: the traces agree by node FUSION (`Flow.FuseOf`: a chain of nodes, each with
  actions, no decision and one exit to the next, corresponds to one node that performs their actions
  in order — an offset into its actions);
* `no_op` rows (junctions, performing no action): entered from rows that are not `no_op` rows (not by a
  `go_to`: the compiler rejects that), by any number of conditional or unconditional edges; left
  EITHER by exactly one unconditional edge into a row — then the compiler creates no node at all, the
  sources lead where that edge leads, while the reference has an empty node there (node ELISION:
  `Flow.DRelO.skip`, a destination naming a node without action and decision corresponds to what that
  node's exit corresponds to) — OR by conditional edges naming one variable, followed by any number of
  unconditional ones (`noopShape`: conditional edges FIRST, the other order is the finding F-C02-b) —
  then both sides have a router node; between the first edge into a `no_op` row and the last edge
  leaving it its sources receive no other edge, a source waits for one `no_op` row at a time, and every
  `no_op` row that is entered is left (`noopSched`, a fold over the edges in sheet order); the flow
  does not start at a `no_op` row (`firstOk`);
* edges: any number of conditional or unconditional edges per row with explicit `from` row ids,
  blank `from` or `start` — chains, trees, joins, last-edge-wins defaults, tests appended in row
  order, "No Response" branches, buckets by name, fixed outcomes by word; an action row left
  conditionally gets a router node behind its node (two compiled nodes for one reference node);
* single-meaning conditions, each forced (negative witnesses below): `edgeOk` (no variable on an edge
  leaving a wait row; the reserved "no response" only on edges leaving a wait row; no generated
  bucket name used explicitly), `distinctTests`, `sameVars` (one variable per action row / `no_op` row),
  `freshNames` (an explicit category name is new when it is used).
Proof: lock-step simulation of the compiler machine and pass 1 of the reference (after every prefix
of the sheet, the arena nodes of row `j` are the compiled form of row `j` with the out-edges recorded
for `j`: `CoreSheet.Rel`; with `no_op` rows the compiler applies an edge INTO a junction only when an
edge LEAVES it, so the relation is kept against a schedule of the recorded edges in which such edges
appear when they take effect: `CoreSheet.Sched`, `RelN`, `rows_simN`; at the end of a sheet of the
fragment nothing is waiting and the schedule has, per source, the reference's edges in the
reference's order; a merged row adds its action to the node of the first row of its chain — the
`post` argument of `CoreSheet.RowSim`, `merge_row_simN`), then a bisimulation between the
index-resolved abstractions of the two flows in which a reference node may correspond to TWO compiled
nodes and a chain of reference nodes to ONE (`Flow.FuseOf`, `Flow.run_fuse`, generalising
`Flow.SplitOf` / `Flow.run_split`; entering a node does not depend on the fuel once it exceeds the
number of nodes: `Flow.aEnter_stable`); identifiers do not matter (`Flow.trace_abs`), in a switch node
built case by case answer `c` leads where exit `c` leads (`Flow.routerChoices`, `Flow.CatsPos.abs`).  Category
names are not observed (C02's level); `rnf`: whether result names are. -/
theorem compile_refines_reference (rnf : Bool) (testTypes : List Str)
    (rows : List CoreSheet.CRow) (out : Compile.Out) (r : Flow.Flow)
    (hF : CoreSheet.inFragment rows = true)
    (hc : Compile.compile RefFlow.noArgsTests testTypes (rows.map CoreSheet.toEvent) = .ok out)
    (hr : RefFlow.refFlow (rows.map CoreSheet.toRRow) = .ok r) :
    ∀ env n, trace ⟨false, rnf⟩ r env n = trace ⟨false, rnf⟩ (Compile.renderOut out) env n := by
  rw [← CoreSheet.annotate_map CoreSheet.toEvent (fun _ _ => rfl)] at hc
  rw [← CoreSheet.annotate_map CoreSheet.toRRow (fun _ _ => rfl)] at hr
  obtain ⟨outE, hp1, _⟩ := RefFlow.refFlow_nodes _ _ hr
  obtain ⟨outF, hpF, hfrag⟩ := CoreSheet.Frag.of_inFragment hF hp1
  exact CoreSheet.fragment_trace rnf hfrag hp1 hpF hc hr

/-- the statement at the observation level of C02, with the source's table of tests without
argument (`tables_agree` below) -/
theorem C02_fragment (testTypes : List Str) (rows : List CoreSheet.CRow) (out : Compile.Out)
    (r : Flow.Flow) (hF : CoreSheet.inFragment rows = true)
    (hc : Compile.compile RefFlow.noArgsTests testTypes (rows.map CoreSheet.toEvent) = .ok out)
    (hr : RefFlow.refFlow (rows.map CoreSheet.toRRow) = .ok r) :
    ∀ env n, trace ⟨false, true⟩ r env n = trace ⟨false, true⟩ (Compile.renderOut out) env n :=
  compile_refines_reference true testTypes rows out r hF hc hr

/-- What is NOT proved universally: the same statement for every sheet the parser accepts, i.e.
with a weaker `wf` than `inFragment` (the documented single-meaning conditions DESIGN §5 C02 WF,
NoopStable).  Left out of the fragment: rows with a GIVEN node identifier (`_nodeId`: merging by
identifier, and the identifier arithmetic of F-C01-a), node names on rows that are not action rows,
chains of merged rows that are not chains (`chainsOk` is CHECKED on the edges of the two readings, not
derived from simpler conditions on the rows), blocks (`insert_as_block`, `begin_block` / `end_block`:
the block clause of C03), rows that do not stand for themselves in the documentation's table, and four
shapes of `no_op` rows on which the two readings agree as far as explored but which the schedule of the
proof does not cover (left by several unconditional edges only; left unconditionally into an exit row;
entered from a `no_op` row; entered and never left) — every sheet the harness calls `noop_stable` is
inside.  Decided per explored sheet by `flows_equiv_of_cert` on the real output. -/
def C02_fragment_full (wf : List CoreSheet.CRow → Prop) : Prop :=
  ∀ (testTypes : List Str) (rows : List CoreSheet.CRow) (out : Compile.Out) (r : Flow.Flow),
    wf rows → Compile.compile RefFlow.noArgsTests testTypes (rows.map CoreSheet.toEvent) = .ok out →
    RefFlow.refFlow (rows.map CoreSheet.toRRow) = .ok r →
    ∀ env n, trace ⟨false, true⟩ r env n = trace ⟨false, true⟩ (Compile.renderOut out) env n

/-- a row: id, type, edges (`from`, condition value), the content of its action; optional: the
`no_response` cell, the expression, a variable / category name on its conditional edges, a given
node identifier, a different action content in the documentation's table, the destinations of a
`go_to` row, a node name -/
def mkRow (id type : String) (edges : List (String × String)) (act : Option String) (nr : String := "")
    (expr : String := "") (var : String := "") (name : String := "") (uuid : String := "")
    (ract : Option String := none) (dests : List String := []) (nname : String := "") : CoreSheet.CRow :=
  { row := { rowId := id.toList, type := type.toList,
             edges := edges.map (fun (f, v) => ⟨f.toList, ⟨v.toList, if v = "" then [] else var.toList, [],
                                                          if v = "" then [] else name.toList⟩⟩),
             action := act.map String.toList, actionOk := true, ownAction := none, nodeUuid := uuid.toList,
             nodeName := nname.toList, saveName := "res".toList, noResponse := nr.toList, expression := expr.toList,
             flowName := [], dests := dests.map String.toList, resultKey := none, nodeOk := true },
    refAct := (match ract with | some x => some x | none => act).map String.toList }

/-- a row with fixed outcomes (`start_new_flow`, `call_webhook`, `transfer_airtime`): the content of
its own action, the key of the result it reads; optional: a different action content in the
documentation's table -/
def mkFix (id type : String) (edges : List (String × String)) (own : String) (key : Option String := none)
    (ract : Option String := none) : CoreSheet.CRow :=
  { row := { (mkRow id type edges none).row with ownAction := some own.toList, resultKey := key.map String.toList },
    refAct := some ((ract.getD own).toList) }

def exTests : List Str :=
  ["has_any_word".toList, "has_group".toList, "has_only_text".toList, "has_category".toList]

/-- a message, a wait with timeout left by two tests (the category of the first one named explicitly),
an unconditional edge (default) and a "No Response" edge, a join into a group split, a value split,
joins, a `start_new_flow` row left on Completed and on Expired, a `call_webhook` row left on Success
and unconditionally (= Failure), a `transfer_airtime` row left on Failure and on Success (any case of
the letters), a `split_random` row with a named bucket that is redirected later, an unnamed bucket and
a second named bucket, a `hard_exit`, a `go_to` with two edges back to the first row (a cycle), a row
after them with blank `from` (it follows the last node-producing row), a `loose_exit`, an action row
left on two tests of the reply and unconditionally (the compiler creates a waiting router node behind
its node), an action row left on two tests of a variable (a router node that does not wait) -/
def exRows : List CoreSheet.CRow :=
  [ mkRow "a" "send_message" [("start", "")] (some "A"),
    mkRow "w" "wait_for_response" [("a", "")] none "60",
    mkRow "y" "send_message" [("w", "yes")] (some "Y") "" "" "" "Affirmative",
    mkRow "n" "send_message" [("w", "no")] (some "N"),
    mkRow "t" "send_message" [("w", "No Response")] (some "T"),
    mkRow "g" "split_by_group" [("y", ""), ("n", "")] none,
    mkRow "m" "send_message" [("g", "members"), ("w", "")] (some "M"),
    mkRow "v" "split_by_value" [("g", "")] none "" "@fields.x",
    mkRow "z" "send_message" [("v", "7"), ("t", "")] (some "Z"),
    mkFix "f" "start_new_flow" [("m", "")] "enter F",
    mkRow "fc" "send_message" [("f", "Completed")] (some "FC"),
    mkFix "h" "call_webhook" [("f", "expired"), ("fc", "")] "hook H" (some "res"),
    mkFix "p" "transfer_airtime" [("h", "Success")] "air P" (some "res"),
    mkRow "pf" "send_message" [("h", ""), ("p", "failure"), ("p", "SUCCESS")] (some "PF"),
    mkRow "s" "split_random" [("pf", "")] none,
    mkRow "s1" "send_message" [("s", "A")] (some "S1"),
    mkRow "s2" "send_message" [("s", "")] (some "S2"),
    mkRow "s3" "send_message" [("s", "A"), ("s", "B")] (some "S3"),
    mkRow "" "hard_exit" [("g", "")] none,
    mkRow "" "go_to" [("z", ""), ("v", "")] none "" "" "" "" "" none ["a"],
    mkRow "q" "send_message" [("", "")] (some "Q"),
    mkRow "" "loose_exit" [("q", "")] none,
    mkRow "qa" "send_message" [("q", "one")] (some "QA") "" "" "" "First",
    mkRow "qb" "send_message" [("q", "two"), ("q", "")] (some "QB") "" "" "" "Second",
    mkRow "u" "send_message" [("qa", ""), ("qb", "")] (some "U"),
    mkRow "ua" "send_message" [("u", "x")] (some "UA") "" "" "@fields.k",
    mkRow "ub" "send_message" [("u", "y")] (some "UB") "" "" "@fields.k" ]

/-- the two traces of a sheet (compiler model / reference) under an environment, when both exist -/
def bothTraces (rows : List CoreSheet.CRow) (env : Nat → Nat) (n : Nat) : Option (List Obs × List Obs) :=
  match Compile.compile RefFlow.noArgsTests exTests (rows.map CoreSheet.toEvent),
      RefFlow.refFlow (rows.map CoreSheet.toRRow) with
  | .ok out, .ok r => some (trace ⟨false, true⟩ (Compile.renderOut out) env n, trace ⟨false, true⟩ r env n)
  | _, _ => none

/-- "`f` succeeds with a result satisfying `p`" is decided by running `f`: the existence clauses of the
`*_checked` theorems below -/
instance decExistsOk {ε α : Type} (f : Except ε α) (p : α → Prop) [DecidablePred p] :
    Decidable (∃ o, f = .ok o ∧ p o) :=
  match f with
  | .ok o => decidable_of_iff (p o) ⟨fun h => ⟨o, rfl, h⟩, fun ⟨_, h, hp⟩ => by cases h; exact hp⟩
  | .error _ => isFalse (fun ⟨_, h, _⟩ => by cases h)

/-- what the four examples about `exRows` say, checked together: the kernel shares the evaluation of the sheet
(`compile`, `refFlow`, `inFragment`) within one declaration, not between declarations -/
theorem exRows_checked :
    (CoreSheet.inFragment exRows = true ∧
    (∃ out, Compile.compile RefFlow.noArgsTests exTests (exRows.map CoreSheet.toEvent) = .ok out ∧
      out.nodes.length = 26) ∧
    (∃ r, RefFlow.refFlow (exRows.map CoreSheet.toRRow) = .ok r ∧ r.nodes.length = 24)) ∧
    ((bothTraces exRows (fun k => k) 8).map (fun p => decide (p.1 = p.2)) = some true ∧
    (bothTraces exRows (fun k => 2 * k + 1) 8).map (fun p => decide (p.1 = p.2)) = some true) ∧
    ((bothTraces exRows (fun k => if k = 0 then 3 else if k = 2 then 1 else 0) 15).map
      (fun p => decide (p.1 = p.2 ∧ p.1.length = 15)) = some true ∧
    (bothTraces exRows (fun _ => 0) 24).map
      (fun p => decide (p.1 = p.2 ∧ Obs.act "QA".toList ∈ p.1 ∧ Obs.act "UA".toList ∈ p.1)) = some true) ∧
    ∀ c ∈ CoreSheet.annotate exRows, (c.merged && CoreSheet.isNamedAct c) = false := by
  decide +kernel

/-- non-vacuity: the sheet is in the fragment, the compiler model compiles it (26 nodes: two of the
action rows have a router node behind their node), the reference interpretation exists (24 nodes) -/
example : CoreSheet.inFragment exRows = true ∧
    (∃ out, Compile.compile RefFlow.noArgsTests exTests (exRows.map CoreSheet.toEvent) = .ok out ∧
      out.nodes.length = 26) ∧
    (∃ r, RefFlow.refFlow (exRows.map CoreSheet.toRRow) = .ok r ∧ r.nodes.length = 24) :=
  exRows_checked.1

/-- as the theorem says, the traces of `exRows` agree: checked here for four answer streams, the third one
passing the three rows with fixed outcomes and the `split_random` row, the fourth one the two action
rows that are left conditionally -/
example :
    (bothTraces exRows (fun k => k) 8).map (fun p => decide (p.1 = p.2)) = some true ∧
    (bothTraces exRows (fun k => 2 * k + 1) 8).map (fun p => decide (p.1 = p.2)) = some true :=
  exRows_checked.2.1

example :
    (bothTraces exRows (fun k => if k = 0 then 3 else if k = 2 then 1 else 0) 15).map
      (fun p => decide (p.1 = p.2 ∧ p.1.length = 15)) = some true ∧
    (bothTraces exRows (fun _ => 0) 24).map
      (fun p => decide (p.1 = p.2 ∧ Obs.act "QA".toList ∈ p.1 ∧ Obs.act "UA".toList ∈ p.1)) = some true :=
  exRows_checked.2.2.1

/-- `no_op` rows (junctions): `j` joins two rows and one test of the wait row and is left
unconditionally — the compiler creates NO node for it, its three sources lead to row `x` (the
reference interpretation has an empty node there); `k` joins a row and the default of the wait row and
is left on two tests of a variable, then unconditionally — a router node; a `go_to` closes two cycles -/
def exNoop : List CoreSheet.CRow :=
  [ mkRow "a" "send_message" [("start", "")] (some "A"),
    mkRow "w" "wait_for_response" [("a", "")] none,
    mkRow "y" "send_message" [("w", "yes")] (some "Y"),
    mkRow "n" "send_message" [("w", "no")] (some "N"),
    mkRow "j" "no_op" [("y", ""), ("n", ""), ("w", "maybe")] none,
    mkRow "x" "send_message" [("j", "")] (some "X"),
    mkRow "k" "no_op" [("x", ""), ("w", "")] none,
    mkRow "p" "send_message" [("k", "1")] (some "P") "" "" "@fields.v" "One",
    mkRow "q" "send_message" [("k", "2")] (some "Q") "" "" "@fields.v",
    mkRow "d" "send_message" [("k", "")] (some "D"),
    mkRow "" "go_to" [("d", ""), ("q", "")] none "" "" "" "" "" none ["a"] ]

/-- the two examples about `exNoop`, checked together (as `exRows_checked`) -/
theorem exNoop_checked :
    (CoreSheet.inFragment exNoop = true ∧
    (∃ out, Compile.compile RefFlow.noArgsTests exTests (exNoop.map CoreSheet.toEvent) = .ok out ∧
      out.nodes.length = 9) ∧
    (∃ r, RefFlow.refFlow (exNoop.map CoreSheet.toRRow) = .ok r ∧ r.nodes.length = 10)) ∧
    (bothTraces exNoop (fun k => k) 12).map (fun p => decide (p.1 = p.2 ∧ p.1.length = 12)) = some true ∧
    (bothTraces exNoop (fun _ => 2) 12).map
      (fun p => decide (p.1 = p.2 ∧ Obs.act "X".toList ∈ p.1 ∧ Obs.act "D".toList ∈ p.1)) = some true ∧
    (bothTraces exNoop (fun k => if k = 1 then 0 else 1) 12).map
      (fun p => decide (p.1 = p.2 ∧ Obs.act "X".toList ∈ p.1 ∧ Obs.act "Q".toList ∈ p.1)) = some true := by
  decide +kernel

/-- non-vacuity with `no_op` rows: in the fragment; 9 compiled nodes (none for `j`, a router for `k`),
10 reference nodes -/
example : CoreSheet.inFragment exNoop = true ∧
    (∃ out, Compile.compile RefFlow.noArgsTests exTests (exNoop.map CoreSheet.toEvent) = .ok out ∧
      out.nodes.length = 9) ∧
    (∃ r, RefFlow.refFlow (exNoop.map CoreSheet.toRRow) = .ok r ∧ r.nodes.length = 10) :=
  exNoop_checked.1

/-- the traces of `exNoop` agree: through the junction without a node into `X`, on through the junction with a
router node to its default `D` / its second test `Q`, and around the cycles -/
example :
    (bothTraces exNoop (fun k => k) 12).map (fun p => decide (p.1 = p.2 ∧ p.1.length = 12)) = some true ∧
    (bothTraces exNoop (fun _ => 2) 12).map
      (fun p => decide (p.1 = p.2 ∧ Obs.act "X".toList ∈ p.1 ∧ Obs.act "D".toList ∈ p.1)) = some true ∧
    (bothTraces exNoop (fun k => if k = 1 then 0 else 1) 12).map
      (fun p => decide (p.1 = p.2 ∧ Obs.act "X".toList ∈ p.1 ∧ Obs.act "Q".toList ∈ p.1)) = some true :=
  exNoop_checked.2

/-- rows merged into one node by their node name: `a`, `b`, `c` (three actions in one node, left on a
test of the reply — the router node the compiler puts behind the merged node — and unconditionally),
`d`, `e`, and `g` with the row after it (blank `from`, no row id); a `go_to` back to the first row of
a chain -/
def exMerge : List CoreSheet.CRow :=
  [ mkRow "a" "send_message" [("start", "")] (some "A") (nname := "X"),
    mkRow "b" "add_to_group" [("a", "")] (some "B") (nname := "X"),
    mkRow "c" "send_message" [("b", "")] (some "C") (nname := "X"),
    mkRow "d" "send_message" [("c", "yes")] (some "D") (nname := "Y"),
    mkRow "e" "send_message" [("d", "")] (some "E") (nname := "Y"),
    mkRow "f" "send_message" [("c", ""), ("e", "")] (some "F"),
    mkRow "w" "wait_for_response" [("f", "")] none,
    mkRow "" "go_to" [("w", "again")] none (dests := ["a"]),
    mkRow "g" "send_message" [("w", "")] (some "G") (nname := "Z"),
    mkRow "" "send_message" [("", "")] (some "H") (nname := "Z") ]

/-- the two examples about `exMerge`, checked together (as `exRows_checked`) -/
theorem exMerge_checked :
    (CoreSheet.inFragment exMerge = true ∧
    (∃ out, Compile.compile RefFlow.noArgsTests exTests (exMerge.map CoreSheet.toEvent) = .ok out ∧
      out.nodes.length = 6) ∧
    (∃ r, RefFlow.refFlow (exMerge.map CoreSheet.toRRow) = .ok r ∧ r.nodes.length = 9)) ∧
    (bothTraces exMerge (fun _ => 0) 12).map
      (fun p => decide (p.1 = p.2 ∧ p.1.length = 12 ∧ Obs.act "E".toList ∈ p.1)) = some true ∧
    (bothTraces exMerge (fun _ => 1) 12).map
      (fun p => decide (p.1 = p.2 ∧ p.1.length = 8 ∧ Obs.act "H".toList ∈ p.1)) = some true := by
  decide +kernel

/-- non-vacuity with merged rows: in the fragment; 6 compiled nodes (one per chain, the router behind
the first chain, `f`, `w`), 9 reference nodes (one per row) -/
example : CoreSheet.inFragment exMerge = true ∧
    (∃ out, Compile.compile RefFlow.noArgsTests exTests (exMerge.map CoreSheet.toEvent) = .ok out ∧
      out.nodes.length = 6) ∧
    (∃ r, RefFlow.refFlow (exMerge.map CoreSheet.toRRow) = .ok r ∧ r.nodes.length = 9) :=
  exMerge_checked.1

/-- the traces of `exMerge` agree: around the cycle through all three chains' first, and through the defaults to
the end of the flow -/
example :
    (bothTraces exMerge (fun _ => 0) 12).map
      (fun p => decide (p.1 = p.2 ∧ p.1.length = 12 ∧ Obs.act "E".toList ∈ p.1)) = some true ∧
    (bothTraces exMerge (fun _ => 1) 12).map
      (fun p => decide (p.1 = p.2 ∧ p.1.length = 8 ∧ Obs.act "H".toList ∈ p.1)) = some true :=
  exMerge_checked.2

/-- outside the fragment, with both readings defined and the traces DIFFERENT (on the answer stream
`env`) -/
def refutedAt (rows : List CoreSheet.CRow) (env : Nat → Nat) (n : Nat) : Bool :=
  !CoreSheet.inFragment rows &&
  match bothTraces rows env n with
  | some p => decide (p.1 ≠ p.2)
  | none => false

/-- `refutedAt` on the stream of first answers -/
def refuted (rows : List CoreSheet.CRow) (n : Nat) : Bool := refutedAt rows (fun _ => 0) n

/-- outside the fragment, both readings defined, and the traces EQUAL on the stream of first answers:
a clause the proof needs but this sheet does not show to be forced -/
def agreesOutside (rows : List CoreSheet.CRow) (n : Nat) : Bool :=
  !CoreSheet.inFragment rows &&
  match bothTraces rows (fun _ => 0) n with
  | some p => decide (p.1 = p.2)
  | none => false

/-- clause "the action the compiler attaches is the one the documentation describes" (the part of
C02 that is about action content, a parameter of both models) -/
theorem fragment_needs_same_action :
    refuted [mkRow "a" "send_message" [("start", "")] (some "A") "" "" "" "" "" (some "B")] 1 = true := by
  decide +kernel

/-- clause "a row with fixed outcomes performs its own action, as the documentation describes it" -/
theorem fragment_needs_same_own_action :
    refuted [mkFix "f" "start_new_flow" [("start", "")] "enter F" none (some "enter G")] 1 = true := by
  decide +kernel

/-- clause "a bucket of a `split_random` row is not given a name the compiler generates" (`Bucket N`):
the compiler takes the named edge for the unnamed bucket it numbered so, the documentation for a new
bucket -/
theorem fragment_needs_no_generated_bucket_name :
    refuted [mkRow "r" "split_random" [("start", "")] none,
             mkRow "x" "send_message" [("r", "")] (some "X"),
             mkRow "y" "send_message" [("r", "Bucket 2")] (some "Y")] 3 = true := by
  decide +kernel

/-- clause "no generated bucket name" for the names the reference interpretation generates (`#n`) -/
theorem fragment_needs_no_hash_bucket_name :
    refuted [mkRow "r" "split_random" [("start", "")] none,
             mkRow "x" "send_message" [("r", "")] (some "X"),
             mkRow "y" "send_message" [("r", "#0")] (some "Y")] 3 = true := by
  decide +kernel

/-- clause `freshNames`: an explicit category name that is in use — here the name of the default
category — makes the compiler share that category -/
theorem fragment_needs_fresh_category_name :
    refuted [mkRow "w" "wait_for_response" [("start", "")] none,
             mkRow "y" "send_message" [("w", "yes")] (some "Y") "" "" "" "Other",
             mkRow "n" "send_message" [("w", "")] (some "N")] 3 = true := by
  decide +kernel

/-- clause `freshNames`: the explicit name is the one GENERATED for an earlier test -/
theorem fragment_needs_no_generated_category_name :
    refuted [mkRow "w" "wait_for_response" [("start", "")] none,
             mkRow "y" "send_message" [("w", "yes")] (some "Y"),
             mkRow "n" "send_message" [("w", "no")] (some "N") "" "" "" "Yes"] 3 = true := by
  decide +kernel

/-- clause "the conditional edges leaving one action row name the same variable": the router the
compiler puts behind the node decides on the variable named LAST, the documentation on the one named
first -/
theorem fragment_needs_same_variable :
    refuted [mkRow "a" "send_message" [("start", "")] (some "A"),
             mkRow "y" "send_message" [("a", "yes")] (some "Y") "" "" "@fields.x",
             mkRow "n" "send_message" [("a", "no")] (some "N") "" "" "@fields.y"] 3 = true := by
  decide +kernel

/-- clause "a condition on an edge leaving an action row is not the reserved `no response`": the
compiler drops such an edge once the router node exists (a warning), the documentation reads a test -/
theorem fragment_needs_no_noresponse_on_action :
    refuted [mkRow "a" "send_message" [("start", "")] (some "A"),
             mkRow "y" "send_message" [("a", "yes")] (some "Y"),
             mkRow "t" "send_message" [("a", "No Response")] (some "T")] 3 = true := by
  decide +kernel

/-- clause `distinctTests` for action rows -/
theorem fragment_needs_distinct_tests_on_action :
    refuted [mkRow "a" "send_message" [("start", "")] (some "A"),
             mkRow "y" "send_message" [("a", "yes")] (some "Y"),
             mkRow "n" "send_message" [("a", "yes")] (some "N")] 4 = true := by
  decide +kernel

/-- clause "no node identifier is given": a given `_nodeId` that collides with an identifier the
compiler invents later (`~4` becomes the identifier of the second row's node) makes the first node
lead to itself — the compiled flow repeats A, the rows say A then B -/
theorem fragment_needs_no_given_id :
    refuted [mkRow "a" "send_message" [("start", "")] (some "A") "" "" "" "" "~4",
             mkRow "b" "send_message" [("a", "")] (some "B")] 3 = true := by
  decide +kernel

/-- clause `distinctTests`: the same test twice on the edges leaving one row — the compiler reads
"same case, new destination" (the answer now leads to the second row), the rows read a second,
unreachable test -/
theorem fragment_needs_distinct_tests :
    refuted [mkRow "w" "wait_for_response" [("start", "")] none,
             mkRow "y" "send_message" [("w", "yes")] (some "Y"),
             mkRow "n" "send_message" [("w", "yes")] (some "N")] 3 = true := by
  decide +kernel

/-- clause `edgeOk`, `wait_for_response`: a condition that names a variable replaces the operand of
the wait node (the decision is no longer about the reply) -/
theorem fragment_needs_no_variable_on_wait :
    refuted [mkRow "w" "wait_for_response" [("start", "")] none,
             mkRow "y" "send_message" [("w", "yes")] (some "Y") "" "" "@fields.x"] 3 = true := by
  decide +kernel

/-- clause `edgeOk`, category names: two tests given the same category name share one category, hence
one destination (the last) -/
theorem fragment_needs_no_shared_category_name :
    refuted [mkRow "w" "wait_for_response" [("start", "")] none,
             mkRow "y" "send_message" [("w", "yes")] (some "Y") "" "" "" "Cat",
             mkRow "n" "send_message" [("w", "no")] (some "N") "" "" "" "Cat"] 3 = true := by
  decide +kernel

/-- clause `edgeOk`, split rows: the reserved condition "no response" on an edge leaving a split row
is dropped by the compiler (there is no timeout) and read as a test by the rows -/
theorem fragment_needs_no_noresponse_on_split :
    refuted [mkRow "v" "split_by_value" [("start", "")] none "" "@fields.x",
             mkRow "y" "send_message" [("v", "no response")] (some "Y")] 3 = true := by
  decide +kernel

/-- clause `noopShape`, conditional edges first — the recorded finding **F-C02-b** (the sheet of
`harness/props/c02.py F_C02_B`): a `no_op` row left unconditionally in a row BEFORE the row that leaves
it conditionally loses the unconditional target; on an answer that matches no test the compiled flow
ends after the decision, the rows lead on to `r2`.  (The opposite row order is in the fragment.) -/
theorem fragment_needs_noop_conditions_first :
    refutedAt [mkRow "r1" "send_message" [("start", "")] (some "hello"),
               mkRow "n" "no_op" [("r1", "")] none,
               mkRow "r2" "send_message" [("n", "")] (some "unconditional target"),
               mkRow "r3" "send_message" [("n", "yes")] (some "conditional target") "" "" "@fields.x"]
      (fun _ => 1) 3 = true := by
  decide +kernel

/-- the opposite row order is inside the fragment -/
example : CoreSheet.inFragment
    [mkRow "r1" "send_message" [("start", "")] (some "hello"),
     mkRow "n" "no_op" [("r1", "")] none,
     mkRow "r3" "send_message" [("n", "yes")] (some "conditional target") "" "" "@fields.x",
     mkRow "r2" "send_message" [("n", "")] (some "unconditional target")] = true := by
  decide +kernel

/-- clause `noopSched`: a source of a `no_op` row receives no other edge before the `no_op` row is
left — the compiler re-connects the source when the junction is left (so `a` leads to `Y`), the rows
say the later edge wins (`a` leads to `X`) -/
theorem fragment_needs_noop_left_before_its_sources_move :
    refuted [mkRow "a" "send_message" [("start", "")] (some "A"),
             mkRow "n" "no_op" [("a", "")] none,
             mkRow "x" "send_message" [("a", "")] (some "X"),
             mkRow "y" "send_message" [("n", "")] (some "Y")] 3 = true := by
  decide +kernel

/-- clause `noopSched`, at the end no edge is waiting: an edge into a `no_op` row that is never left
does not take effect in the compiled flow (`a` still leads to `X`), for the rows it is `a`'s last edge
(the path ends in the junction) -/
theorem fragment_needs_noop_left :
    refuted [mkRow "a" "send_message" [("start", "")] (some "A"),
             mkRow "x" "send_message" [("a", "")] (some "X"),
             mkRow "n" "no_op" [("a", "")] none] 3 = true := by
  decide +kernel

/-- clause `noopSched`, one waiting junction per source: with two, the one left LAST wins in the
compiled flow (`a` leads to `X`), the one entered last for the rows (`a` leads to `Y`) -/
theorem fragment_needs_one_waiting_noop_per_source :
    refuted [mkRow "a" "send_message" [("start", "")] (some "A"),
             mkRow "n" "no_op" [("a", "")] none,
             mkRow "m" "no_op" [("a", "")] none,
             mkRow "y" "send_message" [("m", "")] (some "Y"),
             mkRow "x" "send_message" [("n", "")] (some "X")] 3 = true := by
  decide +kernel

/-- clause `firstOk`: a `no_op` row that is left unconditionally has no node, so it cannot be where the
flow starts — the compiled flow starts at the first node there is (`X`), the rows at the junction
(which leads to `Y`) -/
theorem fragment_needs_first_row_not_noop :
    refuted [mkRow "n" "no_op" [("start", "")] none,
             mkRow "x" "send_message" [("start", "")] (some "X"),
             mkRow "y" "send_message" [("n", "")] (some "Y")] 2 = true := by
  decide +kernel

/-- clause `sameVars` for `no_op` rows: one decision, one variable (the compiler takes the one named
last) -/
theorem fragment_needs_same_variable_on_noop :
    refuted [mkRow "a" "send_message" [("start", "")] (some "A"),
             mkRow "n" "no_op" [("a", "")] none,
             mkRow "x" "send_message" [("n", "1")] (some "X") "" "" "@fields.k",
             mkRow "y" "send_message" [("n", "2")] (some "Y") "" "" "@fields.j"] 3 = true := by
  decide +kernel

/-- clause `distinctTests` for `no_op` rows -/
theorem fragment_needs_distinct_tests_on_noop :
    refuted [mkRow "a" "send_message" [("start", "")] (some "A"),
             mkRow "n" "no_op" [("a", "")] none,
             mkRow "x" "send_message" [("n", "1")] (some "X") "" "" "@fields.k",
             mkRow "y" "send_message" [("n", "1")] (some "Y") "" "" "@fields.k"] 4 = true := by
  decide +kernel

/-- clause `freshNames` for `no_op` rows: an explicit category name in use (the default's) -/
theorem fragment_needs_fresh_category_name_on_noop :
    refuted [mkRow "a" "send_message" [("start", "")] (some "A"),
             mkRow "n" "no_op" [("a", "")] none,
             mkRow "x" "send_message" [("n", "1")] (some "X") "" "" "@fields.k" "Other",
             mkRow "y" "send_message" [("n", "")] (some "Y")] 4 = true := by
  decide +kernel

/-- clause `noopRow`: a `no_op` row performs no action (in the documentation's table either) -/
theorem fragment_needs_noop_without_action :
    refuted [mkRow "a" "send_message" [("start", "")] (some "A"),
             mkRow "n" "no_op" [("a", "")] none "" "" "" "" "" (some "N"),
             mkRow "x" "send_message" [("n", "")] (some "X")] 3 = true := by
  decide +kernel

/-- NOT shown to be forced (the proof needs them; on these sheets the two readings agree): a `no_op`
row left by two unconditional edges (the last one wins on both sides), a `no_op` row left
unconditionally into an exit row, a `no_op` row entered from a `no_op` row (a chain), a `no_op` row that
is never left and is the only edge of its source.  A conditional edge leaving a `no_op` row without
naming a variable is rejected by the compiler (and its model), as is a `go_to` into a `no_op` row. -/
example :
    agreesOutside [mkRow "a" "send_message" [("start", "")] (some "A"),
                   mkRow "n" "no_op" [("a", "")] none,
                   mkRow "x" "send_message" [("n", "")] (some "X"),
                   mkRow "y" "send_message" [("n", "")] (some "Y")] 4 = true ∧
    agreesOutside [mkRow "a" "send_message" [("start", "")] (some "A"),
                   mkRow "n" "no_op" [("a", "")] none,
                   mkRow "" "hard_exit" [("n", "")] none] 4 = true ∧
    agreesOutside [mkRow "a" "send_message" [("start", "")] (some "A"),
                   mkRow "n" "no_op" [("a", "")] none,
                   mkRow "m" "no_op" [("n", "")] none,
                   mkRow "x" "send_message" [("m", "")] (some "X")] 4 = true ∧
    agreesOutside [mkRow "a" "send_message" [("start", "")] (some "A"),
                   mkRow "n" "no_op" [("a", "")] none] 4 = true ∧
    (CoreSheet.inFragment [mkRow "a" "send_message" [("start", "")] (some "A"),
                           mkRow "n" "no_op" [("a", "")] none,
                           mkRow "x" "send_message" [("n", "1")] (some "X")] = false ∧
     bothTraces [mkRow "a" "send_message" [("start", "")] (some "A"),
                 mkRow "n" "no_op" [("a", "")] none,
                 mkRow "x" "send_message" [("n", "1")] (some "X")] (fun _ => 0) 4 = none) :=
  by decide +kernel

/-- the recorded finding **F-C02-d** (the sheet of `harness/props/c02.py F_C02_D`): a `go_to` row that
names a row MERGED into an existing node enters that node at its first action — after the answer
"again" the compiled flow performs `first action` once more, the rows continue at `second action` -/
theorem merged_row_entered_replays_earlier_actions :
    refuted [mkRow "a" "send_message" [("start", "")] (some "first action") (nname := "X"),
             mkRow "b" "send_message" [("a", "")] (some "second action") (nname := "X"),
             mkRow "w" "wait_for_response" [("b", "")] none,
             mkRow "" "go_to" [("w", "again")] none (dests := ["b"])] 4 = true := by
  decide +kernel

/-- the recorded finding **F-C02-e** (the sheet of `harness/props/c02.py F_C02_E`): an action row that
carries the node name of a `wait_for_response` row and follows it unconditionally is merged into the
ROUTER node — the compiled flow performs its action BEFORE waiting, the rows say after the wait, on the
default branch -/
theorem action_merged_into_router_runs_before_decision :
    refuted [mkRow "a" "send_message" [("start", "")] (some "hello"),
             mkRow "w" "wait_for_response" [("a", "")] none (nname := "X"),
             mkRow "b" "send_message" [("w", "")] (some "after the wait") (nname := "X"),
             mkRow "c" "send_message" [("w", "yes")] (some "on yes")] 2 = true := by
  decide +kernel

/-- clause `chainsOk`, the row merged behind has no other out-edge: with a second unconditional edge
the rows say "the last edge wins" (`A`, then `C`), the merged node performs `A`, `B` -/
theorem fragment_needs_chain_row_single_edge :
    refuted [mkRow "a" "send_message" [("start", "")] (some "A") (nname := "X"),
             mkRow "b" "send_message" [("a", "")] (some "B") (nname := "X"),
             mkRow "c" "send_message" [("a", "")] (some "C")] 3 = true := by
  decide +kernel

/-- clause `chainsOk`, the row merged behind has no conditional out-edge either: the rows decide after `A`, the
merged node performs `B` first -/
theorem fragment_needs_chain_row_unconditional :
    refuted [mkRow "a" "send_message" [("start", "")] (some "A") (nname := "X"),
             mkRow "b" "send_message" [("a", "")] (some "B") (nname := "X"),
             mkRow "c" "send_message" [("a", "yes")] (some "C")] 3 = true := by
  decide +kernel

/-- clause `chainsOk`, a chain is a chain: a row merged behind the FIRST row of a chain that has a
second row already (both lead on from `a`: for the rows only the last edge counts) -/
theorem fragment_needs_linear_chain :
    refuted [mkRow "a" "send_message" [("start", "")] (some "A") (nname := "X"),
             mkRow "b" "send_message" [("a", "")] (some "B") (nname := "X"),
             mkRow "c" "send_message" [("a", "")] (some "C") (nname := "X")] 4 = true := by
  decide +kernel

/-- clause `chainsOk`, a blank `from` after a merged row: the compiler takes the last row that created a
node GROUP (`z`), the rows the row before (`b`) -/
theorem fragment_needs_explicit_from_after_detached_merge :
    refuted [mkRow "a" "send_message" [("start", "")] (some "A") (nname := "X"),
             mkRow "z" "send_message" [("start", "")] (some "Z"),
             mkRow "b" "send_message" [("a", "")] (some "B") (nname := "X"),
             mkRow "d" "send_message" [("", "")] (some "D")] 4 = true := by
  decide +kernel

/-- with an explicit `from` in its last row that sheet is inside the fragment -/
example : CoreSheet.inFragment
    [mkRow "a" "send_message" [("start", "")] (some "A") (nname := "X"),
     mkRow "z" "send_message" [("start", "")] (some "Z"),
     mkRow "b" "send_message" [("a", "")] (some "B") (nname := "X"),
     mkRow "d" "send_message" [("b", "")] (some "D")] = true := by
  decide +kernel

/-- the clauses about merged rows restrict nothing where no row is merged: the fused reading of such
a sheet is its reference reading, and `chainsOk` holds by itself (so on sheets without node names the
fragment is given by the conditions on rows, edges and `no_op` rows alone) -/
theorem merged_row_clauses_trivial_without_merged_rows (rows : List CoreSheet.CRow)
    (h : ∀ c ∈ rows, (c.merged && CoreSheet.isNamedAct c) = false) :
    CoreSheet.pass1F rows = RefFlow.pass1 (rows.map CoreSheet.toRRow) ∧
    ∀ out, RefFlow.pass1 (rows.map CoreSheet.toRRow) = .ok out → CoreSheet.chainsOk rows out out = true :=
  ⟨CoreSheet.pass1F_unmerged rows h, fun out hp => CoreSheet.chainsOk_unmerged rows h out hp⟩

/-- non-vacuity: the rows of `exRows` (marked) are such a sheet -/
example : ∀ c ∈ CoreSheet.annotate exRows, (c.merged && CoreSheet.isNamedAct c) = false :=
  exRows_checked.2.2.2

/-- T1: the tests without argument of the reference interpretation are the source's
`RouterCase.NO_ARGS_TESTS` (re-extracted on every run). -/
theorem tables_agree : Gen.routerNoArgsTests = RefFlow.noArgsTests := by decide +kernel

/-- **The meaning of the rows is always a closed flow**: for EVERY list of rows (any length, any
edges, any `go_to`s, cycles included) for which the reference interpretation exists (every `from`
and every `go_to` destination names an earlier node-producing row), the reference flow satisfies
the closure statement of C01 — unique node identifiers, every exit leads nowhere or to a node of
the flow, every router closed, all identifiers distinct.  So a path of the reference semantics
never ends because of a structural fault of the reference itself: a difference found by the
certificate checker is a difference of the compiled flow. -/
theorem reference_flow_closed (rows : List RefFlow.RRow) (f : Flow.Flow)
    (h : RefFlow.refFlow rows = .ok f) : Flow.Closed f :=
  RefFlow.refFlow_closed rows f h

/-- Every target the first pass of the reference records is a node-producing row of the sheet. -/
theorem reference_targets_are_rows (rows : List RefFlow.RRow) (out : List RefFlow.OutEdge)
    (h : RefFlow.pass1 rows = .ok out) : ∀ e ∈ out, RefFlow.TgtOk rows e.tgt :=
  RefFlow.pass1_targets rows out h

/-- non-vacuity: a sheet with an action row, a wait row with two cases and a timeout, a `go_to`
back to the first row (a cycle) and a `hard_exit` has a reference flow -/
def exSheet : List RefFlow.RRow :=
  let c0 : RefFlow.Cond := ⟨[], [], [], []⟩
  [ { rowId := "1".toList, kind := .action, edges := [⟨"start".toList, c0⟩], act := some "hi".toList,
      operand := [], saveName := [], timeout := 0, dests := [] },
    { rowId := "2".toList, kind := .wait, edges := [⟨[], c0⟩], act := none,
      operand := "@input.text".toList, saveName := "r".toList, timeout := 60, dests := [] },
    { rowId := [], kind := .goTo, edges := [⟨"2".toList, ⟨"a".toList, [], [], []⟩⟩], act := none,
      operand := [], saveName := [], timeout := 0, dests := ["1".toList] },
    { rowId := [], kind := .hardExit, edges := [⟨"2".toList, ⟨"No Response".toList, [], [], []⟩⟩], act := none,
      operand := [], saveName := [], timeout := 0, dests := [] } ]

example : ((RefFlow.refFlow exSheet).toOption.map (·.nodes.length)) = some 2 := by decide +kernel

def badSheet : List RefFlow.RRow :=
  [ { rowId := [], kind := .goTo, edges := [⟨"start".toList, ⟨[], [], [], []⟩⟩], act := none,
      operand := [], saveName := [], timeout := 0, dests := ["nowhere".toList] } ]

/-- the hypothesis is needed and exact: a `go_to` naming a row that does not exist has no
reference interpretation (the real compiler rejects such a sheet as well) -/
theorem reference_needs_known_rows : (RefFlow.refFlow badSheet).toOption = none := by
  decide +kernel

end Rpft.Props.C02
