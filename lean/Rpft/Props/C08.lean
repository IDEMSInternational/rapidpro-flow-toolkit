/-
C08 — Cell syntax is an unambiguous, escapable encoding of nested lists.

Property theorems only (lemmas, and the domain `WFCell` of the round trip:
`Rpft/Lemmas/Cell.lean`).  All statements are for an arbitrary whitespace predicate `ws`
that does not count `|`, `;`, `\` as whitespace (`WsOk ws`), and for strings of unbounded
length.  `pyWs_ok` instantiates `ws` with the CPython table.
-/
import Rpft.Lemmas.Cell
import Rpft.Gen.Tables
namespace Rpft.Props.C08
open Rpft Rpft.Cell

/-- the instance used by the driver satisfies the side conditions -/
theorem pyWs_ok : WsOk pyWs := wsOk_pyWs

/-- T1: the constants of the model are the constants of the source (regenerated each run). -/
theorem tables_agree :
    Gen.cellSeparators = [sep0, sep1] ∧ Gen.cellEscape = escC ∧ Gen.cellUnescapeSinglePass = true ∧
    Gen.pyWhitespace = pyWhitespaceCodes := by decide +kernel

/-- `escape_string` (three `replace` passes) is the single-pass encoder. -/
theorem escape_single_pass (s : Str) : escapeString s = esc s := escapeString_eq_esc s

/-- Escaped data never splits: substituted through `|escape` it is one piece. -/
theorem split_escaped_atom {sep : Char} (hs : sep = sep0 ∨ sep = sep1) (s : Str) :
    splitBySeparator sep (escapeString s) = .inl (escapeString s) :=
  splitBySeparator_escapeString hs s

/-- `cleanse` of an escaped string is the trimmed original. -/
theorem cleanse_esc {ws : Char → Bool} (hw : WsOk ws) (s : Str) :
    cleanseStr ws (esc s) = strip ws s := cleanseStr_esc hw s

/-- **Strings**: parsing the joined text of any string gives the trimmed string — a plain
string, never a list — whatever mixture of separators and backslashes it contains. -/
theorem split_join_atom {ws : Char → Bool} (hw : WsOk ws) (s : Str) :
    splitIntoLists ws (joinCell (.atom s)) = .atom (strip ws s) :=
  splitIntoLists_joinCell_atom hw s

/-- **Main round trip**: for every two-level value whose lists are non-empty and do not
end in a blank element (`WFCell`), parsing the joined text gives back the same value with every
string trimmed. -/
theorem split_join {ws : Char → Bool} (hw : WsOk ws) (v : Cell) (h : WFCell v) :
    splitIntoLists ws (joinCell v) = normalize ws v := splitIntoLists_joinCell hw v h

/-- A cell without an unescaped separator is a plain string, never a list. -/
theorem no_sep_is_atom {ws : Char → Bool} (s : Str)
    (h0 : (splitRaw sep0 s).length = 1) (h1 : (splitRaw sep1 s).length = 1) :
    splitIntoLists ws s = .atom (cleanseStr ws s) := by
  unfold splitIntoLists splitIntoListsRaw splitBySeparator
  simp [h0, h1, Cell.map]

/-- Conversely a list result means an unescaped separator is present. -/
theorem list_has_sep {ws : Char → Bool} (s : Str) (es : List Elem)
    (h : splitIntoLists ws s = .list es) :
    1 < (splitRaw sep0 s).length ∨ 1 < (splitRaw sep1 s).length := by
  by_cases h0 : (splitRaw sep0 s).length ≤ 1
  · by_cases h1 : (splitRaw sep1 s).length ≤ 1
    · exfalso
      unfold splitIntoLists splitIntoListsRaw splitBySeparator at h
      simp [h0, h1, Cell.map] at h
    · right; omega
  · left; omega

/-! ### the `escape` filter makes substituted data inert -/

/-- piece structure when the scanner reaches a junction in the unescaped state -/
def glue (xs ys : List Str) : List Str :=
  xs.dropLast ++ headApp (xs.getLastD []) ys

/-- `Balanced sep a` — scanning `a` ends outside an escape: the text after it is scanned
from the unescaped state. -/
def Balanced (sep : Char) (a : Str) : Prop :=
  ∀ t, splitAux sep false (a ++ t) = glue (splitAux sep false a) (splitAux sep false t)

/-- **Inertness**: in any context `a … b` whose left part does not end in a dangling
escape, inserting escaped data `esc d` yields the pieces of `a ++ b` with `esc d`
spliced into the piece at the junction: no piece is created or destroyed. -/
theorem escape_inert {sep : Char} (hs : sep = sep0 ∨ sep = sep1) (a d b : Str)
    (ha : Balanced sep a) :
    splitRaw sep (a ++ escapeString d ++ b) =
      glue (splitRaw sep a) (headApp (esc d) (splitRaw sep b)) ∧
    splitRaw sep (a ++ b) = glue (splitRaw sep a) (splitRaw sep b) := by
  unfold splitRaw
  rw [escapeString_eq_esc, List.append_assoc, ha, ha, transparent_esc hs d]
  exact ⟨rfl, rfl⟩

theorem glue_length {xs ys : List Str} (hx : xs ≠ []) (hy : ys ≠ []) :
    (glue xs ys).length = xs.length + ys.length - 1 := by
  cases ys with
  | nil => exact absurd rfl hy
  | cons y ys =>
    have : 0 < xs.length := List.length_pos_iff.mpr hx
    simp [glue, headApp]; omega

/-- Corollary: substitution through `escape` never changes the number of list elements. -/
theorem escape_inert_count {sep : Char} (hs : sep = sep0 ∨ sep = sep1) (a d b : Str)
    (ha : Balanced sep a) :
    (splitRaw sep (a ++ escapeString d ++ b)).length = (splitRaw sep (a ++ b)).length := by
  obtain ⟨h1, h2⟩ := escape_inert hs a d b ha
  rw [h1, h2, glue_length (splitRaw_ne_nil _ _) (headApp_ne_nil _ _),
    glue_length (splitRaw_ne_nil _ _) (splitRaw_ne_nil _ _)]
  have : (headApp (esc d) (splitRaw sep b)).length = (splitRaw sep b).length := by
    cases hb : splitRaw sep b with
    | nil => exact absurd hb (splitRaw_ne_nil _ _)
    | cons y ys => simp [headApp]
  rw [this]

/-- without `escape`, data does change the structure (the filter is needed) -/
theorem unescaped_not_inert :
    (splitRaw sep1 ("a".toList ++ ";".toList ++ "b".toList)).length ≠
    (splitRaw sep1 ("a".toList ++ "b".toList)).length := by decide +kernel

/-- the empty context is balanced (non-vacuity; the `example` below: a context holding a separator) -/
theorem balanced_nil (sep : Char) : Balanced sep [] := by
  intro t
  have := splitAux_ne_nil sep false t
  simp [glue, splitAux, headApp_nil _ this]

example : Balanced sep1 "x;y".toList := by
  intro t
  have := splitAux_ne_nil sep1 false t
  cases ht : splitAux sep1 false t with
  | nil => exact absurd ht this
  | cons p ps =>
    have ht' : splitAux ';' false t = p :: ps := ht
    simp [splitAux, escC, sep1, glue, headApp, headCons, ht']

/-! ### depth limit -/

set_option linter.unusedVariables false in
/-- Three levels of nesting are the error branch of `join_from_lists`. -/
theorem too_deep_is_error (x : Nested) (xs ys zs : List Nested) :
    joinNested 0 (.list (.list (.list zs :: ys) :: xs)) = .error .tooDeep := by
  cases xs <;> cases ys <;>
    simp [joinNested, joinNestedList, bind, Except.bind]

/-! ### negative witnesses: each hypothesis of `split_join` is needed -/

/-- a list (length ≥ 2) ending in a blank element does not survive -/
theorem needs_no_trailing_blank :
    splitIntoLists pyWs (joinCell (.list [.atom "a".toList, .atom []])) ≠
      normalize pyWs (.list [.atom "a".toList, .atom []]) := by decide +kernel

/-- an empty list does not survive (it becomes the empty string) -/
theorem needs_nonempty :
    splitIntoLists pyWs (joinCell (.list [])) ≠ normalize pyWs (.list []) := by decide +kernel

/-- U+0001 survives like any other character: `cleanse` does not go through a temporary character
(finding F-C08-a, fixed in /repo) -/
theorem control_character_survives :
    splitIntoLists pyWs (joinCell (.atom [Char.ofNat 1])) = normalize pyWs (.atom [Char.ofNat 1]) := by decide +kernel

/-! ### non-vacuity -/

example : WFCell (.list [.atom "a|b".toList, .list ["\\".toList, "c;".toList], .list [[]]]) := by
  refine ⟨by simp, ?_, by simp⟩
  intro e he
  simp only [List.mem_cons, List.not_mem_nil, or_false] at he
  rcases he with rfl | rfl | rfl
  · trivial
  · exact ⟨by simp, by decide⟩
  · exact ⟨by simp, by decide⟩

end Rpft.Props.C08
