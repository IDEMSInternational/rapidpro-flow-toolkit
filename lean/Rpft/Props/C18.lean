/-
C18 — A model inferred from headers reads data like the explicit model it denotes.

Model: `Rpft/Infer.lean` (model_inference.py line by line).  Everything universal is by structural
induction, with no bound on depth or width (`infer_render`, `infer_order_insensitive`); the closed
instances (non-vacuity, one negative witness per clause of `InFamily`) are rows of two tables that one
kernel evaluation confirms (`cases_evaluated`).  The index-order condition "entries of one list are
opened in increasing order" is asserted by `RowParser.find_entry` (rowparser.py), NOT by
model_inference.py: inference does not need it (`index_order_not_needed`).
-/
import Rpft.Lemmas.InferPerm
import Rpft.Lemmas.InferRow
import Rpft.Gen.Tables
namespace Rpft.Props.C18
open Rpft Rpft.Infer

/-- T1: separators, refused field names and the interpreter's decimal digits are those of the
source / running interpreter (regenerated on every run). -/
theorem tables_agree :
    Gen.headerSeparators = [sepField, sepType, sepDefault] ∧
    Gen.parserModelAttrs = shadowNames ∧ Gen.uniDigitZeros = uniDigitZeros := by
  -- the kernel decodes a string literal byte by byte: the literals of `shadowNames` are spelt
  -- as character lists first
  unfold shadowNames
  simp only [List.map]
  repeat rw [String.toList_ofList]
  decide +kernel

/-! The closed instances of this file are evaluated together.  Every evaluation of `inFamilyB`, `inFamilyUB` or `infer` looks field names up in `shadowNames`, and
decoding the string literals of that table takes the kernel twenty times as long as the rest of the
evaluation; within one evaluation it is decoded once.  So the closed schemas and header lists the
statements below speak of stand as rows of two tables, `schemaCases` and `inferCases`, each row
with the Boolean values claimed for it; `cases_evaluated` is the one kernel evaluation that
confirms every row, and a statement cites its rows through `schemaCases_eval`, `inFamily_case`
or `inferCases_eval`. -/

/-- the schema of the non-vacuity examples: a complex field BEFORE a simple one (outside
`InFamily`), a list of two records, an indexed list -/
def orderDemo : Schema :=
  [("o".toList, .list (.model [("text".toList, .str, .str []), ("value".toList, .int, .int 5)]),
      .list [defaultRecord [("text".toList, .str, .str []), ("value".toList, .int, .int 5)],
             defaultRecord [("text".toList, .str, .str []), ("value".toList, .int, .int 5)]]),
   ("note".toList, .str, .str "n".toList),
   ("tag".toList, .list .str, .list [.str "a".toList, .str []])]

/-- column-major `o`, `tag` split by `note`, `tag.2` before `tag.1` -/
def orderDemoHeaders : List Str :=
  ["tag.2", "o.1.text", "o.2.text", "note=n", "o.2.value:int=5", "o.1.value:int=5", "tag.1=a"].map
    String.toList

/-- a sheet of the non-vacuity example: simple field, list of records, indexed list -/
def rowDemo : Schema :=
  [("note".toList, .str, .str "n".toList),
   ("o".toList, .list (.model [("text".toList, .str, .str []), ("value".toList, .int, .int 5)]),
      .list [defaultRecord [("text".toList, .str, .str []), ("value".toList, .int, .int 5)],
             defaultRecord [("text".toList, .str, .str []), ("value".toList, .int, .int 5)]]),
   ("tag".toList, .list .str, .list [.str "a".toList, .str []])]

def subAB0 : List Field := [("a".toList, .str, .str []), ("b".toList, .int, .int 5)]
def subAB : List Field := subAB0

/-- depth 1–3: record, indexed list with per-index defaults, list of records, list of lists,
record in record in list -/
def nestedInstances : List Schema :=
  [ [("f".toList, .model subAB, defaultRecord subAB)],
    [("f".toList, .list .int, .list [.int 0, .int 5])],
    [("f".toList, .list (.model subAB), .list [defaultRecord subAB, defaultRecord subAB])],
    [("f".toList, .list (.list .str), .list [.list [.str [], .str "a".toList], .list [.str "b".toList]])],
    [("x".toList, .bool, .bool true),
     ("r".toList, .model [("k".toList, .float, .float (-3)),
        ("l".toList, .list (.model [("m".toList, .model subAB, defaultRecord subAB)]),
          .list [defaultRecord [("m".toList, .model subAB, defaultRecord subAB)]])],
      defaultRecord [("k".toList, .float, .float (-3)),
        ("l".toList, .list (.model [("m".toList, .model subAB, defaultRecord subAB)]),
          .list [defaultRecord [("m".toList, .model subAB, defaultRecord subAB)]])])] ]

/-- schema ↦ `inFamilyB`, `roundtripB`, `inFamilyUB`, `inferEquivB` of its own headers -/
def schemaCases : List (Schema × Bool × Bool × Bool × Bool) :=
  [ ([("a".toList, .int, .int 5), ("b c".toList, .list .bool, .list []),
      ("s".toList, .str, .str "x=y".toList)], true, true, true, true),
    ([("x".toList, .bool, .bool true),
      ("r".toList, .model [("k".toList, .float, .float (-3)),
          ("l".toList, .list (.model [("m".toList, .str, .str "d".toList)]),
            .list [defaultRecord [("m".toList, .str, .str "d".toList)]])],
        defaultRecord [("k".toList, .float, .float (-3)),
          ("l".toList, .list (.model [("m".toList, .str, .str "d".toList)]),
            .list [defaultRecord [("m".toList, .str, .str "d".toList)]])])], true, true, true, true),
    ([("my field".toList, .list (.list .int), .list [])], true, true, true, true),
    (subAB0, true, true, true, true),
    (orderDemo, false, false, true, true),
    (rowDemo, true, true, true, true),
    ([("a".toList, .str, .str []), ("b".toList, .str, .str [])], true, true, true, true),
    ([("a".toList, .int, .int 0), ("a".toList, .str, .str [])], false, false, false, false),
    ([("f".toList, .list .str, .list [.str [], .str []])], true, true, true, true),
    ([("s".toList, .str, .str "a.b".toList)], false, true, false, true),
    ([("1".toList, .str, .str [])], false, false, false, false),
    ([("f".toList, .list (.model [("a".toList, .str, .str [])]), .list [])],
      false, false, false, false),
    ([("f".toList, .list (.model [("a".toList, .str, .str [])]),
        .list [defaultRecord [("a".toList, .str, .str [])],
          defaultRecord [("a".toList, .str, .str [])]])], true, true, true, true),
    ([("r".toList, .model [("a".toList, .str, .str [])],
        defaultRecord [("a".toList, .str, .str [])]), ("b".toList, .str, .str [])],
      false, false, true, true),
    ([("s".toList, .str, .str " x".toList)], false, false, false, false),
    ([("a".toList, .str, .str []), ("r".toList, .model [], defaultRecord [])],
      false, false, false, false) ]

/-- headers, a type `t` ↦ `inferIs` -/
def inferCases : List (List Str × Ty × Bool) :=
  [ (["b".toList, "a".toList],
      .model [("a".toList, .str, .str []), ("b".toList, .str, .str [])], false),
    (["b".toList, "a".toList],
      .model (List.reverse [("a".toList, .str, .str []), ("b".toList, .str, .str [])]), true),
    (renderHeaders [("a".toList, .int, .int 0), ("a".toList, .str, .str [])],
      .model [("a".toList, .str, .str [])], true),
    (["a".toList, "a:int".toList], .model [("a".toList, .int, .int 0)], true),
    (["f.1".toList], .model [("f".toList, .list .str, .list [.str []])], true),
    (["f.1=a", "f.2=b", "f.3=c"].map String.toList,
      .model [("f".toList, .list .str, .list [.str "a".toList, .str "b".toList, .str "c".toList])],
      true),
    (["f.3=c", "f.1=a", "f.2=b"].map String.toList,
      .model [("f".toList, .list .str, .list [.str "a".toList, .str "b".toList, .str "c".toList])],
      true),
    (["f.3=c", "f.2=b", "f.1=a"].map String.toList,
      .model [("f".toList, .list .str, .list [.str "a".toList, .str "b".toList, .str "c".toList])],
      true),
    (["f.1=a".toList, "f.3=c".toList],
      .model [("f".toList, .list .str, .list [.str "a".toList, .none, .str "c".toList])], true),
    (renderHeaders [("1".toList, .str, .str [])], .list .str, true),
    (["f.1:int".toList, "f.2".toList],
      .model [("f".toList, .list .str, .list [.int 0, .str []])], true),
    (["tag.2".toList, "tag.1=a".toList],
      .model [("tag".toList, .list .str, .list [.str "a".toList, .str []])], true) ]

theorem cases_evaluated :
    (∀ r ∈ schemaCases, inFamilyB r.1 = r.2.1 ∧ roundtripB r.1 = r.2.2.1 ∧
      inFamilyUB r.1 = r.2.2.2.1 ∧ inferEquivB (renderHeaders r.1) (.model r.1) = r.2.2.2.2) ∧
    (∀ r ∈ inferCases, inferIs r.1 r.2.1 = r.2.2) ∧
    nestedInstances.all (fun sch => inFamilyB sch && roundtripB sch) = true := by decide +kernel

/-- A row is cited by its schema and its four values (a `_` for the schema is the schema of the
statement being proved; `inferCases_eval` takes the whole row from there).  That the row stands
in the table is the auto-param `m`, found by `simp only`: membership unfolds to a disjunction of
equations between rows, and the one for the cited row closes by `rfl`; for a row the table does
not hold the disjunction stays and the citation fails. -/
theorem schemaCases_eval (sch : Schema) (a b c d : Bool)
    (m : (sch, a, b, c, d) ∈ schemaCases := by
      simp only [schemaCases, List.mem_cons, true_or, or_true]) :
    inFamilyB sch = a ∧ roundtripB sch = b ∧ inFamilyUB sch = c ∧
      inferEquivB (renderHeaders sch) (.model sch) = d :=
  cases_evaluated.1 _ m

theorem inFamily_case (sch : Schema)
    (m : (sch, true, true, true, true) ∈ schemaCases := by
      simp only [schemaCases, List.mem_cons, true_or, or_true]) : InFamily sch :=
  (schemaCases_eval sch _ _ _ _ m).1

theorem inferCases_eval {hs : List Str} {t : Ty} {b : Bool}
    (m : (hs, t, b) ∈ inferCases := by
      simp only [inferCases, List.mem_cons, true_or, or_true]) : inferIs hs t = b :=
  cases_evaluated.2.1 _ m

/-- The full statement: every schema of the family, rendered to annotated headers, is inferred
back exactly — names, types, defaults, nesting to any depth. -/
def C18_full : Prop :=
  ∀ sch : Schema, InFamily sch → infer (renderHeaders sch) = .ok (.model sch)

/-- all fields written as one annotated header each (no `f.1`, no `f.a`) -/
def Flat (sch : Schema) : Prop := ∀ f ∈ sch, isSimple f.2.1 f.2.2 = true

/-- **One header.**  `name`, `name:int`, `name:List[List[bool]]`, `name=v`, `name:float=-3` …:
the field name, the type and the default come back exactly. -/
theorem header_roundtrip {n : Str} (hn : nameOk n = true) (t : Ty) (d : Val)
    (hs : isSimple t d = true) (hf : famTD t d = true) :
    getFieldName (n ++ (annOf t ++ dflOf d)) = n ∧
    parseHeaderAnnotations (n ++ (annOf t ++ dflOf d)) = .ok (t, d) :=
  have r := leaf_roundtrip (nameOk_unpack hn).1 hs (fam_wfTD t d hf)
  ⟨r.name, r.parse⟩

example : nameOk "my field".toList = true ∧ isSimple (.list (.list .int)) (.list []) = true ∧
    famTD (.list (.list .int)) (.list []) = true := by
  have h := inFamily_case [("my field".toList, .list (.list .int), .list [])]
  simp only [InFamily, inFamilyB, famFs, namesOk, List.all_cons, List.all_nil, Bool.and_true,
    Bool.and_eq_true] at h
  exact ⟨h.2.1.1.1, rfl, h.1⟩

/-- **The nested round trip (main theorem, all schemas).**  Every schema of the family — basic
fields with defaults, `list` / `List[T]`, sub-records `a.b`, indexed lists `a.1, a.2` with
per-index defaults, lists of records `a.1.x`, lists of lists, nested to ANY depth and of any
width — rendered to its canonical header list is inferred back as exactly that schema: same
field names in the same order, same types, same defaults.  By induction on the size of the
type (`Lemmas/InferPerm.lean`: `roundtrip`, last clause; `Lemmas/InferNested.lean`: `Rendered.level`), no bound
on depth. -/
theorem infer_render (sch : Schema) (h : InFamily sch) :
    infer (renderHeaders sch) = .ok (.model sch) := by
  obtain ⟨t, e, _, q⟩ := infer_schema sch (inFamilyUB_of_inFamilyB h) _ (List.Perm.refl _)
  rw [e, q h rfl]

theorem C18_full_holds : C18_full := infer_render

set_option linter.unusedVariables false in
/-- **Flat schemas**, the case of `infer_render` without nesting: any number of fields, each
`str`/`int`/`float`/`bool` with any default of the family, `list`, or `List[T]`. -/
theorem infer_render_flat (sch : Schema) (h : InFamily sch) (hflat : Flat sch) :
    infer (renderHeaders sch) = .ok (.model sch) :=
  infer_render sch h

example : InFamily [("a".toList, .int, .int 5), ("b c".toList, .list .bool, .list []),
    ("s".toList, .str, .str "x=y".toList)] ∧
    Flat [("a".toList, .int, .int 5), ("b c".toList, .list .bool, .list []),
    ("s".toList, .str, .str "x=y".toList)] := by
  refine ⟨inFamily_case _, ?_⟩
  unfold Flat
  decide

/-- non-vacuity: a depth-3 schema with every construct is in the family -/
example : InFamily [("x".toList, .bool, .bool true),
    ("r".toList, .model [("k".toList, .float, .float (-3)),
        ("l".toList, .list (.model [("m".toList, .str, .str "d".toList)]),
          .list [defaultRecord [("m".toList, .str, .str "d".toList)]])],
      defaultRecord [("k".toList, .float, .float (-3)),
        ("l".toList, .list (.model [("m".toList, .str, .str "d".toList)]),
          .list [defaultRecord [("m".toList, .str, .str "d".toList)]])])] :=
  inFamily_case _

theorem tyEquiv_refl (a : Ty) : TyEquiv a a := rfl
theorem tyEquiv_symm {a b : Ty} (h : TyEquiv a b) : TyEquiv b a := Eq.symm h
theorem tyEquiv_trans {a b c : Ty} (h₁ : TyEquiv a b) (h₂ : TyEquiv b c) : TyEquiv a c :=
  Eq.trans h₁ h₂

/-- `TyEquiv` (equal after sorting the fields of every record — type and default value, at every
depth — by name) is an equivalence relation. -/
theorem tyEquiv_equivalence : Equivalence TyEquiv :=
  ⟨tyEquiv_refl, tyEquiv_symm, tyEquiv_trans⟩

/-- `TyEquiv` identifies what it should: records whose field lists are permutations of each other
(distinct names). -/
theorem tyEquiv_of_perm {as bs : List Field} (hp : as.Perm bs)
    (hd : (as.map (fun f => f.1)).Nodup) : TyEquiv (.model as) (.model bs) := by
  unfold TyEquiv
  simp only [Ty.norm, Ty.normF_eq_map]
  congr 1
  apply isortK_eq_of_perm _ (hp.map normField)
  simpa [List.map_map, Function.comp_def, normField] using hd

example : [("a".toList, Ty.int, Val.int 1), ("b".toList, Ty.str, Val.str [])].Perm
    [("b".toList, Ty.str, Val.str []), ("a".toList, Ty.int, Val.int 1)] ∧
    ([("a".toList, Ty.int, Val.int 1), ("b".toList, Ty.str, Val.str [])].map (fun f => f.1)).Nodup :=
  ⟨List.Perm.swap _ _ _, by decide⟩

/-- `TyEquiv` identifies nothing more: equivalent records have the same field names. -/
theorem tyEquiv_model_names {as bs : List Field} (h : TyEquiv (.model as) (.model bs)) :
    (as.map (fun f => f.1)).Perm (bs.map (fun f => f.1)) := by
  unfold TyEquiv at h
  simp only [Ty.norm, Ty.normF_eq_map, Ty.model.injEq] at h
  have e : ∀ L : List Field, L.map (fun f => f.1) = (L.map normField).map (fun f => f.1) := by
    intro L; simp [List.map_map, Function.comp_def, normField]
  rw [e as, e bs]
  have p1 := isortK_perm (fun f : Field => f.1) (as.map normField)
  have p2 := isortK_perm (fun f : Field => f.1) (bs.map normField)
  rw [h] at p1
  exact (p1.symm.trans p2).map _

/-- `TyEquiv` identifies nothing more: a different type or default of a field is a different model
(kernel-checked). -/
theorem tyEquiv_distinguishes :
    ¬ TyEquiv (.model [("a".toList, .int, .int 0)]) (.model [("a".toList, .str, .str [])]) ∧
    ¬ TyEquiv (.model [("a".toList, .int, .int 0)]) (.model [("a".toList, .int, .int 1)]) ∧
    ¬ TyEquiv (.list (.model [("a".toList, .int, .int 0)])) (.model [("a".toList, .int, .int 0)]) := by
  decide +kernel

/-- **Order-insensitivity (all schemas, all column orders).**  Let `sch` be any schema of the
family with its fields in any order (`InFamilyU`: `InFamily` without "simple fields first") and
`hs` ANY permutation of its rendered headers — fields interleaved, a list of records written
column-major, a sub-record or a list split by other columns, list entries out of order, at any
depth.  Then inference succeeds and the inferred model is `sch` up to the order of the fields
of each record (types, defaults, nesting all equal).  By induction on the size of the type
(`Lemmas/InferPerm.lean`: `roundtrip`; `Lemmas/InferNested.lean`: `Rendered.level`). -/
theorem infer_order_insensitive (sch : Schema) (h : InFamilyU sch) (hs : List Str)
    (hp : hs.Perm (renderHeaders sch)) : ∃ t, infer hs = .ok t ∧ TyEquiv t (.model sch) :=
  have ⟨t, e, q, _⟩ := infer_schema sch h hs hp
  ⟨t, e, q⟩

/-- non-vacuity of `infer_order_insensitive` (hypotheses), and its conclusion evaluated by the
kernel on this instance -/
theorem order_demo : InFamilyU orderDemo ∧ ¬ InFamily orderDemo ∧
    orderDemoHeaders.Perm (renderHeaders orderDemo) ∧
    (match infer orderDemoHeaders with
      | .ok t => decide (TyEquiv t (.model orderDemo)) && !Ty.beq t (.model orderDemo)
      | .error _ => false) = true := by
  have c := schemaCases_eval orderDemo false false true true
  refine ⟨c.2.2.1, by simp [InFamily, c.1], ?_⟩
  decide +kernel

/-- the canonical headers of a schema whose fields are in any order -/
theorem infer_render_any_field_order (sch : Schema) (h : InFamilyU sch) :
    ∃ t, infer (renderHeaders sch) = .ok t ∧ TyEquiv t (.model sch) :=
  infer_order_insensitive sch h _ (List.Perm.refl _)

/-- **Two column orders of the same sheet give equivalent models.** -/
theorem infer_perm_agree (sch : Schema) (h : InFamilyU sch) (hs₁ hs₂ : List Str)
    (h₁ : hs₁.Perm (renderHeaders sch)) (h₂ : hs₂.Perm hs₁) :
    ∃ t₁ t₂, infer hs₁ = .ok t₁ ∧ infer hs₂ = .ok t₂ ∧ TyEquiv t₁ t₂ := by
  obtain ⟨t₁, e₁, q₁⟩ := infer_order_insensitive sch h hs₁ h₁
  obtain ⟨t₂, e₂, q₂⟩ := infer_order_insensitive sch h hs₂ (h₂.trans h₁)
  exact ⟨t₁, t₂, e₁, e₂, tyEquiv_trans q₁ (tyEquiv_symm q₂)⟩

example : InFamilyU orderDemo ∧ orderDemoHeaders.Perm (renderHeaders orderDemo) ∧
    orderDemoHeaders.reverse.Perm orderDemoHeaders :=
  ⟨order_demo.1, order_demo.2.2.1, List.reverse_perm _⟩

/-- against the canonical order of an ordered schema: the permuted headers give the model of
`infer_render` up to field order -/
theorem infer_perm_vs_canonical (sch : Schema) (h : InFamily sch) (hs : List Str)
    (hp : hs.Perm (renderHeaders sch)) :
    ∃ t, infer hs = .ok t ∧ infer (renderHeaders sch) = .ok (.model sch) ∧
      TyEquiv t (.model sch) := by
  obtain ⟨t, e, q⟩ := infer_order_insensitive sch (inFamilyUB_of_inFamilyB h) hs hp
  exact ⟨t, e, infer_render sch h, q⟩

example : InFamily subAB0 ∧ ["b:int=5".toList, "a".toList].Perm (renderHeaders subAB0) :=
  ⟨inFamily_case _, List.Perm.swap _ _ _⟩

/-- harness mode "split": ONE column moved somewhere else -/
theorem infer_column_moved (sch : Schema) (h : InFamilyU sch) (pre mid post : List Str) (x : Str)
    (hr : renderHeaders sch = pre ++ x :: mid ++ post) :
    ∃ t, infer (pre ++ mid ++ x :: post) = .ok t ∧ TyEquiv t (.model sch) := by
  apply infer_order_insensitive sch h
  rw [hr]
  simp only [List.append_assoc, List.cons_append]
  exact List.Perm.append_left pre List.perm_middle

theorem renderHeaders_orderDemo : renderHeaders orderDemo =
    ["o.1.text", "o.1.value:int=5", "o.2.text", "o.2.value:int=5", "note=n", "tag.1=a", "tag.2"].map
      String.toList := by decide +kernel

example : InFamilyU orderDemo ∧ renderHeaders orderDemo =
    ["o.1.text".toList] ++ "o.1.value:int=5".toList :: ["o.2.text".toList] ++
      ["o.2.value:int=5", "note=n", "tag.1=a", "tag.2"].map String.toList :=
  ⟨order_demo.1, renderHeaders_orderDemo⟩

/-- harness mode "shuffle": two adjacent columns swapped (any two; with `infer_perm_agree` /
transitivity of `TyEquiv` every interleaving is a chain of such swaps) -/
theorem infer_adjacent_swap (sch : Schema) (h : InFamilyU sch) (pre post : List Str) (x y : Str)
    (hr : renderHeaders sch = pre ++ x :: y :: post) :
    ∃ t, infer (pre ++ y :: x :: post) = .ok t ∧ TyEquiv t (.model sch) := by
  apply infer_order_insensitive sch h
  rw [hr]
  exact List.Perm.append_left pre (List.Perm.swap x y post)

example : InFamilyU orderDemo ∧ renderHeaders orderDemo =
    ["o.1.text".toList] ++ "o.1.value:int=5".toList :: "o.2.text".toList ::
      ["o.2.value:int=5", "note=n", "tag.1=a", "tag.2"].map String.toList :=
  ⟨order_demo.1, renderHeaders_orderDemo⟩

/-- harness mode "column_major": the columns re-sorted by ANY key (stable merge sort by any
comparison — e.g. by the path without its indices, then by the indices) -/
theorem infer_sorted_columns (sch : Schema) (h : InFamilyU sch) (le : Str → Str → Bool) :
    ∃ t, infer ((renderHeaders sch).mergeSort le) = .ok t ∧ TyEquiv t (.model sch) :=
  infer_order_insensitive sch h _ (List.mergeSort_perm _ _)

example : InFamilyU orderDemo := order_demo.1

/-- "up to field order" cannot be strengthened to equality: the fields come out in the order of
the columns (simple ones first) -/
theorem needs_up_to_field_order :
    let sch : Schema := [("a".toList, .str, .str []), ("b".toList, .str, .str [])]
    InFamily sch ∧ ["b".toList, "a".toList].Perm (renderHeaders sch) ∧
    inferIs ["b".toList, "a".toList] (.model sch) = false ∧
    inferIs ["b".toList, "a".toList] (.model sch.reverse) = true :=
  ⟨inFamily_case _, List.Perm.swap _ _ _, inferCases_eval, inferCases_eval⟩

/-- distinct field names are needed: with a repeated name the LAST column wins, so the order of
the columns changes the model beyond field order -/
theorem needs_distinct_names :
    let sch : Schema := [("a".toList, .int, .int 0), ("a".toList, .str, .str [])]
    inFamilyUB sch = false ∧ ["a".toList, "a:int".toList].Perm (renderHeaders sch) ∧
    inferIs (renderHeaders sch) (.model [("a".toList, .str, .str [])]) = true ∧
    inferIs ["a".toList, "a:int".toList] (.model [("a".toList, .int, .int 0)]) = true ∧
    ¬ TyEquiv (.model [("a".toList, .str, .str [])]) (.model [("a".toList, .int, .int 0)]) :=
  ⟨(schemaCases_eval _ false false false false).2.2.1,
    List.Perm.swap _ _ _, inferCases_eval, inferCases_eval, by decide +kernel⟩

/-- the same columns are needed (a permutation): a missing entry column changes the model -/
theorem needs_same_columns :
    let sch : Schema := [("f".toList, .list .str, .list [.str [], .str []])]
    InFamily sch ∧ renderHeaders sch = ["f.1".toList, "f.2".toList] ∧
    inferIs ["f.1".toList] (.model [("f".toList, .list .str, .list [.str []])]) = true ∧
    ¬ TyEquiv (.model [("f".toList, .list .str, .list [.str []])]) (.model sch) :=
  ⟨inFamily_case _, by decide +kernel, inferCases_eval, by decide +kernel⟩

/-- the condition "the entries of one list are opened in increasing index order" is asserted by
`RowParser.find_entry` when ROWS are parsed; `model_from_headers` does not need it: entry
columns in any order (even descending) give the same list type with the same per-index
defaults -/
theorem index_order_not_needed :
    let want : Ty := .model [("f".toList, .list .str, .list [.str "a".toList, .str "b".toList, .str "c".toList])]
    inferIs (["f.1=a", "f.2=b", "f.3=c"].map String.toList) want = true ∧
    inferIs (["f.3=c", "f.1=a", "f.2=b"].map String.toList) want = true ∧
    inferIs (["f.3=c", "f.2=b", "f.1=a"].map String.toList) want = true :=
  ⟨inferCases_eval, inferCases_eval, inferCases_eval⟩

/-- an index that is never written leaves a `None` hole in the default (not the
rendering of any schema) -/
theorem missing_index_leaves_hole :
    inferIs ["f.1=a".toList, "f.3=c".toList]
      (.model [("f".toList, .list .str, .list [.str "a".toList, .none, .str "c".toList])]) = true :=
  inferCases_eval

/-- **Inferred = explicit on every row** (the property's own observable, over the `RowParser`
model `Rpft/RowParse.lean`).  For every schema of the family and EVERY row (any cells: valid,
blank, malformed, columns missing or unknown), parsing the row with the model inferred from the
schema's headers gives exactly the outcome — value or error — of parsing it with the explicit
model: `infer_render` composed with the row parser (same model ⇒ same parse). -/
theorem inferred_parses_like_explicit (sch : Schema) (h : InFamily sch) (row : List (Str × Str)) :
    parseInferred (renderHeaders sch) row = some (Row.parseRow (rowSchema (.model sch)) row) := by
  unfold parseInferred
  rw [infer_render sch h]

/-- non-vacuity: the schema is in the family and a row (column `o.2.value` left out) parses to
a value under the inferred model — cells converted, the missing entry filled with the default
`5` of the header `o.2.value:int=5` (the row parser evaluated by the kernel, on the explicit
model that `inferred_parses_like_explicit` puts in place of the inferred one) -/
theorem row_demo : InFamily rowDemo ∧
    (match parseInferred (renderHeaders rowDemo)
        ([("note=n", "hello"), ("o.1.text", "t1"), ("o.1.value:int=5", "7"), ("o.2.text", "t2"),
          ("tag.1=a", "x"), ("tag.2", "")].map (fun p => (p.1.toList, p.2.toList))) with
      | some (.ok v) => Row.Val.beq v (.model
          [("note".toList, .str "hello".toList),
           ("o".toList, .list [.model [("text".toList, .str "t1".toList), ("value".toList, .int 7)],
                              .model [("text".toList, .str "t2".toList), ("value".toList, .int 5)]]),
           ("tag".toList, .list [.str "x".toList, .str []])])
      | _ => false) = true := by
  refine ⟨inFamily_case _, ?_⟩
  rw [inferred_parses_like_explicit rowDemo (inFamily_case _)]
  decide +kernel

theorem parseInferred_of_inferIs {hs : List Str} {t : Ty} (h : inferIs hs t = true)
    (row : List (Str × Str)) : parseInferred hs row = some (Row.parseRow (rowSchema t) row) := by
  unfold inferIs at h
  unfold parseInferred
  cases e : infer hs with
  | error _ => simp [e] at h
  | ok t' =>
    simp only [e] at h ⊢
    rw [Ty.eq_of_beq _ _ h]

/-- where the index-order condition lives: the MODEL is inferred from columns in any order
(`infer_order_insensitive`), but `RowParser.find_entry` asserts that the entries of one list
are opened in increasing order when a ROW is read — the same columns with `tag.2` before
`tag.1` are an `AssertionError` under the inferred and under the explicit model alike -/
theorem row_parser_asserts_index_order :
    let cols := [("tag.2", "y"), ("tag.1=a", "x")].map (fun p : String × String => (p.1.toList, p.2.toList))
    (match parseInferred (cols.map (fun c => c.1)) cols with
      | some (.error e) => decide (e = Row.Err.assertion)
      | _ => false) = true ∧
    (match Row.parseRow (rowSchema (.model [("tag".toList, .list .str, .list [.str "a".toList, .str []])])) cols with
      | .error e => decide (e = Row.Err.assertion)
      | _ => false) = true := by
  intro cols
  have h : inferIs (cols.map (fun c => c.1))
      (.model [("tag".toList, .list .str, .list [.str "a".toList, .str []])]) = true :=
    inferCases_eval (hs := ["tag.2".toList, "tag.1=a".toList])
  rw [parseInferred_of_inferIs h]
  decide +kernel

/-- **Cell independence**: with a blank `data_model` the row model is computed from the header
row only; two sheets with the same headers get the same model whatever their cells. -/
theorem infer_cells_independent (headers : List Str) (cells₁ cells₂ : List (List Str)) :
    inferSheet headers cells₁ = inferSheet headers cells₂ := rfl

/-- `infer_render` on nested instances, evaluated by the kernel: a check of the model's own round trip
(`infer_render` covers all schemas) -/
theorem nested_instances :
    nestedInstances.all (fun sch => inFamilyB sch && roundtripB sch) = true := cases_evaluated.2.2

/-! The clauses of `InFamily` are forced: one negative witness each (rows of `schemaCases`; the three
whose evaluation stops before any name is looked up in `shadowNames` are evaluated where they stand). -/

/-- a default containing `.` (finding F-C18-a): nesting is decided on the field name, so the
dotted default is read back exactly; the family predicate is conservative about it -/
theorem dotted_default_roundtrips :
    let sch : Schema := [("s".toList, .str, .str "a.b".toList)]
    roundtripB sch = true :=
  (schemaCases_eval _ false true false true).2.1

/-- `:` in a name -/
theorem needs_no_colon_in_name :
    let sch : Schema := [("a:b".toList, .str, .str [])]
    inFamilyB sch = false ∧ roundtripB sch = false ∧
    inFamilyUB sch = false ∧ inferEquivB (renderHeaders sch) (.model sch) = false := by
  decide +kernel

/-- `=` in a name -/
theorem needs_no_equals_in_name :
    let sch : Schema := [("a=b".toList, .int, .int 0)]
    inFamilyB sch = false ∧ roundtripB sch = false ∧
    inFamilyUB sch = false ∧ inferEquivB (renderHeaders sch) (.model sch) = false := by
  decide +kernel

/-- a name that reads as an integer turns the record into a list -/
theorem needs_non_integer_name :
    let sch : Schema := [("1".toList, .str, .str [])]
    inFamilyB sch = false ∧ roundtripB sch = false ∧
    inFamilyUB sch = false ∧ inferEquivB (renderHeaders sch) (.model sch) = false ∧
    inferIs (renderHeaders sch) (.list .str) = true :=
  have ⟨a, b, c, d⟩ := schemaCases_eval _ false false false false
  ⟨a, b, c, d, inferCases_eval⟩

/-- list elements share one element type: the code keeps the LAST one and the per-index
defaults of all (`f.1:int, f.2` is a `List[str]` with default `[0, ""]`) -/
theorem mixed_element_types_take_last :
    inferIs ["f.1:int".toList, "f.2".toList]
      (.model [("f".toList, .list .str, .list [.int 0, .str []])]) = true :=
  inferCases_eval

/-- a list of records cannot default to `[]`: its default is `[default record × n]` -/
theorem needs_list_of_record_default :
    let sub : List Field := [("a".toList, .str, .str [])]
    let bad : Schema := [("f".toList, .list (.model sub), .list [])]
    let good : Schema := [("f".toList, .list (.model sub), .list [defaultRecord sub, defaultRecord sub])]
    inFamilyB bad = false ∧ roundtripB bad = false ∧ inFamilyB good = true ∧ roundtripB good = true ∧
    inFamilyUB bad = false ∧ inferEquivB (renderHeaders bad) (.model bad) = false :=
  have ⟨a, b, c, d⟩ := schemaCases_eval _ false false false false
  have good := schemaCases_eval _ true true true true
  ⟨a, b, good.1, good.2.1, c, d⟩

/-- the code lists simple fields before complex ones (needed for EXACT equality only: the schema
is in `InFamilyU` and `infer_order_insensitive` applies) -/
theorem needs_simple_first :
    let sch : Schema := [("r".toList, .model [("a".toList, .str, .str [])],
      defaultRecord [("a".toList, .str, .str [])]), ("b".toList, .str, .str [])]
    inFamilyB sch = false ∧ roundtripB sch = false ∧
    inFamilyUB sch = true ∧ inferEquivB (renderHeaders sch) (.model sch) = true :=
  schemaCases_eval _ false false true true

/-- a text default with leading/trailing blanks is stripped -/
theorem needs_stripped_default :
    let sch : Schema := [("s".toList, .str, .str " x".toList)]
    inFamilyB sch = false ∧ roundtripB sch = false ∧
    inFamilyUB sch = false ∧ inferEquivB (renderHeaders sch) (.model sch) = false :=
  schemaCases_eval _ false false false false

/-- a sub-record needs at least one field (no column would mention it) -/
theorem needs_nonempty_subrecord :
    let sch : Schema := [("a".toList, .str, .str []), ("r".toList, .model [], defaultRecord [])]
    inFamilyB sch = false ∧ inFamilyUB sch = false ∧ roundtripB sch = false ∧
    inferEquivB (renderHeaders sch) (.model sch) = false :=
  have ⟨a, b, c, d⟩ := schemaCases_eval _ false false false false
  ⟨a, c, b, d⟩

/-- `List[T]` in ONE column needs an annotation type `T` (no record inside) -/
theorem needs_annotation_type :
    let sch : Schema := [("l".toList, .list (.model [("a".toList, .str, .str [])]), .list [])]
    inFamilyB sch = false ∧ inFamilyUB sch = false ∧ roundtripB sch = false ∧
    inferEquivB (renderHeaders sch) (.model sch) = false := by decide +kernel

end Rpft.Props.C18
